import Frp.Model.Str
import Frp.Lemmas.ListFacts
import Frp.Model.Router
import Frp.Model.Host
import Frp.Lemmas.Router
import Frp.Model.VhostReg
import Frp.Lemmas.VhostReg
import Frp.Props.C06
import Frp.Engines.Router
import Frp.Engines.VReg
import Frp.Engines.All
import Frp.Model.HttpAuth
import Frp.Model.WebAuth
import Frp.Model.HttpAuthConn
import Frp.Props.C07
import Frp.Props.C07Conn
import Frp.Model.HttpAuthHand
import Frp.Gen.CredFacts
import Frp.Props.C07Hand
import Frp.Engines.HttpAuth
import Frp.Model.Base64
import Frp.Lemmas.Base64
import Frp.Model.Udp
import Frp.Model.Sudp
import Frp.Model.UdpSrv
import Frp.Model.SudpPx
import Frp.Lemmas.Udp
import Frp.Lemmas.Sudp
import Frp.Lemmas.UdpSrv
import Frp.Lemmas.SudpPx
import Frp.Model.UdpBuf
import Frp.Lemmas.UdpBuf
import Frp.Model.UdpLayers
import Frp.Gen.UdpWire
import Frp.Model.UdpWire
import Frp.Model.UdpWireGen
import Frp.Props.C03Wire
import Frp.Props.C03
import Frp.Engines.Udp
import Frp.Gen.ProxyMsg
import Frp.Model.ConfNum
import Frp.Model.Validate
import Frp.Model.ProxyMsg
import Frp.Lemmas.ProxyMsg
import Frp.Lemmas.ConfStr
import Frp.Props.C18
import Frp.Gen.CmdWire
import Frp.Model.CmdWire
import Frp.Model.CmdSpec
import Frp.Props.C18Cmd
import Frp.Model.TypeDispatch
import Frp.Props.C18Type
import Frp.Gen.Flags
import Frp.Gen.TypedConf
import Frp.Model.Flags
import Frp.Model.TypedConf
import Frp.Lemmas.TypedConf
import Frp.Model.StrictLoad
import Frp.Lemmas.StrictLoad
import Frp.Engines.ConfBase
import Frp.Engines.Conf
import Frp.Engines.ConfCmd
import Frp.Model.NatBeh
import Frp.Gen.NatTables
import Frp.Model.NatHole
import Frp.Model.NatPunch
import Frp.Model.NatSign
import Frp.Gen.NatClientFacts
import Frp.Props.C20
import Frp.Props.C20Client
import Frp.Engines.Nat
import Frp.Engines.NatPunch
import Frp.Model.NatProxy
import Frp.Lemmas.NatProxy
import Frp.Props.C20Proxy
import Frp.Engines.NatPx
import Frp.Model.Backoff
import Frp.Model.Watchdog
import Frp.Model.Reconnect
import Frp.Model.SessEnd
import Frp.Model.SessLive
import Frp.Model.HbConf
import Frp.Model.Liveness
import Frp.Model.Teardown
import Frp.Model.Dispatch
import Frp.Model.Rereg
import Frp.Gen.SessFacts
import Frp.Gen.C19Facts
import Frp.Props.C14Heal
import Frp.Props.C14Teardown
import Frp.Props.C14Live
import Frp.Props.C14
import Frp.Engines.Wait
import Frp.Engines.Teardown
import Frp.Model.PluginChain
import Frp.Gen.PluginSiteFacts
import Frp.Model.PluginSite
import Frp.Lemmas.PluginChain
import Frp.Props.C15
import Frp.Engines.Plugin
import Frp.Model.Health
import Frp.Model.Wrapper
import Frp.Model.WrapperConc
import Frp.Model.Reconcile
import Frp.Lemmas.Health
import Frp.Lemmas.Client
import Frp.Lemmas.WrapperConc
import Frp.Props.C19
import Frp.Engines.Client
import Frp.Model.Ports
import Frp.Model.AllowPorts
import Frp.Engines.Ports
import Frp.Model.Frame
import Frp.Lemmas.Frame
import Frp.Gen.MsgSchema
import Frp.Props.C17Golden
import Frp.Props.C17
import Frp.Model.Dispatcher
import Frp.Props.C17Dispatch
import Frp.Model.Lane
import Frp.Props.C17Lane
import Frp.Props.C17Batch
import Frp.Model.UdpPacket
import Frp.Gen.UdpAddr
import Frp.Props.C17Udp
import Frp.Props.C17UdpFacts
import Frp.Model.CodecProc
import Frp.Gen.MsgLimit
import Frp.Props.C17Limit
import Frp.Engines.Codec
import Frp.Lemmas.Ports
import Frp.Props.C09
import Frp.Model.Release
import Frp.Props.C10
import Frp.Engines.Release
import Frp.Model.GroupRelease
import Frp.Props.C10Group
import Frp.Engines.GrpRel
import Frp.Model.RegSteps
import Frp.Lemmas.RegSteps
import Frp.Engines.RegRace
import Frp.Model.Md5
import Frp.Model.Visitor
import Frp.Model.VisitorLock
import Frp.Model.CtlMgr
import Frp.Model.XtcpVisitor
import Frp.Props.C08
import Frp.Props.C08Hand
import Frp.Model.VisitorHandshake
import Frp.Gen.VisitorFacts
import Frp.Engines.Vhs
import Frp.Engines.Visitor
import Frp.Engines.Xtcp
import Frp.Gen.AuthFacts
import Frp.Model.Wire
import Frp.Model.WireReload
import Frp.Model.WireConfig
import Frp.Model.WireHist
import Frp.Props.C05
import Frp.Engines.Wire
import Frp.Model.Group
import Frp.Model.GroupSections
import Frp.Gen.GroupFacts
import Frp.Lemmas.Group
import Frp.Lemmas.GroupConn
import Frp.Lemmas.GroupAcct
import Frp.Props.C13
import Frp.Props.C13Ports
import Frp.Engines.Group
import Frp.Model.MsgObj
import Frp.Lemmas.MsgObj
import Frp.Model.HttpRewrite
import Frp.Model.HttpPool
import Frp.Model.HttpTime
import Frp.Model.HttpAbort
import Frp.Model.ConnLimit
import Frp.Gen.HttpFacts
import Frp.Props.C02Faults
import Frp.Model.CodecPool
import Frp.Model.ConnReader
import Frp.Lemmas.CodecPool
import Frp.Gen.CodecFacts
import Frp.Lemmas.HttpRewrite
import Frp.Props.C02
import Frp.Engines.Http
import Frp.Model.AuthGate
import Frp.Lemmas.AuthGate
import Frp.Props.C04
import Frp.Engines.Peer
import Frp.Gen.AuthGateFacts
import Frp.Model.Sess
import Frp.Model.SessDisp
import Frp.Model.RandID
import Frp.Gen.RandFacts
import Frp.Lemmas.Sess
import Frp.Props.C12
import Frp.Props.C12Res
import Frp.Props.C12Keys
import Frp.Props.C12Disp
import Frp.Props.C12DispCode
import Frp.Model.ClientLogin
import Frp.Gen.KeyFacts
import Frp.Engines.Relog
import Frp.Engines.Sess
import Frp.Model.LockDisc
import Frp.Model.Crash
import Frp.Gen.LockFacts
import Frp.Gen.NilFacts
import Frp.Model.UserInput
import Frp.Lemmas.UserInput
import Frp.Model.SshGw
import Frp.Lemmas.SshGw
import Frp.Model.LockBal
import Frp.Lemmas.LockBal
import Frp.Gen.LockBalance
import Frp.Gen.MapCensus
import Frp.Gen.IndexFacts
import Frp.Gen.PluginClose
import Frp.Model.LockOrder
import Frp.Gen.LockOrder
import Frp.Model.RegCtl
import Frp.Lemmas.RegCtl
import Frp.Props.C16
import Frp.Engines.Crash
import Frp.Model.Limit
import Frp.Model.Layers
import Frp.Model.CloseGraph
import Frp.Model.Tunnel
import Frp.Lemmas.Limit
import Frp.Lemmas.Layers
import Frp.Gen.ConnFacts
import Frp.Model.Deadline
import Frp.Model.QuicStream
import Frp.Model.CodecPool1
import Frp.Model.Reload
import Frp.Lemmas.Reload
import Frp.Props.C01
import Frp.Engines.Stack
import Frp.Engines.E2e
import Frp.Model.Pool
import Frp.Model.SendPath
import Frp.Gen.PoolFacts
import Frp.Model.PoolEnd
import Frp.Props.C11
import Frp.Props.C11End
import Frp.Engines.PoolEndOps
import Frp.Engines.Pool
import Frp.Engines.HttpE2e
import Frp.Engines.HttpGrp
import Frp.Model.HttpGroup
import Frp.Model.HttpErr
import Frp.Props.C02Routes
import Frp.Model.VisitorMgr
import Frp.Lemmas.VisitorMgr
import Frp.Props.C19Visitors
import Frp.Model.VisitorKeeper
import Frp.Props.C19Keeper
import Frp.Engines.Vmgr
import Frp.Props.C19Reload
import Frp.Model.CtlReg
import Frp.Props.C19Ctl
import Frp.Props.C19Sched
import Frp.Engines.CtlReg
import Frp.Engines.Svc
import Frp.Model.WorkConns
import Frp.Lemmas.WorkConns
import Frp.Model.UdpCloseRace
import Frp.Props.C10Xport
import Frp.Engines.Xport
import Frp.Model.SessDrop
import Frp.Props.C10Drop
