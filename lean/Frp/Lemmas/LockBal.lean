import Frp.Model.LockBal
import Frp.Lemmas.ListFacts
/-
  Lemmas for Model/LockBal.lean: a session whose functions are lock-balanced handles everything and is torn down;
  one way out with `ctl.mu` held and it never is.
-/
namespace Frp
namespace LockBal

/-- with balanced functions a live session whose read loop is not stuck handles the message and stays so -/
theorem step_balanced (max : Nat) (s : Sess) (m : Msg) (h : s.muHeld = false ∧ s.stuck = false) (hg : s.gone = false)
    (hm : m ≠ .drop) :
    ((step false max s m).handled = s.handled + 1 ∧ (step false max s m).gone = false) ∧
      (step false max s m).muHeld = false ∧ (step false max s m).stuck = false := by
  cases m with
  | drop => exact absurd rfl hm
  | ping => simp [step, hg, h.1, h.2]
  | closeProxy n => simp [step, hg, h.1, h.2]
  | newProxy n =>
    simp only [step, hg, h.1, h.2, Bool.or_self, Bool.false_eq_true, if_false]
    split
    · exact ⟨⟨rfl, rfl⟩, rfl, rfl⟩
    · exact ⟨⟨rfl, rfl⟩, rfl, rfl⟩

/-- with balanced functions every message of a live session is handled — for every sequence of NewProxy (within or
    above the limit), CloseProxy and Ping, every limit — and the session stays live with `ctl.mu` free -/
theorem run_balanced (max : Nat) (ms : List Msg) (s : Sess) (h : s.muHeld = false ∧ s.stuck = false)
    (hg : s.gone = false) (hnd : ∀ m ∈ ms, m ≠ .drop) :
    ((run false max s ms).handled = s.handled + ms.length ∧ (run false max s ms).gone = false) ∧
      (run false max s ms).muHeld = false ∧ (run false max s ms).stuck = false := by
  induction ms generalizing s with
  | nil => exact ⟨⟨rfl, hg⟩, h⟩
  | cons m rest ih =>
    obtain ⟨⟨hh, hg'⟩, h'⟩ := step_balanced max s m h hg (hnd m (List.mem_cons_self ..))
    obtain ⟨⟨hh', hg''⟩, h''⟩ := ih (step false max s m) h' hg' (fun m' hm' => hnd m' (List.mem_cons_of_mem _ hm'))
    refine ⟨⟨?_, hg''⟩, h''⟩
    show (run false max (step false max s m) rest).handled = _
    rw [hh', hh, List.length_cons]
    omega

/-- with balanced functions, when its connection goes the session is torn down completely (ports released, run id
    free) -/
theorem balanced_teardown_closes (max : Nat) (ms : List Msg) (s : Sess) (h : s.muHeld = false ∧ s.stuck = false)
    (hg : s.gone = false) (hnd : ∀ m ∈ ms, m ≠ .drop) : (run false max s (ms ++ [.drop])).closed = true := by
  obtain ⟨⟨_, hg'⟩, hinv⟩ := run_balanced max ms s h hg hnd
  unfold run at *
  rw [List.foldl_append]
  simp [step, hg', hinv.1, hinv.2]

/-- no message unlocks a `ctl.mu` that was left locked, and none completes the teardown: every branch that `step` can
    take with `muHeld` leaves both fields as they are -/
theorem step_leaked (leak : Bool) (max : Nat) (s : Sess) (m : Msg) (h : s.muHeld = true ∧ s.closed = false) :
    (step leak max s m).muHeld = true ∧ (step leak max s m).closed = false := by
  obtain ⟨hm, hc⟩ := h
  cases m with
  | drop =>
    simp only [step, hm, Bool.true_or, if_true]
    split
    · exact ⟨hm, hc⟩
    · exact ⟨rfl, hc⟩
  | ping =>
    simp only [step]
    split
    · exact ⟨hm, hc⟩
    · exact ⟨hm, hc⟩
  | closeProxy n =>
    simp only [step, hm, if_true]
    split
    · exact ⟨hm, hc⟩
    · exact ⟨rfl, hc⟩
  | newProxy n =>
    simp only [step, hm, if_true]
    split
    · exact ⟨hm, hc⟩
    · exact ⟨rfl, hc⟩

/-- a way out that leaves `ctl.mu` locked: from then on the session is NEVER torn down, whatever is sent and whether or
    not the connection goes — its ports stay bound, a login with its run id waits for ever -/
theorem leak_never_closes (leak : Bool) (max : Nat) (ms : List Msg) (s : Sess) (h : s.muHeld = true ∧ s.closed = false) :
    (run leak max s ms).closed = false ∧ (run leak max s ms).muHeld = true :=
  And.symm <| foldl_invariant (P := fun s => s.muHeld = true ∧ s.closed = false) h
    (fun s m _ hs => step_leaked leak max s m hs)

/-- the op's schedule (fill the limit, one proxy too many, CloseProxy, NewProxy, Ping, drop): with limit 2 on both
    variants, and on the leaking variant without a limit, where nothing is refused -/
theorem leak_witness :
    (run true 2 {} (opSchedule 2 [.closeProxy 1, .newProxy 1, .ping])) =
      { muHeld := true, stuck := true, used := 2, handled := 3, refused := 1, gone := true, closed := false } ∧
    (run false 2 {} (opSchedule 2 [.closeProxy 1, .newProxy 1, .ping])) =
      { used := 2, handled := 6, refused := 1, gone := true, closed := true } ∧
    (run true 0 {} (opSchedule 2 [.closeProxy 1, .newProxy 1, .ping])).closed = true := by
  decide

/-- the refusal itself is enough: one NewProxy above the limit on the leaking variant, then anything -/
theorem leak_after_one_refusal (max : Nat) (hmax : 0 < max) (s : Sess) (hs : s.muHeld = false ∧ s.stuck = false ∧ s.gone = false ∧ s.closed = false)
    (n : Nat) (hn : max < s.used + n) (ms : List Msg) :
    (run true max s (.newProxy n :: ms)).closed = false := by
  unfold run
  simp only [List.foldl_cons]
  have h1 : step true max s (.newProxy n) = { s with handled := s.handled + 1, refused := s.refused + 1, muHeld := true } := by
    have : (decide (max > 0) && decide (s.used + n > max)) = true := by simp; omega
    simp [step, hs.1, hs.2.1, hs.2.2.1, this]
  rw [h1]
  exact (leak_never_closes true max ms { s with handled := s.handled + 1, refused := s.refused + 1, muHeld := true } ⟨rfl, hs.2.2.2⟩).1

end LockBal
end Frp
