import Frp.Model.Reload
import Frp.Lemmas.ListFacts
/- helper lemmas for C01 (13)/(14): Manager.UpdateAll and the StartWorkConn message (core Lean only) -/
namespace Frp
namespace Reload

theorem keyBy_some : ∀ (cs : List Cfg) (n : Nat) (d : Cfg), keyBy cs n = some d → d ∈ cs ∧ d.name = n
  | c :: cs, n, d, h => by
    simp only [keyBy] at h
    split at h
    · rename_i e hk
      cases h
      exact ⟨List.mem_cons_of_mem _ (keyBy_some cs n d hk).1, (keyBy_some cs n d hk).2⟩
    · split at h
      · cases h; exact ⟨List.mem_cons_self, ‹_›⟩
      · cases h

theorem keyBy_of_mem : ∀ (cs : List Cfg) (c : Cfg), c ∈ cs → (keyBy cs c.name).isSome
  | a :: cs, c, h => by
    simp only [keyBy]
    split
    · rfl
    · rename_i hk
      rcases List.mem_cons.mp h with rfl | h
      · simp
      · have := keyBy_of_mem cs c h
        rw [hk] at this
        cases this

/-- every wrapper of the table reads the configuration it reports -/
def Inv (T : Table) : Prop := ∀ p ∈ T, p.2.run = p.2.cfg

/-- every wrapper of the table is the one `NewWrapper` makes from what `cs` configures under its name -/
def Good (cs : List Cfg) (T : Table) : Prop := ∀ p ∈ T, (keyBy cs p.1).map Wrapper.new = some p.2

theorem delLoop_good (cs : List Cfg) (T : Table) (h : Inv T) : Good cs (delLoop keepReal cs T) := by
  intro p hp
  obtain ⟨q, hq, he⟩ := List.mem_filterMap.mp hp
  simp only [delStep, keepReal] at he
  split at he
  · cases he
  · rename_i c hk
    split at he
    · rename_i hc
      cases he
      obtain ⟨qn, qc, qr⟩ := q
      cases hc
      cases h _ hq
      rw [hk]; rfl
    · cases he

theorem hasKey_iff (T : Table) (n : Nat) : hasKey T n = true ↔ ∃ p ∈ T, p.1 = n := by
  simp [hasKey, List.any_eq_true]

section loop2
-- the whole configured list (`proxyCfgsMap`), the explicit first argument below
variable (all : List Cfg)

theorem addLoop_good : ∀ (l : List Cfg) (T : Table), (∀ c ∈ l, c ∈ all) → Good all T → Good all (addLoop all l T)
  | [], T, _, h => h
  | c :: rest, T, hl, h => by
    have hrest : ∀ x ∈ rest, x ∈ all := fun x hx => hl x (List.mem_cons_of_mem _ hx)
    simp only [addLoop]
    split
    · exact addLoop_good rest T hrest h
    · refine addLoop_good rest _ hrest (forall_mem_snoc h ?_)
      obtain ⟨d, hd⟩ := Option.isSome_iff_exists.mp (keyBy_of_mem all c (hl c List.mem_cons_self))
      rw [hd]; rfl

theorem addLoop_mono (n : Nat) : ∀ (l : List Cfg) (T : Table), hasKey T n = true → hasKey (addLoop all l T) n = true
  | [], _, h => h
  | c :: rest, T, h => by
    simp only [addLoop]
    split
    · exact addLoop_mono n rest T h
    · apply addLoop_mono n rest
      rw [hasKey_iff] at h ⊢
      exact h.imp fun p hp => ⟨List.mem_append_left _ hp.1, hp.2⟩

theorem addLoop_cover : ∀ (l : List Cfg) (T : Table) (c : Cfg), c ∈ l → hasKey (addLoop all l T) c.name = true
  | a :: rest, T, c, h => by
    simp only [addLoop]
    rcases List.mem_cons.mp h with rfl | h
    · split
      · exact addLoop_mono all c.name rest T ‹_›
      · exact addLoop_mono all c.name rest _ ((hasKey_iff _ _).mpr ⟨_, List.mem_append_right _ (List.mem_singleton.mpr rfl), rfl⟩)
    · split
      · exact addLoop_cover rest T c h
      · exact addLoop_cover rest _ c h

end loop2

section updateAll
-- the running table and the new configuration; explicit first arguments, in this order
variable (T : Table) (cs : List Cfg)

theorem updateAll_good (h : Inv T) : Good cs (updateAll T cs) :=
  addLoop_good cs cs _ (fun _ hc => hc) (delLoop_good cs T h)

theorem updateAll_inv (h : Inv T) : Inv (updateAll T cs) := by
  intro p hp
  have := updateAll_good T cs h p hp
  cases hk : keyBy cs p.1 <;> rw [hk] at this
  · cases this
  · exact Option.some.inj this ▸ rfl

end updateAll

end Reload

namespace WorkMsg
open Tunnel

/-- what connection i's own message must be -/
def ownMsg (name : Str) (cs : List Conn) (i : Nat) (m : StartWorkConn) : Prop :=
  ∃ c, cs[i]? = some c ∧ m = startMsg name c.src c.dst

def Ok (name : Str) (cs : List Conn) (s : St) : Prop :=
  (∀ p ∈ s.own, ownMsg name cs p.1 p.2) ∧ (∀ p ∈ s.sent, ownMsg name cs p.1 p.2)

theorem step_false_ok (name : Str) (cs : List Conn) (s : St) (e : Ev) (h : Ok name cs s) : Ok name cs (step false name cs s e) := by
  cases e with
  | fill i =>
    simp only [step]
    cases hc : cs[i]? with
    | none => exact h
    | some c =>
      simp only [Bool.false_eq_true, if_false]
      exact ⟨List.forall_mem_cons.mpr ⟨⟨c, hc, rfl⟩, h.1⟩, h.2⟩
  | send i =>
    simp only [step, Bool.false_eq_true, if_false]
    cases ho : ownOf s i with
    | none => exact h
    | some m =>
      -- the message sent is the one found under `i` among the own ones
      obtain ⟨q, hq, rfl⟩ := Option.map_eq_some_iff.mp ho
      have hi : q.1 = i := by simpa using List.find?_some hq
      exact ⟨h.1, forall_mem_snoc h.2 (hi ▸ h.1 q (List.mem_of_find?_eq_some hq))⟩

end WorkMsg
end Frp
