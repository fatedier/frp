import Frp.Model.Group
import Frp.Lemmas.ListFacts
/-
  The group transition system (Frp/Model/Group.lean): what each label does (`Step`, `step_spec`, `enter_cases`,
  `createEp_frame`), and the invariant `GInv` of the controllers that run lookup+join and the
  whole leave under the controller lock (`fx.oneLock = true`, `fx.leaveOne = true`), with the leave's two
  sections (`leaveEdit`, `leaveDel`) as labels of their own.
-/
namespace Frp
namespace Group
open Str

theorem lookup_filter_some {α β : Type} [BEq α] [LawfulBEq α] {t : List (α × β)} {a b : α} {v : β}
    (h : (t.filter (fun e => !(e.1 == b))).lookup a = some v) : a ≠ b ∧ t.lookup a = some v := by
  have hne : a ≠ b := by
    intro e; subst e
    cases (lookup_filter_self (l := t)).symm.trans h
  exact ⟨hne, (lookup_filter_ne hne).symm.trans h⟩

theorem lookup_cons_some {α β : Type} [BEq α] [LawfulBEq α] {t : List (α × β)} {a k : α} {v w : β}
    (h : ((k, w) :: t).lookup a = some v) : (a = k ∧ v = w) ∨ (a ≠ k ∧ t.lookup a = some v) := by
  rw [List.lookup_cons] at h
  split at h
  · rename_i hb; cases h; exact Or.inl ⟨eq_of_beq hb, rfl⟩
  · rename_i hb; exact Or.inr ⟨ne_of_beq_false hb, h⟩

theorem run_preserves {fx : Fix} {P : St → Prop}
    (hstep : ∀ {s s' : St} {l : Label} {r : Res}, P s → step fx s l = some (s', r) → P s') (ls : List Label) :
    ∀ {s s' : St}, P s → run fx s ls = some s' → P s' := by
  induction ls with
  | nil => intro s s' hp h; cases h; exact hp
  | cons l ls ih =>
    intro s s' hp h
    simp only [run] at h
    split at h
    · cases h
    · rename_i hstep'
      exact ih (hstep hp hstep') h

section
variable {fx : Fix} {s s' : St}

theorem obj_of_get {gid : Nat} {o : Obj} (h : s.objs[gid]? = some o) : s.obj gid = o := by
  simp [St.obj, h]

theorem get_or_default (s : St) (gid : Nat) : s.objs[gid]? = some (s.obj gid) ∨ s.obj gid = {} := by
  unfold St.obj
  cases s.objs[gid]? with
  | none => exact Or.inr rfl
  | some o => exact Or.inl rfl

theorem get_of_members {gid : Nat} (h : (s.obj gid).members ≠ []) :
    s.objs[gid]? = some (s.obj gid) :=
  (get_or_default s gid).resolve_right (fun e => h (by rw [e]))

theorem get_of_lnOpen {gid : Nat} (h : (s.obj gid).lnOpen = true) :
    s.objs[gid]? = some (s.obj gid) :=
  (get_or_default s gid).resolve_right (fun e => by rw [e] at h; cases h)

theorem members_ne_of_mem {gid : Nat} {m : Str} (h : m ∈ (s.obj gid).members) :
    (s.obj gid).members ≠ [] := by
  intro e; rw [e] at h; cases h

/-- reading an object after one was replaced -/
theorem get_set {l : List Obj} {i j : Nat} {x o : Obj} (h : (l.set i x)[j]? = some o) :
    (j = i ∧ o = x ∧ i < l.length) ∨ (j ≠ i ∧ l[j]? = some o) := by
  rw [List.getElem?_set] at h
  by_cases hij : i = j
  · subst hij
    by_cases hl : i < l.length
    · simp [hl] at h; exact Or.inl ⟨rfl, h.symm, hl⟩
    · simp [hl] at h
  · simp [hij] at h; exact Or.inr ⟨fun e => hij e.symm, h⟩

def sendFailed (fx : Fix) (s : St) (c gid : Nat) : St :=
  { s with objs := s.objs.set gid { s.obj gid with workerDead := true },
           inflight := s.inflight.filter (fun x => !(x.1 == c)),
           dropped := if fx.closeOnFail then c :: s.dropped else s.dropped,
           limbo := if fx.closeOnFail then s.limbo else c :: s.limbo }

theorem of_some_pair {α β : Type} {a a' : α} {b b' : β} (h : some (a, b) = some (a', b')) :
    b' = b ∧ a' = a := by
  cases h; exact ⟨rfl, rfl⟩

/-- `step`, read backwards: one constructor per outcome, with every guard of that branch (beside
    `s.panicked = false`, common to all) and the resulting state.  Only the direction `step_spec` is proved:
    what an enabled step did. -/
inductive Step (fx : Fix) (s : St) : Label → St → Res → Prop
  | lookupOld {m g gid} : lockFree fx s = true → s.table.lookup g = some gid →
      s.pend.any (·.1 == m) = false →
      Step fx s (.lookup m g)
        { s with pend := (m, g, gid) :: s.pend, lock := if fx.oneLock then some m else s.lock } .none
  | lookupNew {m g} : lockFree fx s = true → s.table.lookup g = none → s.pend.any (·.1 == m) = false →
      Step fx s (.lookup m g)
        { s with objs := s.objs ++ [{}], table := (g, s.objs.length) :: s.table,
                 pend := (m, g, s.objs.length) :: s.pend,
                 lock := if fx.oneLock then some m else s.lock } .none
  | enter {m key p orc m0 g gid s' r} : s.pend.find? (·.1 == m) = some (m0, g, gid) →
      enter fx { s with pend := s.pend.filter (fun x => !(x.1 == m)),
                        lock := if fx.oneLock then none else s.lock } m g key p orc gid = some (s', r) →
      p.kind = s.kind → Step fx s (.enter m key p orc) s' r
  | leaveL {m gid} : s.kind ≠ .http → lockFree fx s = true → m ∈ (s.obj gid).members →
      (s.obj gid).members.erase m ≠ [] →
      Step fx s (.leaveL m gid) (s.setObj gid { s.obj gid with members := (s.obj gid).members.erase m }) .none
  | leaveLCrash {m gid} : lockFree fx s = true → m ∈ (s.obj gid).members → (s.obj gid).chClosed = true →
      s.kind ≠ .http →
      Step fx s (.leaveL m gid) { s with panicked := true } .crash
  | leaveLLast {m gid} : s.kind ≠ .http → lockFree fx s = true → m ∈ (s.obj gid).members →
      (s.obj gid).members.erase m = [] → (s.obj gid).chClosed = false →
      Step fx s (.leaveL m gid)
        { s.setObj gid { s.obj gid with members := [], chClosed := true, lnOpen := false } with
            table := s.table.filter (fun e => !(e.1 == (s.obj gid).name)) } .none
  | leaveGNone {m g} : s.kind = .http → lockFree fx s = true → s.table.lookup g = none →
      Step fx s (.leaveG m g) s .none
  | leaveG {m g gid} : s.kind = .http → lockFree fx s = true → s.table.lookup g = some gid →
      (s.obj gid).members.erase m ≠ [] →
      Step fx s (.leaveG m g) (s.setObj gid { s.obj gid with members := (s.obj gid).members.erase m }) .none
  | leaveGLast {m g gid} : s.kind = .http → lockFree fx s = true → s.table.lookup g = some gid →
      (s.obj gid).members.erase m = [] →
      Step fx s (.leaveG m g)
        { s.setObj gid { s.obj gid with members := [], lnOpen := false } with
            table := s.table.filter (fun e => !(e.1 == g)) } .none
  | leaveEdit {m gid} : (fx.leaveOne = true → lockFree fx s = true) → m ∈ (s.obj gid).members →
      (s.obj gid).members.erase m ≠ [] → s.pdel.any (·.1 == m) = false →
      Step fx s (.leaveEdit m gid) (s.setObj gid { s.obj gid with members := (s.obj gid).members.erase m }) .none
  | leaveEditCrash {m gid} : (fx.leaveOne = true → lockFree fx s = true) → m ∈ (s.obj gid).members →
      (s.obj gid).chClosed = true → s.kind ≠ .http → s.pdel.any (·.1 == m) = false →
      Step fx s (.leaveEdit m gid) { s with panicked := true } .crash
  | leaveEditLast {m gid} : (fx.leaveOne = true → lockFree fx s = true) → m ∈ (s.obj gid).members →
      (s.obj gid).members.erase m = [] → (s.kind ≠ .http → (s.obj gid).chClosed = false) →
      s.pdel.any (·.1 == m) = false →
      Step fx s (.leaveEdit m gid)
        { s.setObj gid { s.obj gid with members := [], lnOpen := false, chClosed :=
                           if s.kind = .http then (s.obj gid).chClosed else true } with
            pdel := (m, gid, (s.obj gid).name) :: s.pdel,
            lock := if fx.leaveOne then some m else s.lock } .none
  | leaveDel {m m0 gid name} : s.pdel.find? (·.1 == m) = some (m0, gid, name) →
      (fx.leaveOne = false → lockFree fx s = true) →
      Step fx s (.leaveDel m)
        { s with table := if s.table.lookup name = some gid then s.table.filter (fun e => !(e.1 == name))
                          else s.table,
                 pdel := s.pdel.filter (fun x => !(x.1 == m)),
                 lock := if fx.leaveOne then none else s.lock } .none
  | accept {c gid} : s.kind ≠ .http → (s.obj gid).lnOpen = true → c ∉ s.seen →
      (s.obj gid).workerDead = false →
      Step fx s (.accept c gid) { s with inflight := (c, gid) :: s.inflight, seen := c :: s.seen } .none
  | handoffFail {c m gid} : s.inflight.lookup c = some gid → (s.obj gid).chClosed = true →
      Step fx s (.handoff c m) (sendFailed fx s c gid) .stranded
  | handoff {c m gid} : s.inflight.lookup c = some gid → (s.obj gid).chClosed = false →
      m ∈ (s.obj gid).members → (s.obj gid).queue = [] →
      Step fx s (.handoff c m)
        { s with inflight := s.inflight.filter (fun x => !(x.1 == c)), delivered := (c, m) :: s.delivered } (.to m)
  | sendFail {c gid} : s.inflight.lookup c = some gid → (s.obj gid).chClosed = true →
      Step fx s (.send c) (sendFailed fx s c gid) .stranded
  | send {c gid} : s.inflight.lookup c = some gid → (s.obj gid).queue.length < s.cap →
      (s.obj gid).chClosed = false →
      Step fx s (.send c)
        (St.setObj { s with inflight := s.inflight.filter (fun x => !(x.1 == c)) } gid
          { s.obj gid with queue := (s.obj gid).queue ++ [c] }) .none
  | recv {m gid c q} : (s.obj gid).queue = c :: q → m ∈ (s.obj gid).members → s.kind ≠ .http →
      Step fx s (.recv m gid)
        { s.setObj gid { s.obj gid with queue := q } with delivered := (c, m) :: s.delivered } (.to m)
  | request {gid m} : s.kind = .http → (s.obj gid).lnOpen = true →
      (s.obj gid).members[((s.obj gid).index + 1) % (s.obj gid).members.length]? = some m →
      Step fx s (.request gid) (s.setObj gid { s.obj gid with index := (s.obj gid).index + 1 }) (.to m)
  | requestNone {gid} : s.kind = .http → (s.obj gid).lnOpen = true →
      (s.obj gid).members[((s.obj gid).index + 1) % (s.obj gid).members.length]? = none →
      Step fx s (.request gid) (s.setObj gid { s.obj gid with index := (s.obj gid).index + 1 }) .noMember
  | squat {k} : s.busy k = false → Step fx s (.squat k) { s with ext := k :: s.ext } .none
  | unsquat {k} : Step fx s (.unsquat k) { s with ext := s.ext.filter (fun x => !(x == k)) } .none

theorem step_spec {l : Label} {r : Res} (hs : step fx s l = some (s', r)) :
    Step fx s l s' r := by
  -- every label starts with a guard `if … then none else …`: peel it off, then follow the branches
  cases l <;> unfold step at hs <;>
    simp only [Option.ite_none_left_eq_some, not_or, not_and, Bool.not_eq_false, Decidable.not_not] at hs <;>
    obtain ⟨hg, hs⟩ := hs
  case lookup m g =>
    split at hs
    · next gid hlk => cases hs; exact .lookupOld hg.2.1 hlk (eq_false_of_ne_true hg.2.2)
    · next hlk => cases hs; exact .lookupNew hg.2.1 hlk (eq_false_of_ne_true hg.2.2)
  case enter m key p orc =>
    split at hs
    · cases hs
    · next m0 g gid hf => exact .enter hf hs hg.2
  case leaveL m gid =>
    obtain ⟨hm, hs⟩ := hs
    by_cases h : (s.obj gid).members.erase m = []
    · rw [if_neg (not_not_intro h)] at hs
      by_cases hc : (s.obj gid).chClosed = true
      · rw [if_pos hc] at hs; cases hs; exact .leaveLCrash hg.2.2 hm hc hg.2.1
      · rw [if_neg hc] at hs; cases hs; exact .leaveLLast hg.2.1 hg.2.2 hm h (eq_false_of_ne_true hc)
    · rw [if_pos h] at hs; cases hs; exact .leaveL hg.2.1 hg.2.2 hm h
  case leaveG m g =>
    split at hs
    · next hlk => cases hs; exact .leaveGNone hg.2.1 hg.2.2 hlk
    · next gid hlk =>
      by_cases h : (s.obj gid).members.erase m = []
      · rw [if_neg (not_not_intro h)] at hs; cases hs; exact .leaveGLast hg.2.1 hg.2.2 hlk h
      · rw [if_pos h] at hs; cases hs; exact .leaveG hg.2.1 hg.2.2 hlk h
  case leaveEdit m gid =>
    obtain ⟨hm, hs⟩ := hs
    by_cases h : (s.obj gid).members.erase m = []
    · rw [if_neg (not_not_intro h)] at hs
      by_cases hc : s.kind ≠ .http ∧ (s.obj gid).chClosed = true
      · rw [if_pos hc] at hs; cases hs; exact .leaveEditCrash hg.2.1 hm hc.2 hc.1 (eq_false_of_ne_true hg.2.2)
      · rw [if_neg hc] at hs; cases hs
        exact .leaveEditLast hg.2.1 hm h (fun hk => eq_false_of_ne_true fun e => hc ⟨hk, e⟩)
          (eq_false_of_ne_true hg.2.2)
    · rw [if_pos h] at hs; cases hs; exact .leaveEdit hg.2.1 hm h (eq_false_of_ne_true hg.2.2)
  case leaveDel m =>
    split at hs
    · cases hs
    · next m0 gid name hf =>
      rw [Option.ite_none_left_eq_some] at hs
      cases hs.2; exact .leaveDel hf fun h => eq_true_of_ne_false fun e => hs.1 ⟨h, e⟩
  case accept c gid =>
    cases hs; exact .accept hg.2.1 hg.2.2.1 hg.2.2.2.2 (eq_false_of_ne_true hg.2.2.2.1)
  case handoff c m =>
    split at hs
    · cases hs
    · next gid hlk =>
      by_cases hc : (s.obj gid).chClosed = true
      · rw [if_pos hc] at hs
        obtain ⟨rfl, e⟩ := of_some_pair hs
        rw [e.trans (show _ = sendFailed fx s c gid by unfold sendFailed; split <;> rfl)]
        exact .handoffFail hlk hc
      · rw [if_neg hc, Option.ite_none_right_eq_some] at hs
        cases hs.2; exact .handoff hlk (eq_false_of_ne_true hc) hs.1.1 hs.1.2
  case send c =>
    split at hs
    · cases hs
    · next gid hlk =>
      by_cases hc : (s.obj gid).chClosed = true
      · rw [if_pos hc] at hs
        obtain ⟨rfl, e⟩ := of_some_pair hs
        rw [e.trans (show _ = sendFailed fx s c gid by unfold sendFailed; split <;> rfl)]
        exact .sendFail hlk hc
      · rw [if_neg hc, Option.ite_none_right_eq_some] at hs
        cases hs.2; exact .send hlk hs.1 (eq_false_of_ne_true hc)
  case recv m gid =>
    split at hs
    · cases hs
    · next c q hq =>
      rw [Option.ite_none_right_eq_some] at hs
      cases hs.2; exact .recv hq hs.1 hg.2
  case request gid =>
    split at hs
    · next hn => cases hs; exact .requestNone hg.2.1 hg.2.2 hn
    · next m hm => cases hs; exact .request hg.2.1 hg.2.2 hm
  case squat k => cases hs; exact .squat (eq_false_of_ne_true hg.2)
  case unsquat k => cases hs; exact .unsquat

/-- the labels that take the controller lock fire only when it is free -/
theorem Step.needs_free_lock {l : Label} {r : Res} (h : Step fx s l s' r) :
    match l with
    | .lookup .. | .leaveL .. | .leaveG .. => lockFree fx s = true
    | .leaveEdit .. => fx.leaveOne = true → lockFree fx s = true
    | _ => True := by
  cases h with
  | lookupOld hf | lookupNew hf | leaveLCrash hf | leaveEdit hf | leaveEditCrash hf | leaveEditLast hf => exact hf
  | leaveL _ hf | leaveLLast _ hf | leaveGNone _ hf | leaveG _ hf | leaveGLast _ hf => exact hf
  | _ => trivial

end

structure GInv (s : St) : Prop where
  noPanic : s.panicked = false
  /-- the endpoint is open exactly while the object has members -/
  openIff : ∀ (gid : Nat) (o : Obj), s.objs[gid]? = some o → (o.lnOpen = true ↔ o.members ≠ [])
  /-- a populated object has a live hand-off channel and IS the object stored under its name -/
  pop : ∀ (gid : Nat) (o : Obj), s.objs[gid]? = some o → o.members ≠ [] →
          o.chClosed = false ∧ s.table.lookup o.name = some gid
  /-- whatever the table points to exists and has a live channel — or is the object a leave has just
      emptied and is about to delete (that leave then holds the controller lock: `GInv.pdel_single`) -/
  tab : ∀ g gid, s.table.lookup g = some gid →
          ∃ o, s.objs[gid]? = some o ∧ (o.chClosed = false ∨ ∃ m, (m, gid, g) ∈ s.pdel)
  tabInj : ∀ g g' gid, s.table.lookup g = some gid → s.table.lookup g' = some gid → g = g'
  lockNone : s.lock = none → s.pend = [] ∧ s.pdel = []
  /-- the controller lock is held between two labels either by ONE join between lookup and enter, or by ONE
      leave between its two sections -/
  lockSome : ∀ m, s.lock = some m →
      (∃ g gid, s.pend = [(m, g, gid)] ∧ s.table.lookup g = some gid ∧ s.pdel = []) ∨
      (s.pend = [] ∧ ∃ gid g, s.pdel = [(m, gid, g)])
  /-- a leave between its sections: its object is empty and still the one stored under its name -/
  pdelOk : ∀ m gid g, (m, gid, g) ∈ s.pdel →
      s.table.lookup g = some gid ∧ ∃ o, s.objs[gid]? = some o ∧ o.members = [] ∧ o.name = g

section
variable {fx : Fix} {s s' : St}

theorem inv_init (k : Kind) (allow : List Nat) : GInv (init k allow) :=
  ⟨rfl, by intro gid o h; simp [init] at h, by intro gid o h; simp [init] at h,
   by intro g gid h; simp [init] at h, by intro g g' gid h; simp [init] at h,
   fun _ => ⟨rfl, rfl⟩, by intro m h; simp [init] at h, by intro m gid g h; simp [init] at h⟩

/-- the invariant reads only these six fields -/
theorem inv_congr (h : GInv s) (h1 : s'.panicked = s.panicked) (h2 : s'.objs = s.objs)
    (h3 : s'.table = s.table) (h4 : s'.pend = s.pend) (h5 : s'.lock = s.lock)
    (h6 : s'.pdel = s.pdel) : GInv s' :=
  ⟨by rw [h1]; exact h.noPanic, by rw [h2]; exact h.openIff, by rw [h2, h3]; exact h.pop,
   by rw [h2, h3, h6]; exact h.tab, by rw [h3]; exact h.tabInj, by rw [h4, h5, h6]; exact h.lockNone,
   by rw [h4, h5, h3, h6]; exact h.lockSome, by rw [h6, h3, h2]; exact h.pdelOk⟩

/-- a leave between its two sections holds the controller lock, and nothing else is under way -/
theorem GInv.pdel_single (h : GInv s) {m : Str} {gid : Nat} {g : Str} (hm : (m, gid, g) ∈ s.pdel) :
    s.lock = some m ∧ s.pend = [] ∧ s.pdel = [(m, gid, g)] := by
  cases hl : s.lock with
  | none => rw [(h.lockNone hl).2] at hm; cases hm
  | some mm =>
    rcases h.lockSome mm hl with ⟨_, _, _, _, hpd⟩ | ⟨hpend, gid1, g1, hpd⟩
    · rw [hpd] at hm; cases hm
    · rw [hpd] at hm
      cases List.mem_singleton.1 hm
      exact ⟨rfl, hpend, hpd⟩

theorem get_setObj_self {gid : Nat} {o o' : Obj} (hg : s.objs[gid]? = some o) :
    (s.setObj gid o').objs[gid]? = some o' := by
  have : gid < s.objs.length := by
    rcases Nat.lt_or_ge gid s.objs.length with hlt | hge
    · exact hlt
    · rw [List.getElem?_eq_none hge] at hg; cases hg
  show (s.objs.set gid o')[gid]? = some o'
  rw [List.getElem?_set]; simp [this]

theorem get_setObj_ne {gid j : Nat} {o' : Obj} (h : j ≠ gid) :
    (s.setObj gid o').objs[j]? = s.objs[j]? := by
  show (s.objs.set gid o')[j]? = s.objs[j]?
  rw [List.getElem?_set, if_neg (fun e : gid = j => h e.symm)]

theorem inv_setObj {gid : Nat} {o o' : Obj} (h : GInv s) (hg : s.objs[gid]? = some o)
    (hopen : o'.lnOpen = true ↔ o'.members ≠ [])
    (hpop : o'.members ≠ [] → o'.chClosed = false ∧ s.table.lookup o'.name = some gid)
    (hch : o.chClosed = false → o'.chClosed = false)
    (hpd : ∀ m g, (m, gid, g) ∈ s.pdel → o'.members = [] ∧ o'.name = g) : GInv (s.setObj gid o') := by
  refine ⟨h.noPanic, ?_, ?_, ?_, h.tabInj, h.lockNone, h.lockSome, ?_⟩
  · intro j x hx
    rcases get_set hx with ⟨rfl, rfl, _⟩ | ⟨_, hx'⟩
    · exact hopen
    · exact h.openIff _ _ hx'
  · intro j x hx hne
    rcases get_set hx with ⟨rfl, rfl, _⟩ | ⟨_, hx'⟩
    · exact hpop hne
    · exact h.pop _ _ hx' hne
  · intro g j hj
    obtain ⟨x, hx, hxc⟩ := h.tab g j hj
    by_cases hji : j = gid
    · subst hji
      rw [hg] at hx; cases hx
      exact ⟨o', get_setObj_self hg, hxc.imp hch id⟩
    · exact ⟨x, by rw [get_setObj_ne hji]; exact hx, hxc⟩
  · intro m j g hmem
    obtain ⟨ht, x, hx, hxm, hxn⟩ := h.pdelOk m j g hmem
    by_cases hj : j = gid
    · subst hj
      exact ⟨ht, o', get_setObj_self hg, hpd m g hmem⟩
    · exact ⟨ht, x, by rw [get_setObj_ne hj]; exact hx, hxm, hxn⟩

/-- replacing an object by one with the same name, members, channel and listener state -/
theorem inv_setObj_same {gid : Nat} {o' : Obj} (h : GInv s)
    (hn : o'.name = (s.obj gid).name) (hm : o'.members = (s.obj gid).members)
    (hc : o'.chClosed = (s.obj gid).chClosed) (hl : o'.lnOpen = (s.obj gid).lnOpen) :
    GInv (s.setObj gid o') := by
  cases hg : s.objs[gid]? with
  | some o =>
    rw [obj_of_get hg] at hn hm hc hl
    refine inv_setObj h hg ?_ ?_ ?_ ?_
    · rw [hl, hm]; exact h.openIff _ _ hg
    · rw [hm, hc, hn]; exact h.pop _ _ hg
    · rw [hc]; exact id
    · intro m g hmem
      obtain ⟨_, x, hx, hxm, hxn⟩ := h.pdelOk m gid g hmem
      rw [hg] at hx; cases hx
      exact ⟨by rw [hm]; exact hxm, by rw [hn]; exact hxn⟩
  | none =>
    have : (s.setObj gid o').objs = s.objs :=
      List.set_eq_of_length_le (List.getElem?_eq_none_iff.1 hg)
    exact inv_congr h rfl this rfl rfl rfl rfl

/-- members change but stay non-empty (a later join, a leave that is not the last) -/
theorem inv_setObj_ne {gid : Nat} {o' : Obj} (h : GInv s)
    (hm : (s.obj gid).members ≠ []) (hn : o'.name = (s.obj gid).name) (hm' : o'.members ≠ [])
    (hc : o'.chClosed = (s.obj gid).chClosed) (hl : o'.lnOpen = (s.obj gid).lnOpen) :
    GInv (s.setObj gid o') := by
  have hg := get_of_members hm
  refine inv_setObj h hg ?_ ?_ ?_ ?_
  · rw [hl]; exact ⟨fun _ => hm', fun _ => (h.openIff _ _ hg).2 hm⟩
  · rw [hc, hn]; exact fun _ => h.pop _ _ hg hm
  · rw [hc]; exact id
  · intro m g hmem
    obtain ⟨_, x, hx, hxm, _⟩ := h.pdelOk m gid g hmem
    rw [hg] at hx; cases hx
    exact absurd hxm hm

/-- the first member populates the object stored under `g` -/
theorem inv_populate {g : Str} {gid : Nat} {o' : Obj} (h : GInv s)
    (ht : s.table.lookup g = some gid) (hn : o'.name = g) (hm : o'.members ≠ [])
    (hl : o'.lnOpen = true) (hc : o'.chClosed = (s.obj gid).chClosed) (hpd : s.pdel = []) :
    GInv (s.setObj gid o') := by
  obtain ⟨o, hg, hoc⟩ := h.tab g gid ht
  have hoc : o.chClosed = false := hoc.resolve_right (fun ⟨m, hm⟩ => by rw [hpd] at hm; cases hm)
  rw [obj_of_get hg] at hc
  refine inv_setObj h hg ⟨fun _ => hm, fun _ => hl⟩ ?_ ?_ ?_
  · rw [hc, hn]; exact fun _ => ⟨hoc, ht⟩
  · rw [hc]; exact id
  · intro m g' hmem; rw [hpd] at hmem; cases hmem

/-- the last member leaves: the object is emptied and the name removed from the table -/
theorem inv_remove {g : Str} {gid : Nat} {o' : Obj} (h : GInv s)
    (ht : s.table.lookup g = some gid) (hm : o'.members = []) (hl : o'.lnOpen = false)
    (hlock : s.lock = none) :
    GInv { s.setObj gid o' with table := s.table.filter (fun e => !(e.1 == g)) } := by
  have hpend := h.lockNone hlock
  refine ⟨h.noPanic, ?_, ?_, ?_, ?_, fun _ => hpend, ?_, ?_⟩
  · intro j x hx
    rcases get_set hx with ⟨rfl, rfl, _⟩ | ⟨_, hx'⟩
    · rw [hl, hm]; simp
    · exact h.openIff _ _ hx'
  · intro j x hx hne
    rcases get_set hx with ⟨rfl, rfl, _⟩ | ⟨hji, hx'⟩
    · exact absurd hm hne
    · obtain ⟨hc, hlk⟩ := h.pop _ _ hx' hne
      have : x.name ≠ g := by
        intro e; rw [e, ht] at hlk; cases hlk; exact hji rfl
      exact ⟨hc, (lookup_filter_ne this).trans hlk⟩
  · intro g' j hj
    obtain ⟨hne, hj'⟩ := lookup_filter_some hj
    obtain ⟨x, hx, hxc⟩ := h.tab g' j hj'
    have hji : j ≠ gid := by
      intro e; subst e; exact hne (h.tabInj _ _ _ hj' ht)
    exact ⟨x, by rw [get_setObj_ne hji]; exact hx, hxc⟩
  · intro g1 g2 j h1 h2
    exact h.tabInj _ _ _ (lookup_filter_some h1).2 (lookup_filter_some h2).2
  · intro m hm'
    rw [show s.lock = some m from hm'] at hlock; cases hlock
  · intro m j g' hmem
    have hmem' : (m, j, g') ∈ s.pdel := hmem
    rw [hpend.2] at hmem'; cases hmem'

/-- creating the endpoint touches only `ext` and `leaked`, the latter only when `TCPGroup.Listen` keeps the
    acquired port after a failed `net.Listen` -/
theorem createEp_frame {s s1 : St} {p : Params} {orc : Oracle} {res : Except Err (Nat × EpKey)}
    (h : createEp fx s p orc = some (s1, res)) :
    ∃ ext leaked, s1 = { s with ext := ext, leaked := leaked } ∧
      (fx.listenReal = true → leaked = s.leaked) := by
  -- every outcome but one leaves the state as it is
  have same : ∃ ext leaked, s = { s with ext := ext, leaked := leaked } ∧
      (fx.listenReal = true → leaked = s.leaked) := ⟨_, _, rfl, fun _ => rfl⟩
  unfold createEp at h
  split at h
  · rename_i port
    split at h
    · cases h
    · cases h; exact same
    · rename_i rp _
      generalize (if fx.listenReal then rp else port) = lp at h
      dsimp only at h
      by_cases h0 : lp = 0
      · rw [if_pos h0, Option.ite_none_right_eq_some] at h
        cases h.2; exact same
      · rw [if_neg h0] at h
        by_cases hg : orc.grab = true
        · rw [if_pos hg] at h
          cases h
          refine ⟨.port lp :: s.ext, if fx.listenReal then s.leaked else rp :: s.leaked, ?_, fun e => if_pos e⟩
          split <;> rfl
        · rw [if_neg hg] at h
          cases h; exact same
  · dsimp only at h
    split at h <;> (cases h; exact same)

/-- what a join does to the state: the endpoint creation may touch `ext` / `leaked`; then the objects stay as
    they are (refused), or the member is appended to a populated object, or it is the first of its object -/
theorem enter_cases {m g key : Str} {p : Params} {orc : Oracle} {gid : Nat} {r : Res}
    (hs : enter fx s m g key p orc gid = some (s', r)) :
    ∃ s0, (∃ ext leaked, s0 = { s with ext := ext, leaked := leaked } ∧
            (fx.listenReal = true → leaked = s.leaked)) ∧
      (s' = s0 ∨
       ((s.obj gid).members ≠ [] ∧
          s' = s0.setObj gid { s.obj gid with members := (s.obj gid).members ++ [m] }) ∨
       ∃ rp k, s' = s0.setObj gid { s.obj gid with name := g, key := key, params := p, members := [m],
                                                   lnOpen := true, ep := k, realPort := rp,
                                                   workerDead := false }) := by
  unfold enter at hs
  dsimp only at hs
  split at hs
  · split at hs
    · cases hs
    · rename_i hce; exact ⟨_, createEp_frame hce, Or.inl (of_some_pair hs).2⟩
    · rename_i hce; exact ⟨_, createEp_frame hce, Or.inr (Or.inr ⟨_, _, (of_some_pair hs).2⟩)⟩
  · rename_i hne
    have hs0 : ∃ ext leaked, s = { s with ext := ext, leaked := leaked } ∧
        (fx.listenReal = true → leaked = s.leaked) := ⟨_, _, rfl, fun _ => rfl⟩
    split at hs
    · exact ⟨s, hs0, Or.inl (of_some_pair hs).2⟩
    · split at hs
      · exact ⟨s, hs0, Or.inl (of_some_pair hs).2⟩
      · exact ⟨s, hs0, Or.inr (Or.inl ⟨hne, (of_some_pair hs).2⟩)⟩

theorem inv_enter {m g key : Str} {p : Params} {orc : Oracle} {gid : Nat} {r : Res}
    (hi : GInv s) (ht : s.table.lookup g = some gid) (hpd : s.pdel = [])
    (hs : enter fx s m g key p orc gid = some (s', r)) : GInv s' := by
  obtain ⟨s0, ⟨ext, leaked, rfl, _⟩, rfl | ⟨hne, rfl⟩ | ⟨rp, k, rfl⟩⟩ := enter_cases hs
  · exact inv_congr hi rfl rfl rfl rfl rfl rfl
  · exact inv_setObj_ne (inv_congr hi rfl rfl rfl rfl rfl rfl) hne rfl (by simp) rfl rfl
  · exact inv_populate (inv_congr hi rfl rfl rfl rfl rfl rfl) ht rfl (by simp) rfl rfl hpd

/-- under the lock discipline a free controller lock means that no join and no leave is under way -/
theorem GInv.idle (h : GInv s) (h1 : fx.oneLock = true) (hf : lockFree fx s = true) :
    s.lock = none ∧ s.pend = [] ∧ s.pdel = [] := by
  cases hl : s.lock with
  | none => exact ⟨rfl, h.lockNone hl⟩
  | some x => simp [lockFree, h1, hl] at hf

theorem GInv.pop_obj (h : GInv s) {gid : Nat} (hm : (s.obj gid).members ≠ []) :
    (s.obj gid).chClosed = false ∧ s.table.lookup (s.obj gid).name = some gid :=
  h.pop _ _ (get_of_members hm) hm

theorem get_append_blank {l : List Obj} {j : Nat} {x : Obj} (h : (l ++ [({} : Obj)])[j]? = some x) :
    l[j]? = some x ∨ x = {} := by
  rcases Nat.lt_or_ge j l.length with hlt | hge
  · rw [List.getElem?_append_left hlt] at h; exact Or.inl h
  · rw [List.getElem?_append_right hge] at h
    exact Or.inr (List.mem_singleton.1 (List.mem_of_getElem? h))

theorem inv_lookup (h1 : fx.oneLock = true) {m g : Str} {r : Res}
    (hi : GInv s) (hs : Step fx s (.lookup m g) s' r) : GInv s' := by
  have hlock : ∀ m', (if fx.oneLock = true then some m else s.lock) = some m' → m' = m := by
    intro m' e; rw [if_pos h1] at e; cases e; rfl
  cases hs with
  | @lookupOld _ _ gid hfree hlk =>
    obtain ⟨_, hpend, hpd⟩ := hi.idle h1 hfree
    refine ⟨hi.noPanic, hi.openIff, hi.pop, hi.tab, hi.tabInj, ?_, ?_, hi.pdelOk⟩
    · intro h; rw [if_pos h1] at h; cases h
    · intro m' hm'
      cases hlock m' hm'
      exact Or.inl ⟨g, gid, by rw [hpend], hlk, hpd⟩
  | lookupNew hfree hnone =>
    obtain ⟨_, hpend, hpd⟩ := hi.idle h1 hfree
    have old_lt : ∀ {j x}, s.objs[j]? = some x → j < s.objs.length := fun hx =>
      (List.getElem?_eq_some_iff.1 hx).1
    refine ⟨hi.noPanic, ?_, ?_, ?_, ?_, ?_, ?_, ?_⟩
    · intro j x hx
      rcases get_append_blank hx with hx | rfl
      · exact hi.openIff _ _ hx
      · simp
    · intro j x hx hne
      rcases get_append_blank hx with hx | rfl
      · obtain ⟨hc, hl⟩ := hi.pop _ _ hx hne
        have hng : (x.name == g) = false := by
          apply Bool.eq_false_iff.2
          intro hb
          rw [eq_of_beq hb, hnone] at hl; cases hl
        exact ⟨hc, by show List.lookup x.name ((g, s.objs.length) :: s.table) = some j
                      rw [List.lookup_cons, hng]; exact hl⟩
      · exact absurd rfl hne
    · intro g' j hj
      rcases lookup_cons_some hj with ⟨_, rfl⟩ | ⟨_, hj⟩
      · exact ⟨{}, by simp, Or.inl rfl⟩
      · obtain ⟨x, hx, hxc⟩ := hi.tab g' j hj
        exact ⟨x, by rw [List.getElem?_append_left (old_lt hx)]; exact hx, hxc⟩
    · -- the new entry points past every object an old entry points to
      intro g1 g2 j hj1 hj2
      have old : ∀ {g'}, s.table.lookup g' = some j → j < s.objs.length := fun hg' =>
        let ⟨_, hx, _⟩ := hi.tab _ j hg'; old_lt hx
      rcases lookup_cons_some hj1 with ⟨e1, rfl⟩ | ⟨_, h1'⟩ <;>
        rcases lookup_cons_some hj2 with ⟨e2, e⟩ | ⟨_, h2'⟩
      · rw [e1, e2]
      · exact absurd (old h2') (Nat.lt_irrefl _)
      · subst e; exact absurd (old h1') (Nat.lt_irrefl _)
      · exact hi.tabInj _ _ _ h1' h2'
    · intro h; rw [if_pos h1] at h; cases h
    · intro m' hm'
      cases hlock m' hm'
      exact Or.inl ⟨g, s.objs.length, by rw [hpend], by simp, hpd⟩
    · intro m' j g' hm; rw [hpd] at hm; cases hm

theorem inv_enterStep (h1 : fx.oneLock = true) {m key : Str} {p : Params}
    {orc : Oracle} {r : Res} (hi : GInv s) (hs : Step fx s (.enter m key p orc) s' r) : GInv s' := by
  cases hs with
  | @enter _ _ _ _ m0 g gid _ _ hfind he _ =>
    have hmem := List.mem_of_find?_eq_some hfind
    have hb : m0 = m := eq_of_beq (List.find?_some hfind :)
    cases hl : s.lock with
    | none => rw [(hi.lockNone hl).1] at hmem; cases hmem
    | some mm =>
      rcases hi.lockSome mm hl with ⟨g0, gid0, hp, ht, hpd⟩ | ⟨hp, _⟩
      · rw [hp] at hmem
        cases List.mem_singleton.1 hmem
        -- the join gives the controller lock back: its `pend` entry was the only one
        have h0 : GInv { s with pend := s.pend.filter (fun x => !(x.1 == m)),
                                lock := if fx.oneLock then none else s.lock } := by
          refine ⟨hi.noPanic, hi.openIff, hi.pop, hi.tab, hi.tabInj, ?_, ?_, hi.pdelOk⟩
          · intro _; exact ⟨by show s.pend.filter _ = []; rw [hp, hb]; simp, hpd⟩
          · intro m' hm'; rw [if_pos h1] at hm'; cases hm'
        exact inv_enter h0 ht hpd he
      · rw [hp] at hmem; cases hmem

theorem inv_leaveL (h1 : fx.oneLock = true) {m : Str} {gid : Nat} {r : Res}
    (hi : GInv s) (hs : Step fx s (.leaveL m gid) s' r) : GInv s' ∧ r ≠ .crash := by
  cases hs with
  | leaveL _ _ hmem hms => exact ⟨inv_setObj_ne hi (members_ne_of_mem hmem) rfl hms rfl rfl, nofun⟩
  | leaveLCrash _ hmem hc => rw [(hi.pop_obj (members_ne_of_mem hmem)).1] at hc; cases hc
  | leaveLLast _ hfree hmem =>
    exact ⟨inv_remove hi (hi.pop_obj (members_ne_of_mem hmem)).2 rfl rfl (hi.idle h1 hfree).1, nofun⟩

theorem inv_leaveG (h1 : fx.oneLock = true) {m g : Str} {r : Res}
    (hi : GInv s) (hs : Step fx s (.leaveG m g) s' r) : GInv s' := by
  cases hs with
  | leaveGNone => exact hi
  | @leaveG _ _ gid _ _ _ hms =>
    have hne : (s.obj gid).members ≠ [] := fun e => by rw [e] at hms; exact hms rfl
    exact inv_setObj_ne hi hne rfl hms rfl rfl
  | leaveGLast _ hfree hlk => exact inv_remove hi hlk rfl rfl (hi.idle h1 hfree).1

theorem inv_sendFailed {c gid : Nat} (h : GInv s) : GInv (sendFailed fx s c gid) :=
  inv_congr (inv_setObj_same (o' := { s.obj gid with workerDead := true }) h rfl rfl rfl rfl) rfl rfl rfl rfl rfl rfl

end

/-- **section 1 of a leave** (one-section controllers): a leave that is not the last changes the member
    list only; the last one empties the object, closes its endpoint and KEEPS the controller lock — the
    table still names the (now dead) object, and nobody can read the table until `leaveDel` -/
theorem inv_leaveEdit {fx : Fix} (h1 : fx.oneLock = true) (h2 : fx.leaveOne = true) {s s' : St} {m : Str}
    {gid : Nat} {r : Res} (hi : GInv s) (hs : step fx s (.leaveEdit m gid) = some (s', r)) :
    GInv s' ∧ r ≠ .crash := by
  cases step_spec hs with
  | leaveEdit _ hmem hms => exact ⟨inv_setObj_ne hi (members_ne_of_mem hmem) rfl hms rfl rfl, nofun⟩
  | leaveEditCrash _ hmem hc => rw [(hi.pop_obj (members_ne_of_mem hmem)).1] at hc; cases hc
  | leaveEditLast hfree hmem =>
    obtain ⟨_, hpend, hpd⟩ := hi.idle h1 (hfree h2)
    have hg := get_of_members (members_ne_of_mem hmem)
    have hlk := (hi.pop_obj (members_ne_of_mem hmem)).2
    rw [if_pos h2, hpd]
    refine ⟨⟨hi.noPanic, ?_, ?_, ?_, hi.tabInj, nofun, ?_, ?_⟩, nofun⟩
    · intro j x hx
      rcases get_set hx with ⟨rfl, rfl, _⟩ | ⟨_, hx'⟩
      · simp
      · exact hi.openIff _ _ hx'
    · intro j x hx hnx
      rcases get_set hx with ⟨rfl, rfl, _⟩ | ⟨_, hx'⟩
      · exact absurd rfl hnx
      · exact hi.pop _ _ hx' hnx
    · intro g j hj
      obtain ⟨x, hx, hxc⟩ := hi.tab g j hj
      by_cases hji : j = gid
      · subst hji
        cases hi.tabInj _ _ _ hj hlk
        exact ⟨_, get_setObj_self hg, Or.inr ⟨m, List.mem_cons_self⟩⟩
      · refine ⟨x, by rw [get_setObj_ne hji]; exact hx, Or.inl (hxc.resolve_right ?_)⟩
        intro ⟨m', hm'⟩; rw [hpd] at hm'; cases hm'
    · intro m' hm'
      cases hm'
      exact Or.inr ⟨hpend, gid, (s.obj gid).name, rfl⟩
    · intro m' j g hm'
      cases List.mem_singleton.1 hm'
      exact ⟨hlk, _, get_setObj_self hg, rfl, rfl⟩

/-- **section 2 of a leave**: the table entry of the emptied object goes, the controller lock is free again -/
theorem inv_leaveDel {fx : Fix} (h2 : fx.leaveOne = true) {s s' : St} {m : Str} {r : Res}
    (hi : GInv s) (hs : step fx s (.leaveDel m) = some (s', r)) : GInv s' := by
  cases step_spec hs with
  | @leaveDel _ m0 gid name hfind _ =>
    have hmem := List.mem_of_find?_eq_some hfind
    have hm0 : m0 = m := eq_of_beq (List.find?_some hfind :)
    obtain ⟨ht, o, hg, hom, _⟩ := hi.pdelOk _ _ _ hmem
    obtain ⟨_, hpend, hpd⟩ := hi.pdel_single hmem
    have hpd' : s.pdel.filter (fun x => !(x.1 == m)) = [] := by rw [hpd, hm0]; simp
    rw [if_pos ht, if_pos h2, hpd']
    refine ⟨hi.noPanic, hi.openIff, ?_, ?_, ?_, fun _ => ⟨hpend, rfl⟩, nofun, nofun⟩
    · intro j x hx hnx
      obtain ⟨hc, hlkx⟩ := hi.pop _ _ hx hnx
      have : x.name ≠ name := by
        intro e; rw [e, ht] at hlkx; cases hlkx
        rw [hg] at hx; cases hx; exact hnx hom
      exact ⟨hc, (lookup_filter_ne this).trans hlkx⟩
    · intro g' j hj
      obtain ⟨hne, hj'⟩ := lookup_filter_some hj
      obtain ⟨x, hx, hxc⟩ := hi.tab g' j hj'
      refine ⟨x, hx, Or.inl (hxc.resolve_right ?_)⟩
      intro ⟨m', hm'⟩
      rw [hpd] at hm'
      cases List.mem_singleton.1 hm'
      exact hne rfl
    · intro g1 g2 j hj1 hj2
      exact hi.tabInj _ _ _ (lookup_filter_some hj1).2 (lookup_filter_some hj2).2

/-- **the invariant is preserved by every label** (controllers with the one-lock repair whose leaves keep
    the controller lock across both sections) -/
theorem inv_step {fx : Fix} (h1 : fx.oneLock = true) (h2 : fx.leaveOne = true) {s s' : St} {l : Label} {r : Res}
    (hi : GInv s) (hs : step fx s l = some (s', r)) : GInv s' := by
  have h := step_spec hs
  cases l with
  | lookup m g => exact inv_lookup h1 hi h
  | enter m key p orc => exact inv_enterStep h1 hi h
  | leaveL m gid => exact (inv_leaveL h1 hi h).1
  | leaveG m g => exact inv_leaveG h1 hi h
  | leaveEdit m gid => exact (inv_leaveEdit h1 h2 hi hs).1
  | leaveDel m => exact inv_leaveDel h2 hi hs
  | accept c gid =>
    cases h
    exact inv_congr hi rfl rfl rfl rfl rfl rfl
  | handoff c m =>
    cases h with
    | handoffFail => exact inv_sendFailed hi
    | handoff => exact inv_congr hi rfl rfl rfl rfl rfl rfl
  | send c =>
    cases h with
    | sendFail => exact inv_sendFailed hi
    | @send _ gid =>
      exact inv_congr (inv_setObj_same (o' := { s.obj gid with queue := (s.obj gid).queue ++ [c] })
        hi rfl rfl rfl rfl) rfl rfl rfl rfl rfl rfl
  | recv m gid =>
    cases h with
    | @recv _ _ c q =>
      exact inv_congr (inv_setObj_same (o' := { s.obj gid with queue := q }) hi rfl rfl rfl rfl)
        rfl rfl rfl rfl rfl rfl
  | request gid =>
    cases h with
    | request => exact inv_setObj_same hi rfl rfl rfl rfl
    | requestNone => exact inv_setObj_same hi rfl rfl rfl rfl
  | squat k =>
    cases h
    exact inv_congr hi rfl rfl rfl rfl rfl rfl
  | unsquat k =>
    cases h
    exact inv_congr hi rfl rfl rfl rfl rfl rfl

theorem inv_run {fx : Fix} (h1 : fx.oneLock = true) (h2 : fx.leaveOne = true) (ls : List Label) :
    ∀ {s s' : St}, GInv s → run fx s ls = some s' → GInv s' :=
  run_preserves (inv_step h1 h2) ls

end Group
end Frp
