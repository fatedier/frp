import Frp.Model.StrictLoad
import Frp.Lemmas.ListFacts
/- the invariant behind `C18.strict_verdict_own`: under `heldEvents` only the thread that holds the mutex
   moves past its `lock`, and while it decodes the switch equals its own strictness -/
namespace Frp
namespace StrictLoad
open Gen.TypedConf

theorem program_held (l : Load) :
    program heldEvents l =
      .lock :: .setFlag l.strict :: .top l.top l.strict :: (l.nested.map .elem ++ [.unlock]) := by
  simp [program, heldEvents, instrsOf, List.flatMap]

/-- a thread that does not hold the mutex: not started, or finished with its own verdict -/
def Idle (t : Thread) : Prop :=
  (t.rest = program heldEvents t.load ∧ t.rejected = false) ∨ (t.rest = [] ∧ t.rejected = rejects t.load)

/-- the thread that holds the mutex -/
def Hold (flag : Bool) (t : Thread) : Prop :=
  (t.rest = .setFlag t.load.strict :: .top t.load.top t.load.strict :: (t.load.nested.map .elem ++ [.unlock]) ∧
      t.rejected = false) ∨
  (flag = t.load.strict ∧ t.rest = .top t.load.top t.load.strict :: (t.load.nested.map .elem ++ [.unlock]) ∧
      t.rejected = false) ∨
  (flag = t.load.strict ∧ ∃ done todo, t.load.nested = done ++ todo ∧ t.rest = todo.map .elem ++ [.unlock] ∧
      t.rejected = (t.load.strict && (t.load.top || done.any id)))

def Inv (st : St) : Prop :=
  ∀ i t, st.threads[i]? = some t → if st.lockedBy = some i then Hold st.flag t else Idle t

/-- replacing the entry of thread `i` while no other thread holds the mutex, before or after: the others
    are idle and stay so, whatever becomes of the switch -/
theorem inv_set {st : St} {i : Nat} {t : Thread} (hinv : Inv st) (hti : st.threads[i]? = some t)
    (hown : ∀ j, st.lockedBy = some j → j = i) {flag' : Bool} {lockedBy' : Option Nat} {t' : Thread}
    (hown' : ∀ j, lockedBy' = some j → j = i) (ht' : if lockedBy' = some i then Hold flag' t' else Idle t') :
    Inv { flag := flag', lockedBy := lockedBy', threads := st.threads.set i t' } := by
  intro j tj hj
  by_cases e : j = i
  · subst e
    rw [List.getElem?_set_self (List.getElem?_eq_some_iff.mp hti).1] at hj
    cases hj
    exact ht'
  · rw [List.getElem?_set_ne (Ne.symm e)] at hj
    have hidle := hinv j tj hj
    rw [if_neg fun h => e (hown j h)] at hidle
    show if lockedBy' = some j then _ else _
    rw [if_neg fun h => e (hown' j h)]
    exact hidle

/-- the holder of the mutex walks through the three stages of `Hold` and ends idle with its own verdict;
    an idle thread can only try to take the mutex -/
theorem inv_step (st : St) (i : Nat) (hinv : Inv st) : Inv (stepThread st i) := by
  unfold stepThread
  cases hti : st.threads[i]? with
  | none => exact hinv
  | some t =>
    have hi := hinv i t hti
    by_cases hh : st.lockedBy = some i
    · rw [if_pos hh] at hi
      have hown : ∀ j, st.lockedBy = some j → j = i := fun j h => Option.some.inj (h.symm.trans hh)
      rcases hi with ⟨hr, hrej⟩ | ⟨hf, hr, hrej⟩ | ⟨hf, done, todo, hn, hr, hrej⟩
      · simp only [hr, stepInstr]
        exact inv_set hinv hti hown hown (by rw [if_pos hh]; exact Or.inr (Or.inl ⟨rfl, rfl, hrej⟩))
      · simp only [hr, stepInstr]
        refine inv_set hinv hti hown hown ?_
        rw [if_pos hh]
        exact Or.inr (Or.inr ⟨hf, [], t.load.nested, rfl, rfl, by simp [hrej]⟩)
      · cases todo with
        | nil =>
          simp only [hr, List.map_nil, List.nil_append, stepInstr]
          refine inv_set hinv hti hown nofun ?_
          rw [if_neg nofun]
          exact Or.inr ⟨rfl, by rw [hrej, rejects, hn, List.append_nil]⟩
        | cons u us =>
          simp only [hr, List.map_cons, List.cons_append, stepInstr]
          refine inv_set hinv hti hown hown ?_
          rw [if_pos hh]
          refine Or.inr (Or.inr ⟨hf, done ++ [u], us, by rw [hn, List.append_assoc]; rfl, rfl, ?_⟩)
          simp only [hrej, hf, List.any_append, List.any_cons, List.any_nil, id, Bool.or_false]
          cases t.load.strict <;> cases t.load.top <;> cases done.any id <;> cases u <;> rfl
    · rw [if_neg hh] at hi
      rcases hi with ⟨hr, hrej⟩ | ⟨hr, _⟩
      · rw [program_held] at hr
        simp only [hr, stepInstr]
        split
        · exact hinv
        · next hl =>
          have hnone : st.lockedBy = none := by simpa using hl
          refine inv_set hinv hti (by rw [hnone]; nofun) (fun j h => (Option.some.inj h).symm) ?_
          rw [if_pos rfl]
          exact Or.inl ⟨rfl, hrej⟩
      · simp only [hr]
        exact hinv

theorem inv_run (st : St) (sched : List Nat) (hinv : Inv st) : Inv (run st sched) :=
  foldl_invariant hinv fun s i _ h => inv_step s i h

theorem inv_init (flag0 : Bool) (loads : List Load) : Inv (init heldEvents flag0 loads) := by
  intro i t h
  simp only [init, List.getElem?_map] at h
  simp only [init, reduceCtorEq, if_false]
  cases hl : loads[i]? with
  | none => simp [hl] at h
  | some l =>
    simp only [hl, Option.map_some, Option.some.injEq] at h
    subst h
    left; exact ⟨rfl, rfl⟩

/-- a thread's load never changes and the number of threads stays the same -/
theorem loads_step (st : St) (i : Nat) : (stepThread st i).threads.map (·.load) = st.threads.map (·.load) := by
  unfold stepThread
  cases hti : st.threads[i]? with
  | none => rfl
  | some t =>
    obtain ⟨hlt, rfl⟩ := List.getElem?_eq_some_iff.mp hti
    -- every instruction writes back the thread's own record with the same load
    have key : ∀ t' : Thread, t'.load = st.threads[i].load →
        (st.threads.set i t').map (·.load) = st.threads.map (·.load) := by
      intro t' ht
      have hi : (st.threads.map (·.load))[i]'(by simpa using hlt) = st.threads[i].load := List.getElem_map ..
      rw [List.map_set, ht, ← hi, List.set_getElem_self]
    cases hr : st.threads[i].rest with
    | nil => simp only [hr]
    | cons x r =>
      simp only [hr]
      cases x <;> simp only [stepInstr]
      · split
        · rfl
        · exact key _ rfl
      all_goals exact key _ rfl

theorem loads_run (st : St) (sched : List Nat) : (run st sched).threads.map (·.load) = st.threads.map (·.load) :=
  foldl_invariant (P := fun s => s.threads.map (·.load) = st.threads.map (·.load)) rfl
    fun s i _ h => (loads_step s i).trans h

end StrictLoad
end Frp
