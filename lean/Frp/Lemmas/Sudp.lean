import Frp.Model.Sudp
import Frp.Lemmas.Udp
/-
  Invariants of the sudp visitor machine (Frp/Model/Sudp.lean).
  The property statements are in Frp/Props/C03.lean (section 5).
-/
namespace Frp
namespace Sudp
open Udp Base64

/-- packets built by `ForwardUserConn` from a logged user datagram: `Udp.Built s.sent s.bs m` -/
def UpOK (s : St) (m : Packet) : Prop :=
  ∃ a p, (a, p) ∈ s.sent ∧ isBytes p = true ∧ m = packetOf (rd s.bs p) none (some a)

/-- upstream drop reasons: overload, failed connection attempt, dead connection -/
def okUp : VDrop → Bool
  | .sendFull | .connFail | .connDown => true
  | _ => false

theorem okUp_cases {d : VDrop} (h : okUp d = true) : d = .sendFull ∨ d = .connFail ∨ d = .connDown := by
  revert h
  cases d <;> decide

structure Inv (s : St) : Prop where
  /-- every datagram that arrived at the visitor's socket is exactly one of: queued, held in a local
      variable of the dispatcher / worker, written on some visitor connection, dropped -/
  up : ∀ x : View, s.sentV.count x =
      (s.sendCh.map view).count x + ((held s).map view).count x
        + (s.wire.map Prod.snd).count x + (s.dropUp.map Prod.snd).count x
  down : ∀ x : View, (s.inLog.map Prod.snd).count x =
      (s.readCh.map view).count x + (s.userLog.map uview).count x + (s.dropDown.map Prod.snd).count x
  sentEq : s.sentV = s.sent.map (fun e => (some e.1, some (rd s.bs e.2)))
  upOK : ∀ m, (m ∈ s.sendCh ∨ m ∈ held s) → UpOK s m
  wireGen : ∀ e ∈ s.wire, 1 ≤ e.1 ∧ e.1 ≤ s.gen
  inGen : ∀ e ∈ s.inLog, 1 ≤ e.1 ∧ e.1 ≤ s.gen
  workGen : s.phase = .work → 1 ≤ s.gen
  idle : s.phase ≠ .work → s.sender = false ∧ s.reader = false
  /-- the sender goroutine leaves only after its first-packet block -/
  senderGone : s.phase = .work → s.sender = false → s.firstDone = true
  dropReason : ∀ e ∈ s.dropUp, okUp e.1 = true

theorem inv_init (bs cap : Nat) : Inv (init bs cap) := by
  constructor <;> simp [init, held, UpOK]

theorem UpOK.view {s : St} {m : Packet} (h : UpOK s m) :
    ∃ a p, (a, p) ∈ s.sent ∧ Udp.view m = (some a, some (rd s.bs p)) := by
  obtain ⟨a, p, hin, hb, rfl⟩ := h
  exact ⟨a, p, hin, view_packetOf' p (some a) hb s.bs⟩

macro "cnt " "at " h:ident : tactic =>
  `(tactic| simp only [List.map_append, List.count_append, List.map_cons, List.map_nil, List.count_cons,
      List.count_nil, Option.toList, List.map_map] at $h:ident ⊢)

/-! ### every label preserves the invariant -/

theorem inv_step {s : St} (h : Inv s) (l : Label) : Inv (step s l) := by
  cases l with
  | userSend a p =>
    simp only [step]
    unfold stepUserSend
    split
    · exact h
    · rename_i hb
      have hb : isBytes p = true := by simpa using hb
      simp only []
      split
      -- room in `sendCh`
      · refine { h with up := ?up, sentEq := sentEq_snoc h.sentEq hb, upOK := ?upOK }
        case up =>
          intro x
          have := h.up x
          simp only [held] at this ⊢
          cnt at this
          omega
        case upOK =>
          intro m hm
          simp only [held] at hm
          rcases hm with hm | hm
          · exact forall_mem_snoc (fun m hm => Built.snoc (h.upOK m (Or.inl hm))) (Built.new hb) m hm
          · exact Built.snoc (h.upOK m (Or.inr (by simpa only [held] using hm)))
      -- `sendCh` full: dropped
      · refine { h with up := ?up, sentEq := sentEq_snoc h.sentEq hb, upOK := ?upOK,
                        dropReason := forall_mem_snoc h.dropReason rfl }
        case up =>
          intro x
          have := h.up x
          simp only [held] at this ⊢
          cnt at this
          omega
        case upOK =>
          intro m hm
          simp only [held] at hm
          exact Built.snoc (h.upOK m (hm.imp_right (by simpa only [held] using ·)))
  | dispTake =>
    simp only [step]
    unfold stepDispTake
    split
    · rename_i m rest hph hq
      have hheld : held s = [] := by simp only [held, hph]
      refine { h with up := ?up, upOK := ?upOK, workGen := ?workGen, idle := ?idle, senderGone := ?senderGone }
      case up =>
        intro x
        have := h.up x
        rw [hheld, hq] at this
        simp only [held]
        cnt at this
        omega
      case upOK =>
        intro m' hm'
        simp only [held, Option.toList, List.mem_cons, List.not_mem_nil, or_false] at hm'
        rcases hm' with hm' | hm'
        · exact h.upOK m' (Or.inl (by rw [hq]; exact List.mem_cons_of_mem _ hm'))
        · subst hm'; exact h.upOK _ (Or.inl (by rw [hq]; exact List.mem_cons_self))
      case workGen => intro hw; cases hw
      case idle => intro _; exact h.idle (by rw [hph]; intro hc; cases hc)
      case senderGone => intro hw; cases hw
    · exact h
  | connect ok =>
    simp only [step]
    unfold stepConnect
    split
    · rename_i hph
      have hheld : held s = s.dFirst.toList := by simp only [held, hph]
      have hidle := h.idle (by rw [hph]; intro hc; cases hc)
      split
      -- the connection is made: the worker starts with the datagram that triggered it
      · refine { h with
          up := ?up, upOK := ?upOK, wireGen := ?wireGen, inGen := ?inGen, workGen := ?workGen, idle := ?idle
          senderGone := ?senderGone }
        case up =>
          intro x
          have := h.up x
          rw [hheld] at this
          simp only [held, Bool.false_eq_true, if_false]
          exact this
        case upOK =>
          intro m' hm'
          simp only [held, Bool.false_eq_true, if_false] at hm'
          exact h.upOK m' (by rw [hheld]; exact hm')
        case wireGen =>
          intro e he
          have := h.wireGen e he
          exact ⟨this.1, Nat.le_succ_of_le this.2⟩
        case inGen =>
          intro e he
          have := h.inGen e he
          exact ⟨this.1, Nat.le_succ_of_le this.2⟩
        case workGen => intro _; exact Nat.succ_le_succ (Nat.zero_le _)
        case idle => intro hc; exact absurd rfl hc
        case senderGone => intro _ hc; cases hc
      -- the attempt fails: that datagram is dropped
      · refine { h with
          up := ?up, upOK := ?upOK, workGen := ?workGen, idle := ?idle, senderGone := ?senderGone
          dropReason := ?dropReason }
        case up =>
          intro x
          have := h.up x
          rw [hheld] at this
          simp only [held]
          cases hd : s.dFirst with
          | none =>
            rw [hd] at this
            cnt at this
            omega
          | some m =>
            rw [hd] at this
            cnt at this
            omega
        case upOK =>
          intro m' hm'
          simp only [held, List.not_mem_nil, or_false] at hm'
          exact h.upOK m' (Or.inl hm')
        case workGen => intro hw; cases hw
        case idle => intro _; exact hidle
        case senderGone => intro hw; cases hw
        case dropReason =>
          intro e he
          simp only [List.mem_append, List.mem_map] at he
          rcases he with he | ⟨m, _, rfl⟩
          · exact h.dropReason e he
          · rfl
    · exact h
  | sendFirst ok =>
    simp only [step]
    unfold stepSendFirst
    split
    · rename_i hph
      have hg := h.workGen hph
      split
      · rename_i hc
        simp only [Bool.and_eq_true, Bool.not_eq_true'] at hc
        have hheld : held s = s.wFirst.toList := by simp only [held, hph, hc.2, Bool.false_eq_true, if_false]
        split
        -- the worker was started without a first packet
        · rename_i hw
          refine { h with up := ?up, upOK := ?upOK, senderGone := ?senderGone }
          case up =>
            intro x
            have := h.up x
            rw [hheld, hw] at this
            simp only [held, hph, if_true]
            cnt at this
            omega
          case upOK =>
            intro m' hm'
            simp only [held, hph, if_true, List.not_mem_nil, or_false] at hm'
            exact h.upOK m' (Or.inl hm')
          case senderGone => intro _ _; rfl
        · rename_i m hw
          split
          -- the first packet is written
          · refine { h with up := ?up, upOK := ?upOK, wireGen := ?wireGen, senderGone := ?senderGone }
            case up =>
              intro x
              have := h.up x
              rw [hheld, hw] at this
              simp only [held, hph, if_true]
              cnt at this
              omega
            case upOK =>
              intro m' hm'
              simp only [held, hph, if_true, List.not_mem_nil, or_false] at hm'
              exact h.upOK m' (Or.inl hm')
            case wireGen => exact forall_mem_snoc h.wireGen ⟨hg, Nat.le_refl _⟩
            case senderGone => intro _ _; rfl
          -- writing the first packet fails: the sender returns
          · refine { h with
              up := ?up, upOK := ?upOK, idle := ?idle, senderGone := ?senderGone, dropReason := ?dropReason }
            case up =>
              intro x
              have := h.up x
              rw [hheld, hw] at this
              simp only [held, hph, if_true]
              cnt at this
              omega
            case upOK =>
              intro m' hm'
              simp only [held, hph, if_true, List.not_mem_nil, or_false] at hm'
              exact h.upOK m' (Or.inl hm')
            case idle => intro hne; exact absurd hph hne
            case senderGone => intro _ _; rfl
            case dropReason => exact forall_mem_snoc h.dropReason rfl
      · exact h
    · exact h
  | sendNext ok =>
    simp only [step]
    unfold stepSendNext
    split
    · rename_i m rest hph hq
      have hg := h.workGen hph
      split
      · rename_i hc
        simp only [Bool.and_eq_true] at hc
        have hheld : held s = [] := by simp only [held, hph, hc.2, if_true]
        have hup : ∀ m', (m' ∈ rest ∨ m' ∈ ([] : List Packet)) → UpOK s m' := by
          intro m' hm'
          rcases hm' with hm' | hm'
          · exact h.upOK m' (Or.inl (by rw [hq]; exact List.mem_cons_of_mem _ hm'))
          · cases hm'
        split
        -- the packet is written
        · refine { h with up := ?up, upOK := ?upOK, wireGen := ?wireGen }
          case up =>
            intro x
            have := h.up x
            rw [hheld, hq] at this
            simp only [held, hph, hc.2, if_true]
            cnt at this
            omega
          case upOK =>
            intro m' hm'
            simp only [held, hph, hc.2, if_true] at hm'
            exact hup m' hm'
          case wireGen => exact forall_mem_snoc h.wireGen ⟨hg, Nat.le_refl _⟩
        -- the write fails: the sender returns
        · refine { h with
            up := ?up, upOK := ?upOK, idle := ?idle, senderGone := ?senderGone, dropReason := ?dropReason }
          case up =>
            intro x
            have := h.up x
            rw [hheld, hq] at this
            simp only [held, hph, hc.2, if_true]
            cnt at this
            omega
          case upOK =>
            intro m' hm'
            simp only [held, hph, hc.2, if_true] at hm'
            exact hup m' hm'
          case idle => intro hne; exact absurd hph hne
          case senderGone => intro _ _; exact hc.2
          case dropReason => exact forall_mem_snoc h.dropReason rfl
      · exact h
    · exact h
  | senderExit =>
    simp only [step]
    unfold stepSenderExit
    split
    · rename_i hph
      split
      · rename_i hc
        simp only [Bool.and_eq_true, Bool.not_eq_true'] at hc
        refine { h with idle := ?idle, senderGone := ?senderGone }
        case idle => intro hne; exact absurd hph hne
        case senderGone => intro _ _; exact hc.1.2
      · exact h
    · exact h
  | connRecv m =>
    simp only [step]
    unfold stepConnRecv
    split
    · rename_i hph
      have hg := h.workGen hph
      split
      · refine { h with down := ?down, inGen := ?inGen }
        case down =>
          intro x
          have := h.down x
          cnt at this
          omega
        case inGen => exact forall_mem_snoc h.inGen ⟨hg, Nat.le_refl _⟩
      · exact h
    · exact h
  | connPing => exact h
  | readerDie =>
    simp only [step]
    unfold stepReaderDie
    split
    · rename_i hph
      refine { h with idle := ?idle }
      case idle => intro hne; exact absurd hph hne
    · exact h
  | workerEnd =>
    simp only [step]
    unfold stepWorkerEnd
    split
    · rename_i hph
      split
      · rename_i hc
        simp only [Bool.and_eq_true, Bool.not_eq_true'] at hc
        have hfd : s.firstDone = true := h.senderGone hph hc.1
        have hheld : held s = [] := by simp only [held, hph, hfd, if_true]
        refine { h with up := ?up, upOK := ?upOK, workGen := ?workGen, idle := ?idle, senderGone := ?senderGone }
        case up =>
          intro x
          have := h.up x
          rw [hheld] at this
          simp only [held]
          exact this
        case upOK =>
          intro m' hm'
          simp only [held, List.not_mem_nil, or_false] at hm'
          exact h.upOK m' (Or.inl hm')
        case workGen => intro hw; cases hw
        case idle => intro _; exact hc
        case senderGone => intro hw; cases hw
      · exact h
    · exact h
  | sback =>
    simp only [step]
    unfold stepSback
    split
    · exact h
    · rename_i m rest hq
      obtain ⟨hdel, hdrop⟩ := down_sback (hq ▸ h.down)
      simp only []
      split
      · rename_i buf a hc hr
        exact { h with down := hdel a buf hr hc }
      · exact { h with down := hdrop _ }
      · exact { h with down := hdrop _ }

theorem inv_run (s : St) (h : Inv s) (ls : List Label) : Inv (run s ls) :=
  foldl_invariant (P := Inv) h fun _ l _ hs => inv_step hs l

/-! ### where drops can come from; progress at light load -/

/-- one step adds a drop entry only at one of three sites, each with its cause -/
theorem drop_causes (s : St) (l : Label) (d : VDrop) (x : View)
    (hgt : s.dropUp.count (d, x) < (step s l).dropUp.count (d, x)) :
    (d = .sendFull ∧ s.cap ≤ s.sendCh.length ∧ ∃ a p, l = .userSend a p) ∨
    (d = .connFail ∧ s.phase = .connect ∧ l = .connect false) ∨
    (d = .connDown ∧ s.phase = .work ∧ (l = .sendFirst false ∨ l = .sendNext false)) := by
  have same : ∀ {P : Prop}, s.dropUp.count (d, x) < s.dropUp.count (d, x) → P :=
    fun h => absurd h (Nat.lt_irrefl _)
  cases l with
  | userSend a p =>
    simp only [step, stepUserSend] at hgt
    split at hgt
    · exact same hgt
    · split at hgt
      · exact same hgt
      · rename_i hfull
        simp only [Nat.not_lt] at hfull
        exact Or.inl ⟨reason_of_count_lt_snoc hgt, hfull, a, p, rfl⟩
  | connect ok =>
    simp only [step, stepConnect] at hgt
    split at hgt
    · rename_i hph
      split at hgt
      · exact same hgt
      · rename_i hok
        have hok : ok = false := by simpa using hok
        cases hd : s.dFirst with
        | none =>
          rw [hd] at hgt
          simp only [Option.toList, List.map_nil, List.append_nil] at hgt
          exact same hgt
        | some m =>
          rw [hd] at hgt
          simp only [Option.toList, List.map_cons, List.map_nil] at hgt
          exact Or.inr (Or.inl ⟨reason_of_count_lt_snoc hgt, hph, by rw [hok]⟩)
    · exact same hgt
  | sendFirst ok =>
    simp only [step, stepSendFirst] at hgt
    split at hgt
    · rename_i hph
      split at hgt
      · split at hgt
        · exact same hgt
        · split at hgt
          · exact same hgt
          · rename_i hok
            have hok : ok = false := by simpa using hok
            exact Or.inr (Or.inr ⟨reason_of_count_lt_snoc hgt, hph, Or.inl (by rw [hok])⟩)
      · exact same hgt
    · exact same hgt
  | sendNext ok =>
    simp only [step, stepSendNext] at hgt
    split at hgt
    · rename_i hph _
      split at hgt
      · split at hgt
        · exact same hgt
        · rename_i hok
          have hok : ok = false := by simpa using hok
          exact Or.inr (Or.inr ⟨reason_of_count_lt_snoc hgt, hph, Or.inr (by rw [hok])⟩)
      · exact same hgt
    · exact same hgt
  | _ =>
    simp only [step, stepDispTake, stepSenderExit, stepConnRecv, stepReaderDie, stepWorkerEnd, stepSback] at hgt
    repeat' split at hgt
    all_goals exact same hgt

/-- light load, no connection yet: the datagram is taken by the dispatcher, a connection is made
    and the datagram is the first thing written on it -/
theorem first_datagram_delivered (s : St) (a : Addr) (p : Str) (hb : isBytes p = true)
    (hph : s.phase = .wait) (hq : s.sendCh = []) (hcap : 0 < s.cap) :
    let s' := run s [.userSend a p, .dispTake, .connect true, .sendFirst true]
    s'.wire = s.wire ++ [(s.gen + 1, (some a, some (rd s.bs p)))] ∧ s'.dropUp = s.dropUp ∧
      s'.sendCh = [] ∧ s'.phase = .work ∧ s'.sender = true ∧ s'.firstDone = true := by
  have hv := view_packetOf' p (some a) hb s.bs
  simp only [run, List.foldl, step, stepUserSend, hb, hq, hcap, Bool.not_true, Bool.false_eq_true,
    if_false, if_true, List.length_nil, List.nil_append, stepDispTake, hph, stepConnect, stepSendFirst,
    Bool.and_self, Bool.not_false, hv, and_self]

/-- light load, connection up: the datagram is written on the current connection -/
theorem next_datagram_delivered (s : St) (a : Addr) (p : Str) (hb : isBytes p = true)
    (hph : s.phase = .work) (hs : s.sender = true) (hf : s.firstDone = true) (hq : s.sendCh = [])
    (hcap : 0 < s.cap) :
    let s' := run s [.userSend a p, .sendNext true]
    s'.wire = s.wire ++ [(s.gen, (some a, some (rd s.bs p)))] ∧ s'.dropUp = s.dropUp ∧ s'.sendCh = [] := by
  have hv := view_packetOf' p (some a) hb s.bs
  simp only [run, List.foldl, step, stepUserSend, hb, hq, hcap, Bool.not_true, Bool.false_eq_true,
    if_false, if_true, List.length_nil, List.nil_append, stepSendNext, hph, hs, hf, Bool.and_self, hv,
    and_self]

end Sudp
end Frp
