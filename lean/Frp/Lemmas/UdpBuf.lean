import Frp.Model.UdpBuf
import Frp.Lemmas.ListFacts
/-
  Lemmas about the read loop with an explicit read buffer.  The property statements are in
  Frp/Props/C03.lean §9.
-/
namespace Frp
namespace UdpBuf
open Udp

/-- what stands at the front of the buffer right after `ReadFromUDP` is the datagram (cut to the buffer) -/
theorem readInto_take (bs : Nat) (buf p : Str) :
    (readInto bs buf p).take (rd bs p).length = rd bs p := by
  unfold readInto
  exact List.take_left' rfl

/-- the packet a read stands for -/
def nowOf (bs : Nat) (a : Addr) (p : Str) : Packet := packetOf (rd bs p) none (some a)

/-- the state after a read that found room -/
def afterRead (byRef : Bool) (s : St) (a : Addr) (p : Str) : St :=
  { s with buf := readInto s.bufSize s.buf p,
           q := s.q ++ [{ pl := if byRef then .slice (rd s.bufSize p).length else .owned (nowOf s.bufSize a p).content,
                          raddr := some a }],
           accepted := s.accepted ++ [nowOf s.bufSize a p] }

theorem step_read (byRef : Bool) (s : St) (a : Addr) (p : Str) :
    step byRef s (.read a p) =
      if s.q.length < s.cap then afterRead byRef s a p
      else { s with buf := readInto s.bufSize s.buf p, dropped := s.dropped ++ [nowOf s.bufSize a p] } := by
  simp only [step, afterRead, nowOf, readInto_take]

theorem step_read_room (byRef : Bool) (s : St) (a : Addr) (p : Str) (h : s.q.length < s.cap) :
    step byRef s (.read a p) = afterRead byRef s a p := by
  rw [step_read, if_pos h]

/-- every message in the queue owns its bytes -/
def AllOwned (q : List QMsg) : Prop := ∀ m ∈ q, ∃ c, m.pl = .owned c

theorem materialise_owned {m : QMsg} (h : ∃ c, m.pl = .owned c) (b b' : Str) :
    materialise b m = materialise b' m := by
  obtain ⟨c, hc⟩ := h
  simp only [materialise, hc]

theorem map_materialise_owned {q : List QMsg} (h : AllOwned q) (b b' : Str) :
    q.map (materialise b) = q.map (materialise b') :=
  List.map_congr_left (fun m hm => materialise_owned (h m hm) b b')

/-- invariant of the code as it is (`byRef = false`) -/
structure Inv (s : St) : Prop where
  owned : AllOwned s.q
  cons : s.wire ++ s.q.map (materialise s.buf) = s.accepted

theorem inv_init (bs cap : Nat) : Inv (init bs cap) := ⟨fun _ h => by simp [init] at h, rfl⟩

theorem inv_step {s : St} (h : Inv s) (l : Label) : Inv (step false s l) := by
  cases l with
  | read a p =>
    rw [step_read]
    split
    · refine ⟨forall_mem_snoc h.owned ⟨_, rfl⟩, ?_⟩
      show s.wire ++ (s.q ++ [_]).map (materialise (readInto s.bufSize s.buf p)) = s.accepted ++ [_]
      rw [List.map_append, map_materialise_owned h.owned _ s.buf, ← List.append_assoc, h.cons]
      simp [materialise, nowOf, packetOf]
    · refine ⟨h.owned, ?_⟩
      show s.wire ++ s.q.map (materialise (readInto s.bufSize s.buf p)) = s.accepted
      rw [map_materialise_owned h.owned _ s.buf, h.cons]
  | send =>
    simp only [step]
    split
    · exact h
    · rename_i m rest hq
      have hc := h.cons
      rw [hq] at hc
      refine ⟨fun x hx => h.owned x (by rw [hq]; exact List.mem_cons_of_mem _ hx), ?_⟩
      show (s.wire ++ [materialise s.buf m]) ++ rest.map (materialise s.buf) = s.accepted
      rw [← hc]; simp

theorem inv_run {s : St} (h : Inv s) (ls : List Label) : Inv (run false s ls) :=
  foldl_invariant (P := Inv) h fun _ l _ hs => inv_step hs l

theorem run_append (byRef : Bool) (s : St) (a b : List Label) :
    run byRef s (a ++ b) = run byRef (run byRef s a) b := by
  simp [run, List.foldl_append]

/-- no step changes the buffer size or the capacity of the queue -/
theorem step_params (byRef : Bool) (s : St) (l : Label) :
    (step byRef s l).bufSize = s.bufSize ∧ (step byRef s l).cap = s.cap := by
  cases l with
  | read a p => rw [step_read]; split <;> exact ⟨rfl, rfl⟩
  | send => simp only [step]; split <;> exact ⟨rfl, rfl⟩

/-! ### by reference: request / reply traffic does not show the difference -/

/-- the state after one read and the send behind it, starting from an empty queue -/
def afterPing (s : St) (d : Addr × Str) : St :=
  { s with buf := readInto s.bufSize s.buf d.2, q := [],
           wire := s.wire ++ [nowOf s.bufSize d.1 d.2], accepted := s.accepted ++ [nowOf s.bufSize d.1 d.2] }

theorem byref_pingpong (ds : List (Addr × Str)) :
    ∀ s : St, s.q = [] → 0 < s.cap →
      (run true s (pingPong ds)).q = [] ∧
      (run true s (pingPong ds)).wire = s.wire ++ ds.map (fun d => nowOf s.bufSize d.1 d.2) ∧
      (run true s (pingPong ds)).accepted = s.accepted ++ ds.map (fun d => nowOf s.bufSize d.1 d.2) := by
  induction ds with
  | nil => intro s hq _; exact ⟨hq, by simp [pingPong, run], by simp [pingPong, run]⟩
  | cons d ds ih =>
    intro s hq hc
    have e : pingPong (d :: ds) = [.read d.1 d.2, .send] ++ pingPong ds := by simp [pingPong]
    rw [e, run_append]
    have h1 : run true s [.read d.1 d.2, .send] = afterPing s d := by
      simp only [run, List.foldl_cons, List.foldl_nil, afterPing]
      rw [step_read_room true s d.1 d.2 (by rw [hq]; exact hc)]
      simp only [afterRead, hq, if_true, List.nil_append, step, materialise, readInto_take, nowOf]
    rw [h1]
    obtain ⟨a1, a2, a3⟩ := ih (afterPing s d) rfl hc
    refine ⟨a1, ?_, ?_⟩
    · rw [a2]; simp [afterPing]
    · rw [a3]; simp [afterPing]

/-! ### a burst: all reads first, then all sends -/

theorem reads_room (byRef : Bool) (ds : List (Addr × Str)) :
    ∀ s : St, s.q.length + ds.length ≤ s.cap →
      (run byRef s (ds.map (fun d => .read d.1 d.2))).q.length = s.q.length + ds.length ∧
      (run byRef s (ds.map (fun d => .read d.1 d.2))).accepted = s.accepted ++ ds.map (fun d => nowOf s.bufSize d.1 d.2) ∧
      (run byRef s (ds.map (fun d => .read d.1 d.2))).wire = s.wire := by
  induction ds with
  | nil => intro s _; simp [run]
  | cons d ds ih =>
    intro s h
    simp only [List.length_cons] at h
    have hlt : s.q.length < s.cap := by omega
    have hrun : run byRef s ((d :: ds).map (fun d => Label.read d.1 d.2)) =
        run byRef (afterRead byRef s d.1 d.2) (ds.map (fun d => Label.read d.1 d.2)) := by
      simp only [List.map_cons, run, List.foldl_cons, step_read_room byRef s d.1 d.2 hlt]
    rw [hrun]
    have hlen : (afterRead byRef s d.1 d.2).q.length = s.q.length + 1 := by simp [afterRead]
    obtain ⟨a1, a2, a3⟩ := ih (afterRead byRef s d.1 d.2) (by rw [hlen]; show _ ≤ s.cap; omega)
    refine ⟨?_, ?_, a3⟩
    · rw [a1, hlen, List.length_cons]; omega
    · rw [a2]; simp [afterRead]

theorem sends_drain (byRef : Bool) (n : Nat) :
    ∀ s : St, (run byRef s (List.replicate n .send)).q.length = s.q.length - n ∧
      (run byRef s (List.replicate n .send)).accepted = s.accepted := by
  induction n with
  | zero => intro s; exact ⟨rfl, rfl⟩
  | succ n ih =>
    intro s
    have h1 : (step byRef s .send).q.length = s.q.length - 1 ∧ (step byRef s .send).accepted = s.accepted := by
      simp only [step]
      split
      · rename_i hq; simp [hq]
      · rename_i m rest hq; simp [hq]
    have h2 := ih (step byRef s .send)
    unfold run at h2 ⊢
    rw [List.replicate_succ, List.foldl_cons, h2.1, h2.2, h1.1, h1.2]
    exact ⟨by omega, rfl⟩

/-! ### the code as it is refines the value semantics of `Udp.stepUserSend` -/

/-- the explicit-buffer machine (copying) and the forwarding machine of `Model/Udp` hold the same queue -/
structure Sim (s : St) (t : Udp.St) : Prop where
  owned : AllOwned s.q
  q : s.q.map (materialise s.buf) = t.sSend
  cap : s.cap = t.cap
  bs : s.bufSize = t.sbs

theorem sim_read {s : St} {t : Udp.St} (h : Sim s t) (a : Addr) (p : Str) (hb : isBytes p = true) :
    Sim (step false s (.read a p)) (Udp.step t (.userSend a p)) := by
  have hl : s.q.length = t.sSend.length := by rw [← h.q, List.length_map]
  have hcap := h.cap
  rw [step_read]
  simp only [Udp.step, stepUserSend, hb, Bool.not_true, Bool.false_eq_true, if_false]
  by_cases hc : s.q.length < s.cap
  · have hc' : t.sSend.length < t.cap := by omega
    simp only [hc, hc', if_true]
    refine ⟨forall_mem_snoc h.owned ⟨_, rfl⟩, ?_, h.cap, h.bs⟩
    show (s.q ++ [_]).map (materialise (readInto s.bufSize s.buf p)) = t.sSend ++ [_]
    rw [List.map_append, map_materialise_owned h.owned _ s.buf, h.q, ← h.bs]
    simp [materialise, nowOf, packetOf]
  · have hc' : ¬ t.sSend.length < t.cap := by omega
    simp only [hc, hc', if_false]
    refine ⟨h.owned, ?_, h.cap, h.bs⟩
    show s.q.map (materialise (readInto s.bufSize s.buf p)) = t.sSend
    rw [map_materialise_owned h.owned _ s.buf, h.q]

theorem sim_reads (ds : List (Addr × Str)) (hb : ∀ d ∈ ds, isBytes d.2 = true) :
    ∀ (s : St) (t : Udp.St), Sim s t →
      Sim (run false s (ds.map (fun d => .read d.1 d.2))) (Udp.run t (ds.map (fun d => .userSend d.1 d.2))) := by
  induction ds with
  | nil => intro s t h; exact h
  | cons d ds ih =>
    intro s t h
    simp only [List.map_cons, run, Udp.run, List.foldl_cons]
    exact ih (fun x hx => hb x (List.mem_cons_of_mem _ hx)) _ _ (sim_read h d.1 d.2 (hb d List.mem_cons_self))

end UdpBuf
end Frp
