import Frp.Model.Udp
import Frp.Lemmas.Base64
import Frp.Lemmas.ListFacts
/-
  Lemmas about the UDP tunnel model: frame length arithmetic and the inductive
  invariants of the forwarding machine.  The property statements are in Frp/Props/C03.lean.
-/
namespace Frp
namespace Udp
open Base64

/-! ### frame length -/

theorem digits_length_le : ∀ (k n : Nat), n < 10 ^ (k + 1) → (digits n).length ≤ k + 1 := by
  intro k
  induction k with
  | zero =>
    intro n hn
    rw [digits]
    have : n < 10 := by simpa using hn
    simp [this]
  | succ k ih =>
    intro n hn
    rw [digits]
    split
    · simp
    · have h10 : n / 10 < 10 ^ (k + 1) := by
        have : 10 ^ (k + 1 + 1) = 10 ^ (k + 1) * 10 := Nat.pow_succ _ _
        rw [this] at hn
        exact Nat.div_lt_of_lt_mul (by rw [Nat.mul_comm]; exact hn)
      have := ih (n / 10) h10
      simp only [List.length_append, List.length_cons, List.length_nil]
      omega

theorem digits_port {n : Nat} (h : n < 65536) : (digits n).length ≤ 5 :=
  digits_length_le 4 n (by omega)

theorem jsonAddr_length (a : Addr) :
    (jsonAddr a).length = 27 + a.ip.length + (digits a.port).length + a.zone.length := by
  simp only [jsonAddr, kIP, kPort, kZone, kEnd, List.length_append, List.length_cons, List.length_nil]
  omega

theorem body_length_path (b : Str) (a : Addr) (hne : b ≠ []) :
    (body (packetOf b none (some a))).length
      = frameBodyLen b.length a.ip.length (digits a.port).length a.zone.length := by
  have hc : encode b ≠ [] := fun h => hne (encode_eq_nil.1 h)
  simp only [body, packetOf, fieldC, hc, if_false, fieldA, List.append_nil, List.cons_append,
    List.nil_append, Str.joinWith, List.length_append, List.length_cons, List.length_nil,
    jsonAddr_length, encode_length, frameBodyLen]
  omega

theorem body_length_empty (a : Addr) :
    (body (packetOf [] none (some a))).length
      = 33 + a.ip.length + (digits a.port).length + a.zone.length := by
  simp only [body, packetOf, encode, fieldC, if_true, fieldA, List.append_nil, List.cons_append,
    List.nil_append, Str.joinWith, List.length_append, List.length_cons, List.length_nil,
    jsonAddr_length]
  omega

theorem fits_of_le (b : Str) (a : Addr) (h1 : a.ip.length ≤ 39) (h2 : a.port < 65536)
    (h3 : a.zone.length ≤ 15) (hn : b.length ≤ 7605) : fits (packetOf b none (some a)) = true := by
  have hd := digits_port h2
  unfold fits
  apply decide_eq_true
  unfold maxMsgLength
  by_cases hb : b = []
  · subst hb; rw [body_length_empty]; omega
  · rw [body_length_path b a hb, frameBodyLen]; omega

theorem not_fits_of_gt (b : Str) (l r : Option Addr) (hn : 7674 < b.length) :
    fits (packetOf b l r) = false := by
  have hne : b ≠ [] := by intro h; subst h; simp at hn
  have hc : encode b ≠ [] := fun h => hne (encode_eq_nil.1 h)
  unfold fits
  apply decide_eq_false
  unfold maxMsgLength
  cases l <;> cases r <;>
    simp only [body, packetOf, fieldC, hc, if_false, fieldA, List.append_nil, List.cons_append,
      List.nil_append, Str.joinWith, List.length_append, List.length_cons, List.length_nil,
      jsonAddr_length, encode_length] <;> omega

/-! ### forwarding machine: invariants -/

/-- view of a delivery on the public socket -/
def uview (e : Addr × Str) : View := (some e.1, some e.2)

theorem isBytes_iff (s : Str) : isBytes s = true ↔ bytes s := by
  simp [isBytes, bytes, List.all_eq_true]

theorem bytes_take {s : Str} (n : Nat) (h : bytes s) : bytes (s.take n) :=
  fun x hx => h x (List.mem_of_mem_take hx)

theorem view_packetOf_bytes (b : Str) (l r : Option Addr) (hb : bytes b) : view (packetOf b l r) = (r, some b) := by
  simp only [view, contentOf, packetOf, decode_encode b hb]

theorem view_packetOf' (b : Str) (r : Option Addr) (hb : isBytes b = true) (n : Nat) :
    view (packetOf (rd n b) none r) = (r, some (rd n b)) :=
  view_packetOf_bytes _ none r (bytes_take n ((isBytes_iff b).1 hb))

/-- `m` is what `ForwardUserConn` with an `n`-byte buffer makes of a datagram logged in `sent`.  `Udp.UpOK`,
    `Sudp.UpOK` and `UdpSrv.UpOK` are this predicate at their state's `sent` and buffer size and unfold to it;
    `Built.snoc` and `Built.new` are applied to goals stated with them. -/
def Built (sent : List (Addr × Str)) (n : Nat) (m : Packet) : Prop :=
  ∃ a p, (a, p) ∈ sent ∧ isBytes p = true ∧ m = packetOf (rd n p) none (some a)

theorem Built.snoc {sent : List (Addr × Str)} {n : Nat} {m : Packet} {e : Addr × Str} (h : Built sent n m) :
    Built (sent ++ [e]) n m :=
  let ⟨a, p, hin, hb, hm⟩ := h
  ⟨a, p, List.mem_append_left _ hin, hb, hm⟩

theorem Built.new {sent : List (Addr × Str)} {n : Nat} {a : Addr} {p : Str} (hb : isBytes p = true) :
    Built (sent ++ [(a, p)]) n (packetOf (rd n p) none (some a)) :=
  ⟨a, p, List.mem_append_right _ (List.mem_singleton.2 rfl), hb, rfl⟩

theorem sentEq_snoc {sentV : List View} {sent : List (Addr × Str)} {n : Nat}
    (h : sentV = sent.map (fun e => (some e.1, some (rd n e.2)))) {a : Addr} {p : Str} (hb : isBytes p = true) :
    sentV ++ [view (packetOf (rd n p) none (some a))] =
      (sent ++ [(a, p)]).map (fun e => (some e.1, some (rd n e.2))) := by
  rw [h, view_packetOf' p (some a) hb n, List.map_append, List.map_singleton]

/-- packets queued towards the backend: `Built s.sent s.sbs m` -/
def UpOK (s : St) (m : Packet) : Prop :=
  ∃ a p, (a, p) ∈ s.sent ∧ isBytes p = true ∧ m = packetOf (rd s.sbs p) none (some a)

/-- packets queued towards the users: built by a `writerFn` whose captured address is a user's -/
def DownOK (s : St) (m : Packet) : Prop :=
  ∃ a p q, (a, p) ∈ s.sent ∧ isBytes q = true ∧ m = packetOf (rd s.cbs q) none (some a)

structure Inv (s : St) : Prop where
  up : ∀ x : View, s.sentV.count x =
      (s.sSend.map view).count x + (s.cRead.map view).count x
        + (s.backendLog.map Prod.snd).count x + (s.dropUp.map Prod.snd).count x
  down : ∀ x : View, (s.replyLog.map Prod.snd).count x =
      (s.cSend.map view).count x + (s.sRead.map view).count x
        + (s.userLog.map uview).count x + (s.dropDown.map Prod.snd).count x
  sentEq : s.sentV = s.sent.map (fun e => (some e.1, some (rd s.sbs e.2)))
  socksLt : ∀ e ∈ s.socks, e.1 < s.nextSock
  socksFun : ∀ k a a', (k, a) ∈ s.socks → (k, a') ∈ s.socks → a = a'
  cmapSock : ∀ e ∈ s.cmap, (e.2, e.1) ∈ s.socks
  backendSock : ∀ e ∈ s.backendLog, (e.1, e.2.1) ∈ s.socks
  replySock : ∀ e ∈ s.replyLog, (e.1, e.2.1) ∈ s.socks
  socksUser : ∀ e ∈ s.socks, ∃ a p, e.2 = some a ∧ (a, p) ∈ s.sent
  upOK : ∀ m, (m ∈ s.sSend ∨ m ∈ s.cRead) → UpOK s m
  downOK : ∀ m, (m ∈ s.cSend ∨ m ∈ s.sRead) → DownOK s m
  noCodecUp : ∀ e ∈ s.dropUp, e.1 ≠ Drop.decodeErr ∧ e.1 ≠ Drop.nilAddr
  noCodecDown : ∀ e ∈ s.dropDown, e.1 ≠ Drop.decodeErr ∧ e.1 ≠ Drop.nilAddr

theorem inv_init (sbs cbs cap : Nat) : Inv (init sbs cbs cap) := by
  constructor <;> simp [init, UpOK, DownOK]

theorem UpOK.view {s : St} {m : Packet} (h : UpOK s m) :
    ∃ a p, (a, p) ∈ s.sent ∧ m.raddr = some a ∧ contentOf m = some (rd s.sbs p) := by
  obtain ⟨a, p, hin, hb, rfl⟩ := h
  have := view_packetOf' p (some a) hb s.sbs
  simp only [Udp.view, Prod.mk.injEq] at this
  exact ⟨a, p, hin, this.1, this.2⟩

theorem DownOK.view {s : St} {m : Packet} (h : DownOK s m) :
    ∃ a q, m.raddr = some a ∧ contentOf m = some (rd s.cbs q) := by
  obtain ⟨a, p, q, _, hb, rfl⟩ := h
  have := view_packetOf' q (some a) hb s.cbs
  simp only [Udp.view, Prod.mk.injEq] at this
  exact ⟨a, q, this.1, this.2⟩


/-! ### multiplicities, fresh sockets, association lists -/

/-- the multiplicity of `x` after one more element, with the new element's share left as `[a].count x`
    (an atom for `omega`) -/
theorem count_snoc {α} [BEq α] (l : List α) (a x : α) : (l ++ [a]).count x = l.count x + [a].count x :=
  List.count_append

theorem count_map_snoc {α β} [BEq β] (f : α → β) (l : List α) (a : α) (x : β) :
    ((l ++ [a]).map f).count x = (l.map f).count x + [f a].count x := by
  rw [List.map_append, List.count_append, List.map_singleton]

theorem count_map_cons {α β} [BEq β] (f : α → β) (l : List α) (a : α) (x : β) :
    ((a :: l).map f).count x = [f a].count x + (l.map f).count x := by
  rw [List.map_cons, List.count_cons, List.count_singleton, Nat.add_comm]

theorem eq_of_count_lt_snoc {α} [BEq α] [LawfulBEq α] {l : List α} {a b : α}
    (h : l.count b < (l ++ [a]).count b) : a = b := by
  rw [List.count_append, List.count_singleton] at h
  split at h
  · exact eq_of_beq ‹_›
  · omega

/-- in a drop list, the pair whose multiplicity grows when `(r, v)` is appended has reason `r` -/
theorem reason_of_count_lt_snoc {δ : Type} [DecidableEq δ] {l : List (δ × View)} {d r : δ} {x v : View}
    (h : l.count (d, x) < (l ++ [(r, v)]).count (d, x)) : d = r :=
  (Prod.mk.inj (eq_of_count_lt_snoc h)).1.symm

/-- what a conservation law counts on its right-hand side occurs on its left-hand side -/
theorem mem_of_count_le {α} [BEq α] [LawfulBEq α] {A B : List α} {x : α} (h : B.count x ≤ A.count x)
    (hx : x ∈ B) : x ∈ A :=
  List.count_pos_iff.1 (Nat.lt_of_lt_of_le (List.count_pos_iff.2 hx) h)

/-- a logged view that the conservation law bounds by `sentV` is a logged user datagram, cut to `n` bytes -/
theorem sent_of_logged {sentV : List View} {sent : List (Addr × Str)} {n : Nat} {log : List (Nat × View)}
    (heq : sentV = sent.map (fun e => (some e.1, some (rd n e.2))))
    (hle : ∀ x, (log.map Prod.snd).count x ≤ sentV.count x) {g : Nat} {a : Option Addr} {b : Option Str}
    (hm : (g, (a, b)) ∈ log) : ∃ ua p, (ua, p) ∈ sent ∧ a = some ua ∧ b = some (rd n p) := by
  have hmem := mem_of_count_le (hle _) (List.mem_map.2 ⟨_, hm, rfl⟩)
  rw [heq] at hmem
  obtain ⟨⟨ua, p⟩, hin, heq⟩ := List.mem_map.1 hmem
  simp only [Prod.mk.injEq] at heq
  exact ⟨ua, p, hin, heq.1.symm, heq.2.symm⟩

/- a fresh socket `n`, above every socket dialled so far, for address `a` -/

theorem socks_cons_lt {socks : List (Nat × Option Addr)} {n : Nat} {a : Option Addr}
    (h : ∀ e ∈ socks, e.1 < n) : ∀ e ∈ (n, a) :: socks, e.1 < n + 1 := by
  intro e he
  rcases List.mem_cons.1 he with rfl | he
  · exact Nat.lt_succ_self _
  · exact Nat.lt_succ_of_lt (h e he)

theorem socks_cons_fun {socks : List (Nat × Option Addr)} {n : Nat} {a : Option Addr}
    (hlt : ∀ e ∈ socks, e.1 < n) (h : ∀ k b b', (k, b) ∈ socks → (k, b') ∈ socks → b = b') :
    ∀ k b b', (k, b) ∈ (n, a) :: socks → (k, b') ∈ (n, a) :: socks → b = b' := by
  intro k b b' h1 h2
  simp only [List.mem_cons, Prod.mk.injEq] at h1 h2
  rcases h1 with ⟨hk1, ha1⟩ | h1 <;> rcases h2 with ⟨hk2, ha2⟩ | h2
  · rw [ha1, ha2]
  · have := hlt _ h2; simp only at this; omega
  · have := hlt _ h1; simp only at this; omega
  · exact h k b b' h1 h2

theorem cmap_cons_sock {cmap : List (Option Addr × Nat)} {socks : List (Nat × Option Addr)} {a : Option Addr}
    {n : Nat} (h : ∀ e ∈ cmap, (e.2, e.1) ∈ socks) : ∀ e ∈ (a, n) :: cmap, (e.2, e.1) ∈ (n, a) :: socks := by
  intro e he
  rcases List.mem_cons.1 he with rfl | he
  · exact List.mem_cons_self
  · exact List.mem_cons_of_mem _ (h e he)

/-- `lookup` and `ownerOf` are both "first entry with this key" -/
theorem mem_of_find_fst {α β} [DecidableEq α] {l : List (α × β)} {a : α} {b : β}
    (h : (l.find? (fun e => e.1 = a)).map (·.2) = some b) : (a, b) ∈ l := by
  cases hf : l.find? (fun e => e.1 = a) with
  | none => rw [hf] at h; cases h
  | some e =>
    rw [hf] at h
    have h2 := List.find?_some hf
    simp only [decide_eq_true_eq] at h2
    obtain ⟨x, y⟩ := e
    cases h
    exact h2 ▸ List.mem_of_find?_eq_some hf

theorem lookup_some {m : List (Option Addr × Nat)} {a : Option Addr} {k : Nat}
    (h : lookup m a = some k) : (a, k) ∈ m :=
  mem_of_find_fst h

theorem ownerOf_some {socks : List (Nat × Option Addr)} {k : Nat} {a : Option Addr}
    (h : ownerOf socks k = some a) : (k, a) ∈ socks :=
  mem_of_find_fst h

theorem DownOK.mono {s s' : St} {m : Packet} (hs : ∀ e ∈ s.sent, e ∈ s'.sent) (hb : s'.cbs = s.cbs)
    (h : DownOK s m) : DownOK s' m := by
  obtain ⟨a, p, q, hin, hbytes, rfl⟩ := h
  exact ⟨a, p, q, hs _ hin, hbytes, by rw [hb]⟩

/-- the reader goroutine of `ForwardUserConn` takes `m` from `readCh`: conservation towards the users when `m` is
    written to its user, and when it is dropped.  For the sudp visitor and the server side of a udp proxy, whose
    law has these three summands; the two-sided machine of this file counts `cSend` as well and argues in place. -/
theorem down_sback {δ : Type} {I : List View} {m : Packet} {rest : List Packet} {U : List (Addr × Str)}
    {D : List (δ × View)}
    (h : ∀ x, I.count x = ((m :: rest).map view).count x + (U.map uview).count x + (D.map Prod.snd).count x) :
    (∀ a buf, m.raddr = some a → contentOf m = some buf → ∀ x,
      I.count x = (rest.map view).count x + ((U ++ [(a, buf)]).map uview).count x + (D.map Prod.snd).count x) ∧
    (∀ d x, I.count x = (rest.map view).count x + (U.map uview).count x
      + ((D ++ [(d, view m)]).map Prod.snd).count x) := by
  refine ⟨fun a buf hr hc x => ?_, fun d x => ?_⟩
  · have hvm : uview (a, buf) = view m := by simp only [view, uview, hr, hc]
    have := h x
    simp only [count_map_cons, count_map_snoc, hvm] at this ⊢
    omega
  · have := h x
    simp only [count_map_cons, count_map_snoc] at this ⊢
    omega

/-! ### `step`, read backwards: the outcomes of each label with their guards -/

inductive Step (s : St) : Label → St → Prop
  | idle {l} : Step s l s
  | sendQ {a p} : isBytes p = true → s.sSend.length < s.cap →
      Step s (.userSend a p)
        { s with sent := s.sent ++ [(a, p)], sentV := s.sentV ++ [view (packetOf (rd s.sbs p) none (some a))],
                 sSend := s.sSend ++ [packetOf (rd s.sbs p) none (some a)] }
  | sendFull {a p} : isBytes p = true → s.cap ≤ s.sSend.length →
      Step s (.userSend a p)
        { s with sent := s.sent ++ [(a, p)], sentV := s.sentV ++ [view (packetOf (rd s.sbs p) none (some a))],
                 dropUp := s.dropUp ++ [(.sendFull, view (packetOf (rd s.sbs p) none (some a)))] }
  | s2cDown {m rest} : s.sSend = m :: rest → s.up = false →
      Step s .s2c { s with sSend := rest, dropUp := s.dropUp ++ [(.connDown, view m)] }
  | s2cTooLong {m rest} : s.sSend = m :: rest → fits m = false →
      Step s .s2c { s with sSend := rest, cReader := false, dropUp := s.dropUp ++ [(.frameTooLong, view m)] }
  | s2cDead {m rest} : s.sSend = m :: rest → s.cReader = false →
      Step s .s2c { s with sSend := rest, dropUp := s.dropUp ++ [(.readerDead, view m)] }
  | s2cDeliver {m rest} : s.sSend = m :: rest → s.cRead.length < s.cap →
      Step s .s2c { s with sSend := rest, cRead := s.cRead ++ [m] }
  | c2sDown {m rest} : s.cSend = m :: rest → s.up = false →
      Step s .c2s { s with cSend := rest, dropDown := s.dropDown ++ [(.connDown, view m)] }
  | c2sTooLong {m rest} : s.cSend = m :: rest → fits m = false →
      Step s .c2s { s with cSend := rest, up := false, dropDown := s.dropDown ++ [(.frameTooLong, view m)] }
  | c2sDeliver {m rest} : s.cSend = m :: rest → s.sRead.length < s.cap →
      Step s .c2s { s with cSend := rest, sRead := s.sRead ++ [m] }
  | cfwdDecode {ok m rest} : s.cRead = m :: rest → contentOf m = none →
      Step s (.cfwd ok) { s with cRead := rest, dropUp := s.dropUp ++ [(.decodeErr, view m)] }
  | cfwdBack {ok m rest k} : s.cRead = m :: rest → lookup s.cmap m.raddr = some k →
      Step s (.cfwd ok) { s with cRead := rest, backendLog := s.backendLog ++ [(k, view m)] }
  | cfwdErr {ok m rest k} : s.cRead = m :: rest → lookup s.cmap m.raddr = some k →
      Step s (.cfwd ok)
        { s with cRead := rest, closed := k :: s.closed, dropUp := s.dropUp ++ [(.writeErr, view m)] }
  | cfwdNew {ok m rest} : s.cRead = m :: rest → lookup s.cmap m.raddr = none →
      Step s (.cfwd ok)
        { s with cRead := rest, nextSock := s.nextSock + 1, cmap := (m.raddr, s.nextSock) :: s.cmap,
                 socks := (s.nextSock, m.raddr) :: s.socks, backendLog := s.backendLog ++ [(s.nextSock, view m)] }
  | cfwdNewErr {ok m rest} : s.cRead = m :: rest → lookup s.cmap m.raddr = none →
      Step s (.cfwd ok)
        { s with cRead := rest, nextSock := s.nextSock + 1, cmap := (m.raddr, s.nextSock) :: s.cmap,
                 socks := (s.nextSock, m.raddr) :: s.socks, closed := s.nextSock :: s.closed,
                 dropUp := s.dropUp ++ [(.writeErr, view m)] }
  | replyQ {k q a} : isBytes q = true → ownerOf s.socks k = some a → s.cSend.length < s.cap →
      Step s (.backendReply k q)
        { s with replyLog := s.replyLog ++ [(k, view (packetOf (rd s.cbs q) none a))],
                 cSend := s.cSend ++ [packetOf (rd s.cbs q) none a] }
  | replyFull {k q a} : isBytes q = true → ownerOf s.socks k = some a → s.cap ≤ s.cSend.length →
      Step s (.backendReply k q)
        { s with replyLog := s.replyLog ++ [(k, view (packetOf (rd s.cbs q) none a))],
                 dropDown := s.dropDown ++ [(.replyFull, view (packetOf (rd s.cbs q) none a))] }
  | sbackUser {m rest buf a} : s.sRead = m :: rest → contentOf m = some buf → m.raddr = some a →
      Step s .sback { s with sRead := rest, userLog := s.userLog ++ [(a, buf)] }
  | sbackDecode {m rest} : s.sRead = m :: rest → contentOf m = none →
      Step s .sback { s with sRead := rest, dropDown := s.dropDown ++ [(.decodeErr, view m)] }
  | sbackNil {m rest} : s.sRead = m :: rest → m.raddr = none →
      Step s .sback { s with sRead := rest, dropDown := s.dropDown ++ [(.nilAddr, view m)] }
  | sockExit {k a} : ownerOf s.socks k = some a →
      Step s (.sockExit k) { s with cmap := s.cmap.filter (fun e => e.1 ≠ a), closed := k :: s.closed }
  | connDie : Step s .connDie { s with up := false }
  | reconnect : Step s .reconnect (stepReconnect s)

theorem step_spec (s : St) (l : Label) : Step s l (step s l) := by
  cases l with
  | userSend a p =>
    simp only [step, stepUserSend]
    split
    · exact .idle
    · rename_i hb
      simp only [Bool.not_eq_true, Bool.not_eq_false'] at hb
      split
      · exact .sendQ hb ‹_›
      · exact .sendFull hb (Nat.le_of_not_lt ‹_›)
  | s2c =>
    simp only [step, stepS2C]
    split
    · exact .idle
    · rename_i m rest hq
      split
      · exact .s2cDown hq (by simpa using ‹(!s.up) = true›)
      · split
        · exact .s2cTooLong hq (by simpa using ‹(!fits m) = true›)
        · split
          · exact .s2cDead hq (by simpa using ‹(!s.cReader) = true›)
          · split
            · exact .s2cDeliver hq ‹_›
            · exact .idle
  | c2s =>
    simp only [step, stepC2S]
    split
    · exact .idle
    · rename_i m rest hq
      split
      · exact .c2sDown hq (by simpa using ‹(!s.up) = true›)
      · split
        · exact .c2sTooLong hq (by simpa using ‹(!fits m) = true›)
        · split
          · exact .c2sDeliver hq ‹_›
          · exact .idle
  | cfwd ok =>
    simp only [step, stepCfwd]
    split
    · exact .idle
    · rename_i m rest hq
      split
      · exact .cfwdDecode hq ‹_›
      · split
        · rename_i k hk
          split
          · exact .cfwdBack hq hk
          · exact .cfwdErr hq hk
        · rename_i hk
          split
          · exact .cfwdNew hq hk
          · exact .cfwdNewErr hq hk
  | backendReply k q =>
    simp only [step, stepBackendReply]
    split
    · exact .idle
    · rename_i hb
      simp only [Bool.not_eq_true, Bool.not_eq_false'] at hb
      split
      · exact .idle
      · rename_i a ho
        split
        · split
          · exact .replyQ hb ho ‹_›
          · exact .replyFull hb ho (Nat.le_of_not_lt ‹_›)
        · exact .idle
  | sback =>
    simp only [step, stepSback]
    split
    · exact .idle
    · rename_i m rest hq
      split
      · exact .sbackUser hq ‹_› ‹_›
      · exact .sbackDecode hq ‹_›
      · exact .sbackNil hq ‹_›
  | sockExit k =>
    simp only [step, stepSockExit]
    split
    · exact .idle
    · split
      · exact .sockExit ‹_›
      · exact .idle
  | connDie => exact .connDie
  | reconnect => exact .reconnect

/-! ### every label preserves the invariant -/

theorem inv_step {s : St} (h : Inv s) (l : Label) : Inv (step s l) := by
  have hs := step_spec s l
  generalize step s l = s' at hs
  -- per queue: what stays queued when its head `m` is taken, and the law with `m` counted apart
  have sSendHead {m : Packet} {rest : List Packet} (hq : s.sSend = m :: rest) :
      (∀ m', (m' ∈ rest ∨ m' ∈ s.cRead) → UpOK s m') ∧ ∀ x : View, s.sentV.count x =
        [view m].count x + (rest.map view).count x + (s.cRead.map view).count x
          + (s.backendLog.map Prod.snd).count x + (s.dropUp.map Prod.snd).count x := by
    refine ⟨fun m' hm' => h.upOK m' (hm'.imp (fun h1 => by rw [hq]; exact List.mem_cons_of_mem _ h1) id),
      fun x => ?_⟩
    have := h.up x
    rw [hq, count_map_cons] at this
    exact this
  have cReadHead {m : Packet} {rest : List Packet} (hq : s.cRead = m :: rest) :
      (∀ m', (m' ∈ s.sSend ∨ m' ∈ rest) → UpOK s m') ∧ ∀ x : View, s.sentV.count x =
        (s.sSend.map view).count x + ([view m].count x + (rest.map view).count x)
          + (s.backendLog.map Prod.snd).count x + (s.dropUp.map Prod.snd).count x := by
    refine ⟨fun m' hm' => h.upOK m' (hm'.imp id (fun h1 => by rw [hq]; exact List.mem_cons_of_mem _ h1)),
      fun x => ?_⟩
    have := h.up x
    rw [hq, count_map_cons] at this
    exact this
  have cSendHead {m : Packet} {rest : List Packet} (hq : s.cSend = m :: rest) :
      (∀ m', (m' ∈ rest ∨ m' ∈ s.sRead) → DownOK s m') ∧ ∀ x : View, (s.replyLog.map Prod.snd).count x =
        [view m].count x + (rest.map view).count x + (s.sRead.map view).count x
          + (s.userLog.map uview).count x + (s.dropDown.map Prod.snd).count x := by
    refine ⟨fun m' hm' => h.downOK m' (hm'.imp (fun h1 => by rw [hq]; exact List.mem_cons_of_mem _ h1) id),
      fun x => ?_⟩
    have := h.down x
    rw [hq, count_map_cons] at this
    exact this
  have sReadHead {m : Packet} {rest : List Packet} (hq : s.sRead = m :: rest) :
      (∀ m', (m' ∈ s.cSend ∨ m' ∈ rest) → DownOK s m') ∧ ∀ x : View, (s.replyLog.map Prod.snd).count x =
        (s.cSend.map view).count x + ([view m].count x + (rest.map view).count x)
          + (s.userLog.map uview).count x + (s.dropDown.map Prod.snd).count x := by
    refine ⟨fun m' hm' => h.downOK m' (hm'.imp id (fun h1 => by rw [hq]; exact List.mem_cons_of_mem _ h1)),
      fun x => ?_⟩
    have := h.down x
    rw [hq, count_map_cons] at this
    exact this
  have sentMono {a : Addr} {p : Str} : ∀ e ∈ s.sent, e ∈ s.sent ++ [(a, p)] :=
    fun e he => List.mem_append_left _ he
  have socksUserMono {a : Addr} {p : Str} :
      ∀ e ∈ s.socks, ∃ a' p', e.2 = some a' ∧ (a', p') ∈ s.sent ++ [(a, p)] := fun e he =>
    let ⟨a', p', h1, h2⟩ := h.socksUser e he
    ⟨a', p', h1, sentMono _ h2⟩
  have newSockUser {m : Packet} {rest : List Packet} (hq : s.cRead = m :: rest) :
      ∀ e ∈ (s.nextSock, m.raddr) :: s.socks, ∃ a p, e.2 = some a ∧ (a, p) ∈ s.sent := by
    obtain ⟨a, p, hin, hr, _⟩ := (h.upOK m (Or.inr (by rw [hq]; exact List.mem_cons_self))).view
    intro e he
    rcases List.mem_cons.1 he with rfl | he
    · exact ⟨a, p, hr, hin⟩
    · exact h.socksUser e he
  cases hs with
  | idle => exact h
  | sendQ hb _ =>
    refine { h with up := fun x => ?_, sentEq := sentEq_snoc h.sentEq hb, socksUser := socksUserMono,
                    upOK := fun m hm => ?_, downOK := fun m hm => (h.downOK m hm).mono sentMono rfl }
    · have := h.up x
      simp only [count_snoc, count_map_snoc] at this ⊢
      omega
    · rcases hm with hm | hm
      · exact forall_mem_snoc (fun m hm => Built.snoc (h.upOK m (Or.inl hm))) (Built.new hb) m hm
      · exact Built.snoc (h.upOK m (Or.inr hm))
  | sendFull hb _ =>
    refine { h with up := fun x => ?_, sentEq := sentEq_snoc h.sentEq hb, socksUser := socksUserMono,
                    upOK := fun m hm => Built.snoc (h.upOK m hm),
                    downOK := fun m hm => (h.downOK m hm).mono sentMono rfl,
                    noCodecUp := forall_mem_snoc h.noCodecUp ⟨nofun, nofun⟩ }
    have := h.up x
    simp only [count_snoc, count_map_snoc] at this ⊢
    omega
  | s2cDown hq _ | s2cTooLong hq _ | s2cDead hq _ =>
    obtain ⟨hup, hcnt⟩ := sSendHead hq
    refine { h with up := fun x => ?_, upOK := hup, noCodecUp := forall_mem_snoc h.noCodecUp ⟨nofun, nofun⟩ }
    have := hcnt x
    simp only [count_map_snoc]
    omega
  | s2cDeliver hq _ =>
    obtain ⟨hup, hcnt⟩ := sSendHead hq
    refine { h with up := fun x => ?_, upOK := fun m' hm' => ?_ }
    · have := hcnt x
      simp only [count_map_snoc] at this ⊢
      omega
    · simp only [List.mem_append, List.mem_cons, List.not_mem_nil, or_false] at hm'
      rcases hm' with hm' | hm' | hm'
      · exact hup m' (Or.inl hm')
      · exact hup m' (Or.inr hm')
      · subst hm'; exact h.upOK _ (Or.inl (by rw [hq]; exact List.mem_cons_self))
  | c2sDown hq _ | c2sTooLong hq _ =>
    obtain ⟨hdn, hcnt⟩ := cSendHead hq
    refine { h with down := fun x => ?_, downOK := hdn,
                    noCodecDown := forall_mem_snoc h.noCodecDown ⟨nofun, nofun⟩ }
    have := hcnt x
    simp only [count_map_snoc]
    omega
  | c2sDeliver hq _ =>
    obtain ⟨hdn, hcnt⟩ := cSendHead hq
    refine { h with down := fun x => ?_, downOK := fun m' hm' => ?_ }
    · have := hcnt x
      simp only [count_map_snoc] at this ⊢
      omega
    · simp only [List.mem_append, List.mem_cons, List.not_mem_nil, or_false] at hm'
      rcases hm' with hm' | hm' | hm'
      · exact hdn m' (Or.inl hm')
      · exact hdn m' (Or.inr hm')
      · subst hm'; exact h.downOK _ (Or.inl (by rw [hq]; exact List.mem_cons_self))
  | cfwdDecode hq hn =>
    obtain ⟨_, _, _, _, hc⟩ := (h.upOK _ (Or.inr (by rw [hq]; exact List.mem_cons_self))).view
    rw [hn] at hc
    cases hc
  | cfwdBack hq hk =>
    obtain ⟨hup, hcnt⟩ := cReadHead hq
    refine { h with up := fun x => ?_, upOK := hup,
                    backendSock := forall_mem_snoc h.backendSock (h.cmapSock _ (lookup_some hk)) }
    have := hcnt x
    simp only [count_map_snoc]
    omega
  | cfwdErr hq _ =>
    obtain ⟨hup, hcnt⟩ := cReadHead hq
    refine { h with up := fun x => ?_, upOK := hup, noCodecUp := forall_mem_snoc h.noCodecUp ⟨nofun, nofun⟩ }
    have := hcnt x
    simp only [count_map_snoc]
    omega
  | @cfwdNew _ m _ hq _ =>
    obtain ⟨hup, hcnt⟩ := cReadHead hq
    refine { down := h.down, sentEq := h.sentEq, socksLt := socks_cons_lt h.socksLt,
             socksFun := socks_cons_fun h.socksLt h.socksFun, cmapSock := cmap_cons_sock h.cmapSock,
             backendSock := forall_mem_snoc (fun e he => List.mem_cons_of_mem _ (h.backendSock e he))
               List.mem_cons_self,
             replySock := fun e he => List.mem_cons_of_mem _ (h.replySock e he), socksUser := newSockUser hq,
             upOK := hup, downOK := h.downOK, noCodecUp := h.noCodecUp, noCodecDown := h.noCodecDown,
             up := fun x => ?_ }
    have := hcnt x
    simp only [count_map_snoc]
    omega
  | @cfwdNewErr _ m _ hq _ =>
    obtain ⟨hup, hcnt⟩ := cReadHead hq
    refine { down := h.down, sentEq := h.sentEq, socksLt := socks_cons_lt h.socksLt,
             socksFun := socks_cons_fun h.socksLt h.socksFun, cmapSock := cmap_cons_sock h.cmapSock,
             backendSock := fun e he => List.mem_cons_of_mem _ (h.backendSock e he),
             replySock := fun e he => List.mem_cons_of_mem _ (h.replySock e he), socksUser := newSockUser hq,
             upOK := hup, downOK := h.downOK, noCodecUp := forall_mem_snoc h.noCodecUp ⟨nofun, nofun⟩,
             noCodecDown := h.noCodecDown, up := fun x => ?_ }
    have := hcnt x
    simp only [count_map_snoc]
    omega
  | @replyQ k q a hb ho _ =>
    have hks : (k, a) ∈ s.socks := ownerOf_some ho
    obtain ⟨ua, p, hua, hin⟩ := h.socksUser _ hks
    simp only at hua
    refine { h with down := fun x => ?_, replySock := forall_mem_snoc h.replySock hks,
                    downOK := fun m' hm' => ?_ }
    · have := h.down x
      simp only [count_map_snoc] at this ⊢
      omega
    · simp only [List.mem_append, List.mem_cons, List.not_mem_nil, or_false] at hm'
      rcases hm' with (hm' | hm') | hm'
      · exact h.downOK m' (Or.inl hm')
      · subst hm'; exact ⟨ua, p, q, hin, hb, by rw [hua]⟩
      · exact h.downOK m' (Or.inr hm')
  | replyFull _ ho _ =>
    refine { h with down := fun x => ?_, replySock := forall_mem_snoc h.replySock (ownerOf_some ho),
                    noCodecDown := forall_mem_snoc h.noCodecDown ⟨nofun, nofun⟩ }
    have := h.down x
    simp only [count_map_snoc] at this ⊢
    omega
  | @sbackUser m _ buf a hq hc hr =>
    obtain ⟨hdn, hcnt⟩ := sReadHead hq
    have hvm : view m = uview (a, buf) := by simp only [view, uview, hr, hc]
    refine { h with down := fun x => ?_, downOK := hdn }
    have := hcnt x
    rw [hvm] at this
    simp only [count_map_snoc] at this ⊢
    omega
  | sbackDecode hq hn =>
    obtain ⟨_, _, _, hc⟩ := (h.downOK _ (Or.inr (by rw [hq]; exact List.mem_cons_self))).view
    rw [hn] at hc
    cases hc
  | sbackNil hq hn =>
    obtain ⟨_, _, hr, _⟩ := (h.downOK _ (Or.inr (by rw [hq]; exact List.mem_cons_self))).view
    rw [hn] at hr
    cases hr
  | sockExit _ => exact { h with cmapSock := fun e he => h.cmapSock e (List.mem_filter.1 he).1 }
  | connDie => exact { h with }
  | reconnect =>
    unfold stepReconnect
    have hf : (Prod.snd ∘ fun m => (Drop.reconnect, view m)) = view := rfl
    have hdrop {l : List (Drop × View)} {q : List Packet} (hl : ∀ e ∈ l, e.1 ≠ Drop.decodeErr ∧ e.1 ≠ Drop.nilAddr) :
        ∀ e ∈ l ++ q.map (fun m => (Drop.reconnect, view m)), e.1 ≠ Drop.decodeErr ∧ e.1 ≠ Drop.nilAddr := by
      intro e he
      rcases List.mem_append.1 he with he | he
      · exact hl e he
      · obtain ⟨m, _, rfl⟩ := List.mem_map.1 he
        exact ⟨nofun, nofun⟩
    refine { h with up := fun x => ?_, down := fun x => ?_, cmapSock := nofun,
                    upOK := fun m hm => hm.elim (fun hm => h.upOK m (Or.inl hm)) nofun,
                    downOK := fun m hm => hm.elim nofun (fun hm => h.downOK m (Or.inr hm)),
                    noCodecUp := hdrop h.noCodecUp, noCodecDown := hdrop h.noCodecDown }
    · have := h.up x
      simp only [List.map_append, List.count_append, List.map_map, List.map_nil, List.count_nil, hf] at this ⊢
      omega
    · have := h.down x
      simp only [List.map_append, List.count_append, List.map_map, List.map_nil, List.count_nil, hf] at this ⊢
      omega

theorem inv_run (s : St) (h : Inv s) (ls : List Label) : Inv (run s ls) :=
  foldl_invariant (P := Inv) h fun _ l _ hs => inv_step hs l


/-! ### where drops can come from -/

/-- addresses as they occur on the tunnel path: textual IP ≤ 39 characters (full IPv6),
    port < 65536, zone (interface name) ≤ 15 characters -/
def AddrOK (a : Addr) : Prop := a.ip.length ≤ 39 ∧ a.port < 65536 ∧ a.zone.length ≤ 15

instance (a : Addr) : Decidable (AddrOK a) := by unfold AddrOK; exact inferInstance

theorem rd_length_le (n : Nat) (p : Str) : (rd n p).length ≤ n := by
  unfold rd; rw [List.length_take]; exact Nat.min_le_left _ _

theorem UpOK.fits {s : St} {m : Packet} (h : UpOK s m) (hs : s.sbs ≤ 7605)
    (ha : ∀ e ∈ s.sent, AddrOK e.1) : fits m = true := by
  obtain ⟨a, p, hin, _, rfl⟩ := h
  have := ha _ hin
  exact fits_of_le _ a this.1 this.2.1 this.2.2 (Nat.le_trans (rd_length_le _ _) hs)

theorem DownOK.fits {s : St} {m : Packet} (h : DownOK s m) (hs : s.cbs ≤ 7605)
    (ha : ∀ e ∈ s.sent, AddrOK e.1) : fits m = true := by
  obtain ⟨a, p, q, hin, _, rfl⟩ := h
  have := ha _ hin
  exact fits_of_le _ a this.1 this.2.1 this.2.2 (Nat.le_trans (rd_length_le _ _) hs)

/-- reasons that are overload, connection loss / reconnect, or a failed write to the backend -/
def okReason : Drop → Bool
  | .sendFull | .replyFull | .connDown | .reconnect | .writeErr => true
  | _ => false

theorem okReason_cases {d : Drop} (h : okReason d = true) (hw : d ≠ .writeErr) :
    d = .sendFull ∨ d = .replyFull ∨ d = .connDown ∨ d = .reconnect := by
  revert h hw
  cases d <;> decide

theorem okReason_ne {d : Drop} (h : okReason d = true) : d ≠ .frameTooLong ∧ d ≠ .readerDead := by
  revert h
  cases d <;> decide

/-- hypotheses under which no datagram can kill the reader -/
def SizesOK (s : St) : Prop := s.sbs ≤ 7605 ∧ s.cbs ≤ 7605 ∧ ∀ e ∈ s.sent, AddrOK e.1

def Clean (s : St) : Prop :=
  s.cReader = true ∧ (∀ e ∈ s.dropUp, okReason e.1 = true) ∧ (∀ e ∈ s.dropDown, okReason e.1 = true)

theorem step_fixed (s : St) (l : Label) :
    (step s l).sbs = s.sbs ∧ (step s l).cbs = s.cbs ∧ ∀ e ∈ s.sent, e ∈ (step s l).sent := by
  have hs := step_spec s l
  generalize step s l = s' at hs
  cases hs with
  | sendQ | sendFull => exact ⟨rfl, rfl, fun _ h => List.mem_append_left _ h⟩
  | _ => exact ⟨rfl, rfl, fun _ h => h⟩

theorem sizes_back {s : St} {l : Label} (h : SizesOK (step s l)) : SizesOK s := by
  obtain ⟨h1, h2, h3⟩ := step_fixed s l
  exact ⟨h1 ▸ h.1, h2 ▸ h.2.1, fun e he => h.2.2 e (h3 e he)⟩

/-- a queued packet fits (`UpOK.fits`, `DownOK.fits`) and decodes (`UpOK.view`, `DownOK.view`), so the branches that
    stop the reader or record `frameTooLong`, `readerDead`, `decodeErr`, `nilAddr` are not taken; every other
    branch leaves the three components alone or appends one drop with an admissible reason -/
theorem clean_step {s : St} (hi : Inv s) (l : Label) (hs' : SizesOK (step s l))
    (hc : SizesOK s → Clean s) : Clean (step s l) := by
  have hs : SizesOK s := sizes_back hs'
  obtain ⟨c1, c2, c3⟩ := hc hs
  clear hs'
  have hst := step_spec s l
  generalize step s l = s' at hst
  cases hst with
  | s2cTooLong hq hf =>
    have := (hi.upOK _ (Or.inl (by rw [hq]; exact List.mem_cons_self))).fits hs.1 hs.2.2
    rw [hf] at this
    cases this
  | c2sTooLong hq hf =>
    have := (hi.downOK _ (Or.inl (by rw [hq]; exact List.mem_cons_self))).fits hs.2.1 hs.2.2
    rw [hf] at this
    cases this
  | s2cDead _ hr => rw [c1] at hr; cases hr
  | cfwdDecode hq hn =>
    obtain ⟨_, _, _, _, hcm⟩ := (hi.upOK _ (Or.inr (by rw [hq]; exact List.mem_cons_self))).view
    rw [hn] at hcm
    cases hcm
  | sbackDecode hq hn =>
    obtain ⟨_, _, _, hcm⟩ := (hi.downOK _ (Or.inr (by rw [hq]; exact List.mem_cons_self))).view
    rw [hn] at hcm
    cases hcm
  | sbackNil hq hn =>
    obtain ⟨_, _, hr, _⟩ := (hi.downOK _ (Or.inr (by rw [hq]; exact List.mem_cons_self))).view
    rw [hn] at hr
    cases hr
  | sendFull | s2cDown | cfwdErr | cfwdNewErr => exact ⟨c1, forall_mem_snoc c2 rfl, c3⟩
  | replyFull | c2sDown => exact ⟨c1, c2, forall_mem_snoc c3 rfl⟩
  | reconnect =>
    have hdrop {l : List (Drop × View)} {q : List Packet} (hl : ∀ e ∈ l, okReason e.1 = true) :
        ∀ e ∈ l ++ q.map (fun m => (Drop.reconnect, view m)), okReason e.1 = true := by
      intro e he
      rcases List.mem_append.1 he with he | he
      · exact hl e he
      · obtain ⟨m, _, rfl⟩ := List.mem_map.1 he
        rfl
    exact ⟨rfl, hdrop c2, hdrop c3⟩
  | _ => exact ⟨c1, c2, c3⟩

theorem clean_run (s : St) (hi : Inv s) (hc : SizesOK s → Clean s) (ls : List Label) :
    SizesOK (run s ls) → Clean (run s ls) :=
  (foldl_invariant (P := fun s => Inv s ∧ (SizesOK s → Clean s)) ⟨hi, hc⟩
    fun _ l _ h => ⟨inv_step h.1 l, fun hs' => clean_step h.1 l hs' h.2⟩).2

theorem clean_init (sbs cbs cap : Nat) : SizesOK (init sbs cbs cap) → Clean (init sbs cbs cap) := by
  intro _
  refine ⟨rfl, ?_, ?_⟩ <;> intro e he <;> cases he

theorem drop_full_only_when_full (s : St) (l : Label) (x : View) :
    ((step s l).dropUp.count (Drop.sendFull, x) > s.dropUp.count (Drop.sendFull, x) → s.cap ≤ s.sSend.length) ∧
    ((step s l).dropDown.count (Drop.replyFull, x) > s.dropDown.count (Drop.replyFull, x) → s.cap ≤ s.cSend.length) := by
  have same {n : Nat} {P : Prop} : n > n → P := fun h => absurd h (Nat.lt_irrefl _)
  have other {l : List (Drop × View)} {d r : Drop} {v : View} {P : Prop} (hne : d ≠ r) :
      (l ++ [(r, v)]).count (d, x) > l.count (d, x) → P := fun h => absurd (reason_of_count_lt_snoc h) hne
  have recon {l : List (Drop × View)} {q : List Packet} {d : Drop} {P : Prop} (hne : d ≠ .reconnect) :
      (l ++ q.map (fun m => (Drop.reconnect, view m))).count (d, x) > l.count (d, x) → P := by
    intro h
    have h0 : (q.map (fun m => (Drop.reconnect, view m))).count (d, x) = 0 :=
      List.count_eq_zero.2 fun hm => let ⟨_, _, e⟩ := List.mem_map.1 hm; hne (Prod.mk.inj e).1.symm
    rw [List.count_append, h0] at h
    exact same h
  have hs := step_spec s l
  generalize step s l = s' at hs
  cases hs with
  | sendFull _ hfull => exact ⟨fun _ => hfull, same⟩
  | replyFull _ _ hfull => exact ⟨same, fun _ => hfull⟩
  | s2cDown | s2cTooLong | s2cDead | cfwdDecode | cfwdErr | cfwdNewErr => exact ⟨other nofun, same⟩
  | c2sDown | c2sTooLong | sbackDecode | sbackNil => exact ⟨same, other nofun⟩
  | reconnect => exact ⟨recon nofun, recon nofun⟩
  | _ => exact ⟨same, same⟩

end Udp
end Frp
