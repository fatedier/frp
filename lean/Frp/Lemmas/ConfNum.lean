import Frp.Model.ConfNum
import Frp.Lemmas.ConfStr
/-
  Round-trip lemmas for the textual quantities (C18 part C).
-/
namespace Frp
namespace ConfNum
open Str

theorem printNat_digits (n : Nat) : ∀ c ∈ printNat n, isDigit c = true := by
  fun_induction printNat n with
  | case1 n h => intro c hc; simp at hc; subst hc; simp [isDigit]; omega
  | case2 n h ih =>
    intro c hc
    rcases List.mem_append.mp hc with h1 | h1
    · exact ih c h1
    · simp at h1; subst h1; simp [isDigit]; omega

theorem printNat_ne_nil (n : Nat) : printNat n ≠ [] := by
  rw [printNat]; split <;> simp

theorem parseDigits_append (a b : Str) : ∀ acc, parseDigits acc (a ++ b) =
    (parseDigits acc a).bind (fun x => parseDigits x b) := by
  induction a with
  | nil => intro acc; simp [parseDigits]
  | cons c cs ih =>
    intro acc
    simp only [List.cons_append, parseDigits]
    split
    · exact ih _
    · rfl

theorem parseDigits_printNat (n : Nat) : parseDigits 0 (printNat n) = some n := by
  fun_induction printNat n with
  | case1 n h =>
    have : isDigit (48 + n) = true := by simp [isDigit]; omega
    simp [parseDigits, this]
  | case2 n h ih =>
    rw [parseDigits_append, ih]
    have : isDigit (48 + n % 10) = true := by simp [isDigit]; omega
    simp only [Option.bind_some, parseDigits, this, if_true, Option.some.injEq]
    omega

theorem digit_facts {c : Nat} (h : isDigit c = true) :
    c ≠ plus ∧ c ≠ dash ∧ c ≠ comma ∧ isSpace c = false := by
  simp [isDigit] at h
  refine ⟨?_, ?_, ?_, ?_⟩ <;> simp [plus, dash, comma, isSpace] <;> omega

/-! a printed number is one piece, a printed span `a-b` two, of a split at the dash -/

theorem splitOn_dash_printNat (n : Nat) : splitOn dash (printNat n) = [printNat n] :=
  splitOn_of_not_mem dash _ fun hm => (digit_facts (printNat_digits n _ hm)).2.1 rfl

theorem splitOn_dash_span (a b : Nat) :
    splitOn dash (printNat a ++ dash :: printNat b) = [printNat a, printNat b] := by
  rw [splitOn_append dash _ _ fun hm => (digit_facts (printNat_digits a _ hm)).2.1 rfl, splitOn_dash_printNat]

theorem parseInt_printNat (n : Nat) (h : n < 2 ^ 63) : parseInt (printNat n) = some (n : Int) := by
  have hd := printNat_digits n
  have hp := parseDigits_printNat n
  cases hs : printNat n with
  | nil => exact absurd hs (printNat_ne_nil n)
  | cons c ds =>
    rw [hs] at hd hp
    have := digit_facts (hd c (List.mem_cons_self ..))
    simp [parseInt, this.1, this.2.1, parseMag, hp, h]

theorem trim_of_no_space (s : Str) (h : ∀ c ∈ s, isSpace c = false) : trim s = s := by
  have h1 : trimLeft s = s := by
    apply dropWhile_self_of_head
    intro c hc
    cases s with
    | nil => simp at hc
    | cons a as => simp at hc; subst hc; exact h _ (List.mem_cons_self ..)
  have h2 : trimRight s = s := by
    have : s.reverse.dropWhile isSpace = s.reverse := by
      apply dropWhile_self_of_head
      intro c hc
      have : c ∈ s.reverse := List.mem_of_mem_head? hc
      exact h c (List.mem_reverse.mp this)
    simp [trimRight, this]
  rw [trim, h1, h2]

theorem printInt_nonneg (i : Int) (h : 0 ≤ i) : printInt i = printNat i.toNat := by
  simp [printInt]; omega

theorem printNat_chars (n : Nat) : ∀ c ∈ printNat n, c ≠ comma ∧ isSpace c = false :=
  fun c hc => (digit_facts (printNat_digits n c hc)).2.2

theorem parseInt_trim_printNat (n : Nat) (h : n < 2 ^ 63) : parseInt (trim (printNat n)) = some (n : Int) := by
  rw [trim_of_no_space _ fun c hc => (printNat_chars n c hc).2, parseInt_printNat n h]

/-- characters of one printed range: digits and at most dashes -/
theorem printRange_chars (r : PortsRange) (h0 : 0 ≤ r.single) (h1 : 0 ≤ r.start) (h2 : 0 ≤ r.stop) :
    ∀ c ∈ printRange r, c ≠ comma ∧ isSpace c = false := by
  intro c hc
  simp only [printRange] at hc
  split at hc
  · rw [printInt_nonneg _ h0] at hc
    exact printNat_chars _ c hc
  · rw [printInt_nonneg _ h1, printInt_nonneg _ h2] at hc
    rcases List.mem_append.mp hc with h | h
    · exact printNat_chars _ c h
    · rcases List.mem_cons.mp h with h | h
      · subst h; simp [dash, comma, isSpace]
      · exact printNat_chars _ c h

end ConfNum
end Frp
