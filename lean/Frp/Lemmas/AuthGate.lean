import Frp.Model.AuthGate
import Frp.Lemmas.ListFacts
/-! What the definitions of `Frp.AuthGate` do on each form of input, what `updSession` leaves alone, and the
    effect of one event on the tables as a relation (`Effect`). -/
namespace Frp
namespace AuthGate

def ctls (srv : Srv) : List ConnId := srv.sessions.map (·.ctl)
def pooled (srv : Srv) : List ConnId := srv.sessions.flatMap (·.pool)
def AllCfg (srv : Srv) : Prop := ∀ s ∈ srv.sessions, s.vk = .cfg

variable {fx : Bool} {P : Plugins} {pr : Prim} {cfg : Cfg} {srv : Srv} {subs : List Subject}
  {internal : Bool} {conn : ConnId} {rid : RunId} {f : Session → Session}

theorem mem_of_lookup {s : Session} (h : lookup srv rid = some s) :
    s ∈ srv.sessions ∧ s.runId = rid :=
  ⟨List.mem_of_find?_eq_some h, by simpa using List.find?_some h⟩

theorem byCtl_mem {srv : Srv} {c : ConnId} {s : Session} (h : byCtl srv c = some s) :
    s ∈ srv.sessions ∧ s.ctl = c :=
  ⟨List.mem_of_find?_eq_some h, by simpa using List.find?_some h⟩

theorem mem_or_eq_of_mem_filter_append {α : Type} {p : α → Bool} {l : List α} {a x : α}
    (h : x ∈ l.filter p ++ [a]) : x ∈ l ∨ x = a := by
  rcases List.mem_append.mp h with h | h
  · exact Or.inl (List.mem_filter.mp h).1
  · exact Or.inr (List.mem_singleton.mp h)

theorem mem_ctls {c : ConnId} : c ∈ ctls srv ↔ ∃ s ∈ srv.sessions, s.ctl = c := List.mem_map

theorem mem_pooled {d : ConnId} : d ∈ pooled srv ↔ ∃ s ∈ srv.sessions, d ∈ s.pool := List.mem_flatMap

/-! ### `updSession`: what an update of one session leaves alone -/

theorem ctls_updSession (srv : Srv) (rid : RunId) (f : Session → Session) (hf : ∀ x, (f x).ctl = x.ctl) :
    ctls (updSession srv rid f) = ctls srv := by
  simp only [ctls, updSession, List.map_map]
  apply List.map_congr_left
  intro s _
  simp only [Function.comp]
  split
  · exact hf s
  · rfl

theorem mem_ctls_updSession {c : ConnId}
    (h : c ∈ ctls (updSession srv rid f)) (hf : ∀ x, (f x).ctl = x.ctl) : c ∈ ctls srv := by
  rw [ctls_updSession srv rid f hf] at h
  exact h

theorem subjects_updSession (srv : Srv) (rid : RunId) (f : Session → Session) :
    (updSession srv rid f).subjects = srv.subjects := rfl

theorem mem_updSession {t : Session}
    (h : t ∈ (updSession srv rid f).sessions) :
    ∃ s ∈ srv.sessions, t = if s.runId = rid then f s else s := by
  simp only [updSession, List.mem_map] at h
  obtain ⟨s, hs, e⟩ := h
  exact ⟨s, hs, e.symm⟩

theorem allCfg_updSession
    (hf : ∀ x, (f x).vk = x.vk) (h : AllCfg srv) : AllCfg (updSession srv rid f) := by
  intro t ht
  obtain ⟨s, hs, e⟩ := mem_updSession ht
  subst e
  split
  · rw [hf]
    exact h s hs
  · exact h s hs

theorem other_mem_updSession {s : Session}
    (hs : s ∈ srv.sessions) (hne : s.runId ≠ rid) : s ∈ (updSession srv rid f).sessions := by
  simp only [updSession, List.mem_map]
  exact ⟨s, hs, by simp [hne]⟩

theorem mem_pooled_updSession {d : ConnId}
    (h : d ∈ pooled (updSession srv rid f)) : d ∈ pooled srv ∨ ∃ s ∈ srv.sessions, d ∈ (f s).pool := by
  obtain ⟨t, ht, hd⟩ := mem_pooled.mp h
  obtain ⟨s, hs, e⟩ := mem_updSession ht
  subst e
  split at hd
  · exact Or.inr ⟨s, hs, hd⟩
  · exact Or.inl (mem_pooled.mpr ⟨s, hs, hd⟩)

theorem pooled_updSession_sub {d : ConnId}
    (h : d ∈ pooled (updSession srv rid f)) (hf : ∀ x, ∀ y ∈ (f x).pool, y ∈ x.pool) : d ∈ pooled srv := by
  rcases mem_pooled_updSession h with h1 | ⟨s, hs, hd⟩
  · exact h1
  · exact mem_pooled.mpr ⟨s, hs, hf s d hd⟩

theorem pooled_updSession_same (srv : Srv) (rid : RunId) (f : Session → Session)
    (hf : ∀ x, (f x).pool = x.pool) : pooled (updSession srv rid f) = pooled srv := by
  simp only [pooled, updSession, List.flatMap_map]
  congr 1
  funext s
  split
  · exact hf s
  · rfl

/-! ### the verifiers -/

theorem verifierFor_network (m : Login) : verifierFor false m = .cfg := rfl

theorem workVerifier_of_cfg {s : Session} (fx i : Bool) (h : s.vk = .cfg) : workVerifier fx i s = .cfg := by
  unfold workVerifier
  split
  · rfl
  · exact h

theorem verifyLogin_isSome_token {m : Login} (hm : cfg.method = .token) :
    (verifyLogin pr cfg subs .cfg m).isSome = decide (pr.H cfg.token m.ts = m.key) := by
  simp only [verifyLogin, hm]
  split <;> simp [*]

theorem verifyLogin_isSome_oidc {m : Login} (hm : cfg.method = .oidc) :
    (verifyLogin pr cfg subs .cfg m).isSome = (oidcVerify pr cfg.oidc m.key).isSome := by
  simp only [verifyLogin, hm]
  cases oidcVerify pr cfg.oidc m.key <;> rfl

theorem verifyLogin_oidc {m : Login} {subs' : List Subject} (hm : cfg.method = .oidc) :
    verifyLogin pr cfg subs .cfg m = some subs' ↔
      ∃ sub, oidcVerify pr cfg.oidc m.key = some sub ∧ subs' = if sub ∈ subs then subs else subs ++ [sub] := by
  simp only [verifyLogin, hm]
  cases oidcVerify pr cfg.oidc m.key with
  | none => simp
  | some sub => simp [eq_comm]

theorem keyOk_token {ts : Int} {key : Key} (hm : cfg.method = .token) :
    keyOk pr cfg subs ts key = decide (pr.H cfg.token ts = key) := by
  simp only [keyOk, hm]

theorem keyOk_oidc_iff {ts : Int} {key : Key} (hm : cfg.method = .oidc) :
    keyOk pr cfg subs ts key = true ↔ ∃ sub, oidcVerify pr cfg.oidc key = some sub ∧ sub ∈ subs := by
  simp only [keyOk, hm, oidcPost]
  cases oidcVerify pr cfg.oidc key <;> simp

theorem keyOk_oidc_none {ts : Int} {key : Key} (hm : cfg.method = .oidc) (hv : oidcVerify pr cfg.oidc key = none) :
    keyOk pr cfg subs ts key = false := by
  simp only [keyOk, hm, oidcPost, hv]

/-- the post-login verifiers look at the subject list only through membership -/
theorem keyOk_congr {a b : List Subject} (h : ∀ x, x ∈ a ↔ x ∈ b) (ts : Int) (key : Key) :
    keyOk pr cfg a ts key = keyOk pr cfg b ts key := by
  unfold keyOk
  cases cfg.method with
  | token => rfl
  | oidc =>
    simp only [oidcPost]
    cases oidcVerify pr cfg.oidc key with
    | none => rfl
    | some sub =>
      simp only
      rw [decide_eq_decide]
      exact h sub

theorem verifyPing_iff {vk : VKind} {m : Ping} :
    verifyPing pr cfg subs vk m = true ↔ vk = .alwaysPass ∨ cfg.hb = false ∨ keyOk pr cfg subs m.ts m.key = true := by
  cases vk <;> simp [verifyPing]

theorem verifyWork_iff {vk : VKind} {m : WorkConn} :
    verifyWork pr cfg subs vk m = true ↔ vk = .alwaysPass ∨ cfg.wc = false ∨ keyOk pr cfg subs m.ts m.key = true := by
  cases vk <;> simp [verifyWork]

theorem timeOk_iff {oc : OidcCfg} {now : Int} {c : Claims} :
    timeOk oc now c = true ↔
      (oc.skipExpiry = true ∨ (¬ c.exp < now ∧ ∀ n, c.nbf = some n → ¬ now + nbfLeeway < n)) := by
  unfold timeOk
  cases c.nbf with
  | none | some _ => simp

/-- `VerifyLogin` hands back the subject list it was given, except that the configured OIDC verifier adds the
    subject of the token it accepted -/
theorem verifyLogin_subjects {subs subs' : List Subject} {vk : VKind} {m : Login} {sub : Subject}
    (h : verifyLogin pr cfg subs vk m = some subs') (hs : sub ∈ subs') :
    sub ∈ subs ∨ (vk = .cfg ∧ cfg.method = .oidc ∧ oidcVerify pr cfg.oidc m.key = some sub) := by
  cases vk with
  | alwaysPass =>
    cases h
    exact Or.inl hs
  | cfg =>
    cases hm : cfg.method with
    | token =>
      simp only [verifyLogin, hm] at h
      split at h
      · cases h
        exact Or.inl hs
      · cases h
    | oidc =>
      obtain ⟨sb, hv, rfl⟩ := (verifyLogin_oidc hm).mp h
      split at hs
      · exact Or.inl hs
      · rcases List.mem_append.mp hs with hs | hs
        · exact Or.inl hs
        · cases List.mem_singleton.mp hs
          exact Or.inr ⟨rfl, rfl, hv⟩

theorem cacheAfterVerify_mem {pt : PrimT} {oc : OidcCfg} {w : Idp} {key : Key} {j : Jwk}
    (h : j ∈ cacheAfterVerify pt oc w key) : j ∈ w.cache ∨ ∃ ks, w.jwks = some ks ∧ j ∈ ks := by
  unfold cacheAfterVerify at h
  split at h
  · exact Or.inl h
  · split at h
    · unfold cacheAfterSig at h
      split at h
      · exact Or.inl h
      · split at h
        · rename_i ks hk
          exact Or.inr ⟨ks, hk, h⟩
        · exact Or.inl h
    · exact Or.inl h

theorem verifyLogin_isSome_indep {s₁ s₂ : List Subject} {vk : VKind} {m : Login} :
    (verifyLogin pr cfg s₁ vk m).isSome = (verifyLogin pr cfg s₂ vk m).isSome := by
  cases vk with
  | alwaysPass => rfl
  | cfg =>
    cases hm : cfg.method with
    | token => rw [verifyLogin_isSome_token hm, verifyLogin_isSome_token hm]
    | oidc => rw [verifyLogin_isSome_oidc hm, verifyLogin_isSome_oidc hm]

/-- the user `loadAuthorizedKeysFromFile` yields for a key stands in the file next to that key -/
theorem akLookup_mem {l : List (PubKey × Str)} {k : PubKey} {u : Str} (h : akLookup l k = some u) :
    (k, u) ∈ l := by
  -- along the fold over the file, an answer for `k` is the user of a line for `k`
  refine foldl_invariant (P := fun acc => ∀ u, acc = some u → (k, u) ∈ l) (fun _ h => by cases h)
    (fun acc e he ih u h => ?_) u h
  split at h
  · rename_i hk
    cases h
    subst hk
    exact he
  · exact ih u h

/-! ### the handlers, case by case -/

/-- the `Control` that `RegisterControl` enters into the table for an accepted login -/
def newSession (cfg : Cfg) (internal : Bool) (conn : ConnId) (m : Login) : Session :=
  { runId := effRunId m, ctl := conn, vk := verifierFor internal m, poolCap := min m.poolCount cfg.maxPool + 10,
    pool := [], proxies := [], lastPing := 0 }

theorem registerControl_snd (m : Login) :
    (registerControl pr cfg srv internal conn m).2 =
      if (verifyLogin pr cfg srv.subjects (verifierFor internal m) m).isSome
      then { reply := .loginOk (effRunId m), closed := false } else { reply := .loginErr, closed := true } := by
  simp only [registerControl]
  cases verifyLogin pr cfg srv.subjects (verifierFor internal m) m <;> rfl

theorem visitor_fst (i : Bool) (c : ConnId) (rid : RunId) (ok : Bool) :
    (handleFirstG fx P pr cfg srv i c (.visitor rid ok)).1 = srv := by
  simp only [handleFirstG]
  split
  · rfl
  · split <;> rfl

variable (fx P pr cfg srv internal conn) in
/-- what `handleConnection` does with a login, completely: the plugins hand on `m'`, the verifier selected for it
    accepts, and the new session replaces any old one with its run id; or `LoginResp{Error}`, the connection is
    closed and nothing changes -/
theorem login_cases (m : Login) :
    (∃ m' sj, P.login m = some m' ∧ verifyLogin pr cfg srv.subjects (verifierFor internal m') m' = some sj ∧
        handleFirstG fx P pr cfg srv internal conn (.login m) =
          ({ sessions := srv.sessions.filter (fun o => o.runId ≠ effRunId m') ++ [newSession cfg internal conn m'],
             subjects := sj },
           { reply := .loginOk (effRunId m'), closed := false }))
    ∨ ((∀ m', P.login m = some m' → verifyLogin pr cfg srv.subjects (verifierFor internal m') m' = none) ∧
        handleFirstG fx P pr cfg srv internal conn (.login m) = (srv, { reply := .loginErr, closed := true })) := by
  simp only [handleFirstG]
  cases P.login m with
  | none => exact Or.inr ⟨fun _ h => (nomatch h), rfl⟩
  | some m' =>
    simp only [registerControl]
    cases hv : verifyLogin pr cfg srv.subjects (verifierFor internal m') m' with
    | none =>
      refine Or.inr ⟨fun _ h => ?_, rfl⟩
      cases h
      exact hv
    | some sj => exact Or.inl ⟨m', sj, rfl, hv, rfl⟩

variable (fx P pr cfg srv internal conn) in
/-- what `RegisterWorkConn` does, completely: the connection joins the pool of the session it names, or it is
    closed and nothing changes -/
theorem work_cases (m : WorkConn) :
    (∃ s m', lookup srv m.runId = some s ∧ P.work m = some m' ∧
        verifyWork pr cfg srv.subjects (workVerifier fx internal s) m' = true ∧ s.pool.length < s.poolCap ∧
        registerWork fx P pr cfg srv internal conn m =
          (updSession srv s.runId (fun x => { x with pool := x.pool ++ [conn] }), { reply := .none, closed := false }))
    ∨ ((registerWork fx P pr cfg srv internal conn m).1 = srv ∧
        (registerWork fx P pr cfg srv internal conn m).2.closed = true) := by
  simp only [registerWork]
  cases lookup srv m.runId with
  | none => exact Or.inr ⟨rfl, rfl⟩
  | some s =>
    cases P.work m with
    | none => exact Or.inr ⟨rfl, rfl⟩
    | some m' =>
      dsimp only
      by_cases hv : verifyWork pr cfg srv.subjects (workVerifier fx internal s) m' = true
      · by_cases hc : s.pool.length < s.poolCap
        · exact Or.inl ⟨s, m', rfl, rfl, hv, hc, by rw [if_pos hv, if_pos hc]⟩
        · exact Or.inr (by rw [if_pos hv, if_neg hc]; exact ⟨rfl, rfl⟩)
      · exact Or.inr (by rw [if_neg hv]; exact ⟨rfl, rfl⟩)

theorem handlePing_no_session {m : Ping} (hs : byCtl srv conn = none) :
    handlePing P pr cfg srv conn m = (srv, { reply := .none, closed := true }) := by
  simp only [handlePing, hs]

variable (P pr cfg) in
/-- what `handlePing` does, completely: `Pong{}` and a refreshed `lastPing` iff the plugins pass it and the session's
    verifier accepts; otherwise `Pong{Error}` and nothing changes -/
theorem ping_cases {s : Session} (m : Ping) (hs : byCtl srv conn = some s) :
    (∃ m', P.ping m = some m' ∧ verifyPing pr cfg srv.subjects s.vk m' = true ∧
        handlePing P pr cfg srv conn m =
          (updSession srv s.runId (fun x => { x with lastPing := x.lastPing + 1 }),
           { reply := .pongOk, closed := false }))
    ∨ ((∀ m', P.ping m = some m' → verifyPing pr cfg srv.subjects s.vk m' = false) ∧
        handlePing P pr cfg srv conn m = (srv, { reply := .pongErr, closed := false })) := by
  simp only [handlePing, hs]
  cases P.ping m with
  | none => exact Or.inr ⟨fun _ h => (nomatch h), rfl⟩
  | some m' =>
    dsimp only
    cases hv : verifyPing pr cfg srv.subjects s.vk m' with
    | true => exact Or.inl ⟨m', rfl, hv, rfl⟩
    | false =>
      refine Or.inr ⟨fun _ h => ?_, rfl⟩
      cases h
      exact hv

variable (srv conn) in
/-- `handleNewProxy`: the name joins the session's list and `NewProxyResp{}` is written, or nothing changes -/
theorem handleNewProxy_cases (name : Str) :
    ((handleNewProxy srv conn name).1 = srv ∧ (handleNewProxy srv conn name).2.reply ≠ .proxyOk) ∨
    ∃ s, byCtl srv conn = some s ∧ handleNewProxy srv conn name =
      (updSession srv s.runId (fun x => { x with proxies := x.proxies ++ [name] }),
       { reply := .proxyOk, closed := false }) := by
  unfold handleNewProxy
  split
  · exact Or.inl ⟨rfl, nofun⟩
  · rename_i s hs
    split
    · exact Or.inl ⟨rfl, nofun⟩
    · exact Or.inr ⟨s, hs, rfl⟩

variable (srv) in
/-- `Control.GetWorkConn` for the owner of proxy `name`: nothing to hand out, or the head of the owner's pool -/
theorem takeWork_cases (name : Str) :
    takeWork srv name = (srv, none) ∨
    ∃ s c rest, s ∈ srv.sessions ∧ s.pool = c :: rest ∧
      takeWork srv name = (updSession srv s.runId (fun x => { x with pool := x.pool.drop 1 }), some c) := by
  unfold takeWork
  split
  · exact Or.inl rfl
  · rename_i s ho
    split
    · exact Or.inl rfl
    · rename_i c rest hp
      exact Or.inr ⟨s, c, rest, List.mem_of_find?_eq_some ho, hp, rfl⟩

/-! ### one event of any kind: what it can do to the tables -/

variable (fx P pr cfg srv) in
/-- `Effect fx P pr cfg srv e srv'`: the ways in which the tables `srv'` after event `e` can differ from `srv`.
    The one-step statements below ("… afterwards only if …") are read off this relation. -/
inductive Effect : Ev → Srv → Prop
  | none (e : Ev) : Effect e srv                      -- refused, or nothing to do
  | login {i c m m' sj} : P.login m = some m' →                       -- accepted login
      verifyLogin pr cfg srv.subjects (verifierFor i m') m' = some sj →
      Effect (.first i c (.login m))
        { sessions := srv.sessions.filter (fun o => o.runId ≠ effRunId m') ++ [newSession cfg i c m'], subjects := sj }
  | work {i c m} (rid : RunId) : (registerWork fx P pr cfg srv i c m).2.closed = false →    -- pooled
      Effect (.first i c (.work m)) (updSession srv rid (fun x => { x with pool := x.pool ++ [c] }))
  | ping {c m s m'} : byCtl srv c = some s → P.ping m = some m' →     -- accepted heartbeat
      verifyPing pr cfg srv.subjects s.vk m' = true →
      Effect (.ping c m) (updSession srv s.runId (fun x => { x with lastPing := x.lastPing + 1 }))
  | proxies (e : Ev) (rid : RunId) (g : List Str → List Str) :        -- NewProxy, CloseProxy
      Effect e (updSession srv rid (fun x => { x with proxies := g x.proxies }))
  | drop (c : ConnId) :
      Effect (.drop c) { srv with sessions := srv.sessions.filter (fun s => s.ctl ≠ c) }
  | user (n : Str) (rid : RunId) :                                    -- the head of a pool is taken
      Effect (.user n) (updSession srv rid (fun x => { x with pool := x.pool.drop 1 }))

variable (fx P pr cfg srv) in
theorem stepG_effect (e : Ev) :
    Effect fx P pr cfg srv e (stepG fx P pr cfg srv e).1 := by
  cases e with
  | first i c m =>
    cases m with
    | login m =>
      rcases login_cases fx P pr cfg srv i c m with ⟨m', sj, hp, hv, e⟩ | ⟨_, e⟩
      · simp only [stepG, e]
        exact .login hp hv
      · simp only [stepG, e]
        exact .none _
    | work m =>
      rcases work_cases fx P pr cfg srv i c m with ⟨s, m', _, _, _, _, e⟩ | ⟨e, _⟩
      · simp only [stepG, handleFirstG, e]
        exact .work s.runId (by rw [e])
      · simp only [stepG, handleFirstG, e]
        exact .none _
    | visitor rid ok =>
      simp only [stepG, visitor_fst]
      exact .none _
    | other | garbage => exact .none _
  | ping c m =>
    simp only [stepG]
    cases hs : byCtl srv c with
    | none =>
      rw [handlePing_no_session hs]
      exact .none _
    | some s =>
      rcases ping_cases P pr cfg m hs with ⟨m', hp, hv, e⟩ | ⟨_, e⟩
      · rw [e]
        exact .ping hs hp hv
      · rw [e]
        exact .none _
  | newProxy c n =>
    simp only [stepG]
    rcases handleNewProxy_cases srv c n with ⟨e, _⟩ | ⟨s, _, e⟩
    · rw [e]
      exact .none _
    · rw [e]
      exact .proxies _ _ (· ++ [n])
  | closeProxy c n =>
    simp only [stepG, handleCloseProxy]
    split
    · exact .none _
    · exact .proxies _ _ (List.filter (fun k => k ≠ n))
  | drop c => exact .drop c
  | user n =>
    simp only [stepG]
    rcases takeWork_cases srv n with e | ⟨s, _, _, _, _, e⟩
    · rw [e]
      exact .none _
    · rw [e]
      exact .user n _

end AuthGate
end Frp
