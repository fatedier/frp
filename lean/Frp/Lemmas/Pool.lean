import Frp.Model.Pool
import Frp.Lemmas.ListFacts
/-! The work-connection pool model: table lemmas, the invariant (`Inv`) with one lemma per kind of update, the
    enabled steps (`Step`) and, by cases on them, `inv_step`; then the accounting of ReqWorkConn (`Acct`).
    Core Lean only. -/
namespace Frp
namespace Pool

theorem Tbl.get_map {α} (f : α → α) (t : Tbl α) (k : Nat) :
    (Tbl.mk (t.l.map (fun e => (e.1, f e.2)))).get k = (t.get k).map f := by
  unfold Tbl.get
  induction t.l with
  | nil => rfl
  | cons e l ih =>
    obtain ⟨a, b⟩ := e
    simp only [List.map_cons, List.lookup_cons]
    cases k == a <;> simp [ih]

theorem Tbl.allCur_get {α} {t : Tbl α} {p : α → Bool} (h : t.allCur p = true) {k : Nat} {v : α}
    (hk : t.get k = some v) : p v = true := by
  unfold Tbl.allCur at h
  simpa [hk] using List.all_eq_true.1 h (k, v) (lookup_mem hk)

theorem Tbl.allCur_false {α} {t : Tbl α} {p : α → Bool} {k : Nat} {v : α}
    (hk : t.get k = some v) (hp : p v = false) : t.allCur p = false := by
  cases h : t.allCur p with
  | false => rfl
  | true => have := Tbl.allCur_get h hk; rw [hp] at this; cases this

theorem foldl_set_get {α} (l : List Nat) (v : α) (t : Tbl α) (k : Nat) :
    (l.foldl (fun t c => t.set c v) t).get k = if k ∈ l then some v else t.get k := by
  induction l generalizing t with
  | nil => simp
  | cons h tl ih =>
    simp only [List.foldl_cons, ih, Tbl.get_set, List.mem_cons]
    by_cases h1 : k ∈ tl
    · simp [h1]
    · by_cases h2 : k = h <;> simp [h1, h2]

theorem bumpU_holding (x : U) (k c : Nat) : bumpU x = .holding k c ↔ x = .holding k c := by
  cases x <;> simp [bumpU]

theorem bumpU_bridged (x : U) (c : Nat) : bumpU x = .bridged c ↔ x = .bridged c := by
  cases x <;> simp [bumpU]

theorem bumpU_accepted (x : U) (k : Nat) : bumpU x = .accepted k ↔ x = .accepted k := by
  cases x <;> simp [bumpU]

theorem bumpU_closed (x : U) : bumpU x = .closed ↔ x = .closed := by
  cases x <;> simp [bumpU]

theorem bumpU_waiting (x : U) (k t : Nat) : bumpU x = .waiting k t ↔ ∃ t', x = .waiting k t' ∧ t = t' + 1 := by
  cases x with
  | waiting k0 t0 =>
    simp only [bumpU, U.waiting.injEq]
    constructor
    · rintro ⟨rfl, rfl⟩; exact ⟨t0, ⟨rfl, rfl⟩, rfl⟩
    · rintro ⟨t', ⟨rfl, rfl⟩, rfl⟩; exact ⟨rfl, rfl⟩
  | _ => simp [bumpU]


/-! ### rebinding a key; a queue and the table that marks its members -/

theorem Tbl.get_set_self {α} (t : Tbl α) (k : Nat) (v : α) : (t.set k v).get k = some v := by
  rw [Tbl.get_set, if_pos rfl]

theorem Tbl.get_set_eq_iff {α} {t : Tbl α} {k : Nat} {v x : α} (hold : t.get k ≠ some x) (hv : v ≠ x) (k' : Nat) :
    (t.set k v).get k' = some x ↔ t.get k' = some x := by
  rw [Tbl.get_set]
  split
  · next e => subst e; simp [hold, hv]
  · rfl

theorem Tbl.forall_get_set {α} {t : Tbl α} {k : Nat} {v x : α} {P : Nat → Prop} (hk : v = x → P k)
    (h : ∀ k', k' ≠ k → t.get k' = some x → P k') (k' : Nat) (e : (t.set k v).get k' = some x) : P k' := by
  rw [Tbl.get_set] at e
  split at e
  · next ek => exact ek ▸ hk (Option.some.inj e)
  · next ek => exact h k' ek e

theorem Tbl.of_get_set_eq {α} {t : Tbl α} {k k' : Nat} {v x : α} (h : (t.set k v).get k' = some x) :
    v = x ∨ t.get k' = some x :=
  Tbl.forall_get_set (P := fun k' => v = x ∨ t.get k' = some x) .inl (fun _ _ => .inr) k' h

/-- `q` lists, once each, exactly the keys whose current value in `t` is `x` (a channel's buffer and the
    per-connection states that say "in the channel") -/
structure Tbl.Tracks {α} (t : Tbl α) (x : α) (q : List Nat) : Prop where
  nodup : q.Nodup
  mem_iff : ∀ k, k ∈ q ↔ t.get k = some x

namespace Tbl.Tracks
variable {α : Type} {t : Tbl α} {x v : α} {q : List Nat} {k : Nat}

theorem set_other (h : t.Tracks x q) (hold : t.get k ≠ some x) (hv : v ≠ x) : (t.set k v).Tracks x q :=
  ⟨h.nodup, fun k' => (h.mem_iff k').trans (Tbl.get_set_eq_iff hold hv k').symm⟩

theorem push (h : t.Tracks x q) (hold : t.get k ≠ some x) : (t.set k x).Tracks x (q ++ [k]) := by
  have hk : k ∉ q := fun hm => hold ((h.mem_iff k).1 hm)
  refine ⟨List.nodup_append.2 ⟨h.nodup, by simp, fun a ha b hb e => ?_⟩, fun k' => ?_⟩
  · rw [List.mem_singleton.1 hb] at e; exact hk (e ▸ ha)
  · rw [Tbl.get_set, List.mem_append, List.mem_singleton, h.mem_iff k']
    split <;> simp [*]

theorem pop (h : t.Tracks x (k :: q)) (hv : v ≠ x) : (t.set k v).Tracks x q := by
  have hnd := List.nodup_cons.1 h.nodup
  refine ⟨hnd.2, fun k' => ?_⟩
  rw [Tbl.get_set]
  split
  · next e => subst e; simp [hnd.1, hv]
  · next e => rw [← h.mem_iff k', List.mem_cons]; simp [e]

theorem clear (h : t.Tracks x q) (hv : v ≠ x) : (q.foldl (fun t c => t.set c v) t).Tracks x [] := by
  refine ⟨List.nodup_nil, fun k' => ?_⟩
  rw [foldl_set_get]
  split
  · simp [hv]
  · next hm => simp [← h.mem_iff k', hm]

end Tbl.Tracks

/-! ### the invariant -/

/-- in nobody's hands: neither in the pool nor with a handler -/
def W.free : W → Prop
  | .pooled | .taken _ => False
  | _ => True

/-- the work connection a handler has in hand -/
def U.conn : U → Option Nat
  | .holding _ c | .bridged c => some c
  | _ => none

/-- a live handler is in a round below `n` of the retry loop and has waited at most `T` ticks -/
def U.ok (T n : Nat) : U → Prop
  | .accepted k | .holding k _ => k < n
  | .waiting k t => t ≤ T ∧ k < n
  | _ => True

theorem conn_eq_some_iff (o : Option U) (c : Nat) :
    o.bind U.conn = some c ↔ (∃ k, o = some (.holding k c)) ∨ o = some (.bridged c) := by
  rcases o with _ | x
  · simp
  · cases x <;> simp [U.conn]

structure Inv (fx : Fix) (s : St) : Prop where
  queue : s.w.Tracks .pooled s.pool
  le_cap : s.pool.length ≤ s.cap
  taken_iff : ∀ c u, s.w.get c = some (.taken u) ↔ (s.u.get u).bind U.conn = some c
  drained_empty : s.drained = true → s.pool = [] ∧ s.poolClosed = true
  closed_disp : s.poolClosed = true → s.dispDone = true
  handlers : ∀ u x, s.u.get u = some x → x.ok s.T (tries s.pc)
  limbo_late : ∀ c, s.w.get c = some .limbo → s.lateSend = true ∧ fx.closeOnClosedPool = false
  panic_tries : s.panicked = true → tries s.pc = 0

theorem inv_init (fx : Fix) (pc : Int) (T : Nat) : Inv fx (init pc T) := by
  refine ⟨⟨List.nodup_nil, ?_⟩, ?_, ?_, ?_, ?_, ?_, ?_, ?_⟩ <;> simp [init, Tbl.get]

/-! One lemma per kind of update.  The invariant reads neither `reqs`, `ureq` nor (except for `limbo_late`) `lateSend`:
    where an update sets them, the lemma leaves their new values free. -/
section frame
variable {fx : Fix} {s : St}

/-- a work connection in nobody's hands changes to a value in nobody's hands -/
theorem inv_setW (h : Inv fx s) {c : Nat} {v : W} {ls : Bool}
    (hold : ∀ x, s.w.get c = some x → x.free) (hv : v.free)
    (hl : v = .limbo → ls = true ∧ fx.closeOnClosedPool = false) (hls : s.lateSend = true → ls = true) :
    Inv fx { s with w := s.w.set c v, lateSend := ls } :=
  { h with
    queue := h.queue.set_other (hold .pooled) (fun e => by subst e; exact hv)
    taken_iff := fun c' u =>
      (Tbl.get_set_eq_iff (hold (.taken u)) (fun e => by subst e; exact hv) c').trans (h.taken_iff c' u)
    limbo_late := fun c' e => (Tbl.of_get_set_eq e).elim hl
      fun e' => ⟨hls (h.limbo_late c' e').1, (h.limbo_late c' e').2⟩ }

/-- a handler moves on with the same work connection in hand (or none, as before) -/
theorem inv_setU (h : Inv fx s) {u : Nat} {x : U} {r q : Nat}
    (hc : (s.u.get u).bind U.conn = x.conn) (hx : x.ok s.T (tries s.pc)) :
    Inv fx { s with u := s.u.set u x, reqs := r, ureq := q } :=
  { h with
    taken_iff := fun c u' => by
      refine (h.taken_iff c u').trans ?_
      dsimp only
      rw [Tbl.get_set]
      split
      · next e => rw [e, hc]; rfl
      · rfl
    handlers := fun u' y hy => (Tbl.of_get_set_eq hy).elim (fun e => e ▸ hx) (h.handlers u' y) }

/-- The work connection `c` changes hands: to the handler of `u` (`v = .taken u`, `x` has `c` in hand) or away
    from it (`v` is neither pooled nor taken, `x` has nothing in hand).  `hc`: before, `c` was with nobody else;
    `hu`: before, `u` had nothing else. -/
theorem taken_iff_move {c u : Nat} {v : W} {x : U}
    (h : ∀ c u, s.w.get c = some (.taken u) ↔ (s.u.get u).bind U.conn = some c)
    (hc : ∀ u', u' ≠ u → s.w.get c ≠ some (.taken u')) (hu : ∀ c', c' ≠ c → s.w.get c' ≠ some (.taken u))
    (hv : ∀ u', v = .taken u' ↔ u' = u ∧ x.conn = some c) (hx : ∀ c', x.conn = some c' → c' = c) (c' u' : Nat) :
    (s.w.set c v).get c' = some (.taken u') ↔ ((s.u.set u x).get u').bind U.conn = some c' := by
  rw [Tbl.get_set, Tbl.get_set]
  by_cases ec : c' = c <;> by_cases eu : u' = u
  · subst ec eu; simp [hv]
  · subst ec; simp [eu, hv, ← h, hc u' eu]
  · subst eu
    simp [ec, hu c' ec]
    exact fun e => ec (hx c' e)
  · simp [ec, eu, h]

/-- a handler with nothing in hand receives the head of the pool -/
theorem inv_recv (h : Inv fx s) {u k c : Nat} {rest : List Nat} {r q : Nat}
    (hp : s.pool = c :: rest) (hu : (s.u.get u).bind U.conn = none) (hk : k < tries s.pc) :
    Inv fx { s with pool := rest, w := s.w.set c (.taken u), u := s.u.set u (.holding k c), reqs := r, ureq := q } := by
  have hq : s.w.Tracks .pooled (c :: rest) := hp ▸ h.queue
  have hwc : s.w.get c = some .pooled := (hq.mem_iff c).1 List.mem_cons_self
  exact { h with
    queue := hq.pop nofun
    le_cap := Nat.le_trans (by rw [hp]; exact Nat.le_succ _) h.le_cap
    taken_iff := taken_iff_move h.taken_iff (fun u' _ => by simp [hwc]) (fun c' _ => by simp [h.taken_iff, hu])
      (fun u' => by simp [U.conn, eq_comm]) (fun c' => by simp [U.conn, eq_comm])
    drained_empty := fun hd => by have := (h.drained_empty hd).1; rw [hp] at this; cases this
    handlers := fun u' y hy => (Tbl.of_get_set_eq hy).elim (fun e => e ▸ hk) (h.handlers u' y)
    limbo_late := fun c' e => (Tbl.of_get_set_eq e).elim nofun (h.limbo_late c') }

/-- RegisterWorkConn's successful send -/
theorem inv_send_pooled (h : Inv fx s) {c : Nat}
    (hw : s.w.get c = some .lookedUp) (hlen : s.pool.length < s.cap) (hc : s.poolClosed = false) :
    Inv fx { s with pool := s.pool ++ [c], w := s.w.set c .pooled } :=
  { h with
    queue := h.queue.push (by simp [hw])
    le_cap := by dsimp only; rw [List.length_append]; exact hlen
    taken_iff := fun c' u => by
      dsimp only
      rw [Tbl.get_set_eq_iff (by simp [hw]) (by simp)]
      exact h.taken_iff c' u
    drained_empty := fun hd => by rw [(h.drained_empty hd).2] at hc; cases hc
    limbo_late := fun c' e => (Tbl.of_get_set_eq e).elim nofun (h.limbo_late c') }

/-- the handler of `u` gives up the work connection `c` it has in hand (failed StartWorkConn write, or Join ended) -/
theorem inv_release (h : Inv fx s) {u c : Nat} {x : U}
    (hu : (s.u.get u).bind U.conn = some c) (hc : x.conn = none) (hx : x.ok s.T (tries s.pc)) :
    Inv fx { s with w := s.w.set c .closed, u := s.u.set u x } := by
  have hwc : s.w.get c = some (.taken u) := (h.taken_iff c u).2 hu
  exact { h with
    queue := h.queue.set_other (by simp [hwc]) nofun
    taken_iff := taken_iff_move h.taken_iff (fun u' e => by simp [hwc, Ne.symm e])
      (fun c' e => by simp [h.taken_iff, hu, Ne.symm e]) (fun u' => by simp [hc]) (fun c' => by simp [hc])
    handlers := fun u' y hy => (Tbl.of_get_set_eq hy).elim (fun e => e ▸ hx) (h.handlers u' y)
    limbo_late := fun c' e => (Tbl.of_get_set_eq e).elim nofun (h.limbo_late c') }

theorem inv_drain (h : Inv fx s) (hc : s.poolClosed = true) :
    Inv fx { s with pool := [], drained := true, w := s.pool.foldl (fun t c => t.set c .closed) s.w } :=
  { h with
    queue := h.queue.clear nofun
    le_cap := Nat.zero_le _
    taken_iff := fun c u => by
      dsimp only
      rw [foldl_set_get, ← h.taken_iff c u]
      split
      · next hm => simp [(h.queue.mem_iff c).1 hm]
      · rfl
    drained_empty := fun _ => ⟨rfl, hc⟩
    limbo_late := fun c => by
      dsimp only
      rw [foldl_set_get]
      split
      · nofun
      · exact h.limbo_late c }

theorem bumpU_conn (x : U) : (bumpU x).conn = x.conn := by cases x <;> rfl

theorem inv_tick (h : Inv fx s) (ht : tickOk s = true) :
    Inv fx { s with u := ⟨s.u.l.map (fun e => (e.1, bumpU e.2))⟩ } :=
  { h with
    taken_iff := fun c u => by
      dsimp only
      rw [Tbl.get_map, h.taken_iff c u]
      cases s.u.get u <;> simp [bumpU_conn]
    handlers := fun u y hy => by
      dsimp only at hy
      rw [Tbl.get_map] at hy
      obtain ⟨x, hx, rfl⟩ := Option.map_eq_some_iff.1 hy
      have hok := h.handlers u x hx
      have hti := Tbl.allCur_get ht hx
      cases x <;> simp_all [bumpU, U.ok]
      omega }

end frame

/-! ### the enabled steps -/

/-- `step`, read backwards: for each label, the guards under which it fires (beside `s.panicked = false`, common
    to all) and what it does -/
inductive Step (fx : Fix) (s : St) : Label → St → Res → Prop
  | dial {c} : s.w.get c = none →
      Step fx s (.dial c) { s with w := s.w.set c .dialled } .none
  | lookupFail {c a} : s.w.get c = some .dialled → s.inManager = false ∨ a = false →
      Step fx s (.lookup c a) { s with w := s.w.set c .closed } .closed
  | lookup {c a} : s.w.get c = some .dialled →
      Step fx s (.lookup c a) { s with w := s.w.set c .lookedUp } .none
  | sendLateClosed {c} : s.w.get c = some .lookedUp → s.poolClosed = true →
      fx.closeOnClosedPool = true →
      Step fx s (.send c) { s with w := s.w.set c .closed, lateSend := true } .refused
  | sendLateLimbo {c} : s.w.get c = some .lookedUp → s.poolClosed = true →
      fx.closeOnClosedPool = false →
      Step fx s (.send c) { s with w := s.w.set c .limbo, lateSend := true } .limbo
  | sendPooled {c} : s.w.get c = some .lookedUp → s.poolClosed = false →
      s.pool.length < s.cap →
      Step fx s (.send c) { s with pool := s.pool ++ [c], w := s.w.set c .pooled } .pooled
  | sendFull {c} : s.w.get c = some .lookedUp → s.poolClosed = false →
      s.cap ≤ s.pool.length →
      Step fx s (.send c) { s with w := s.w.set c .closed } .refused
  | acceptCrash {u} : s.proxyOpen = true → s.u.get u = none → tries s.pc = 0 →
      Step fx s (.accept u) { s with panicked := true } .crash
  | accept {u} : s.proxyOpen = true → s.u.get u = none → tries s.pc ≠ 0 →
      Step fx s (.accept u) { s with u := s.u.set u (.accepted 0) } .none
  | take {u k c rest} : s.u.get u = some (.accepted k) → s.pool = c :: rest →
      Step fx s (.take u)
        { s with pool := rest, w := s.w.set c (.taken u), u := s.u.set u (.holding k c),
                 reqs := if s.dispDone then s.reqs else s.reqs + 1,
                 ureq := if s.dispDone then s.ureq else s.ureq + 1 } (.got c)
  | takeClosed {u k} : s.u.get u = some (.accepted k) → s.pool = [] → s.poolClosed = true →
      Step fx s (.take u) { s with u := s.u.set u .closed } .closed
  | request {u k} : s.u.get u = some (.accepted k) → s.pool = [] → s.poolClosed = false →
      Step fx s (.request u true)
        { s with u := s.u.set u (.waiting k 0), reqs := if s.dispDone then s.reqs else s.reqs + 1,
                 ureq := if s.dispDone then s.ureq else s.ureq + 1 } .waiting
  | requestEof {u k} : s.u.get u = some (.accepted k) → s.pool = [] → s.poolClosed = false →
      s.dispDone = true →
      Step fx s (.request u false) { s with u := s.u.set u .closed } .closed
  | recv {u k t c rest} : s.u.get u = some (.waiting k t) → s.pool = c :: rest →
      Step fx s (.recv u)
        { s with pool := rest, w := s.w.set c (.taken u), u := s.u.set u (.holding k c),
                 reqs := if s.dispDone then s.reqs else s.reqs + 1,
                 ureq := if s.dispDone then s.ureq else s.ureq + 1 } (.got c)
  | recvClosed {u k t} : s.u.get u = some (.waiting k t) → s.pool = [] → s.poolClosed = true →
      Step fx s (.recv u) { s with u := s.u.set u .closed } .closed
  | timeout {u k t} : s.u.get u = some (.waiting k t) → s.T ≤ t →
      Step fx s (.timeout u) { s with u := s.u.set u .closed } .closed
  | tick : tickOk s = true →
      Step fx s .tick { s with u := ⟨s.u.l.map (fun e => (e.1, bumpU e.2))⟩ } .none
  | startMsg {u k c} : s.u.get u = some (.holding k c) →
      Step fx s (.startMsg u true) { s with u := s.u.set u (.bridged c) } (.bridged c)
  | startRetry {u k c} : s.u.get u = some (.holding k c) → k + 1 < tries s.pc →
      Step fx s (.startMsg u false) { s with w := s.w.set c .closed, u := s.u.set u (.accepted (k + 1)) } .retry
  | startExhausted {u k c} : s.u.get u = some (.holding k c) → ¬ k + 1 < tries s.pc →
      Step fx s (.startMsg u false) { s with w := s.w.set c .closed, u := s.u.set u .closed } .exhausted
  | joinEnd {u c} : s.u.get u = some (.bridged c) →
      Step fx s (.joinEnd u) { s with u := s.u.set u .closed, w := s.w.set c .closed } .closed
  | dispDone : s.dispDone = false → Step fx s .dispDone { s with dispDone := true } .none
  | closePool : s.dispDone = true → s.poolClosed = false →
      Step fx s .closePool { s with poolClosed := true } .none
  | drain : s.poolClosed = true → s.drained = false →
      Step fx s .drain { s with pool := [], drained := true,
                                w := s.pool.foldl (fun t c => t.set c .closed) s.w } .none
  | closeProxies : s.drained = true → s.pxClosed = false →
      Step fx s .closeProxies { s with proxyOpen := false, px := [], pxClosed := true } .none
  | del : s.pxClosed = true → s.inManager = true →
      Step fx s .del { s with inManager := false } .none
  | regProxy0 : s.dispDone = false → s.proxyOpen = false →
      Step fx s (.regProxy 0) { s with proxyOpen := true } .none
  | regProxy {p} : s.dispDone = false → p ≠ 0 → p ∉ s.px →
      Step fx s (.regProxy p) { s with px := p :: s.px } .none
  | closeProxy0 : s.dispDone = false → s.proxyOpen = true →
      Step fx s (.closeProxy 0) { s with proxyOpen := false } .none
  | closeProxy {p} : s.dispDone = false → p ≠ 0 → p ∈ s.px →
      Step fx s (.closeProxy p) { s with px := s.px.erase p } .none

theorem step_spec {fx : Fix} {s s' : St} {l : Label} {r : Res} (hs : step fx s l = some (s', r)) :
    s.panicked = false ∧ Step fx s l s' r := by
  -- every label starts with a guard `if … then none else …`: peel it off, then follow the branches
  cases l <;> rw [step, Option.ite_none_left_eq_some] at hs <;> obtain ⟨hg, hs⟩ := hs
  case dial c =>
    cases hs; simp at hg; exact ⟨hg.1, .dial hg.2⟩
  case lookup c a =>
    simp at hg
    by_cases hf : s.inManager = false ∨ a = false
    · rw [if_pos hf] at hs; cases hs; exact ⟨hg.1, .lookupFail hg.2 hf⟩
    · rw [if_neg hf] at hs; cases hs; exact ⟨hg.1, .lookup hg.2⟩
  case send c =>
    simp at hg
    by_cases hc : s.poolClosed = true
    · rw [if_pos hc] at hs
      by_cases hf : fx.closeOnClosedPool = true
      · rw [if_pos hf] at hs; cases hs; exact ⟨hg.1, .sendLateClosed hg.2 hc hf⟩
      · rw [if_neg hf] at hs; cases hs; exact ⟨hg.1, .sendLateLimbo hg.2 hc (Bool.eq_false_iff.2 hf)⟩
    · rw [if_neg hc] at hs
      rw [Bool.not_eq_true] at hc
      by_cases hl : s.pool.length < s.cap
      · rw [if_pos hl] at hs; cases hs; exact ⟨hg.1, .sendPooled hg.2 hc hl⟩
      · rw [if_neg hl] at hs; cases hs; exact ⟨hg.1, .sendFull hg.2 hc (Nat.le_of_not_lt hl)⟩
  case accept u =>
    simp at hg
    by_cases ht : tries s.pc = 0
    · rw [if_pos ht] at hs; cases hs; exact ⟨hg.1, .acceptCrash hg.2.1 hg.2.2 ht⟩
    · rw [if_neg ht] at hs; cases hs; exact ⟨hg.1, .accept hg.2.1 hg.2.2 ht⟩
  case take u =>
    rw [Bool.not_eq_true] at hg
    split at hs
    · next k hu =>
      rw [recvFor] at hs
      split at hs
      · next c rest hq => cases hs; exact ⟨hg, .take hu hq⟩
      · next hq =>
        rw [Option.ite_none_right_eq_some] at hs
        cases hs.2; exact ⟨hg, .takeClosed hu hq hs.1⟩
    · cases hs
  case request u ok =>
    rw [Bool.not_eq_true] at hg
    split at hs
    · next k hu =>
      rw [Option.ite_none_left_eq_some] at hs
      obtain ⟨hq, hs⟩ := hs
      simp at hq
      cases ok
      · rw [if_neg Bool.false_ne_true, Option.ite_none_right_eq_some] at hs
        cases hs.2; exact ⟨hg, .requestEof hu hq.1 hq.2 hs.1⟩
      · rw [if_pos rfl] at hs; cases hs; exact ⟨hg, .request hu hq.1 hq.2⟩
    · cases hs
  case recv u =>
    rw [Bool.not_eq_true] at hg
    split at hs
    · next k t hu =>
      rw [recvFor] at hs
      split at hs
      · next c rest hq => cases hs; exact ⟨hg, .recv hu hq⟩
      · next hq =>
        rw [Option.ite_none_right_eq_some] at hs
        cases hs.2; exact ⟨hg, .recvClosed hu hq hs.1⟩
    · cases hs
  case timeout u =>
    rw [Bool.not_eq_true] at hg
    split at hs
    · next k t hu =>
      rw [Option.ite_none_right_eq_some] at hs
      cases hs.2; exact ⟨hg, .timeout hu hs.1⟩
    · cases hs
  case tick =>
    cases hs; simp at hg; exact ⟨hg.1, .tick hg.2⟩
  case startMsg u ok =>
    rw [Bool.not_eq_true] at hg
    split at hs
    · next k c hu =>
      cases ok
      · rw [if_neg Bool.false_ne_true] at hs
        by_cases hk : k + 1 < tries s.pc
        · rw [if_pos hk] at hs; cases hs; exact ⟨hg, .startRetry hu hk⟩
        · rw [if_neg hk] at hs; cases hs; exact ⟨hg, .startExhausted hu hk⟩
      · rw [if_pos rfl] at hs; cases hs; exact ⟨hg, .startMsg hu⟩
    · cases hs
  case joinEnd u =>
    rw [Bool.not_eq_true] at hg
    split at hs
    · next c hu => cases hs; exact ⟨hg, .joinEnd hu⟩
    · cases hs
  case dispDone =>
    cases hs; simp at hg; exact ⟨hg.1, .dispDone hg.2⟩
  case closePool =>
    cases hs; simp at hg; exact ⟨hg.1, .closePool hg.2.1 hg.2.2⟩
  case drain =>
    cases hs; simp at hg; exact ⟨hg.1, .drain hg.2.1 hg.2.2⟩
  case closeProxies =>
    cases hs; simp at hg; exact ⟨hg.1, .closeProxies hg.2.1 hg.2.2⟩
  case del =>
    cases hs; simp at hg; exact ⟨hg.1, .del hg.2.1 hg.2.2⟩
  case regProxy p =>
    simp at hg
    by_cases hp : p = 0
    · subst hp
      rw [if_pos rfl, Option.ite_none_left_eq_some] at hs
      cases hs.2; exact ⟨hg.1, .regProxy0 hg.2 (Bool.eq_false_iff.2 hs.1)⟩
    · rw [if_neg hp, Option.ite_none_left_eq_some] at hs
      cases hs.2; exact ⟨hg.1, .regProxy hg.2 hp hs.1⟩
  case closeProxy p =>
    simp at hg
    by_cases hp : p = 0
    · subst hp
      rw [if_pos rfl, Option.ite_none_right_eq_some] at hs
      cases hs.2; exact ⟨hg.1, .closeProxy0 hg.2 hs.1⟩
    · rw [if_neg hp, Option.ite_none_right_eq_some] at hs
      cases hs.2; exact ⟨hg.1, .closeProxy hg.2 hp hs.1⟩

theorem inv_step {fx : Fix} {s s' : St} {l : Label} {r : Res} (h : Inv fx s)
    (hs : step fx s l = some (s', r)) : Inv fx s' := by
  cases (step_spec hs).2 with
  | dial hw => exact inv_setW h (by simp [hw]) trivial nofun id
  | lookupFail hw _ | lookup hw | sendFull hw _ _ =>
    exact inv_setW h (by simp [hw, W.free]) trivial nofun id
  | sendLateClosed hw _ _ => exact inv_setW h (by simp [hw, W.free]) trivial nofun fun _ => rfl
  | sendLateLimbo hw _ hf => exact inv_setW h (by simp [hw, W.free]) trivial (fun _ => ⟨rfl, hf⟩) fun _ => rfl
  | sendPooled hw hc hl => exact inv_send_pooled h hw hl hc
  | acceptCrash _ _ ht => exact { h with panic_tries := fun _ => ht }
  | accept _ hu ht => exact inv_setU h (by rw [hu]; rfl) (Nat.pos_of_ne_zero ht)
  | take hu hq => exact inv_recv h hq (by rw [hu]; rfl) (h.handlers _ _ hu)
  | recv hu hq => exact inv_recv h hq (by rw [hu]; rfl) (h.handlers _ _ hu).2
  | request hu _ _ => exact inv_setU h (by rw [hu]; rfl) ⟨Nat.zero_le _, h.handlers _ _ hu⟩
  | takeClosed hu _ _ | requestEof hu _ _ _ | recvClosed hu _ _ | timeout hu _ | startMsg hu =>
    exact inv_setU h (by rw [hu]; rfl) trivial
  | tick ht => exact inv_tick h ht
  | startRetry hu hk => exact inv_release h (by rw [hu]; rfl) rfl hk
  | startExhausted hu _ | joinEnd hu => exact inv_release h (by rw [hu]; rfl) rfl trivial
  | dispDone => exact { h with closed_disp := fun _ => rfl }
  | closePool hd _ => exact { h with drained_empty := fun e => ⟨(h.drained_empty e).1, rfl⟩, closed_disp := fun _ => hd }
  | drain hc _ => exact inv_drain h hc
  -- the proxy table, `pxClosed` and `inManager` are not read by the invariant
  | _ => exact { h with }

theorem inv_reach {fx : Fix} {pc : Int} {T : Nat} {s : St} (h : Reach fx pc T s) : Inv fx s := by
  induction h with
  | init => exact inv_init fx pc T
  | step _ hs ih => exact inv_step ih hs

/-! ### accounting of ReqWorkConn over the whole session history -/

/-- every ReqWorkConn is either one of the `advance pc` requests of `Start()` or was sent by GetWorkConn
    on behalf of a user connection; registering and closing proxies never asks for anything -/
structure Acct (s : St) : Prop where
  adv_eq : s.adv = advance s.pc
  reqs_eq : s.reqs = s.adv + s.ureq

theorem acct_step {fx : Fix} {s s' : St} {l : Label} {r : Res} (h : Acct s)
    (hs : step fx s l = some (s', r)) : Acct s' := by
  cases (step_spec hs).2 with
  | take | request | recv =>
    -- GetWorkConn's request: `reqs` and `ureq` move together
    refine ⟨h.adv_eq, ?_⟩
    have := h.reqs_eq
    dsimp only
    cases s.dispDone <;> simp <;> omega
  | _ => exact ⟨h.adv_eq, h.reqs_eq⟩

theorem acct_reach {fx : Fix} {pc : Int} {T : Nat} {s : St} (h : Reach fx pc T s) : Acct s := by
  induction h with
  | init => exact ⟨rfl, rfl⟩
  | step _ hs ih => exact acct_step ih hs

end Pool
end Frp
