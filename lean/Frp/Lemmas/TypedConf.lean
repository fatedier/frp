import Frp.Model.TypedConf
/-
  The closed form of a run of independent Complete steps (helper lemmas for C18).
-/
namespace Frp
namespace TypedConf
open Gen.TypedConf ProxyMsg

theorem target_mem_reads (s : VStep) : target s ∈ reads s := by
  cases s <;> simp [reads, target]

theorem get_applyV (user : Str) (c : Rec Str) (s : VStep) (k : Str) :
    (applyV user c s).get k = if k = target s then (newVal user c s).getD (c.get k) else c.get k := by
  simp only [applyV]
  cases h : newVal user c s with
  | none => simp
  | some v => rw [Rec.get_set]; simp

theorem newVal_congr (user : Str) (c c' : Rec Str) (s : VStep)
    (h : ∀ r ∈ reads s, c.get r = c'.get r) : newVal user c s = newVal user c' s := by
  cases s with
  | emptyOrStr f d => simp only [newVal, h f (by simp [reads, target])]
  | emptyOrInt f d => simp only [newVal, h f (by simp [reads, target])]
  | userPrefix f => simp only [newVal, h f (by simp [reads, target])]
  | qualify f g => simp only [newVal, h f (by simp [reads]), h g (by simp [reads])]
  | userPrefixIfSet f => simp only [newVal, h f (by simp [reads, target])]

/-- each field ends up with what its own step computes from the configuration as loaded -/
theorem runSteps_closed (user : Str) (steps : List VStep) (c : Rec Str) (k : Str) (h : Indep steps) :
    (runSteps user steps c).get k = closedForm user steps c k := by
  induction steps generalizing c with
  | nil => rfl
  | cons s rest ih =>
    obtain ⟨h1, h2⟩ := h
    simp only [runSteps, List.foldl] at ih ⊢
    rw [ih (applyV user c s) h2]
    simp only [closedForm, List.find?]
    by_cases hk : target s = k
    · -- no later step has this target
      have hnone : rest.find? (fun s' => target s' = k) = none := by
        apply List.find?_eq_none.mpr
        intro s' hs' heq
        simp only [decide_eq_true_eq] at heq
        exact h1 s' hs' (by rw [hk, ← heq]; exact target_mem_reads s')
      simp only [hnone, hk, decide_true]
      rw [get_applyV]; simp [hk]
    · simp only [hk, decide_false]
      cases hf : rest.find? (fun s' => target s' = k) with
      | none => simp only []; rw [get_applyV]; simp [Ne.symm hk]
      | some s' =>
        have hs' : s' ∈ rest := List.mem_of_find?_eq_some hf
        have hcongr : newVal user (applyV user c s) s' = newVal user c s' := by
          apply newVal_congr
          intro r hr
          rw [get_applyV]
          have : r ≠ target s := fun e => h1 s' hs' (e ▸ hr)
          simp [this]
        simp only []
        rw [hcongr, get_applyV]; simp [Ne.symm hk]

theorem closedForm_of_find {user : Str} {steps : List VStep} {c : Rec Str} {k : Str} {s : VStep}
    (h : steps.find? (fun s => target s = k) = some s) :
    closedForm user steps c k = (newVal user c s).getD (c.get k) := by
  simp only [closedForm, h]

/-- a step applied again, with an empty user, to a record whose target field already holds what the step
    computed (and whose qualifying field, if the step has one, is as loaded and empty) changes nothing -/
theorem newVal_stable (user : Str) (c d : Rec Str) (s : VStep)
    (hd : d.get (target s) = (newVal user c s).getD (c.get (target s)))
    (hq : ∀ f g, s = .qualify f g → d.get g = c.get g ∧ asStr (c.get g) = []) :
    (newVal [] d s).getD (d.get (target s)) = d.get (target s) := by
  cases s with
  | emptyOrStr f dflt =>
    simp only [target, newVal] at hd ⊢
    rw [hd]
    by_cases h : asStr (c.get f) = []
    · simp only [h, if_true, Option.getD_some]
      split <;> rfl
    · simp only [h, if_false, Option.getD_none]
  | emptyOrInt f dflt =>
    simp only [target, newVal] at hd ⊢
    rw [hd]
    by_cases h : asInt (c.get f) = 0
    · simp only [h, if_true, Option.getD_some]
      split <;> rfl
    · simp only [h, if_false, Option.getD_none]
  | userPrefix f =>
    simp only [target, newVal, Option.getD_some] at hd ⊢
    rw [hd]; simp [asStr, namePrefix]
  | qualify f g =>
    obtain ⟨hg1, hg2⟩ := hq f g rfl
    simp only [target, newVal, hg2, ne_eq, not_true_eq_false, if_false, Option.getD_some] at hd
    simp only [target, newVal, hg1, hg2, ne_eq, not_true_eq_false, if_false, Option.getD_some]
    rw [hd]; simp [asStr, namePrefix]
  | userPrefixIfSet f =>
    simp only [target, newVal] at hd ⊢
    by_cases h : asStr (c.get f) = []
    · simp only [h, ne_eq, not_true_eq_false, if_false, Option.getD_none] at hd
      rw [hd]; simp [h]
    · simp only [h, ne_eq, not_false_eq_true, if_true, Option.getD_some] at hd
      have e : namePrefix ([] : Str) = [] := rfl
      have ite_getD : ∀ (p : Prop) [Decidable p] (v : Value), (if p then some v else none).getD v = v := by
        intro p _ v; split <;> rfl
      rw [hd]; simp only [asStr, e, List.nil_append]
      exact ite_getD _ _

/-- applying the steps once more (with an empty user) to a completed record is the identity, as long as no
    step qualifies its field by a non-empty one -/
theorem closedForm_idem (user : Str) (steps : List VStep) (c d : Rec Str) (k : Str)
    (hd : ∀ k, d.get k = closedForm user steps c k)
    (hq : ∀ s ∈ steps, ∀ f g, s = .qualify f g → (∀ s' ∈ steps, target s' ≠ g) ∧ asStr (c.get g) = []) :
    closedForm [] steps d k = d.get k := by
  unfold closedForm
  cases hf : steps.find? (fun s => target s = k) with
  | none => rfl
  | some s =>
    have hs : s ∈ steps := List.mem_of_find?_eq_some hf
    have ht : target s = k := by simpa using List.find?_some hf
    subst ht
    apply newVal_stable user c d s
    · rw [hd, closedForm, hf]
    · intro f g e
      obtain ⟨h1, h2⟩ := hq s hs f g e
      refine ⟨?_, h2⟩
      rw [hd, closedForm, List.find?_eq_none.mpr]
      intro s' hs'; simpa using h1 s' hs'

end TypedConf
end Frp
