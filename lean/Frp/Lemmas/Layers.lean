import Frp.Model.Layers
import Frp.Lemmas.Limit
/-! Stream layers: composition preserves the law (core only). -/
namespace Frp
namespace Layers

/-- the decoder of a lawful layer is insensitive to the chunking of what arrives -/
theorem Lawful.Dout_congr {L : Layer} (h : Lawful L) (xs ys : List C01Bytes)
    (e : xs.flatten = ys.flatten) : L.Dout xs = L.Dout ys :=
  (h.mono xs ys (e ▸ List.prefix_refl _)).eq_of_length_le (h.mono ys xs (e ▸ List.prefix_refl _)).length_le

theorem encRun_append (L : Layer) : ∀ (a b : List C01Bytes) (s : L.σ),
    L.encRun s (a ++ b) =
      ((L.encRun (L.encRun s a).1 b).1, (L.encRun s a).2 ++ (L.encRun (L.encRun s a).1 b).2) := by
  intro a
  induction a with
  | nil => intro b s; simp [Layer.encRun]
  | cons p ps ih =>
    intro b s
    simp only [List.cons_append, Layer.encRun, ih, List.append_assoc]

theorem comp_encRun (up lo : Layer) : ∀ (ps : List C01Bytes) (su : up.σ) (sl : lo.σ),
    (comp up lo).encRun (su, sl) ps =
      (((up.encRun su ps).1, (lo.encRun sl (up.encRun su ps).2).1), (lo.encRun sl (up.encRun su ps).2).2) := by
  intro ps
  induction ps with
  | nil => intro su sl; rfl
  | cons p rest ih =>
    intro su sl
    simp only [Layer.encRun]
    simp only [ih, encRun_append]

theorem comp_decChunks (up lo : Layer) : ∀ (cs : List C01Bytes) (dl : lo.δ) (du : up.δ),
    (comp up lo).decChunks (dl, du) cs =
      (((lo.decChunks dl cs).1, (up.decChunks du (lo.decChunks dl cs).2).1),
       (up.decChunks du (lo.decChunks dl cs).2).2) := by
  intro cs
  induction cs with
  | nil => intro dl du; rfl
  | cons c rest ih =>
    intro dl du
    simp only [Layer.decChunks]
    simp only [ih]

theorem comp_Eout (up lo : Layer) (ps : List C01Bytes) : (comp up lo).Eout ps = lo.Eout (up.Eout ps) :=
  congrArg Prod.snd (comp_encRun up lo ps up.e0 lo.e0)

theorem comp_Dchunks (up lo : Layer) (cs : List C01Bytes) :
    (comp up lo).Dchunks cs = up.Dchunks (lo.Dchunks cs) :=
  congrArg Prod.snd (comp_decChunks up lo cs lo.d0 up.d0)

theorem comp_Dout (up lo : Layer) (cs : List C01Bytes) :
    (comp up lo).Dout cs = up.Dout (lo.Dchunks cs) := by
  simp only [Layer.Dout, comp_Dchunks]

/-- stacking two lawful layers gives a lawful layer -/
theorem comp_lawful {up lo : Layer} (hu : Lawful up) (hl : Lawful lo) : Lawful (comp up lo) where
  mono xs ys h := by
    rw [comp_Dout, comp_Dout]
    exact hu.mono _ _ (hl.mono xs ys h)
  roundtrip ps := by
    rw [comp_Dout, comp_Eout]
    have h1 : (lo.Dchunks (lo.Eout (up.Eout ps))).flatten = (up.Eout ps).flatten := hl.roundtrip _
    rw [hu.Dout_congr _ _ h1]
    exact hu.roundtrip ps

/-! ### layers that only re-chunk -/

theorem rechunk_decChunks (f : C01Bytes → List C01Bytes) : ∀ (cs : List C01Bytes) (d : (rechunk f).δ),
    ((rechunk f).decChunks d cs).2 = cs := by
  intro cs
  induction cs with
  | nil => intro d; rfl
  | cons c rest ih =>
    intro d
    simp only [Layer.decChunks]
    rw [ih]

theorem rechunk_encRun (f : C01Bytes → List C01Bytes) (hf : ∀ p, (f p).flatten = p) :
    ∀ (ps : List C01Bytes) (s : (rechunk f).σ), ((rechunk f).encRun s ps).2.flatten = ps.flatten := by
  intro ps
  induction ps with
  | nil => intro s; rfl
  | cons p rest ih =>
    intro s
    simp only [Layer.encRun, List.flatten_append, List.flatten_cons]
    rw [ih]
    show (f p).flatten ++ _ = _
    rw [hf]

theorem rechunk_lawful (f : C01Bytes → List C01Bytes) (hf : ∀ p, (f p).flatten = p) : Lawful (rechunk f) where
  mono xs ys h := by
    simp only [Layer.Dout, Layer.Dchunks, rechunk_decChunks]; exact h
  roundtrip ps := by
    simp only [Layer.Dout, Layer.Dchunks, Layer.Eout, rechunk_decChunks]
    exact rechunk_encRun f hf ps _

/-! `idLayer` is `rechunk` with one chunk per write -/

theorem id_decChunks (cs : List C01Bytes) (d : idLayer.δ) : (idLayer.decChunks d cs).2 = cs :=
  rechunk_decChunks (fun p => [p]) cs d

theorem id_encRun : ∀ (ps : List C01Bytes) (s : idLayer.σ), (idLayer.encRun s ps).2 = ps := by
  intro ps
  induction ps with
  | nil => intro s; rfl
  | cons c rest ih =>
    intro s
    simp only [Layer.encRun]
    rw [ih]; rfl

theorem id_lawful : Lawful idLayer := rechunk_lawful (fun p => [p]) fun p => List.append_nil p

/-- a stack of lawful layers is lawful (induction on the stack) -/
theorem stack_lawful : ∀ (st : List Layer), (∀ l ∈ st, Lawful l) → Lawful (stackLayer st) := by
  intro st
  induction st with
  | nil => intro _; exact id_lawful
  | cons l rest ih =>
    intro h
    exact comp_lawful (ih fun x hx => h x (List.mem_cons_of_mem _ hx)) (h l List.mem_cons_self)

/-- what the reader sees is a prefix of what the writer wrote, for ANY chunking of ANY prefix of the
    encoded stream -/
theorem transparent_prefix {L : Layer} (h : Lawful L) (ps cs : List C01Bytes)
    (hw : cs.flatten <+: (L.Eout ps).flatten) : L.Dout cs <+: ps.flatten := by
  have := h.mono cs (L.Eout ps) hw
  rwa [h.roundtrip] at this

/-- what the reader sees is all of what the writer wrote once everything written has arrived -/
theorem transparent_complete {L : Layer} (h : Lawful L) (ps cs : List C01Bytes)
    (hw : cs.flatten = (L.Eout ps).flatten) : L.Dout cs = ps.flatten := by
  rw [h.Dout_congr cs (L.Eout ps) hw]; exact h.roundtrip ps

/-! ### concrete lawful layers -/

/-- the limiter (limit.Writer's chunk loop below, limit.Reader above) is a lawful layer -/
theorem limiter_lawful (burst : Nat) (hb : 0 < burst) : Lawful (limiterLayer burst) :=
  rechunk_lawful _ (Limit.chunks_flatten burst hb)

theorem headerMap_decChunks (hdr : C01Bytes) (f g : Nat → Nat) :
    ∀ (cs : List C01Bytes) (k : Nat),
    (((headerMap hdr f g).decChunks k cs).2).flatten = (cs.flatten.drop k).map g := by
  intro cs
  induction cs with
  | nil => intro k; simp [Layer.decChunks]
  | cons c rest ih =>
    intro k
    simp only [Layer.decChunks, List.flatten_cons]
    rw [ih]
    show (c.drop k).map g ++ (rest.flatten.drop (k - c.length)).map g = _
    rw [List.drop_append, List.map_append]

theorem headerMap_encRun_true (hdr : C01Bytes) (f g : Nat → Nat) : ∀ (ps : List C01Bytes),
    (((headerMap hdr f g).encRun (true : Bool) ps).2).flatten = ps.flatten.map f := by
  intro ps
  induction ps with
  | nil => rfl
  | cons p rest ih =>
    simp only [Layer.encRun, List.flatten_append, List.flatten_cons, List.map_append]
    show ([p.map f]).flatten ++ (((headerMap hdr f g).encRun (true : Bool) rest).2).flatten = _
    rw [ih]; simp

theorem headerMap_Eout (hdr : C01Bytes) (f g : Nat → Nat) (ps : List C01Bytes) :
    ((headerMap hdr f g).Eout ps).flatten = if ps = [] then [] else hdr ++ ps.flatten.map f := by
  cases ps with
  | nil => rfl
  | cons p rest =>
    simp only [Layer.Eout, Layer.encRun, List.flatten_append, List.flatten_cons, List.map_append]
    show ([hdr, p.map f]).flatten ++ (((headerMap hdr f g).encRun (true : Bool) rest).2).flatten = _
    rw [headerMap_encRun_true]; simp

/-- the cipher-shaped layer (header first, bytewise bijection, stateful decoder) is lawful -/
theorem headerMap_lawful (hdr : C01Bytes) (f g : Nat → Nat) (hfg : ∀ x, g (f x) = x) :
    Lawful (headerMap hdr f g) where
  mono xs ys h := by
    simp only [Layer.Dout, Layer.Dchunks]
    rw [headerMap_decChunks, headerMap_decChunks]
    obtain ⟨t, ht⟩ := h
    rw [← ht, List.drop_append, List.map_append]
    exact List.prefix_append _ _
  roundtrip ps := by
    simp only [Layer.Dout, Layer.Dchunks]
    rw [headerMap_decChunks, headerMap_Eout]
    split
    · rename_i h; subst h; simp
    · show ((hdr ++ ps.flatten.map f).drop hdr.length).map g = _
      rw [List.drop_left, List.map_map]
      have : (g ∘ f) = id := funext fun x => hfg x
      rw [this, List.map_id]

end Layers
end Frp
