import Frp.Model.WorkConns
import Frp.Props.C01
/-
  Lemmas for the work-connection part of C10 (Frp/Model/WorkConns.lean): close propagation through the
  udp stack (over C01's close-graph lemmas) and the lifecycle invariant.
-/
namespace Frp
namespace WorkConns
open Layers CloseGraph

/-! ### close propagation -/

/-- `UDPProxy.Run`'s stack, both settings of the switch (as `C01.server_close_switch`) -/
theorem udp_close_switch (fixed : Bool) (o : Opts) (k : Nat) (hk : 1 ≤ k) :
    closeCount (udpWorkConnGraph o fixed) k =
      some (if !fixed && o.limSrv then 0 else if (serverUdpStack o).isEmpty then k else 1) := by
  cases o with | mk e c ls lc =>
  cases ls
  · -- no limiter wrapper: the switch is not consulted (nor, ever, the client-side option)
    show closeCount (udpWorkConnGraph ⟨e, c, false, false⟩ true) k = _
    simp only [Bool.and_false, Bool.false_eq_true, if_false]
    cases e <;> cases c
    · exact C01.closeCount_bare _ (fun _ => rfl) k
    all_goals exact C01.closeCount_of_check _ 1 (by decide +kernel) k hk
  · show closeCount (udpWorkConnGraph ⟨e, c, true, false⟩ fixed) k = _
    cases fixed
    · cases e <;> cases c <;> exact C01.closeCount_of_check _ 0 (by decide +kernel) k hk
    · cases e <;> cases c <;> exact C01.closeCount_of_check _ 1 (by decide +kernel) k hk

theorem udp_close_fixed (o : Opts) (k : Nat) (hk : 1 ≤ k) :
    closeCount (udpWorkConnGraph o true) k = some (if (serverUdpStack o).isEmpty then k else 1) :=
  udp_close_switch true o k hk

theorem udp_close_var_nolimit (o : Opts) (k : Nat) (hl : o.limSrv = false) :
    closeCount (udpWorkConnGraph o false) k = closeCount (udpWorkConnGraph o true) k := by
  cases o with | mk e c ls lc =>
  dsimp only at hl
  subst hl
  rfl

theorem reached_switch (fixed : Bool) (kind : PKind) (o : Opts) (tops : Nat) (h : 1 ≤ tops) :
    reached kind o tops fixed = if !fixed && o.limSrv then 0 else if guarded kind o then 1 else tops := by
  cases kind with
  | http => simp only [reached, graphOf, guarded, C01.http_close_switch fixed o tops h, Option.getD_some, if_true]
  | udp =>
    simp only [reached, graphOf, guarded, udp_close_switch fixed o tops h, Option.getD_some]
    by_cases hE : (serverUdpStack o).isEmpty = true <;> simp [hE]

/-! ### lifecycle -/

structure WInv (s : WState) : Prop where
  /-- a connection the proxy let go of (exchange over, replaced, proxy closed) had its top closed -/
  released : ∀ c ∈ s.conns, c.cur = false → 1 ≤ c.tops
  /-- a current connection is `pxy.workConn` of a live udp proxy of the same session -/
  curOwned : ∀ c ∈ s.conns, c.cur = true → ∃ p ∈ s.pxys, p.name = c.pxy ∧ p.sid = c.sid ∧ p.kind = .udp

theorem winv_init : WInv {} := ⟨(by intro c hc; cases hc), (by intro c hc; cases hc)⟩

theorem find_some {s : WState} {name : Str} {p : Pxy} (h : s.find name = some p) : p ∈ s.pxys ∧ p.name = name := by
  unfold WState.find at h
  exact ⟨List.mem_of_find?_eq_some h, by simpa using List.find?_some h⟩

/-- a connection is handed out: closed already, or current with its owner among the proxies -/
theorem WInv.cons {s : WState} (h : WInv s) (c : WConn) (h1 : c.cur = false → 1 ≤ c.tops)
    (h2 : c.cur = true → ∃ p ∈ s.pxys, p.name = c.pxy ∧ p.sid = c.sid ∧ p.kind = .udp) :
    WInv { s with conns := c :: s.conns } where
  released d hd := (List.mem_cons.mp hd).elim (· ▸ h1) (h.released d)
  curOwned d hd := (List.mem_cons.mp hd).elim (· ▸ h2) (h.curOwned d)

/-- `j + 1` more `Close()` calls on the top of the selected connections, which the proxies let go of if `drop`; proxies
    may disappear as long as every connection that stays current keeps its owner -/
theorem WInv.closeSel {s : WState} (h : WInv s) (sel : WConn → Bool) (j : Nat) (drop : Bool) (pxys : List Pxy)
    (hp : ∀ c ∈ s.conns, c.cur = true → (sel c = true → drop = false) →
      ∀ p ∈ s.pxys, p.name = c.pxy → p.sid = c.sid → p ∈ pxys) :
    WInv { pxys := pxys
           conns := s.conns.map fun c => if sel c then { c with tops := c.tops + 1 + j, cur := c.cur && !drop } else c } := by
  refine ⟨fun c hc hcur => ?_, fun c hc hcur => ?_⟩ <;> obtain ⟨d, hd, rfl⟩ := List.mem_map.mp hc
  · split
    · show 1 ≤ d.tops + 1 + j
      omega
    · rename_i hs
      rw [if_neg hs] at hcur
      exact h.released d hd hcur
  · have hd' : d.cur = true ∧ (sel d = true → drop = false) := by
      split at hcur
      · exact ⟨(Bool.and_eq_true_iff.mp hcur).1, fun _ => by simpa using (Bool.and_eq_true_iff.mp hcur).2⟩
      · rename_i hs; exact ⟨hcur, fun h => absurd h hs⟩
    obtain ⟨p, hpm, a, b, e⟩ := h.curOwned d hd hd'.1
    refine ⟨p, hp d hd hd'.1 hd'.2 p hpm a b, ?_⟩
    split <;> exact ⟨a, b, e⟩

theorem winv_apply {s : WState} (h : WInv s) (op : Op) : WInv (s.apply op) := by
  cases op with
  | reg sid name kind o =>
    simp only [WState.apply]
    split
    · exact h
    · exact ⟨h.released, fun c hc hcur => (h.curOwned c hc hcur).imp fun p hp => ⟨List.mem_cons_of_mem _ hp.1, hp.2⟩⟩
  | exchange name k =>
    simp only [WState.apply]
    split
    · split
      · exact h.cons _ (fun _ => Nat.succ_pos k) nofun
      · exact h
    · exact h
  | udpTake name =>
    simp only [WState.apply]
    split
    · rename_i p hp
      split
      · rename_i hk
        have h' := h.closeSel (isCur name) 0 true s.pxys fun _ _ _ _ p hp _ _ => hp
        exact h'.cons _ nofun fun _ => ⟨p, (find_some hp).1, (find_some hp).2, rfl, hk⟩
      · exact h
    · exact h
  | udpIOErr name k =>
    simpa [WState.apply] using h.closeSel (isCur name) k false s.pxys fun _ _ _ _ p hp _ _ => hp
  | close sid name k =>
    simp only [WState.apply]
    split
    · split
      · have := h.closeSel (isCur name) k true (s.pxys.filter fun q => q.name ≠ name) fun c _ hcur hsel p hp a _ =>
          -- a connection that stays current is not the named proxy's, so its owner is not the one removed
          List.mem_filter.mpr ⟨hp, by simpa [isCur, hcur, a] using hsel⟩
        simpa using this
      · exact h
    · exact h
  | endsess sid k =>
    have := h.closeSel (fun c => c.cur && c.sid = sid) k true (s.pxys.filter fun q => q.sid ≠ sid)
      fun c _ hcur hsel p hp _ b => List.mem_filter.mpr ⟨hp, by simpa [hcur, b] using hsel⟩
    simpa [WState.apply] using this

end WorkConns
end Frp
