import Frp.Model.Frame
/-! The 8-byte length field (`be64` / `unbe64` invert each other) and `decodeFull` branch by branch. -/
namespace Frp
namespace Frame

/-- bytes are `Nat`s in the model; the theorems that need them below 256 say so through this -/
def IsBytes (s : Str) : Prop := ∀ b ∈ s, b < 256

instance (s : Str) : Decidable (IsBytes s) := by unfold IsBytes; exact inferInstance

theorem isBytes_cons {a : Nat} {s : Str} : IsBytes (a :: s) ↔ a < 256 ∧ IsBytes s := List.forall_mem_cons

theorem isBytes_append {a b : Str} (ha : IsBytes a) (hb : IsBytes b) : IsBytes (a ++ b) :=
  fun x hx => (List.mem_append.mp hx).elim (ha x) (hb x)

theorem be64_length (n : Nat) : (be64 n).length = 8 := rfl

theorem be64_isBytes (n : Nat) : IsBytes (be64 n) := by
  intro b hb
  simp only [be64, List.mem_cons, List.not_mem_nil, or_false] at hb
  omega

/-- `be64` byte by byte from the right: the last byte is `n % 256`, the bytes before it are those of
    `n / 256`.  In this form one byte is one step of the Horner evaluation `unbe64`. -/
theorem be64_eq (n : Nat) : be64 n =
    [ n / 256 / 256 / 256 / 256 / 256 / 256 / 256 % 256, n / 256 / 256 / 256 / 256 / 256 / 256 % 256,
      n / 256 / 256 / 256 / 256 / 256 % 256, n / 256 / 256 / 256 / 256 % 256, n / 256 / 256 / 256 % 256,
      n / 256 / 256 % 256, n / 256 % 256, n % 256 ] := by
  simp only [be64, Nat.div_div_eq_div_mul, Nat.reduceMul]

theorem shift_div (x : Nat) {b : Nat} (hb : b < 256) : (x * 256 + b) / 256 = x := by omega

theorem shift_mod (x : Nat) {b : Nat} (hb : b < 256) : (x * 256 + b) % 256 = b := by omega

theorem unbe64_be64 (n : Nat) (h : n < 18446744073709551616) : unbe64 (be64 n) = n := by
  have h7 : n / 256 / 256 / 256 / 256 / 256 / 256 / 256 % 256 = n / 256 / 256 / 256 / 256 / 256 / 256 / 256 :=
    Nat.mod_eq_of_lt (by omega)
  -- each Horner step `d / 256 * 256 + d % 256` gives `d` back
  simp only [be64_eq, unbe64, List.foldl, Nat.zero_mul, Nat.zero_add, h7, Nat.div_add_mod']

/-- any 8 bytes are the big-endian image of their value -/
theorem be64_unbe64 (hdr : Str) (hl : hdr.length = 8) (hb : IsBytes hdr) : be64 (unbe64 hdr) = hdr := by
  match hdr, hl with
  | [a, b, c, d, e, f, g, h], _ =>
    simp only [isBytes_cons] at hb
    obtain ⟨ha, hb, hc, hd, he, hf, hg, hh, -⟩ := hb
    -- dividing the Horner form by 256 drops its last byte, the remainder is that byte
    simp only [be64_eq, unbe64, List.foldl, Nat.zero_mul, Nat.zero_add, shift_div, shift_mod,
      hb, hc, hd, he, hf, hg, hh, Nat.mod_eq_of_lt ha]

theorem unbe64_lt (hdr : Str) (hl : hdr.length = 8) (hb : IsBytes hdr) : unbe64 hdr < 18446744073709551616 := by
  match hdr, hl with
  | [a, b, c, d, e, f, g, h], _ =>
    simp only [isBytes_cons] at hb
    simp only [unbe64, List.foldl]
    omega

theorem length_be64_append (n : Nat) (r : Str) : (be64 n ++ r).length = 8 + r.length := by
  rw [List.length_append, be64_length]

theorem toInt64_small (u : Nat) (h : u < 9223372036854775808) : toInt64 u = (u : Int) := by
  simp only [toInt64, h, if_true]

theorem toInt64_neg (u : Nat) (h : 9223372036854775808 ≤ u) (h2 : u < 18446744073709551616) : toInt64 u < 0 := by
  simp only [toInt64]
  split <;> omega

/-- the sign of the int64 is the top bit of the first header byte -/
theorem top_bit_unbe64 (b0 : Nat) (tl : Str) (hl : tl.length = 7) (hb : IsBytes (b0 :: tl)) :
    (128 ≤ b0 ↔ 9223372036854775808 ≤ unbe64 (b0 :: tl)) := by
  match tl, hl with
  | [b, c, d, e, f, g, h], _ =>
    simp only [isBytes_cons] at hb
    simp only [unbe64, List.foldl]
    omega

theorem encode_length (t : Nat) (body : Str) : (encode t body).length = 9 + body.length := by
  simp only [encode, List.length_cons, length_be64_append]; omega

/-! ### `decodeFull` branch by branch (with `decode_unknown_type` in Props/C17) -/

/-- the reader ends inside the 8 length bytes -/
theorem decodeFull_short (max : Nat) {known : Nat → Bool} {t : Nat} {r : Str} (hk : known t = true)
    (h8 : r.length < 8) :
    decodeFull max known (t :: r) = ⟨.err (if r.isEmpty then .eof else .unexpectedEOF), 1 + r.length, 0⟩ := by
  simp only [decodeFull, hk, h8, Bool.not_true, Bool.false_eq_true, if_false, if_true]

theorem exists_header {r : Str} (h : ¬ r.length < 8) : ∃ hdr r2, r = hdr ++ r2 ∧ hdr.length = 8 :=
  ⟨r.take 8, r.drop 8, (List.take_append_drop 8 r).symm, by rw [List.length_take]; omega⟩

/-- a registered type byte and a complete length field `hdr`: steps (4) and (5) of `readMsg` -/
theorem decodeFull_header (max : Nat) {known : Nat → Bool} {t : Nat} {hdr : Str} (r : Str) (hk : known t = true)
    (hl : hdr.length = 8) :
    decodeFull max known (t :: (hdr ++ r)) =
      let len := toInt64 (unbe64 hdr)
      if len > (max : Int) then ⟨.err .maxLen, 9, 0⟩
      else if len < 0 then ⟨.err .negLen, 9, 0⟩
      else if r.length < len.toNat then
        ⟨.err (if r.isEmpty then .eof else .unexpectedEOF), 9 + r.length, len.toNat⟩
      else ⟨.ok t (r.take len.toNat) (r.drop len.toNat), 9 + len.toNat, len.toNat⟩ := by
  have h8 : ¬ (hdr ++ r).length < 8 := by rw [List.length_append, hl]; omega
  simp only [decodeFull, hk, h8, Bool.not_true, Bool.false_eq_true, if_false, List.take_left' hl,
    List.drop_left' hl]

/-- … when the length field holds `n ≤ max`: the body is the next `n` bytes, if they are there -/
theorem decodeFull_fit {max : Nat} {known : Nat → Bool} {t n : Nat} (r : Str) (hk : known t = true)
    (hn : n ≤ max) (hmax : max < 9223372036854775808) :
    decodeFull max known (t :: (be64 n ++ r)) =
      if r.length < n then ⟨.err (if r.isEmpty then .eof else .unexpectedEOF), 9 + r.length, n⟩
      else ⟨.ok t (r.take n) (r.drop n), 9 + n, n⟩ := by
  have h1 : ¬ ((n : Int) > (max : Int)) := by omega
  have h2 : ¬ ((n : Int) < 0) := by omega
  simp only [decodeFull_header max r hk (be64_length n), unbe64_be64 n (by omega), toInt64_small n (by omega),
    h1, h2, if_false, Int.toNat_natCast]

end Frame
end Frp
