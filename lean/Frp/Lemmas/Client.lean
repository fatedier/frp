import Frp.Lemmas.ListFacts
import Frp.Model.Reconcile
/-
  Lemmas about the reload diff (Frp/Model/Reconcile.lean) used by Frp/Props/C19.lean.
-/
namespace Frp
namespace C19
open Wrapper Reconcile

/-- at most one wrapper per name (pm.proxies is a Go map) -/
def NamesNodup (ws : List W) : Prop := ws.Pairwise (fun a b => a.cfg.name ≠ b.cfg.name)

/-- invariant of the manager: one wrapper per name, none of them stopped, stamps are old -/
def Inv (m : Mgr) : Prop :=
  NamesNodup m.proxies ∧ ∀ w ∈ m.proxies, w.phase ≠ .closed ∧ w.id < m.nextId

theorem hasName_iff (ws : List W) (n : Nat) : hasName ws n = true ↔ ∃ w ∈ ws, w.cfg.name = n := by
  simp [hasName, List.any_eq_true]

theorem hasName_append (a b : List W) (n : Nat) : hasName (a ++ b) n = (hasName a n || hasName b n) := by
  simp [hasName, List.any_append]

/-! ### `start (mk c id)` -/

/-- `Start()` of a fresh wrapper: a health-gated one waits for its first successful probe, any other registers -/
theorem start_mk (c : Cfg) (id now : Nat) : start (mk c id) now =
    if c.health then (mk c id, []) else ({ mk c id with phase := .waitStart, lastSend := now }, [.newProxy]) := by
  cases h : c.health <;> simp [start, mk, step, wantsStart, h]

theorem start_mk_cfg (c : Cfg) (id now : Nat) : (start (mk c id) now).1.cfg = c := by
  rw [start_mk]
  split <;> rfl

theorem start_mk_id (c : Cfg) (id now : Nat) : (start (mk c id) now).1.id = id := by
  rw [start_mk]
  split <;> rfl

theorem start_mk_msgs (c : Cfg) (id now : Nat) :
    (start (mk c id) now).2 = if c.health then [] else [Msg.newProxy] := by
  rw [start_mk]
  split <;> rfl

theorem start_mk_phase (c : Cfg) (id now : Nat) : (start (mk c id) now).1.phase ≠ .closed := by
  rw [start_mk]
  split <;> nofun

theorem hasName_start (c : Cfg) (id now n : Nat) : hasName [(start (mk c id) now).1] n = (c.name == n) := by
  simp [hasName, start_mk_cfg]

/-! ### the add loop -/

theorem addLoop_sub (id now : Nat) (cs : List Cfg) : ∀ (ws : List W) (w : W), w ∈ ws → w ∈ (addLoop id now ws cs).1 := by
  induction cs with
  | nil => intro ws w h; simpa [addLoop] using h
  | cons c cs ih =>
    intro ws w h
    simp only [addLoop]
    split
    · exact ih ws w h
    · exact ih _ w (List.mem_append_left _ h)

theorem addLoop_hasName (id now : Nat) (cs : List Cfg) (n : Nat) : ∀ (ws : List W),
    hasName (addLoop id now ws cs).1 n = (hasName ws n || cs.any (fun c => c.name == n)) := by
  induction cs with
  | nil => intro ws; simp [addLoop]
  | cons c cs ih =>
    intro ws
    simp only [addLoop]
    split
    · rename_i h
      rw [ih ws]
      by_cases hn : c.name = n
      · subst hn; simp [h]
      · have h2 : (c.name == n) = false := by simpa using hn
        simp [h2]
    · rw [ih]
      rw [hasName_append, hasName_start]
      simp [Bool.or_assoc]

/-- every wrapper after the add loop is an old one or a freshly stamped one for a configured entry -/
theorem addLoop_mem (id now : Nat) (cs : List Cfg) : ∀ (ws : List W) (w : W),
    w ∈ (addLoop id now ws cs).1 →
      w ∈ ws ∨ (∃ c ∈ cs, w = (start (mk c id) now).1 ∧ hasName ws c.name = false) := by
  induction cs with
  | nil => intro ws w h; left; simpa [addLoop] using h
  | cons c cs ih =>
    intro ws w h
    simp only [addLoop] at h
    split at h
    · rcases ih ws w h with h1 | ⟨c', hc', he, hn⟩
      · exact Or.inl h1
      · exact Or.inr ⟨c', List.mem_cons_of_mem _ hc', he, hn⟩
    · rename_i hnot
      rcases ih _ w h with h1 | ⟨c', hc', he, hn⟩
      · rcases List.mem_append.mp h1 with h2 | h2
        · exact Or.inl h2
        · refine Or.inr ⟨c, List.mem_cons_self, ?_, by simpa using hnot⟩
          simpa using h2
      · refine Or.inr ⟨c', List.mem_cons_of_mem _ hc', he, ?_⟩
        rw [hasName_append] at hn
        simp only [Bool.or_eq_false_iff] at hn
        exact hn.1

theorem addLoop_nodup (id now : Nat) (cs : List Cfg) : ∀ (ws : List W),
    NamesNodup ws → NamesNodup (addLoop id now ws cs).1 := by
  induction cs with
  | nil => intro ws h; simpa [addLoop] using h
  | cons c cs ih =>
    intro ws h
    simp only [addLoop]
    split
    · exact ih ws h
    · refine ih _ (List.pairwise_append.mpr ⟨h, List.pairwise_singleton _ _, fun a ha b hb he => ‹¬ _› ?_⟩)
      rw [List.mem_singleton.mp hb, start_mk_cfg] at he
      exact (hasName_iff _ _).mpr ⟨a, ha, he⟩

/-- the add loop never emits CloseProxy -/
theorem addLoop_events_new (id now : Nat) (cs : List Cfg) : ∀ (ws : List W) (e : Nat × Msg),
    e ∈ (addLoop id now ws cs).2 → e.2 = .newProxy := by
  induction cs with
  | nil => intro ws e h; simp [addLoop] at h
  | cons c cs ih =>
    intro ws e h
    simp only [addLoop] at h
    split at h
    · exact ih ws e h
    · rcases List.mem_append.mp h with h1 | h1
      · rw [start_mk_msgs] at h1
        cases hh : c.health <;> simp [hh] at h1
        rw [h1]
      · exact ih _ e h1

/-- NewProxy messages sent when a wrapper for this entry is started: one unless health-gated -/
def startCount : Option Cfg → Nat
  | some c => if c.health then 0 else 1
  | none => 0

/-- how many NewProxy the add loop emits for a name: one iff the name is not running, the FIRST
    entry of that name exists and is not health-gated -/
theorem addLoop_count_new (id now : Nat) (cs : List Cfg) (n : Nat) : ∀ (ws : List W),
    (addLoop id now ws cs).2.count (n, Msg.newProxy) =
      if hasName ws n then 0 else startCount (cs.find? (fun c => c.name == n)) := by
  induction cs with
  | nil => intro ws; simp [addLoop, startCount]
  | cons c cs ih =>
    intro ws
    simp only [addLoop]
    split
    · rename_i h
      rw [ih ws]
      by_cases hn : c.name = n
      · subst hn; simp [h]
      · simp [List.find?_cons, hn]
    · rename_i h
      rw [List.count_append, ih, hasName_append, start_mk_msgs, hasName_start]
      by_cases hn : c.name = n
      · subst hn
        simp only [Bool.not_eq_true] at h
        cases hh : c.health <;> simp [h, hh, List.find?_cons, startCount]
      · have h2 : (c.name == n) = false := by simpa using hn
        have h3 : List.count (n, Msg.newProxy) (List.map (fun m => (c.name, m)) (if c.health = true then [] else [Msg.newProxy])) = 0 := by
          cases hh : c.health <;> simp [hn]
        rw [h3, h2]
        simp [List.find?_cons, h2]

/-- when every configured name is already running the add loop does nothing -/
theorem addLoop_noop (id now : Nat) (cs : List Cfg) (ws : List W)
    (h : ∀ c ∈ cs, hasName ws c.name = true) : addLoop id now ws cs = (ws, []) := by
  induction cs with
  | nil => simp [addLoop]
  | cons c cs ih =>
    simp only [addLoop]
    rw [if_pos (h c List.mem_cons_self)]
    exact ih (fun c' hc' => h c' (List.mem_cons_of_mem _ hc'))

/-! ### the delete loop -/

theorem stopEvents_eq (ws : List W) (h : ∀ w ∈ ws, w.phase ≠ .closed) :
    stopEvents ws = ws.map (fun w => (w.cfg.name, Msg.closeProxy)) := by
  induction ws with
  | nil => simp [stopEvents]
  | cons w ws ih =>
    have hw := h w List.mem_cons_self
    have := ih (fun w' hw' => h w' (List.mem_cons_of_mem _ hw'))
    simp only [stopEvents, List.flatMap_cons, List.map_cons] at this ⊢
    rw [this]
    simp [step, hw]

theorem count_close_map (ws : List W) (hnd : NamesNodup ws) (n : Nat) :
    (ws.map (fun w => (w.cfg.name, Msg.closeProxy))).count (n, Msg.closeProxy) =
      if hasName ws n then 1 else 0 := by
  induction ws with
  | nil => simp [hasName]
  | cons w ws ih =>
    unfold NamesNodup at hnd
    rw [List.pairwise_cons] at hnd
    have := ih hnd.2
    simp only [List.map_cons, List.count_cons, this]
    by_cases hn : w.cfg.name = n
    · subst hn
      have : hasName ws w.cfg.name = false := by
        cases hh : hasName ws w.cfg.name
        · rfl
        · rw [hasName_iff] at hh
          obtain ⟨w', hw', he⟩ := hh
          exact absurd he.symm (hnd.1 w' hw')
      simp [this, hasName]
      intro x hx he
      exact hnd.1 x hx he.symm
    · have h2 : ((w.cfg.name, Msg.closeProxy) == (n, Msg.closeProxy)) = false := by simp [hn]
      simp [h2, hasName, hn]

theorem lookupLast_mem {cfgs : List Cfg} {n : Nat} {c : Cfg} (h : lookupLast cfgs n = some c) :
    c ∈ cfgs ∧ c.name = n := by
  unfold lookupLast at h
  have h1 := List.mem_of_find?_eq_some h
  have h2 := List.find?_some h
  exact ⟨by simpa using h1, by simpa using h2⟩

theorem lookupLast_none {cfgs : List Cfg} {n : Nat} (h : lookupLast cfgs n = none) :
    ∀ c ∈ cfgs, c.name ≠ n := by
  unfold lookupLast at h
  rw [List.find?_eq_none] at h
  intro c hc
  have := h c (by simpa using hc)
  simpa using this

/-- a name has a first entry iff it has a last one -/
theorem find_none_iff (cfgs : List Cfg) (n : Nat) :
    cfgs.find? (fun c => c.name == n) = none ↔ lookupLast cfgs n = none := by
  simp [lookupLast, List.find?_eq_none]

/-- no name occurs twice with different contents (every entry is the last of its name) -/
def Consistent (cfgs : List Cfg) : Prop := ∀ c ∈ cfgs, lookupLast cfgs c.name = some c

instance (cfgs : List Cfg) : Decidable (Consistent cfgs) := by unfold Consistent; infer_instance

theorem consistent_first_eq_last {cfgs : List Cfg} (hc : Consistent cfgs) (n : Nat) :
    cfgs.find? (fun c => c.name == n) = lookupLast cfgs n := by
  cases hf : cfgs.find? (fun c => c.name == n) with
  | none => exact ((find_none_iff cfgs n).mp hf).symm
  | some c =>
    have hn : c.name = n := by simpa using List.find?_some hf
    rw [← hn]
    exact (hc c (List.mem_of_find?_eq_some hf)).symm

/-! ### the repaired add loop (`cfg = proxyCfgsMap[name]`) -/

theorem lookupLast_some_of_mem {cfgs : List Cfg} {c : Cfg} (h : c ∈ cfgs) :
    ∃ c', lookupLast cfgs c.name = some c' := by
  cases hl : lookupLast cfgs c.name with
  | some c' => exact ⟨c', rfl⟩
  | none => exact absurd rfl (lookupLast_none hl c h)

theorem sel_name (all : List Cfg) (c : Cfg) : (sel all c).name = c.name := by
  unfold sel
  split
  · rename_i c' h; exact (lookupLast_mem h).2
  · rfl

/-- for an entry of the slice, `sel` is the map lookup -/
theorem sel_spec {all : List Cfg} {c : Cfg} (h : c ∈ all) : lookupLast all c.name = some (sel all c) := by
  obtain ⟨c', hc'⟩ := lookupLast_some_of_mem h
  simp [sel, hc']

theorem sel_mem {all : List Cfg} {c : Cfg} (h : c ∈ all) : sel all c ∈ all :=
  (lookupLast_mem (sel_spec h)).1

/-- the repaired loop is the old loop run on the slice with every entry replaced by the last
    entry of its name -/
theorem addLoopNew_eq (id now : Nat) (all : List Cfg) (cs : List Cfg) : ∀ (ws : List W),
    addLoopNew id now all ws cs = addLoop id now ws (cs.map (sel all)) := by
  induction cs with
  | nil => intro ws; simp [addLoopNew, addLoop]
  | cons c cs ih =>
    intro ws
    simp only [addLoopNew, List.map_cons, addLoop, sel_name]
    split
    · exact ih ws
    · rw [ih]

theorem map_sel_any (all cs : List Cfg) (n : Nat) :
    (cs.map (sel all)).any (fun c => c.name == n) = cs.any (fun c => c.name == n) := by
  induction cs with
  | nil => rfl
  | cons c cs ih => simp [List.any_cons, sel_name, ih]

/-- the first entry of a name in the replaced slice is the map entry of that name -/
theorem map_sel_find (cfgs : List Cfg) (n : Nat) :
    (cfgs.map (sel cfgs)).find? (fun c => c.name == n) = lookupLast cfgs n := by
  rw [List.find?_map]
  have hf : ((fun c => c.name == n) ∘ sel cfgs) = (fun c : Cfg => c.name == n) := by
    funext c; simp [Function.comp, sel_name]
  rw [hf]
  cases h : cfgs.find? (fun c => c.name == n) with
  | none => exact ((find_none_iff cfgs n).mp h).symm
  | some c =>
    have hn : c.name = n := by simpa using List.find?_some h
    rw [Option.map_some, ← hn, sel_spec (List.mem_of_find?_eq_some h)]

end C19
end Frp
