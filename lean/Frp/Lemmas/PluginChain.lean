/-
  Splitting a list at its first element that fails a test (`takeWhile` / `dropWhile` / `find?`), and
  interleavings of lists; used by Props/C15 (core only).
-/
namespace Frp
namespace ListW

theorem takeWhile_eq_self {α : Type} (p : α → Bool) (l : List α) (h : ∀ x ∈ l, p x = true) :
    l.takeWhile p = l := by
  simpa using List.takeWhile_append_of_pos (l₂ := []) h

theorem dropWhile_eq_nil {α : Type} (p : α → Bool) (l : List α) :
    l.dropWhile p = [] ↔ ∀ x ∈ l, p x = true := by
  constructor
  · intro h
    have := List.any_dropWhile (p := p) (l := l)
    rw [h] at this
    simpa using this.symm
  · intro h
    simpa using List.dropWhile_append_of_pos (l₂ := []) h

theorem dropWhile_eq_cons {α : Type} {p : α → Bool} {l post : List α} {s : α}
    (h : l.dropWhile p = s :: post) : l = l.takeWhile p ++ s :: post ∧ p s = false := by
  have hs := List.head_dropWhile_not p (l := l) (by rw [h]; exact List.cons_ne_nil _ _)
  simp only [h, List.head_cons] at hs
  exact ⟨by rw [← h, List.takeWhile_append_dropWhile], hs⟩

/-- a decomposition "everything in `pre` satisfies `p`, `s` does not" is the takeWhile/dropWhile one -/
theorem split_unique {α : Type} (p : α → Bool) (l pre post : List α) (s : α)
    (hdec : l = pre ++ s :: post) (hpre : ∀ x ∈ pre, p x = true) (hs : p s = false) :
    l.takeWhile p = pre ∧ l.dropWhile p = s :: post := by
  have hs' : ¬ p s = true := by simp [hs]
  rw [hdec, List.takeWhile_append_of_pos hpre, List.dropWhile_append_of_pos hpre,
    List.takeWhile_cons_of_neg hs', List.dropWhile_cons_of_neg hs', List.append_nil]
  exact ⟨rfl, rfl⟩

theorem find_first {α : Type} (p : α → Bool) (pre post : List α) (s : α)
    (hpre : ∀ x ∈ pre, p x = true) (hs : p s = false) :
    (pre ++ s :: post).find? (fun x => !p x) = some s := by
  have hnone : pre.find? (fun x => !p x) = none := by
    rw [List.find?_eq_none]
    intro x hx
    simp [hpre x hx]
  rw [List.find?_append, hnone, Option.none_or, List.find?_cons_of_pos]
  simp [hs]

/-! ### interleavings of concurrently running goroutines (each goroutine = the list of its events) -/

/-- `Interleave gs out`: `out` is a complete run of the goroutines `gs`: at every step some goroutine
    that still has events emits its next one; the run ends when all are finished. -/
inductive Interleave {α : Type} : List (List α) → List α → Prop
  | done (gs : List (List α)) : (∀ g ∈ gs, g = []) → Interleave gs []
  | step (pre post : List (List α)) (x : α) (g out : List α) :
      Interleave (pre ++ g :: post) out → Interleave (pre ++ (x :: g) :: post) (x :: out)

/-- every complete run is a permutation of all the goroutines' events: nothing lost, nothing twice -/
theorem Interleave.perm {α : Type} {gs : List (List α)} {out : List α} (h : Interleave gs out) :
    out.Perm gs.flatten := by
  induction h with
  | done gs h0 =>
    have : gs.flatten = [] := List.flatten_eq_nil_iff.2 h0
    rw [this]
  | step pre post x g out _ ih =>
    simp only [List.flatten_append, List.flatten_cons, List.cons_append] at ih ⊢
    exact (List.Perm.cons x ih).trans List.perm_middle.symm

/-- every goroutine's own events appear in its own order -/
theorem Interleave.sublist {α : Type} {gs : List (List α)} {out : List α} (h : Interleave gs out) :
    ∀ g ∈ gs, g.Sublist out := by
  induction h with
  | done gs h0 => intro g hg; rw [h0 g hg]; exact List.Sublist.slnil
  | step pre post x g out _ ih =>
    intro g' hg'
    rcases List.mem_append.1 hg' with hp | hp
    · exact (ih g' (List.mem_append.2 (Or.inl hp))).cons x
    · rcases List.mem_cons.1 hp with hp | hp
      · subst hp
        exact (ih g (List.mem_append.2 (Or.inr (List.mem_cons_self ..)))).cons_cons x
      · exact (ih g' (List.mem_append.2 (Or.inr (List.mem_cons_of_mem _ hp)))).cons x

theorem Interleave.cons_nil {α : Type} {gs : List (List α)} {out : List α} (h : Interleave gs out) :
    Interleave ([] :: gs) out := by
  induction h with
  | done gs h0 =>
    exact .done _ (fun g hg => by
      rcases List.mem_cons.1 hg with h | h
      · exact h
      · exact h0 g h)
  | step pre post x g out _ ih => exact .step ([] :: pre) post x g out ih

/-- non-vacuity: the sequential schedule (one goroutine after the other) is a run -/
theorem Interleave.sequential {α : Type} (gs : List (List α)) : Interleave gs gs.flatten := by
  induction gs with
  | nil => exact .done [] (fun _ h => by cases h)
  | cons g gs ih =>
    induction g with
    | nil => simpa using ih.cons_nil
    | cons x g ihg => exact .step [] gs x g _ ihg

end ListW
end Frp
