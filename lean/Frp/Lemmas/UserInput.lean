import Frp.Model.UserInput
import Frp.Lemmas.ListFacts
/-
  Lemmas for Model/UserInput.lean: soundness of the index-site judgement, totality of hasPort / CanonicalHost
  under Go's indexing, the teardown runs.
-/
namespace Frp
namespace UserIn
open Str

/-! ## 1. the judgement implies Go's bounds check -/

section sound
variable {ρ : Env} {fs : List GFact}

theorem minLen_le (h : ∀ f ∈ fs, f.holds ρ) (x : String) : minLen fs x ≤ ρ.len x := by
  refine foldl_invariant (P := fun m => m ≤ ρ.len x) (Nat.zero_le _) (fun m f hf hm => ?_)
  cases f with
  | lenGe v n =>
    have hv : GFact.holds ρ (.lenGe v n) := h _ hf
    simp only [GFact.holds] at hv
    by_cases e : v = x
    · subst e
      simp only [if_true]
      exact Nat.max_le.mpr ⟨hm, hv⟩
    · simp only [e, if_false]; exact hm
  | _ => exact hm

theorem holds_of_contains (h : ∀ f ∈ fs, f.holds ρ) {f : GFact} (hc : fs.contains f = true) : f.holds ρ :=
  h _ (List.contains_iff_mem.mp hc)

theorem nonnegVar_sound (h : ∀ f ∈ fs, f.holds ρ) {i : String}
    (hb : nonnegVar fs i = true) : 0 ≤ ρ.int i := by
  unfold nonnegVar at hb
  rw [List.any_eq_true] at hb
  obtain ⟨f, hf, hp⟩ := hb
  cases f with
  | defPlus j k t =>
    simp only [Bool.and_eq_true, decide_eq_true_eq] at hp
    have := h _ hf
    simp only [GFact.holds] at this
    obtain ⟨e, _, he⟩ := this
    rw [← hp.1, he]
    exact Int.natCast_nonneg _
  | _ => simp at hp

theorem constLeVar_sound (h : ∀ f ∈ fs, f.holds ρ) {a : Nat} {i : String}
    (hb : constLeVar fs a i = true) : (a : Int) ≤ ρ.int i := by
  unfold constLeVar at hb
  rw [List.any_eq_true] at hb
  obtain ⟨f, hf, hp⟩ := hb
  cases f with
  | defPlus j k t =>
    cases t with
    | u32 => simp at hp
    | wide =>
      simp only [Bool.and_eq_true, decide_eq_true_eq] at hp
      have := h _ hf
      simp only [GFact.holds, NumT.wrap] at this
      obtain ⟨e, he, hi⟩ := this
      rw [← hp.1.1, hi]
      have : (k + e) % 18446744073709551616 = k + e := Nat.mod_eq_of_lt (by omega)
      rw [this]
      omega
  | _ => simp at hp

theorem leLen_sound (h : ∀ f ∈ fs, f.holds ρ) {x : String} {b : Bound}
    (hb : leLen fs x b = true) : ∃ n, b.eval ρ = some n ∧ 0 ≤ n ∧ n ≤ ρ.len x := by
  have hm := minLen_le h x
  cases b with
  | const n =>
    simp only [leLen, decide_eq_true_eq] at hb
    exact ⟨n, rfl, by omega, by omega⟩
  | lenOf p =>
    simp only [leLen, Bool.or_eq_true, decide_eq_true_eq] at hb
    refine ⟨ρ.len p, rfl, by omega, ?_⟩
    rcases hb with e | hc
    · subst e; omega
    · have := holds_of_contains h (hc)
      simp only [GFact.holds] at this
      omega
  | var i =>
    simp only [leLen, Bool.or_eq_true, Bool.and_eq_true] at hb
    rcases hb with hb | ⟨hb1, hb2⟩
    · have := holds_of_contains h (hb)
      simp only [GFact.holds] at this
      exact ⟨ρ.int i, rfl, by omega, by omega⟩
    · have h1 := holds_of_contains h (hb1)
      simp only [GFact.holds] at h1
      exact ⟨ρ.int i, rfl, nonnegVar_sound h hb2, h1⟩
  | varPlus i k =>
    simp only [leLen, Bool.and_eq_true, decide_eq_true_eq] at hb
    have := holds_of_contains h (hb.2)
    simp only [GFact.holds] at this
    exact ⟨ρ.int i + k, rfl, by omega, by omega⟩
  | lenMinus v k =>
    simp only [leLen, Bool.and_eq_true, decide_eq_true_eq] at hb
    obtain ⟨e, hk⟩ := hb
    subst e
    exact ⟨(ρ.len v : Int) - k, rfl, by omega, by omega⟩
  | other s => simp [leLen] at hb

theorem ltLen_sound (h : ∀ f ∈ fs, f.holds ρ) {x : String} {b : Bound}
    (hb : ltLen fs x b = true) : ∃ n, b.eval ρ = some n ∧ 0 ≤ n ∧ n < ρ.len x := by
  have hm := minLen_le h x
  cases b with
  | const n =>
    simp only [ltLen, decide_eq_true_eq] at hb
    exact ⟨n, rfl, by omega, by omega⟩
  | var i =>
    simp only [ltLen] at hb
    have := holds_of_contains h (hb)
    simp only [GFact.holds] at this
    exact ⟨ρ.int i, rfl, by omega, by omega⟩
  | lenMinus v k =>
    simp only [ltLen, Bool.and_eq_true, decide_eq_true_eq] at hb
    obtain ⟨⟨e, h1⟩, hk⟩ := hb
    subst e
    exact ⟨(ρ.len v : Int) - k, rfl, by omega, by omega⟩
  | _ => simp [ltLen] at hb

theorem leBound_sound (h : ∀ f ∈ fs, f.holds ρ) {x : String} {lo hi : Bound}
    (hb : leBound fs x lo hi = true) {a b : Int} (ha : lo.eval ρ = some a) (hbv : hi.eval ρ = some b) :
    0 ≤ a ∧ a ≤ b := by
  have hm := minLen_le h x
  match lo, hi with
  | .const c, .const d =>
    simp only [leBound, decide_eq_true_eq] at hb
    simp only [Bound.eval, Option.some.injEq] at ha hbv
    omega
  | .const c, .lenOf v =>
    simp only [leBound, Bool.and_eq_true, decide_eq_true_eq] at hb
    obtain ⟨rfl, hk⟩ := hb
    simp only [Bound.eval, Option.some.injEq] at ha hbv
    omega
  | .const c, .var i =>
    have := constLeVar_sound h hb
    simp only [Bound.eval, Option.some.injEq] at ha hbv
    omega
  | .const c, .lenMinus v k =>
    simp only [leBound, Bool.and_eq_true, decide_eq_true_eq] at hb
    obtain ⟨rfl, hk⟩ := hb
    simp only [Bound.eval, Option.some.injEq] at ha hbv
    omega
  | .const _, .varPlus .. | .const _, .other _ => simp [leBound] at hb
  | .lenOf _, _ | .var _, _ | .varPlus .., _ | .lenMinus .., _ | .other _, _ => simp [leBound] at hb

/-- THE soundness statement: a site the judgement accepts passes Go's run-time bounds check under every
    assignment of lengths and integers that satisfies the extracted guards -/
theorem Shape.ok_safe (h : ∀ f ∈ fs, f.holds ρ) {x : String} {s : Shape}
    (hs : s.ok fs x = true) : s.safe ρ x := by
  cases s with
  | index b => exact ltLen_sound h hs
  | slice lo hi =>
    cases lo with
    | none =>
      cases hi with
      | none => exact ⟨0, ρ.len x, rfl, rfl, by omega, by omega, by omega⟩
      | some hi =>
        obtain ⟨n, hn, h0, h1⟩ := leLen_sound h (b := hi) hs
        exact ⟨0, n, rfl, hn, by omega, h0, h1⟩
    | some lo =>
      cases hi with
      | none =>
        obtain ⟨n, hn, h0, h1⟩ := leLen_sound h (b := lo) hs
        exact ⟨n, ρ.len x, hn, rfl, h0, h1, by omega⟩
      | some hi =>
        simp only [Shape.ok, Bool.and_eq_true] at hs
        obtain ⟨n, hn, h0, h1⟩ := leLen_sound h hs.1
        cases hl : lo.eval ρ with
        | none =>
          -- leBound accepts only constants on the left, and a constant evaluates
          cases lo with
          | const c => simp [Bound.eval] at hl
          | _ => simp [leBound] at hs
        | some a =>
          have := leBound_sound h hs.2 hl hn
          exact ⟨a, n, hl, hn, this.1, this.2, h1⟩

end sound

theorem IdxSite.ok_safe {ρ : Env} {s : IdxSite} (hk : s.opKind = .seq) (hs : s.ok = true)
    (h : ∀ f ∈ s.facts, f.holds ρ) : s.shape.safe ρ s.operand := by
  unfold IdxSite.ok at hs
  rw [hk] at hs
  exact Shape.ok_safe h hs

/-! ## 2. hasPort / CanonicalHost never index out of range -/

theorem count_pos_ne_nil {c : Nat} {s : Str} (h : Host.count c s ≠ 0) : s ≠ [] := by
  intro e
  subst e
  simp [Host.count] at h

theorem hasPortG_eq_model (h : Str) : hasPortG h = .ok (Host.hasPort h) := by
  unfold hasPortG Host.hasPort
  simp only
  by_cases h0 : Host.count colon h = 0
  · simp [h0]
  · by_cases h1 : Host.count colon h = 1
    · simp [h1]
    · simp only [h0, h1, if_false]
      have hne := count_pos_ne_nil h0
      cases h with
      | nil => exact absurd rfl hne
      | cons c rest =>
        simp only [goIndex, List.getElem?_cons_zero, List.head?_cons]
        congr 1
        by_cases e : c = Host.lbr <;> simp [e]

theorem canonicalHostG_eq_model (host : Str) : canonicalHostG host = .ok (Host.canonicalHost host) := by
  unfold canonicalHostG Host.canonicalHost
  simp only [hasPortG_eq_model]
  cases Host.hasPort (toLower host) <;> rfl

/-- why a guard BEFORE `strings.TrimSuffix(host, ".")` says nothing about the string after it: a non-empty
    host can come out empty, and indexing that panics (the extractor drops every fact about a variable that
    is assigned) -/
theorem guard_does_not_survive_trim :
    ∃ h : Str, h ≠ [] ∧ goIndex (Host.trimDot h) 0 = .panic :=
  ⟨[dot], by decide, by decide⟩

/-! ## 3. teardown -/

theorem callStep_nonblocking {pinned : List String} {c : CloseCall} (h : c.mayWait pinned = false) (a : Nat) :
    ∃ a', callStep a c = some a' := by
  cases c with
  | shutdown dl =>
    cases dl with
    | true => exact ⟨a, rfl⟩
    | false => simp [CloseCall.mayWait] at h
  | wait w => simp [CloseCall.mayWait] at h
  | _ => exact ⟨_, rfl⟩

theorem closeRun_nonblocking {pinned : List String} {cs : List CloseCall}
    (h : ∀ c ∈ cs, c.mayWait pinned = false) (a : Nat) : ∃ a', closeRun cs a = some a' := by
  induction cs generalizing a with
  | nil => exact ⟨a, rfl⟩
  | cons c cs ih =>
    obtain ⟨a', ha⟩ := callStep_nonblocking (h c (List.mem_cons_self ..)) a
    simp only [closeRun, ha]
    exact ih (fun c hc => h c (List.mem_cons_of_mem _ hc)) a'

/-- with a Close that cannot wait, the worker's pc moves on at every turn of the worker until it is 4, and no user
    moves it -/
theorem pstep_pc {pinned : List String} {cs : List CloseCall} (h : ∀ c ∈ cs, c.mayWait pinned = false)
    (mux : Bool) (s : Tear) (l : PLabel) :
    (pstep mux cs s l).pc = if l = .worker ∧ s.pc < 4 then s.pc + 1 else s.pc := by
  obtain ⟨pc, active⟩ := s
  cases l with
  | userFinishes => rfl
  | worker =>
    match pc with
    | 0 | 2 | 3 | _ + 4 => rfl
    | 1 =>
      obtain ⟨a', ha⟩ := closeRun_nonblocking h active
      simp only [pstep, ha]
      rfl

theorem prun_pc {pinned : List String} {cs : List CloseCall} (h : ∀ c ∈ cs, c.mayWait pinned = false)
    (mux : Bool) (ls : List PLabel) (s : Tear) (hs : s.pc ≤ 4) :
    (prun mux cs s ls).pc = min 4 (s.pc + workerTicks ls) := by
  induction ls generalizing s with
  | nil => exact (Nat.min_eq_right hs).symm
  | cons l ls ih =>
    have hp := pstep_pc h mux s l
    show (prun mux cs (pstep mux cs s l) ls).pc = _
    rw [ih _ (by rw [hp]; split <;> omega), hp]
    cases l with
    | userFinishes => simp [workerTicks]
    | worker =>
      simp only [workerTicks, true_and, List.filter_cons, decide_true, if_true, List.length_cons]
      split <;> omega

/-- a Shutdown without deadline, work connections that outlive the session (tcpMux off), one request that
    does not end: the worker never gets past pm.Close() -/
theorem prun_wedged {cs : List CloseCall} (hc : ∀ a, 0 < a → closeRun cs a = none)
    (ls : List PLabel) (hu : ∀ l ∈ ls, l = .worker) (s : Tear) (hpc : s.pc ≤ 1) (ha : 0 < s.active) :
    (prun false cs s ls).pc ≤ 1 ∧ 0 < (prun false cs s ls).active := by
  refine foldl_invariant (P := fun s : Tear => s.pc ≤ 1 ∧ 0 < s.active) ⟨hpc, ha⟩ (fun s l hl h => ?_)
  rw [hu l hl]
  obtain ⟨pc, active⟩ := s
  obtain rfl | rfl : pc = 0 ∨ pc = 1 := by have : pc ≤ 1 := h.1; omega
  · exact ⟨Nat.le_refl _, h.2⟩
  · -- Close does not return: the worker stays where it is
    have : pstep false cs ⟨1, active⟩ .worker = ⟨1, active⟩ := by
      simp only [pstep, hc active h.2]
    rw [this]
    exact h

end UserIn
end Frp
