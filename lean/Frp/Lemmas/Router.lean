import Frp.Model.Router
import Frp.Lemmas.ListFacts
/-
  Lemmas for the router model (property theorems live in Frp/Props/C06.lean): the byte order on strings and
  prefixes, sorted buckets, `add` / `del` bucket by bucket, the invariant `Router.Inv`.
-/
namespace Frp
namespace Str

theorem lt_iff (a b : Str) : Str.lt a b = true ↔ a < b := by simp [Str.lt]

theorem lt_of_not_lt_of_ne {a b : Str} (h : ¬ a < b) (hne : a ≠ b) : b < a := by
  have hle : b ≤ a := List.not_lt.mp h
  rcases List.le_iff_lt_or_eq.mp hle with h | h
  · exact h
  · exact absurd h.symm hne

/-- a proper prefix is lexicographically smaller -/
theorem prefix_lt {a b : Str} (hp : a <+: b) (hne : a ≠ b) : a < b := by
  induction a generalizing b with
  | nil =>
    cases b with
    | nil => exact absurd rfl hne
    | cons y ys => exact List.nil_lt_cons y ys
  | cons x xs ih =>
    cases b with
    | nil => simp at hp
    | cons y ys =>
      rw [List.cons_prefix_cons] at hp
      obtain ⟨hxy, hp'⟩ := hp
      subst hxy
      rw [List.cons_lt_cons_iff]
      right
      exact ⟨rfl, ih hp' (fun h => hne (by rw [h]))⟩

/-- among two prefixes of one path the longer one is lexicographically greater -/
theorem prefix_len_lt {a b p : Str} (ha : a <+: p) (hb : b <+: p) (hl : a.length < b.length) :
    a < b := by
  have hab : a <+: b := List.prefix_of_prefix_length_le ha hb (Nat.le_of_lt hl)
  apply prefix_lt hab
  intro h; rw [h] at hl; exact Nat.lt_irrefl _ hl

theorem hasPrefix_iff (s p : Str) : hasPrefix s p = true ↔ p <+: s := by
  simp [hasPrefix]

end Str

namespace Router
open Str

/-- strictly descending by location (bytewise) -/
def Desc (l : List Route) : Prop := l.Pairwise (fun a b => b.location < a.location)

/-- invariant of every reachable route table -/
structure Inv (R : Routers) : Prop where
  desc  : ∀ d u, Desc (R d u)
  keyed : ∀ d u r, r ∈ R d u → r.domain = d ∧ r.user = u
  lower : ∀ d u r, r ∈ R d u → toLower d = d

theorem mem_insDesc {x r : Route} {l : List Route} : x ∈ insDesc r l ↔ x = r ∨ x ∈ l := by
  induction l with
  | nil => simp [insDesc]
  | cons y ys ih =>
    unfold insDesc
    split
    · exact List.mem_cons
    · rw [List.mem_cons, ih, List.mem_cons]; exact or_left_comm

theorem desc_insDesc {r : Route} {l : List Route} (hd : Desc l)
    (hne : ∀ x ∈ l, x.location ≠ r.location) : Desc (insDesc r l) := by
  induction l with
  | nil => simp [insDesc, Desc]
  | cons y ys ih =>
    unfold insDesc
    have hd' := List.pairwise_cons.mp hd
    split
    · rename_i hlt
      have hlt' : y.location < r.location := (lt_iff _ _).mp hlt
      refine List.pairwise_cons.mpr ⟨?_, hd⟩
      intro z hz
      rcases List.mem_cons.mp hz with h | h
      · subst h; exact hlt'
      · exact List.lt_trans (hd'.1 z h) hlt'
    · rename_i hlt
      have hnlt : ¬ y.location < r.location := fun h => hlt ((lt_iff _ _).mpr h)
      have hry : r.location < y.location :=
        lt_of_not_lt_of_ne hnlt (hne y (List.mem_cons_self))
      refine List.pairwise_cons.mpr ⟨?_, ih hd'.2 (fun x hx => hne x (List.mem_cons_of_mem _ hx))⟩
      intro z hz
      rcases mem_insDesc.mp hz with h | h
      · subst h; exact hry
      · exact hd'.1 z h

theorem sortDesc_cons (a : Route) (l : List Route) : sortDesc (a :: l) = insDesc a (sortDesc l) := rfl

theorem mem_sortDesc {x : Route} {l : List Route} : x ∈ sortDesc l ↔ x ∈ l := by
  induction l with
  | nil => simp [sortDesc]
  | cons a l ih => rw [sortDesc_cons, mem_insDesc, ih]; simp

theorem desc_sortDesc {l : List Route} (h : l.Pairwise (fun a b => a.location ≠ b.location)) :
    Desc (sortDesc l) := by
  induction l with
  | nil => simp [sortDesc, Desc]
  | cons a l ih =>
    rw [sortDesc_cons]
    have h' := List.pairwise_cons.mp h
    apply desc_insDesc (ih h'.2)
    intro x hx
    exact (h'.1 x (mem_sortDesc.mp hx)).symm

theorem desc_ne {l : List Route} (h : Desc l) : l.Pairwise (fun a b => a.location ≠ b.location) := by
  apply List.Pairwise.imp _ h
  intro a b hlt heq
  rw [heq] at hlt
  exact List.lt_irrefl _ hlt

/-- first prefix hit in a strictly descending list is the longest prefix hit: nothing before it is a
    hit, and a longer hit after it would be lexicographically greater -/
theorem find_longest {l : List Route} {p : Str} {r : Route} (hd : Desc l)
    (hf : l.find? (fun r => hasPrefix p r.location) = some r) :
    r ∈ l ∧ r.location <+: p ∧
      ∀ r' ∈ l, r'.location <+: p → r'.location.length ≤ r.location.length := by
  obtain ⟨hx, as, bs, rfl, has⟩ := List.find?_eq_some_iff_append.mp hf
  have hxp : r.location <+: p := (hasPrefix_iff _ _).mp hx
  refine ⟨List.mem_append_right _ List.mem_cons_self, hxp, fun r' hr' hp' => Nat.le_of_not_lt fun hl => ?_⟩
  rcases List.mem_append.mp hr' with h | h
  · exact absurd ((hasPrefix_iff _ _).mpr hp') (by simpa using has r' h)
  · rcases List.mem_cons.mp h with rfl | h
    · exact Nat.lt_irrefl _ hl
    · have hlt : r'.location < r.location := (List.pairwise_cons.mp (List.pairwise_append.mp hd).2.1).1 r' h
      exact List.lt_asymm hlt (prefix_len_lt hxp hp' hl)

theorem find_none {l : List Route} {p : Str}
    (hf : l.find? (fun r => hasPrefix p r.location) = none) :
    ∀ r' ∈ l, ¬ r'.location <+: p := by
  intro r' hr' hp
  have := List.find?_eq_none.mp hf r' hr'
  exact this ((hasPrefix_iff _ _).mpr hp)

theorem upd_same (R : Routers) (d u : Str) (v : List Route) : upd R d u v d u = v := by
  simp [upd, Routers.bucket]

theorem upd_other (R : Routers) (d u d' u' : Str) (v : List Route) (h : ¬ (d' = d ∧ u' = u)) :
    upd R d u v d' u' = R d' u' := by
  have hk : ((d', u') == (d, u)) = false := by
    simp only [beq_eq_false_iff_ne, ne_eq, Prod.mk.injEq]; exact h
  simp [upd, Routers.bucket, List.lookup_cons, hk]

/-! ### `add` and `del`, bucket by bucket -/

/-- `add` refuses a location that is taken and leaves the table alone, or files the new route in its
    bucket -/
theorem add_cases (R : Routers) (domain location user : Str) (payload : Nat) :
    ((∃ r ∈ R (toLower domain) user, r.location = location) ∧
      add R domain location user payload = (R, .conflict)) ∨
    ((∀ r ∈ R (toLower domain) user, r.location ≠ location) ∧
      add R domain location user payload =
        (upd R (toLower domain) user (sortDesc (R (toLower domain) user ++
          [{ domain := toLower domain, location := location, user := user, payload := payload }])), .ok)) := by
  unfold add
  simp only
  split
  · rename_i h; exact Or.inl ⟨by simpa using h, rfl⟩
  · rename_i h; exact Or.inr ⟨by simpa using h, rfl⟩

theorem add_refused_iff (R : Routers) (domain location user : Str) (payload : Nat) :
    (add R domain location user payload).2 = .conflict ↔
      ∃ r ∈ R (toLower domain) user, r.location = location := by
  rcases add_cases R domain location user payload with ⟨h, e⟩ | ⟨h, e⟩ <;> rw [e]
  · exact ⟨fun _ => h, fun _ => rfl⟩
  · exact ⟨fun c => (nomatch c), fun ⟨r, hr, hl⟩ => absurd hl (h r hr)⟩

theorem add_refused_fst (R : Routers) (domain location user : Str) (payload : Nat)
    (h : (add R domain location user payload).2 = .conflict) :
    (add R domain location user payload).1 = R := by
  rcases add_cases R domain location user payload with ⟨_, e⟩ | ⟨_, e⟩
  · rw [e]
  · rw [e] at h; cases h

theorem mem_add_ok (R : Routers) (domain location user : Str) (payload : Nat)
    (h : (add R domain location user payload).2 = .ok) (d u : Str) (x : Route) :
    x ∈ (add R domain location user payload).1 d u ↔
      x ∈ R d u ∨ (d = toLower domain ∧ u = user ∧
        x = { domain := toLower domain, location := location, user := user, payload := payload }) := by
  rcases add_cases R domain location user payload with ⟨_, e⟩ | ⟨_, e⟩
  · rw [e] at h; cases h
  · rw [e]
    by_cases e : d = toLower domain ∧ u = user
    · obtain ⟨rfl, rfl⟩ := e
      rw [upd_same, mem_sortDesc]; simp
    · rw [upd_other _ _ _ _ _ _ e]
      exact ⟨Or.inl, fun h => h.resolve_right (fun h' => e ⟨h'.1, h'.2.1⟩)⟩

/-- accepted or refused, `add` stores at most the one new route -/
theorem mem_add_sub (R : Routers) (domain location user : Str) (payload : Nat) {d u : Str} {x : Route}
    (hx : x ∈ (add R domain location user payload).1 d u) :
    x ∈ R d u ∨
      x = { domain := toLower domain, location := location, user := user, payload := payload } := by
  cases h : (add R domain location user payload).2 with
  | ok => exact ((mem_add_ok R _ _ _ _ h d u x).mp hx).imp_right fun e => e.2.2
  | conflict => rw [add_refused_fst R _ _ _ _ h] at hx; exact Or.inl hx

theorem mem_del (R : Routers) (domain location user : Str) (d u : Str) (x : Route) :
    x ∈ (del R domain location user) d u ↔
      x ∈ R d u ∧ ¬ (d = toLower domain ∧ u = user ∧ x.location = location) := by
  unfold del
  by_cases e : d = toLower domain ∧ u = user
  · obtain ⟨rfl, rfl⟩ := e
    rw [upd_same, List.mem_filter]; simp
  · rw [upd_other _ _ _ _ _ _ e]
    exact ⟨fun h => ⟨h, fun h' => e ⟨h'.1, h'.2.1⟩⟩, fun h => h.1⟩

/-! ### invariant preservation -/

theorem inv_empty : Inv empty :=
  ⟨fun _ _ => List.Pairwise.nil, fun _ _ _ h => by simp [empty, Routers.bucket] at h,
   fun _ _ _ h => by simp [empty, Routers.bucket] at h⟩

/-- what holds of the new bucket and held of every old one holds of every bucket after `upd` -/
theorem upd_forall {R : Routers} {d u : Str} {v : List Route} {P : Str → Str → List Route → Prop}
    (hv : P d u v) (h : ∀ d' u', P d' u' (R d' u')) : ∀ d' u', P d' u' (upd R d u v d' u') := by
  intro d' u'
  by_cases e : d' = d ∧ u' = u
  · obtain ⟨rfl, rfl⟩ := e; rw [upd_same]; exact hv
  · rw [upd_other _ _ _ _ _ _ e]; exact h d' u'

theorem inv_upd {R : Routers} {d u : Str} {v : List Route} (h : Inv R) (hd : Desc v)
    (hk : ∀ r ∈ v, r.domain = d ∧ r.user = u) (hl : ∀ r ∈ v, toLower d = d) :
    Inv (upd R d u v) :=
  ⟨upd_forall (P := fun _ _ l => Desc l) hd h.desc,
   upd_forall (P := fun d u l => ∀ r ∈ l, r.domain = d ∧ r.user = u) hk h.keyed,
   upd_forall (P := fun d _ l => ∀ r ∈ l, toLower d = d) hl h.lower⟩

theorem inv_add {R : Routers} (h : Inv R) (domain location user : Str) (payload : Nat) :
    Inv (add R domain location user payload).1 := by
  rcases add_cases R domain location user payload with ⟨_, e⟩ | ⟨hfree, e⟩ <;> rw [e]
  · exact h
  · apply inv_upd h
    · apply desc_sortDesc
      rw [List.pairwise_append]
      refine ⟨desc_ne (h.desc _ _), List.pairwise_singleton _ _, ?_⟩
      intro a ha b hb
      rw [List.mem_singleton.mp hb]
      exact hfree a ha
    · intro r hr
      rcases List.mem_append.mp (mem_sortDesc.mp hr) with hr | hr
      · exact h.keyed _ _ r hr
      · rw [List.mem_singleton.mp hr]; exact ⟨rfl, rfl⟩
    · intro _ _; exact toLower_idem domain

theorem inv_del {R : Routers} (h : Inv R) (domain location user : Str) :
    Inv (del R domain location user) := by
  unfold del
  simp only
  apply inv_upd h
  · exact List.Pairwise.filter _ (h.desc _ _)
  · intro r hr; exact h.keyed _ _ r (List.mem_filter.mp hr).1
  · intro _ _; exact toLower_idem domain

end Router
end Frp
