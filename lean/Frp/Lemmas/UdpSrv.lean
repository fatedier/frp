import Frp.Model.UdpSrv
import Frp.Lemmas.Udp
/-
  Invariants of the server-side udp proxy machine (Frp/Model/UdpSrv.lean).
  The property statements are in Frp/Props/C03.lean (section 6).
-/
namespace Frp
namespace UdpSrv
open Udp Base64

/-- packets built by `ForwardUserConn` from a logged user datagram: `Udp.Built s.sent s.bs m` -/
def UpOK (s : St) (m : Packet) : Prop :=
  ∃ a p, (a, p) ∈ s.sent ∧ isBytes p = true ∧ m = packetOf (rd s.bs p) none (some a)

/-- upstream drop reasons: overload, write on a lost work connection -/
def okUp : SDrop → Bool
  | .sendFull | .connDown => true
  | _ => false

theorem okUp_cases {d : SDrop} (h : okUp d = true) : d = .sendFull ∨ d = .connDown := by
  revert h
  cases d <;> decide

structure Inv (s : St) : Prop where
  /-- every datagram that arrived at the public socket is exactly one of: queued, written on some work
      connection, dropped (a sender holds a datagram only inside its atomic step) -/
  up : ∀ x : View, s.sentV.count x =
      (s.sendCh.map view).count x + (s.wire.map Prod.snd).count x + (s.dropUp.map Prod.snd).count x
  down : ∀ x : View, (s.inLog.map Prod.snd).count x =
      (s.readCh.map view).count x + (s.userLog.map uview).count x + (s.dropDown.map Prod.snd).count x
  sentEq : s.sentV = s.sent.map (fun e => (some e.1, some (rd s.bs e.2)))
  upOK : ∀ m ∈ s.sendCh, UpOK s m
  wireGen : ∀ e ∈ s.wire, 1 ≤ e.1 ∧ e.1 ≤ s.gen
  inGen : ∀ e ∈ s.inLog, 1 ≤ e.1 ∧ e.1 ≤ s.gen
  /-- between two work connections no reader exists -/
  atGet : s.loop = .get → s.readers = [] ∧ s.signal = []
  /-- while the loop watches, exactly the reader of the current connection exists -/
  atWatch : s.loop = .watch →
      1 ≤ s.gen ∧ ((s.readers = [s.gen] ∧ s.signal = []) ∨ (s.readers = [] ∧ s.signal = [s.gen]))
  atWoken : s.loop = .woken → 1 ≤ s.gen ∧ s.readers = [] ∧ s.signal = []
  /-- a sender that is alive is either cancelled or it is the sender of the current connection and the loop
      has not passed `cancel()` -/
  sendersOK : ∀ g ∈ s.senders, 1 ≤ g ∧ g ≤ s.gen ∧ (g ∈ s.cancelled ∨ (g = s.gen ∧ s.loop ≠ .get))
  sendersNodup : s.senders.Nodup
  cancelledOK : ∀ g ∈ s.cancelled, g ≤ s.gen ∧ (g = s.gen → s.loop = .get)
  deadOK : ∀ g ∈ s.dead, g ≤ s.gen
  /-- the current connection is closed locally while its reader still runs only by its own sender's failed write -/
  deadCur : s.gen ∈ s.dead → s.loop = .watch → s.readers = [s.gen] → s.gen ∉ s.senders
  dropReason : ∀ e ∈ s.dropUp, okUp e.1 = true

theorem inv_init (bs cap : Nat) : Inv (init bs cap) := by
  constructor <;> simp [init, UpOK]

theorem nodup_append_fresh {l : List Nat} {n : Nat} (h : l.Nodup) (hn : ∀ g ∈ l, g ≤ n) :
    (l ++ [n + 1]).Nodup := by
  unfold List.Nodup at h ⊢
  rw [List.pairwise_append]
  refine ⟨h, List.pairwise_singleton _ _, ?_⟩
  intro a ha b hb
  simp only [List.mem_cons, List.not_mem_nil, or_false] at hb
  subst hb
  have := hn a ha
  omega

/-- a reader inside its read loop is the reader of the current connection, and the loop is watching -/
theorem reader_cur {s : St} (h : Inv s) {g : Nat} (hg : g ∈ s.readers) :
    s.loop = .watch ∧ g = s.gen ∧ 1 ≤ s.gen ∧ s.readers = [s.gen] ∧ s.signal = [] := by
  cases hl : s.loop with
  | get => have := (h.atGet hl).1; rw [this] at hg; cases hg
  | woken => have := (h.atWoken hl).2.1; rw [this] at hg; cases hg
  | watch =>
    obtain ⟨h1, h2 | h2⟩ := h.atWatch hl
    · have hg' := hg
      rw [h2.1] at hg'
      simp only [List.mem_cons, List.not_mem_nil, or_false] at hg'
      exact ⟨rfl, hg', h1, h2.1, h2.2⟩
    · rw [h2.1] at hg; cases hg

macro "cnt " "at " h:ident : tactic =>
  `(tactic| simp only [List.map_append, List.count_append, List.map_cons, List.map_nil, List.count_cons,
      List.count_nil, List.map_map] at $h:ident ⊢)

/-! ### every label preserves the invariant -/

theorem inv_step {s : St} (h : Inv s) (l : Label) : Inv (step s l) := by
  cases l with
  | userSend a p =>
    simp only [step]
    unfold stepUserSend
    split
    · exact h
    · rename_i hb
      have hb : isBytes p = true := by simpa using hb
      simp only []
      split
      -- room in `sendCh`
      · refine { h with up := ?up, sentEq := sentEq_snoc h.sentEq hb,
                        upOK := forall_mem_snoc (fun m hm => Built.snoc (h.upOK m hm)) (Built.new hb) }
        case up =>
          intro x
          have := h.up x
          cnt at this
          omega
      -- `sendCh` full: dropped
      · refine { h with up := ?up, sentEq := sentEq_snoc h.sentEq hb,
                        upOK := fun m hm => Built.snoc (h.upOK m hm),
                        dropReason := forall_mem_snoc h.dropReason rfl }
        case up =>
          intro x
          have := h.up x
          cnt at this
          omega
  | loopGet ok =>
    simp only [step]
    unfold stepLoopGet
    split
    · rename_i hl
      obtain ⟨hr, hsig⟩ := h.atGet hl
      split
      -- a work connection is obtained: the old one is closed, a reader and a sender start on the new one
      · refine { h with
          wireGen := ?wireGen, inGen := ?inGen, atGet := ?atGet, atWatch := ?atWatch, atWoken := ?atWoken
          sendersOK := ?sendersOK, sendersNodup := ?sendersNodup, cancelledOK := ?cancelledOK, deadOK := ?deadOK
          deadCur := ?deadCur }
        case wireGen =>
          intro e he
          have := h.wireGen e he
          exact ⟨this.1, Nat.le_succ_of_le this.2⟩
        case inGen =>
          intro e he
          have := h.inGen e he
          exact ⟨this.1, Nat.le_succ_of_le this.2⟩
        case atGet => intro hc; cases hc
        case atWatch =>
          intro _
          refine ⟨Nat.succ_le_succ (Nat.zero_le _), Or.inl ⟨?_, hsig⟩⟩
          show s.readers ++ [s.gen + 1] = [s.gen + 1]
          rw [hr]; rfl
        case atWoken => intro hc; cases hc
        case sendersOK =>
          intro g hg
          simp only [List.mem_append, List.mem_cons, List.not_mem_nil, or_false] at hg
          rcases hg with hg | hg
          · obtain ⟨h1, h2, h3⟩ := h.sendersOK g hg
            refine ⟨h1, Nat.le_succ_of_le h2, Or.inl ?_⟩
            rcases h3 with h3 | h3
            · exact h3
            · exact absurd hl h3.2
          · subst hg
            exact ⟨Nat.succ_le_succ (Nat.zero_le _), Nat.le_refl _, Or.inr ⟨rfl, by intro hc; cases hc⟩⟩
        case sendersNodup =>
          exact nodup_append_fresh h.sendersNodup (fun g hg => (h.sendersOK g hg).2.1)
        case cancelledOK =>
          intro g hg
          have := (h.cancelledOK g hg).1
          refine ⟨Nat.le_succ_of_le this, ?_⟩
          intro he
          simp only at he
          omega
        case deadOK =>
          intro g hg
          simp only at hg
          split at hg
          · exact Nat.le_succ_of_le (h.deadOK g hg)
          · simp only [List.mem_cons] at hg
            rcases hg with hg | hg
            · subst hg; exact Nat.le_succ _
            · exact Nat.le_succ_of_le (h.deadOK g hg)
        case deadCur =>
          intro hd
          simp only at hd
          split at hd
          · have := h.deadOK _ hd; omega
          · simp only [List.mem_cons] at hd
            rcases hd with hd | hd
            · omega
            · have := h.deadOK _ hd; omega
      -- none obtained: sleep, take a pending signal, try again
      · refine { h with atGet := ?atGet, atWatch := ?atWatch, atWoken := ?atWoken }
        case atGet => intro _; exact ⟨hr, by show s.signal.drop 1 = []; rw [hsig]; rfl⟩
        case atWatch => intro hc; rw [hl] at hc; cases hc
        case atWoken => intro hc; rw [hl] at hc; cases hc
    · exact h
  | readerDie g =>
    simp only [step]
    unfold stepReaderDie
    split
    · rename_i hg
      obtain ⟨hl, hgg, h1, hr, hsig⟩ := reader_cur h hg
      subst hgg
      have hfil : s.readers.filter (fun x => decide (x ≠ s.gen)) = [] := by
        rw [hr]; simp
      refine { h with
        atGet := ?atGet, atWatch := ?atWatch, atWoken := ?atWoken, deadOK := ?deadOK, deadCur := ?deadCur }
      case atGet => intro hc; rw [hl] at hc; cases hc
      case atWatch =>
        intro _
        refine ⟨h1, Or.inr ⟨hfil, ?_⟩⟩
        show s.signal ++ [s.gen] = [s.gen]
        rw [hsig]; rfl
      case atWoken => intro hc; rw [hl] at hc; cases hc
      case deadOK =>
        intro g' hg'
        simp only [List.mem_cons] at hg'
        rcases hg' with hg' | hg'
        · subst hg'; exact Nat.le_refl _
        · exact h.deadOK g' hg'
      case deadCur =>
        intro _ _ hc
        rw [hfil] at hc
        cases hc
    · exact h
  | loopWake =>
    simp only [step]
    unfold stepLoopWake
    split
    · rename_i x rest hl hsig
      obtain ⟨h1, h2 | h2⟩ := h.atWatch hl
      · rw [h2.2] at hsig; cases hsig
      · have hrest : rest = [] := by
          rw [h2.2] at hsig
          simp only [List.cons.injEq] at hsig
          exact hsig.2.symm
        refine { h with
          atGet := ?atGet, atWatch := ?atWatch, atWoken := ?atWoken, sendersOK := ?sendersOK
          cancelledOK := ?cancelledOK, deadCur := ?deadCur }
        case atGet => intro hc; cases hc
        case atWatch => intro hc; cases hc
        case atWoken => intro _; exact ⟨h1, h2.1, hrest⟩
        case sendersOK =>
          intro g hg
          obtain ⟨a1, a2, a3⟩ := h.sendersOK g hg
          refine ⟨a1, a2, ?_⟩
          rcases a3 with a3 | a3
          · exact Or.inl a3
          · exact Or.inr ⟨a3.1, by intro hc; cases hc⟩
        case cancelledOK =>
          intro g hg
          obtain ⟨a1, a2⟩ := h.cancelledOK g hg
          refine ⟨a1, ?_⟩
          intro he
          have := a2 he
          rw [hl] at this
          cases this
        case deadCur => intro _ hc; cases hc
    · exact h
  | loopCancel =>
    simp only [step]
    unfold stepLoopCancel
    split
    · rename_i hl
      obtain ⟨h1, hr, hsig⟩ := h.atWoken hl
      refine { h with
        atGet := ?atGet, atWatch := ?atWatch, atWoken := ?atWoken, sendersOK := ?sendersOK
        cancelledOK := ?cancelledOK, deadCur := ?deadCur }
      case atGet => intro _; exact ⟨hr, hsig⟩
      case atWatch => intro hc; cases hc
      case atWoken => intro hc; cases hc
      case sendersOK =>
        intro g hg
        obtain ⟨a1, a2, a3⟩ := h.sendersOK g hg
        refine ⟨a1, a2, Or.inl ?_⟩
        rcases a3 with a3 | a3
        · exact List.mem_cons_of_mem _ a3
        · rw [a3.1]; exact List.mem_cons_self
      case cancelledOK =>
        intro g hg
        simp only [List.mem_cons] at hg
        rcases hg with hg | hg
        · subst hg; exact ⟨Nat.le_refl _, fun _ => rfl⟩
        · exact ⟨(h.cancelledOK g hg).1, fun _ => rfl⟩
      case deadCur => intro _ hc; cases hc
    · exact h
  | senderTake g ok =>
    simp only [step]
    unfold stepSenderTake
    split
    · exact h
    · rename_i m rest hq
      have hcnt : ∀ x : View, s.sentV.count x =
          (if view m == x then 1 else 0) + (rest.map view).count x
            + (s.wire.map Prod.snd).count x + (s.dropUp.map Prod.snd).count x := by
        intro x
        have := h.up x
        rw [hq] at this
        simp only [List.map_cons, List.count_cons] at this
        omega
      have hup : ∀ m' ∈ rest, UpOK s m' := fun m' hm' => h.upOK m' (by rw [hq]; exact List.mem_cons_of_mem _ hm')
      split
      · rename_i hg
        obtain ⟨g1, g2, g3⟩ := h.sendersOK g hg
        split
        -- written on connection `g`
        · refine { h with up := ?up, upOK := ?upOK, wireGen := ?wireGen }
          case up =>
            intro x
            have := hcnt x
            cnt at this
            omega
          case upOK => intro m' hm'; exact hup m' hm'
          case wireGen => exact forall_mem_snoc h.wireGen ⟨g1, g2⟩
        -- the write fails (always on a connection closed locally): the sender returns
        · refine { h with
            up := ?up, upOK := ?upOK, sendersOK := ?sendersOK, sendersNodup := ?sendersNodup, deadOK := ?deadOK
            deadCur := ?deadCur, dropReason := ?dropReason }
          case up =>
            intro x
            have := hcnt x
            cnt at this
            omega
          case upOK => intro m' hm'; exact hup m' hm'
          case sendersOK =>
            intro g' hg'
            exact h.sendersOK g' (List.mem_filter.1 hg').1
          case sendersNodup => exact List.Pairwise.filter _ h.sendersNodup
          case deadOK =>
            intro g' hg'
            simp only [List.mem_cons] at hg'
            rcases hg' with hg' | hg'
            · subst hg'; exact g2
            · exact h.deadOK g' hg'
          case deadCur =>
            intro hd hl hr hin
            have hin' := List.mem_filter.1 hin
            simp only [List.mem_cons] at hd
            rcases hd with hd | hd
            · have := hin'.2
              simp only [decide_eq_true_eq] at this
              exact this hd
            · exact h.deadCur hd hl hr hin'.1
          case dropReason => exact forall_mem_snoc h.dropReason rfl
      · exact h
  | senderExit g =>
    simp only [step]
    unfold stepSenderExit
    split
    · refine { h with sendersOK := ?sendersOK, sendersNodup := ?sendersNodup, deadCur := ?deadCur }
      case sendersOK =>
        intro g' hg'
        exact h.sendersOK g' (List.mem_filter.1 hg').1
      case sendersNodup => exact List.Pairwise.filter _ h.sendersNodup
      case deadCur =>
        intro hd hl hr hin
        exact h.deadCur hd hl hr (List.mem_filter.1 hin).1
    · exact h
  | connRecv g m =>
    simp only [step]
    unfold stepConnRecv
    split
    · rename_i hc
      obtain ⟨_, hgg, h1, _, _⟩ := reader_cur h hc.1
      refine { h with down := ?down, inGen := ?inGen }
      case down =>
        intro x
        have := h.down x
        cnt at this
        omega
      case inGen => exact forall_mem_snoc h.inGen ⟨hgg ▸ h1, hgg ▸ Nat.le_refl _⟩
    · exact h
  | connPing g => exact h
  | sback =>
    simp only [step]
    unfold stepSback
    split
    · exact h
    · rename_i m rest hq
      obtain ⟨hdel, hdrop⟩ := down_sback (hq ▸ h.down)
      simp only []
      split
      · rename_i buf a hc hr
        exact { h with down := hdel a buf hr hc }
      · exact { h with down := hdrop _ }
      · exact { h with down := hdrop _ }

theorem inv_run (s : St) (h : Inv s) (ls : List Label) : Inv (run s ls) :=
  foldl_invariant (P := Inv) h fun _ l _ hs => inv_step hs l

/-! ### where drops can come from -/

/-- one step adds an upstream drop entry only at one of two sites, each with its cause: the queue is full,
    or a sender's write failed (the transport refused it, or the connection was already closed locally) -/
theorem drop_causes (s : St) (l : Label) (d : SDrop) (x : View)
    (hgt : s.dropUp.count (d, x) < (step s l).dropUp.count (d, x)) :
    (d = .sendFull ∧ s.cap ≤ s.sendCh.length ∧ ∃ a p, l = .userSend a p) ∨
    (d = .connDown ∧ ∃ g ok, l = .senderTake g ok ∧ g ∈ s.senders ∧ (ok = false ∨ g ∈ s.dead)) := by
  have same : ∀ {P : Prop}, s.dropUp.count (d, x) < s.dropUp.count (d, x) → P :=
    fun h => absurd h (Nat.lt_irrefl _)
  cases l with
  | userSend a p =>
    simp only [step, stepUserSend] at hgt
    split at hgt
    · exact same hgt
    · split at hgt
      · exact same hgt
      · rename_i hfull
        simp only [Nat.not_lt] at hfull
        exact Or.inl ⟨reason_of_count_lt_snoc hgt, hfull, a, p, rfl⟩
  | senderTake g ok =>
    simp only [step, stepSenderTake] at hgt
    split at hgt
    · exact same hgt
    · split at hgt
      · rename_i hg
        split at hgt
        · exact same hgt
        · rename_i hc
          refine Or.inr ⟨reason_of_count_lt_snoc hgt, g, ok, rfl, hg, ?_⟩
          cases ok with
          | false => exact Or.inl rfl
          | true => exact Or.inr (Decidable.byContradiction fun hn => hc ⟨rfl, hn⟩)
      · exact same hgt
  | _ =>
    simp only [step, stepLoopGet, stepReaderDie, stepLoopWake, stepLoopCancel, stepSenderExit, stepConnRecv,
      stepSback] at hgt
    repeat' split at hgt
    all_goals exact same hgt

/-- a connection that is closed locally while its sender is alive is being replaced: it is an old connection,
    or the loop is between connections, or the current reader has already failed (and signals) -/
theorem dead_conn_is_being_replaced {s : St} (h : Inv s) {g : Nat} (hs : g ∈ s.senders) (hd : g ∈ s.dead) :
    g ≠ s.gen ∨ s.loop ≠ .watch ∨ s.readers = [] := by
  by_cases hg : g = s.gen
  · subst hg
    by_cases hl : s.loop = .watch
    · obtain ⟨_, h2 | h2⟩ := h.atWatch hl
      · exact absurd hs (h.deadCur hd hl h2.1)
      · exact Or.inr (Or.inr h2.1)
    · exact Or.inr (Or.inl hl)
  · exact Or.inl hg

/-! ### stale senders leave by themselves; then only the current sender consumes sendCh -/

theorem senderExit_eq {s : St} {g : Nat} (hg : g ∈ s.cancelled) :
    stepSenderExit s g = { s with senders := s.senders.filter (fun x => decide (x ≠ g)) } := by
  unfold stepSenderExit
  split
  · rfl
  · rename_i hc
    have hn : g ∉ s.senders := fun hm => hc ⟨hm, hg⟩
    have : s.senders.filter (fun x => decide (x ≠ g)) = s.senders := by
      rw [List.filter_eq_self]
      intro a ha
      simp only [ne_eq, decide_not, Bool.not_eq_eq_eq_not, Bool.not_true, decide_eq_false_iff_not]
      intro he; subst he; exact hn ha
    rw [this]

theorem run_exits (L : List Nat) (s : St) (hL : ∀ g ∈ L, g ∈ s.cancelled) :
    run s (L.map .senderExit) = { s with senders := s.senders.filter (fun g => decide (g ∉ L)) } := by
  induction L generalizing s with
  | nil =>
    have : s.senders.filter (fun g => decide (g ∉ ([] : List Nat))) = s.senders := by
      rw [List.filter_eq_self]; intro a _; simp
    simp only [List.map_nil, run, List.foldl_nil, this]
  | cons g L ih =>
    have hg : g ∈ s.cancelled := hL g List.mem_cons_self
    have h1 : run s ((g :: L).map .senderExit) = run (stepSenderExit s g) (L.map .senderExit) := rfl
    have hc : (stepSenderExit s g).cancelled = s.cancelled := by rw [senderExit_eq hg]
    rw [h1, ih (stepSenderExit s g) (fun g' hg' => by rw [hc]; exact hL g' (List.mem_cons_of_mem _ hg'))]
    rw [senderExit_eq hg]
    simp only [List.filter_filter]
    congr 1
    apply List.filter_congr
    intro a _
    simp only [List.mem_cons, not_or, ne_eq, decide_not, Bool.decide_and]
    exact Bool.and_comm _ _

theorem quiesce_eq (s : St) :
    quiesce s = { s with senders := s.senders.filter (fun g => decide (g ∉ s.cancelled)) } := by
  unfold quiesce exits
  rw [run_exits _ s (fun g hg => by simpa using (List.mem_filter.1 hg).2)]
  congr 1
  apply List.filter_congr
  intro a ha
  simp only [List.mem_filter, ha, true_and, decide_eq_true_eq]

/-- after the cancelled senders have left, whoever is still a sender is the sender of the current
    connection (and the loop is not between connections) -/
theorem quiescent_senders {s : St} (h : Inv s) {g : Nat} (hg : g ∈ (quiesce s).senders) :
    g = s.gen ∧ s.loop ≠ .get ∧ g ∈ s.senders := by
  rw [quiesce_eq] at hg
  obtain ⟨hm, hn⟩ := List.mem_filter.1 hg
  simp only [decide_eq_true_eq] at hn
  obtain ⟨_, _, h3 | h3⟩ := h.sendersOK g hm
  · exact absurd h3 hn
  · exact ⟨h3.1, h3.2, hm⟩

theorem nodup_all_eq {l : List Nat} {n : Nat} (hn : l.Nodup) (h : ∀ g ∈ l, g = n) : l.length ≤ 1 := by
  match l, hn, h with
  | [], _, _ => exact Nat.zero_le _
  | [_], _, _ => exact Nat.le_refl _
  | a :: b :: _, hn, h =>
    have ha := h a List.mem_cons_self
    have hb := h b (List.mem_cons_of_mem _ List.mem_cons_self)
    unfold List.Nodup at hn
    rw [List.pairwise_cons] at hn
    exact absurd (ha.trans hb.symm) (hn.1 b List.mem_cons_self)

theorem quiescent_one_sender {s : St} (h : Inv s) : (quiesce s).senders.length ≤ 1 := by
  apply nodup_all_eq (n := s.gen)
  · rw [quiesce_eq]; exact List.Pairwise.filter _ h.sendersNodup
  · intro g hg; exact (quiescent_senders h hg).1

/-- from a quiescent state, whichever sender takes the next datagram writes it on the current connection -/
theorem taken_on_current {s : St} (h : Inv s) (g : Nat) (ok : Bool) :
    (step (quiesce s) (.senderTake g ok)).wire = s.wire ∨
    ∃ v, (step (quiesce s) (.senderTake g ok)).wire = s.wire ++ [(s.gen, v)] := by
  have hw : (quiesce s).wire = s.wire := by rw [quiesce_eq]
  simp only [step, stepSenderTake]
  split
  · exact Or.inl hw
  · rename_i m rest _
    split
    · rename_i hg
      have := (quiescent_senders h hg).1
      subst this
      split
      · exact Or.inr ⟨view m, by simp only [hw]⟩
      · exact Or.inl hw
    · exact Or.inl hw

/-! ### light load -/

/-- the proxy has a healthy current work connection and nothing is queued -/
structure Healthy (s : St) : Prop where
  loop : s.loop = .watch
  readers : s.readers = [s.gen]
  signal : s.signal = []
  senders : s.senders = [s.gen]
  alive : s.gen ∉ s.dead
  deadLe : ∀ g ∈ s.dead, g ≤ s.gen
  idle : s.sendCh = []

/-- light load, connection up: the datagram is written on the current connection -/
theorem next_datagram_delivered (s : St) (a : Addr) (p : Str) (hb : isBytes p = true)
    (hs : s.gen ∈ s.senders) (hd : s.gen ∉ s.dead) (hq : s.sendCh = []) (hcap : 0 < s.cap) :
    let s' := run s [.userSend a p, .senderTake s.gen true]
    s'.wire = s.wire ++ [(s.gen, (some a, some (rd s.bs p)))] ∧ s'.dropUp = s.dropUp ∧ s'.sendCh = [] ∧
      s'.senders = s.senders ∧ s'.dead = s.dead ∧ s'.gen = s.gen := by
  have hv := view_packetOf' p (some a) hb s.bs
  simp only [run, List.foldl, step, stepUserSend, hb, hq, hcap, Bool.not_true, Bool.false_eq_true,
    if_false, if_true, List.length_nil, List.nil_append, stepSenderTake, hs, hd, not_false_eq_true,
    and_self, hv]

theorem replaceIdle_eq {s : St} (h : Healthy s) :
    run s (replaceIdle s.gen) =
      { s with loop := .watch, gen := s.gen + 1, readers := [s.gen + 1], signal := [], senders := [s.gen + 1],
               cancelled := s.gen :: s.cancelled,
               dead := if s.gen = 0 then s.gen :: s.dead else s.gen :: s.gen :: s.dead } := by
  have h1 : s.readers.filter (fun x => decide (x ≠ s.gen)) = [] := by rw [h.readers]; simp
  have h2 : s.senders.filter (fun x => decide (x ≠ s.gen)) = [] := by rw [h.senders]; simp
  have hr : s.gen ∈ s.readers := by rw [h.readers]; exact List.mem_cons_self
  have hs : s.gen ∈ s.senders := by rw [h.senders]; exact List.mem_cons_self
  simp only [run, replaceIdle, List.foldl, step, stepReaderDie, hr, if_true, h1, h.signal, List.nil_append,
    stepLoopWake, h.loop, stepLoopCancel, stepSenderExit, hs, List.mem_cons, true_or, and_self, h2,
    stepLoopGet]

/-- the logs and parameters that the replacement of an idle connection leaves alone -/
structure SameLogs (s s' : St) : Prop where
  wire : s'.wire = s.wire
  dropUp : s'.dropUp = s.dropUp
  cap : s'.cap = s.cap
  bs : s'.bs = s.bs

theorem SameLogs.trans {s s' s'' : St} (h : SameLogs s s') (h' : SameLogs s' s'') : SameLogs s s'' :=
  ⟨h'.wire.trans h.wire, h'.dropUp.trans h.dropUp, h'.cap.trans h.cap, h'.bs.trans h.bs⟩

theorem replaceIdle_healthy {s : St} (h : Healthy s) :
    Healthy (run s (replaceIdle s.gen)) ∧ (run s (replaceIdle s.gen)).gen = s.gen + 1 ∧
      SameLogs s (run s (replaceIdle s.gen)) := by
  have hdead : ∀ g ∈ (if s.gen = 0 then s.gen :: s.dead else s.gen :: s.gen :: s.dead), g ≤ s.gen := by
    intro g hg
    split at hg
    · simp only [List.mem_cons] at hg
      rcases hg with hg | hg
      · omega
      · exact h.deadLe _ hg
    · simp only [List.mem_cons] at hg
      rcases hg with hg | hg | hg
      · omega
      · omega
      · exact h.deadLe _ hg
  rw [replaceIdle_eq h]
  refine ⟨⟨rfl, rfl, rfl, rfl, ?_, ?_, h.idle⟩, rfl, ⟨rfl, rfl, rfl, rfl⟩⟩
  · intro hd
    have := hdead _ hd
    exact absurd this (Nat.not_succ_le_self _)
  · intro g hg
    exact Nat.le_succ_of_le (hdead g hg)

theorem replaceIdleN_healthy (k : Nat) {s : St} (h : Healthy s) :
    Healthy (replaceIdleN k s) ∧ (replaceIdleN k s).gen = s.gen + k ∧ SameLogs s (replaceIdleN k s) := by
  induction k generalizing s with
  | zero => exact ⟨h, rfl, ⟨rfl, rfl, rfl, rfl⟩⟩
  | succ k ih =>
    obtain ⟨h1, h2, h3⟩ := replaceIdle_healthy h
    obtain ⟨i1, i2, i3⟩ := ih h1
    refine ⟨i1, ?_, h3.trans i3⟩
    show (replaceIdleN k _).gen = _
    rw [i2, h2]
    omega

/-- **after any number of replacements of the work connection while idle, the next datagram arrives**: it is
    written on the then-current connection `gen + k`, nothing is dropped -/
theorem delivered_after_replacements (k : Nat) {s : St} (h : Healthy s) (a : Addr) (p : Str)
    (hb : isBytes p = true) (hcap : 0 < s.cap) :
    let s' := run (replaceIdleN k s) [.userSend a p, .senderTake (s.gen + k) true]
    s'.wire = s.wire ++ [(s.gen + k, (some a, some (rd s.bs p)))] ∧ s'.dropUp = s.dropUp := by
  obtain ⟨i1, i2, i3⟩ := replaceIdleN_healthy k h
  have hs : (replaceIdleN k s).gen ∈ (replaceIdleN k s).senders := by
    rw [i1.senders]; exact List.mem_cons_self
  have := next_datagram_delivered (replaceIdleN k s) a p hb hs i1.alive i1.idle (by rw [i3.cap]; exact hcap)
  simp only [i2, i3.wire, i3.dropUp, i3.bs] at this
  exact ⟨this.1, this.2.1⟩

end UdpSrv
end Frp
