import Frp.Model.Health
/-
  Helper definitions and lemmas for the health part of C19: the declarative specification of
  "withdrawn after exactly maxFailed consecutive failed probes" and its basic algebra.
-/
namespace Frp
namespace C19
open Health

/-- number of failed probes at the END of a history (`true` = probe succeeded) -/
def trailingFails (hist : List Bool) : Nat := (hist.reverse.takeWhile (fun o => !o)).length

/-- the verdict the property prescribes after a history: some probe succeeded, and fewer than
    `m` probes failed since the last success -/
def statusSpec (m : Nat) (hist : List Bool) : Bool := hist.any id && decide (trailingFails hist < m)

/-- the callback the property prescribes for a probe with outcome `o` after the history `pre` -/
def cbSpec (m : Nat) (pre : List Bool) (o : Bool) : Option Cb :=
  if o then (if statusSpec m pre then none else some .normal)
  else if pre.any id && decide (trailingFails pre + 1 = m) then some .failed else none

def specFrom (m : Nat) (pre : List Bool) : List Bool → List (Option Cb)
  | [] => []
  | o :: os => cbSpec m pre o :: specFrom m (pre ++ [o]) os

/-- the callbacks prescribed for a whole history, probe by probe -/
def specCbs (m : Nat) (hist : List Bool) : List (Option Cb) := specFrom m [] hist

theorem trailingFails_snoc (pre : List Bool) (o : Bool) :
    trailingFails (pre ++ [o]) = if o then 0 else trailingFails pre + 1 := by
  unfold trailingFails
  rw [List.reverse_append]
  cases o <;> simp

theorem trailingFails_nil : trailingFails [] = 0 := rfl

theorem any_snoc (pre : List Bool) (o : Bool) : (pre ++ [o]).any id = (pre.any id || o) := by
  simp [List.any_append]

/-- the state the specification assigns to a history -/
def specState (m : Nat) (hist : List Bool) : HState :=
  { failedTimes := trailingFails hist, statusOK := statusSpec m hist }

/-- one step of the REPAIRED machine from the specified state lands in the specified state and
    fires the specified callback -/
theorem fixed_step_spec {m : Nat} (hm : 1 ≤ m) (pre : List Bool) (o : Bool) :
    HealthFixed.step m (specState m pre) o = (specState m (pre ++ [o]), cbSpec m pre o) := by
  unfold HealthFixed.step specState cbSpec statusSpec
  rw [trailingFails_snoc, any_snoc]
  generalize trailingFails pre = t
  cases o <;> cases pre.any id <;> simp
  · -- a failure after some success: the `m`-th in a row withdraws
    split <;> simp <;> omega
  · omega
  · -- a success after some success: up again iff it was down
    split <;> simp <;> omega

theorem fixed_fold_spec {m : Nat} (hm : 1 ≤ m) (os : List Bool) (pre : List Bool) :
    HealthFixed.fold m (specState m pre) os = (specState m (pre ++ os), specFrom m pre os) := by
  induction os generalizing pre with
  | nil => simp [HealthFixed.fold, specFrom]
  | cons o os ih =>
    simp only [HealthFixed.fold, specFrom]
    rw [fixed_step_spec hm]
    simp only []
    rw [ih (pre ++ [o])]
    simp [List.append_assoc]

end C19
end Frp
