import Frp.Model.GroupRelease
import Frp.Lemmas.VhostReg
/-
  Lemmas for property C10 on http load-balancing groups (Frp/Props/C10Group.lean):
  where the members of the groups come from across `Run` / `Close` (the group's key stays what its
  founder presented), and the invariant tying the session layer (Frp/Model/GroupRelease.lean) to the
  registration layer's invariant `VhostReg.InvL`.
-/
namespace Frp
namespace GroupRel
open Str Router VhostReg

/-! ### where the members of the groups come from -/

/-- every member of a group after a step was a member of the same group, under the same key, before, or
    is new: then `New` holds of it and of the key of its group.  `Nobody`: a step that only lets members
    go; `Joiner nm id gkey`: the one proxy that may have joined, and then the group's key is the one it
    presented. -/
def Origin (New : Str × Nat → Str → Prop) (T T' : Tab) : Prop :=
  ∀ n g' m, T'.G.get n = some g' → m ∈ g'.members →
    (∃ g, T.G.get n = some g ∧ m ∈ g.members ∧ g.key = g'.key) ∨ New m g'.key

def Nobody : Str × Nat → Str → Prop := fun _ _ => False

def Joiner (nm : Str) (id : Nat) (gkey : Str) : Str × Nat → Str → Prop := fun m k => m = (nm, id) ∧ k = gkey

theorem origin_of_G {New : Str × Nat → Str → Prop} {T T' : Tab} (h : T'.G = T.G) : Origin New T T' := by
  intro n g' m hg hm; rw [h] at hg; exact Or.inl ⟨g', hg, hm, rfl⟩

theorem origin_trans {New : Str × Nat → Str → Prop} {A B C : Tab} (h1 : Origin New A B)
    (h2 : Origin New B C) : Origin New A C := by
  intro n g' m hg hm
  rcases h2 n g' m hg hm with ⟨g1, hg1, hm1, e1⟩ | hnew
  · rcases h1 n g1 m hg1 hm1 with ⟨g0, hg0, hm0, e0⟩ | hnew
    · exact Or.inl ⟨g0, hg0, hm0, e0.trans e1⟩
    · exact Or.inr (e1 ▸ hnew)
  · exact Or.inr hnew

/-- after the entry of one name has been replaced by `v`, a statement about all members of all groups
    has to be shown for `v`'s members only -/
theorem members_set {T T' : Tab} {pg : Str} {v : Option Group} (hG : T'.G = T.G.set pg v)
    {P : Str → Group → Str × Nat → Prop} (hv : ∀ g' m, v = some g' → m ∈ g'.members → P pg g' m)
    (hP : ∀ n g' m, T.G.get n = some g' → m ∈ g'.members → P n g' m) :
    ∀ n g' m, T'.G.get n = some g' → m ∈ g'.members → P n g' m := by
  intro n g' m hg hm
  rw [hG] at hg
  rcases get_set_eq_some.mp hg with ⟨rfl, e⟩ | ⟨_, hg⟩
  · exact hv g' m e hm
  · exact hP n g' m hg hm

theorem ensure_origin {New : Str × Nat → Str → Prop} (T : Tab) (group : Str) :
    Origin New T (ensureGroup T group) := by
  unfold ensureGroup
  split
  · exact origin_of_G rfl
  · exact members_set rfl (fun g' m e hm => by cases e; cases hm) (origin_of_G rfl)

/-- a group object with members was there before `ensureGroup` -/
theorem ensure_get_members {T : Tab} {group n : Str} {g : Group}
    (hg : (ensureGroup T group).G.get n = some g) (hne : g.members ≠ []) : T.G.get n = some g := by
  unfold ensureGroup at hg
  split at hg
  · exact hg
  · rcases get_set_eq_some.mp hg with ⟨_, e⟩ | ⟨_, hg⟩
    · cases e; exact absurd rfl hne
    · exact hg

theorem groupJoin_origin {T T' : Tab} {g : Group} {name group key d l u : Str} {id : Nat}
    {r : Option Err} (hget : T.G.get group = some g)
    (h : groupJoin T g name id group key d l u = (T', r)) : Origin (Joiner name id key) T T' := by
  rcases groupJoin_cases h with ⟨_, rfl⟩ | ⟨_, _, R', _, rfl⟩ | ⟨_, _, _, hkey, _, rfl⟩
  · exact origin_of_G rfl
  · refine members_set rfl (fun g' m e hm => ?_) (origin_of_G rfl)
    cases e
    exact Or.inr ⟨List.mem_singleton.mp hm, rfl⟩
  · refine members_set rfl (fun g' m e hm => ?_) (origin_of_G rfl)
    cases e
    rcases List.mem_append.mp hm with hm' | hm'
    · exact Or.inl ⟨g, hget, hm', rfl⟩
    · exact Or.inr ⟨List.mem_singleton.mp hm', hkey⟩

theorem groupRegister_origin {T T' : Tab} {name group key d l u : Str} {id : Nat} {r : Option Err}
    (h : groupRegister T name id group key d l u = (T', r)) : Origin (Joiner name id key) T T' := by
  unfold groupRegister at h
  dsimp only at h
  obtain ⟨g, hget⟩ := ensure_get T group
  rw [hget] at h
  dsimp only at h
  exact origin_trans (ensure_origin T group) (groupJoin_origin hget h)

theorem groupUnRegister_origin {New : Str × Nat → Str → Prop} (T : Tab) (name group : Str) :
    Origin New T (groupUnRegister T name group) := by
  unfold groupUnRegister
  split
  · exact origin_of_G rfl
  · rename_i g hget
    dsimp only
    split
    · exact members_set rfl (fun g' m e _ => nomatch e) (origin_of_G rfl)
    · refine members_set rfl (fun g' m e hm => ?_) (origin_of_G rfl)
      cases e
      exact Or.inl ⟨g, hget, (List.mem_filter.mp hm).1, rfl⟩

theorem regOne_origin {T T' : Tab} {p : Holder} {gkey d l : Str} {r : Option Err}
    (h : regOne T p gkey d l = (T', r)) : Origin (Joiner p.name p.id gkey) T T' := by
  unfold regOne at h
  split at h
  · exact groupRegister_origin h
  · -- accepted or refused, `add` leaves the group table alone
    split at h <;> cases h <;> exact origin_of_G rfl

theorem unregOne_origin {New : Str × Nat → Str → Prop} (T : Tab) (p : Holder) (d l : Str) :
    Origin New T (unregOne T p d l) := by
  unfold unregOne
  split
  · exact groupUnRegister_origin T p.name p.group
  · exact origin_of_G rfl

theorem claim_origin {gkey : Str} (keys : List (Str × Str)) :
    ∀ (T : Tab) (p : Holder), Origin (Joiner p.name p.id gkey) T (claim T p gkey keys).1 := by
  induction keys with
  | nil => intro T p; exact origin_of_G rfl
  | cons k rest ih =>
    intro T p
    obtain ⟨d, l⟩ := k
    unfold claim
    cases hr : regOne T p gkey d l with
    | mk T' r =>
      have h1 := regOne_origin hr
      cases r with
      | none => exact origin_trans h1 (ih T' { p with keys := p.keys ++ [(d, l)] })
      | some e => exact h1

theorem releaseKeys_origin {New : Str × Nat → Str → Prop} (p : Holder) (ks : List (Str × Str)) :
    ∀ T : Tab, Origin New T (releaseKeys T p ks) := by
  induction ks with
  | nil => intro T; exact origin_of_G rfl
  | cons k rest ih =>
    intro T
    obtain ⟨d, l⟩ := k
    unfold releaseKeys
    exact origin_trans (unregOne_origin T p d l) (ih _)

theorem claim_name {gkey : Str} (keys : List (Str × Str)) :
    ∀ (T : Tab) (p : Holder), (claim T p gkey keys).2.1.name = p.name ∧ (claim T p gkey keys).2.1.id = p.id := by
  induction keys with
  | nil => intro T p; exact ⟨rfl, rfl⟩
  | cons k rest ih =>
    intro T p
    obtain ⟨d, l⟩ := k
    unfold claim
    cases hr : regOne T p gkey d l with
    | mk T' r =>
      cases r with
      | none => exact ih T' { p with keys := p.keys ++ [(d, l)] }
      | some e => exact ⟨rfl, rfl⟩

/-- `NewProxy` + `Run` (with its rollback) -/
theorem run_origin (sh : Str) (S : St) (id : Nat) (c : Cfg) :
    Origin (Joiner c.name id c.groupKey) S.tab (run sh S id c).1.tab := by
  unfold run
  split
  · exact origin_of_G rfl
  · have h1 := claim_origin (gkey := c.groupKey) (triples sh c) S.tab (holderOf id c [])
    split
    · rename_i T' p hc
      rw [hc] at h1; exact h1
    · rename_i T' p e hc
      rw [hc] at h1
      exact origin_trans h1 (releaseKeys_origin p p.keys T')

/-- `Close` -/
theorem close_origin (S : St) (id : Nat) : Origin Nobody S.tab (VhostReg.close S id).tab := by
  unfold VhostReg.close
  split
  · exact origin_of_G rfl
  · rename_i p _
    exact releaseKeys_origin p p.keys S.tab

/-! ### the invariant of the session layer -/

/-- the proxy instance of a live proxy: it holds every (domain, location) pair of its configuration -/
def holderOfRec (sh : Str) (r : Rec) : Holder := holderOf r.id r.cfg (triples sh r.cfg)

structure GInv (sh : Str) (s : GState) : Prop where
  inv   : InvL s.st.tab s.st.hs
  /-- every running instance is a live proxy's -/
  hrec  : ∀ h ∈ s.st.hs, ∃ r ∈ s.owner, h = holderOfRec sh r
  /-- every live proxy has its instance running -/
  rech  : ∀ r ∈ s.owner, holderOfRec sh r ∈ s.st.hs ∧ r.name = r.cfg.name ∧ r.id < s.next
  names : s.owner.Pairwise (fun a b => a.name ≠ b.name)
  /-- the key of a group is the key every member presented -/
  keyed : ∀ n g, s.st.tab.G.get n = some g → ∀ m ∈ g.members,
            ∃ r ∈ s.owner, r.id = m.2 ∧ r.cfg.groupKey = g.key

theorem ginv_init (sh : Str) : GInv sh GState.init := by
  refine ⟨invL_empty, ?_, ?_, List.Pairwise.nil, ?_⟩
  · intro h hh; cases hh
  · intro r hr; cases hr
  · intro n g hg; simp [GState.init, St.empty, Tab.empty, Groups.get] at hg

theorem rec_name_unique {sh : Str} {s : GState} (h : GInv sh s) {a b : Rec} (ha : a ∈ s.owner)
    (hb : b ∈ s.owner) (e : a.name = b.name) : a = b :=
  eq_of_pairwise_ne (f := (·.name)) h.names ha hb e

theorem rec_id_unique {sh : Str} {s : GState} (h : GInv sh s) {a b : Rec} (ha : a ∈ s.owner)
    (hb : b ∈ s.owner) (e : a.id = b.id) : a = b := by
  have h1 := (h.rech a ha)
  have h2 := (h.rech b hb)
  have : holderOfRec sh a = holderOfRec sh b := id_unique h.inv.ids h1.1 h2.1 e
  have hn : a.cfg.name = b.cfg.name := congrArg Holder.name this
  exact rec_name_unique h ha hb (by rw [h1.2.1, h2.2.1, hn])

/-- a statement about every running instance is one about the instance of every live proxy -/
theorem forall_hs {sh : Str} {s : GState} (h : GInv sh s) {P : Holder → Prop}
    (hp : ∀ r ∈ s.owner, P (holderOfRec sh r)) : ∀ x ∈ s.st.hs, P x := by
  intro x hx
  obtain ⟨r, hr, rfl⟩ := h.hrec x hx
  exact hp r hr

theorem hs_id_lt {sh : Str} {s : GState} (h : GInv sh s) : ∀ x ∈ s.st.hs, x.id < s.next :=
  forall_hs h fun r hr => (h.rech r hr).2.2

theorem next_fresh {sh : Str} {s : GState} (h : GInv sh s) :
    ¬ (s.st.hs.any (fun x => x.id = s.next)) = true := by
  intro hany
  simp only [List.any_eq_true, decide_eq_true_eq] at hany
  obtain ⟨x, hx, e⟩ := hany
  have := hs_id_lt h x hx
  omega

/-- `Control.RegisterProxy` keeps the invariant -/
theorem ginv_register {sh : Str} {s : GState} (h : GInv sh s) (sid : Nat) (c : Cfg) :
    GInv sh (s.register sh sid c).1 := by
  unfold GState.register
  split
  · exact h
  rename_i hlive
  have hI' := inv_run sh h.inv s.next c
  have hor := run_origin sh s.st s.next c
  have hok := run_ok_hs (sh := sh) h.inv s.next c
  have hno := run_refused_hs sh s.st s.next c
  cases hr : run sh s.st s.next c with
  | mk S' res =>
    rw [hr] at hI' hor hok hno
    cases res with
    | busy => exact h
    | ok =>
      have hhs : S'.hs = _ := hok rfl
      dsimp only at hI' hor ⊢
      refine ⟨hI', ?_, ?_, ?_, ?_⟩
      · intro x hx
        rw [hhs] at hx
        rcases List.mem_cons.mp hx with rfl | hx'
        · exact ⟨_, List.mem_cons_self, rfl⟩
        · obtain ⟨r, hr', e⟩ := h.hrec x hx'
          exact ⟨r, List.mem_cons_of_mem _ hr', e⟩
      · intro r hr'
        rw [hhs]
        rcases List.mem_cons.mp hr' with rfl | hr''
        · exact ⟨List.mem_cons_self, rfl, Nat.lt_succ_self _⟩
        · obtain ⟨a, b, d⟩ := h.rech r hr''
          exact ⟨List.mem_cons_of_mem _ a, b, Nat.lt_succ_of_lt d⟩
      · refine List.pairwise_cons.mpr ⟨fun r hr' e => hlive ?_, h.names⟩
        exact List.any_eq_true.mpr ⟨r, hr', decide_eq_true e.symm⟩
      · intro n g hg m hm
        rcases hor n g m hg hm with ⟨g0, hg0, hm0, ek⟩ | ⟨e, ek⟩
        · obtain ⟨r, hr', e1, e2⟩ := h.keyed n g0 hg0 m hm0
          exact ⟨r, List.mem_cons_of_mem _ hr', e1, e2.trans ek⟩
        · exact ⟨_, List.mem_cons_self, by rw [e], ek.symm⟩
    | err e =>
      -- refused inside `Run` and rolled back: the same instances, so nobody has joined
      have hhs : S'.hs = s.st.hs := hno fun hc => nomatch hc
      dsimp only at hI' hor ⊢
      refine ⟨hI', ?_, ?_, h.names, ?_⟩
      · intro x hx; rw [hhs] at hx; exact h.hrec x hx
      · intro r hr'
        obtain ⟨a, b, d⟩ := h.rech r hr'
        rw [hhs]; exact ⟨a, b, Nat.lt_succ_of_lt d⟩
      · intro n g hg m hm
        rcases hor n g m hg hm with ⟨g0, hg0, hm0, ek⟩ | ⟨e, _⟩
        · obtain ⟨r, hr', e1, e2⟩ := h.keyed n g0 hg0 m hm0
          exact ⟨r, hr', e1, e2.trans ek⟩
        · obtain ⟨x, hx, e1, _⟩ := hI'.gholder n g hg m hm
          rw [hhs] at hx
          have := hs_id_lt h x hx
          rw [e1, e] at this
          exact absurd this (Nat.lt_irrefl _)

theorem close_cases (s : GState) (sid : Nat) (name : Str) :
    (s.close sid name = s ∧ ∀ r ∈ s.owner, ¬ (r.name = name ∧ r.sid = sid)) ∨
    ∃ r ∈ s.owner, r.name = name ∧ r.sid = sid ∧
      s.close sid name = { s with st := VhostReg.close s.st r.id,
                                  owner := s.owner.filter (fun e => e.name ≠ name) } := by
  unfold GState.close
  split
  · rename_i r hf
    have hr := List.mem_of_find?_eq_some hf
    have hp := List.find?_some hf
    simp only [decide_eq_true_eq] at hp
    exact Or.inr ⟨r, hr, hp.1, hp.2, rfl⟩
  · rename_i hf
    refine Or.inl ⟨rfl, ?_⟩
    intro r hr hp
    have := List.find?_eq_none.mp hf r hr
    simp only [decide_eq_true_eq] at this
    exact this hp

/-- `Control.CloseProxy` keeps the invariant -/
theorem ginv_close {sh : Str} {s : GState} (h : GInv sh s) (sid : Nat) (name : Str) :
    GInv sh (s.close sid name) := by
  rcases close_cases s sid name with ⟨e, _⟩ | ⟨r, hr, hn, _, e⟩
  · rw [e]; exact h
  · rw [e]
    have hI' := inv_close h.inv r.id
    have hor := close_origin s.st r.id
    have hother : ∀ r' ∈ s.owner, r'.id ≠ r.id → r'.name ≠ name := by
      intro r' hr' hid en
      exact hid (congrArg Rec.id (rec_name_unique h hr' hr (en.trans hn.symm)))
    refine ⟨hI', ?_, ?_, List.Pairwise.filter _ h.names, ?_⟩
    · intro x hx
      obtain ⟨hx', hid⟩ := (mem_close_hs s.st r.id x).mp hx
      obtain ⟨r', hr', e'⟩ := h.hrec x hx'
      refine ⟨r', List.mem_filter.mpr ⟨hr', ?_⟩, e'⟩
      have : r'.id ≠ r.id := by rw [e'] at hid; exact hid
      simpa using hother r' hr' this
    · intro r' hr'
      obtain ⟨hr'', hne⟩ := List.mem_filter.mp hr'
      have hne' : r'.name ≠ name := by simpa using hne
      obtain ⟨a, b, d⟩ := h.rech r' hr''
      refine ⟨(mem_close_hs s.st r.id _).mpr ⟨a, ?_⟩, b, d⟩
      intro hid
      have : r' = r := rec_id_unique h hr'' hr hid
      exact hne' (by rw [this, hn])
    · intro n g hg m hm
      obtain ⟨g0, hg0, hm0, ek⟩ := (hor n g m hg hm).resolve_right id
      obtain ⟨r', hr', e1, e2⟩ := h.keyed n g0 hg0 m hm0
      obtain ⟨x, hx, ex, _⟩ := hI'.gholder n g hg m hm
      have hid := ((mem_close_hs s.st r.id x).mp hx).2
      refine ⟨r', List.mem_filter.mpr ⟨hr', ?_⟩, e1, e2.trans ek⟩
      have : r'.id ≠ r.id := by rw [e1, ← ex]; exact hid
      simpa using hother r' hr' this

theorem ginv_closeAll {sh : Str} (sid : Nat) (ns : List Str) :
    ∀ s : GState, GInv sh s → GInv sh (ns.foldl (fun st n => st.close sid n) s) :=
  fun _ h => foldl_invariant h fun _ n _ h => ginv_close h sid n

/-- `Control.worker` keeps the invariant -/
theorem ginv_sessionEnd {sh : Str} {s : GState} (h : GInv sh s) (sid : Nat) :
    GInv sh (s.sessionEnd sid) := ginv_closeAll sid _ s h

end GroupRel
end Frp
