import Frp.Lemmas.Group
/-
  Invariants of the group transition system about USER CONNECTIONS (Frp/Model/Group.lean):
  what the worker holds, what sits in the hand-off channel, what was closed, what nobody holds.
  They need only `fx.closeOnFail` (9437e84), not the lock discipline.  At the end, what no label changes: the channel
  capacity, and the leaked ports once `TCPGroup.Listen` releases what it acquired (`step_frame`).
-/
namespace Frp
namespace Group
open Str

theorem obj_setObj (s : St) (gid j : Nat) (o' : Obj) :
    (s.setObj gid o').obj j = if j = gid ∧ gid < s.objs.length then o' else s.obj j := by
  simp only [St.obj, St.setObj, List.getElem?_set]
  by_cases h : gid = j
  · subst h
    by_cases hl : gid < s.objs.length
    · simp [hl]
    · simp [hl]
  · have h' : ¬ (j = gid ∧ gid < s.objs.length) := fun e => h e.1.symm
    simp [h, h']

theorem obj_append_default (l : List Obj) (j : Nat) :
    (l ++ [({} : Obj)])[j]?.getD {} = l[j]?.getD {} := by
  rcases Nat.lt_trichotomy j l.length with hlt | heq | hgt
  · rw [List.getElem?_append_left hlt]
  · subst heq; simp
  · rw [List.getElem?_eq_none (by simp; omega), List.getElem?_eq_none (by omega)]

/-- the worker's hands, the channel and the closed/abandoned connections -/
structure CInv (s : St) : Prop where
  /-- no connection is open in nobody's hands -/
  noLimbo : s.limbo = []
  /-- a hand-off channel never holds more than its capacity -/
  bounded : ∀ gid, (s.obj gid).queue.length ≤ s.cap
  /-- a connection waiting for its hand-off belongs to a tcp/tcpmux group whose listener is open or
      whose channel has been closed (so the send either finds a member or fails and closes it) -/
  held : ∀ c gid, (c, gid) ∈ s.inflight →
    s.kind ≠ .http ∧ ((s.obj gid).lnOpen = true ∨ (s.obj gid).chClosed = true)

theorem cinv_init (k : Kind) (allow : List Nat) : CInv (init k allow) :=
  ⟨rfl, by intro gid; simp [init, St.obj], by intro c gid h; simp [init] at h⟩

section
variable {fx : Fix} {s s' : St}

/-- the invariant reads `limbo`, `cap`, `kind`, the objects and `inflight`; the last two are taken as unchanged
    unless given -/
theorem cinv_congr (h : CInv s) (h1 : s'.limbo = s.limbo) (h2 : s'.cap = s.cap)
    (h3 : s'.kind = s.kind) (h4 : ∀ j, s'.obj j = s.obj j := by intro _; rfl)
    (h5 : ∀ x, x ∈ s'.inflight → x ∈ s.inflight := by exact fun _ h => h) : CInv s' :=
  ⟨by rw [h1]; exact h.noLimbo, by intro j; rw [h4, h2]; exact h.bounded j,
   by intro c gid hm; rw [h3, h4]; exact h.held c gid (h5 _ hm)⟩

/-- replacing an object: its queue fits, and (tcp / tcpmux, where workers hold connections) a listener that was
    open or a channel that was closed does not become "closed listener, live channel" -/
theorem cinv_setObj {gid : Nat} {o' : Obj} (h : CInv s) (hq : o'.queue.length ≤ s.cap)
    (hf : s.kind ≠ .http → ((s.obj gid).lnOpen = true ∨ (s.obj gid).chClosed = true) →
          (o'.lnOpen = true ∨ o'.chClosed = true)) : CInv (s.setObj gid o') := by
  refine ⟨h.noLimbo, ?_, ?_⟩
  · intro j
    rw [obj_setObj]
    split
    · exact hq
    · exact h.bounded j
  · intro c j hm
    obtain ⟨hk, hfl⟩ := h.held c j hm
    refine ⟨hk, ?_⟩
    rw [obj_setObj]
    split
    · rename_i hj; rw [hj.1] at hfl; exact hf hk hfl
    · exact hfl

theorem cinv_sendFailed {c gid : Nat} (hf : fx.closeOnFail = true) (h : CInv s) :
    CInv (sendFailed fx s c gid) :=
  cinv_congr (s := St.setObj { s with inflight := s.inflight.filter (fun y => !(y.1 == c)) } gid
                      { s.obj gid with workerDead := true })
    (cinv_setObj (cinv_congr h rfl rfl rfl (h5 := fun _ h => (List.mem_filter.1 h).1)) (h.bounded gid) (fun _ h => h))
    (if_pos hf) rfl rfl

theorem cinv_enter {m g key : Str} {p : Params} {orc : Oracle} {gid : Nat} {r : Res}
    (hi : CInv s) (hs : enter fx s m g key p orc gid = some (s', r)) : CInv s' := by
  obtain ⟨s0, ⟨ext, leaked, rfl, _⟩, h⟩ := enter_cases hs
  have h0 : CInv { s with ext := ext, leaked := leaked } := cinv_congr hi rfl rfl rfl
  rcases h with rfl | ⟨_, rfl⟩ | ⟨rp, k, rfl⟩
  · exact h0
  · exact cinv_setObj h0 (hi.bounded gid) (fun _ h => h)
  · exact cinv_setObj h0 (hi.bounded gid) (fun _ _ => Or.inl rfl)

end

/-- **every label preserves the connection invariant** (any lock discipline, any capacity) -/
theorem cinv_step {fx : Fix} (hf : fx.closeOnFail = true) {s s' : St} {l : Label} {r : Res}
    (hi : CInv s) (hs : step fx s l = some (s', r)) : CInv s' := by
  cases step_spec hs with
  | lookupOld => exact cinv_congr hi rfl rfl rfl
  | lookupNew => exact cinv_congr hi rfl rfl rfl (obj_append_default s.objs)
  | enter _ he =>
    refine cinv_enter ?_ he
    exact cinv_congr hi rfl rfl rfl
  | @leaveL _ gid => exact cinv_setObj hi (hi.bounded gid) (fun _ h => h)
  | leaveLCrash => exact cinv_congr hi rfl rfl rfl
  | @leaveLLast _ gid =>
    exact cinv_congr (cinv_setObj (o' := { s.obj gid with members := [], chClosed := true, lnOpen := false })
      hi (hi.bounded gid) (fun _ _ => Or.inr rfl)) rfl rfl rfl
  | leaveGNone => exact hi
  -- http: no worker holds a connection, so closing the route strands nothing
  | @leaveG _ _ gid hk => exact cinv_setObj hi (hi.bounded gid) (fun hk' => absurd hk hk')
  | @leaveGLast _ _ gid hk =>
    exact cinv_congr (cinv_setObj (o' := { s.obj gid with members := [], lnOpen := false })
      hi (hi.bounded gid) (fun hk' => absurd hk hk')) rfl rfl rfl
  | @leaveEdit _ gid => exact cinv_setObj hi (hi.bounded gid) (fun _ h => h)
  | leaveEditCrash => exact cinv_congr hi rfl rfl rfl
  | @leaveEditLast _ gid =>
    exact cinv_congr (cinv_setObj (o' := { s.obj gid with members := [], lnOpen := false, chClosed :=
        if s.kind = .http then (s.obj gid).chClosed else true })
      hi (hi.bounded gid) (fun hk _ => Or.inr (if_neg hk))) rfl rfl rfl
  | leaveDel => exact cinv_congr hi rfl rfl rfl
  | accept hk hopen =>
    refine ⟨hi.noLimbo, hi.bounded, ?_⟩
    intro c' j hm
    rcases List.mem_cons.1 hm with he | hm'
    · cases he; exact ⟨hk, Or.inl hopen⟩
    · exact hi.held c' j hm'
  | handoffFail => exact cinv_sendFailed hf hi
  | handoff => exact cinv_congr hi rfl rfl rfl (h5 := fun _ h => (List.mem_filter.1 h).1)
  | sendFail => exact cinv_sendFailed hf hi
  | @send c gid _ hlt =>
    refine cinv_setObj (cinv_congr hi rfl rfl rfl (h5 := fun _ h => (List.mem_filter.1 h).1)) ?_ (fun _ h => h)
    show ((s.obj gid).queue ++ [c]).length ≤ s.cap
    rw [List.length_append]; exact hlt
  | @recv _ gid c q hq =>
    refine cinv_congr (cinv_setObj (o' := { s.obj gid with queue := q }) hi ?_ (fun _ h => h)) rfl rfl rfl
    have := hi.bounded gid
    rw [hq] at this
    exact Nat.le_of_succ_le this
  | @request gid => exact cinv_setObj hi (hi.bounded gid) (fun _ h => h)
  | @requestNone gid => exact cinv_setObj hi (hi.bounded gid) (fun _ h => h)
  | squat => exact cinv_congr hi rfl rfl rfl
  | unsquat => exact cinv_congr hi rfl rfl rfl

theorem cinv_run {fx : Fix} (hf : fx.closeOnFail = true) (ls : List Label) :
    ∀ {s s' : St}, CInv s → run fx s ls = some s' → CInv s' :=
  run_preserves (cinv_step hf) ls

/-- no label changes the channel capacity, and only the unrepaired `TCPGroup.Listen` (a failed `net.Listen`
    after `Acquire`) adds a leaked port -/
theorem step_frame {fx : Fix} {s s' : St} {l : Label} {r : Res} (hs : step fx s l = some (s', r)) :
    s'.cap = s.cap ∧ (fx.listenReal = true → s'.leaked = s.leaked) := by
  cases step_spec hs
  case enter _ he =>
    obtain ⟨s0, ⟨ext, leaked, rfl, hl⟩, rfl | ⟨_, rfl⟩ | ⟨rp, k, rfl⟩⟩ := enter_cases he <;>
      exact ⟨rfl, hl⟩
  all_goals exact ⟨rfl, fun _ => rfl⟩

theorem step_cap {fx : Fix} {s s' : St} {l : Label} {r : Res} (hs : step fx s l = some (s', r)) :
    s'.cap = s.cap :=
  (step_frame hs).1

theorem run_cap {fx : Fix} (ls : List Label) : ∀ {s s' : St}, run fx s ls = some s' → s'.cap = s.cap := by
  intro s s' h
  exact run_preserves (P := fun t => t.cap = s.cap) (fun hp hs => (step_cap hs).trans hp) ls rfl h

end Group
end Frp
