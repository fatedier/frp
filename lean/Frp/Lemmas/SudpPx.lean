import Frp.Model.SudpPx
import Frp.Lemmas.Udp
/-
  Lemmas about the client side of a sudp proxy with several work connections:
  per-connection invariants, and the frame / projection lemmas that make the connections independent.
  The property statements are in Frp/Props/C03.lean.
-/
namespace Frp
namespace SudpPx
open Udp Base64

/-! ### one connection: conservation and socket ownership -/

structure CInv (c : Conn) : Prop where
  up : ∀ x : View, c.inLog.count x =
      (c.readCh.map view).count x + (c.backendLog.map Prod.snd).count x + (c.dropUp.map Prod.snd).count x
  down : ∀ x : View, (c.replyLog.map Prod.snd).count x =
      ((pkts c.sendCh).map view).count x + c.wire.count x + (c.dropDown.map Prod.snd).count x
  socksLt : ∀ e ∈ c.socks, e.1 < c.nextSock
  socksFun : ∀ k a a', (k, a) ∈ c.socks → (k, a') ∈ c.socks → a = a'
  cmapSock : ∀ e ∈ c.cmap, (e.2, e.1) ∈ c.socks
  backendSock : ∀ e ∈ c.backendLog, (e.1, e.2.1) ∈ c.socks
  replySock : ∀ e ∈ c.replyLog, (e.1, e.2.1) ∈ c.socks

theorem cinv_init (bs cap : Nat) : CInv (Conn.init bs cap) := by
  constructor <;> simp [Conn.init, pkts]

theorem pkts_append_some (q : List (Option Packet)) (m : Packet) : pkts (q ++ [some m]) = pkts q ++ [m] := by
  simp [pkts, List.filterMap_append]

theorem pkts_append_none (q : List (Option Packet)) : pkts (q ++ [none]) = pkts q := by
  simp [pkts, List.filterMap_append]

theorem pkts_cons_some (q : List (Option Packet)) (m : Packet) : pkts (some m :: q) = m :: pkts q := by
  simp [pkts]

theorem pkts_cons_none (q : List (Option Packet)) : pkts (none :: q) = pkts q := by
  simp [pkts]

/-! ### `cstep`, read backwards: the outcomes of each action with their guards -/

inductive CStep (pc : Bool) (c : Conn) : CLabel → Conn → Prop
  | idle {l} : CStep pc c l c
  | recvLate {m} : c.isClose = true →
      CStep pc c (.recv m)
        { c with reader := false, inLog := c.inLog ++ [view m], dropUp := c.dropUp ++ [(.lateRecv, view m)] }
  | recvQ {m} : CStep pc c (.recv m) { c with readCh := c.readCh ++ [m], inLog := c.inLog ++ [view m] }
  | readerDie : CStep pc c .readerDie (doClose { c with reader := false } .readErr)
  | fwdDecode {ok m rest} : c.readCh = m :: rest →
      CStep pc c (.fwd ok) { c with readCh := rest, dropUp := c.dropUp ++ [(.decodeErr, view m)] }
  | fwdBack {ok m rest k} : c.readCh = m :: rest → lookup c.cmap m.raddr = some k →
      CStep pc c (.fwd ok) { c with readCh := rest, backendLog := c.backendLog ++ [(k, view m)] }
  | fwdErr {ok m rest k} : c.readCh = m :: rest →
      CStep pc c (.fwd ok)
        { c with readCh := rest, closedSocks := k :: c.closedSocks, dropUp := c.dropUp ++ [(.writeErr, view m)] }
  | fwdNew {ok m rest} : c.readCh = m :: rest →
      CStep pc c (.fwd ok)
        { c with readCh := rest, nextSock := c.nextSock + 1, cmap := (m.raddr, c.nextSock) :: c.cmap,
                 socks := (c.nextSock, m.raddr) :: c.socks, backendLog := c.backendLog ++ [(c.nextSock, view m)] }
  | fwdNewErr {ok m rest} : c.readCh = m :: rest →
      CStep pc c (.fwd ok)
        { c with readCh := rest, nextSock := c.nextSock + 1, cmap := (m.raddr, c.nextSock) :: c.cmap,
                 socks := (c.nextSock, m.raddr) :: c.socks, closedSocks := c.nextSock :: c.closedSocks,
                 dropUp := c.dropUp ++ [(.writeErr, view m)] }
  | replyClosed {k q a} : ownerOf c.socks k = some a → c.isClose = true →
      CStep pc c (.backendReply k q)
        { c with replyLog := c.replyLog ++ [(k, view (packetOf (rd c.bs q) none a))],
                 dropDown := c.dropDown ++ [(.closedCh, view (packetOf (rd c.bs q) none a))],
                 cmap := c.cmap.filter (fun e => e.1 ≠ a), closedSocks := k :: c.closedSocks }
  | replyQ {k q a} : ownerOf c.socks k = some a →
      CStep pc c (.backendReply k q)
        { c with replyLog := c.replyLog ++ [(k, view (packetOf (rd c.bs q) none a))],
                 sendCh := c.sendCh ++ [some (packetOf (rd c.bs q) none a)] }
  | replyFull {k q a} : ownerOf c.socks k = some a →
      CStep pc c (.backendReply k q)
        { c with replyLog := c.replyLog ++ [(k, view (packetOf (rd c.bs q) none a))],
                 dropDown := c.dropDown ++ [(.replyFull, view (packetOf (rd c.bs q) none a))] }
  | sockExit {k a} :
      CStep pc c (.sockExit k) { c with cmap := c.cmap.filter (fun e => e.1 ≠ a), closedSocks := k :: c.closedSocks }
  | sendPing {ok rest} : c.sendCh = none :: rest →
      CStep pc c (.send ok) { c with sendCh := rest, pings := c.pings + 1 }
  | sendPingFail {ok rest} : c.sendCh = none :: rest →
      CStep pc c (.send ok) (doClose { c with sendCh := rest, sender := false } .writeErr)
  | sendPkt {ok m rest} : c.sendCh = some m :: rest →
      CStep pc c (.send ok) { c with sendCh := rest, wire := c.wire ++ [view m] }
  | sendPktFail {ok m rest} : c.sendCh = some m :: rest →
      CStep pc c (.send ok)
        (doClose { c with sendCh := rest, sender := false, dropDown := c.dropDown ++ [(.connDown, view m)] }
          .writeErr)
  | senderEnd : c.isClose = true → CStep pc c .senderEnd { c with sender := false }
  | tickClosed : c.isClose = true → CStep pc c .tick { c with hb := false }
  | tickQ : CStep pc c .tick { c with sendCh := c.sendCh ++ [none] }
  | hbClose : pc = true → CStep pc c .hbClose (doClose { c with hb := false } .proxyClosed)

theorem cstep_spec (pc : Bool) (c : Conn) (l : CLabel) : CStep pc c l (cstep pc c l) := by
  cases l with
  | recv m =>
    simp only [cstep, stepRecv]
    split
    · exact .idle
    · split
      · exact .recvLate ‹_›
      · split
        · exact .recvQ
        · exact .idle
  | readerDie =>
    simp only [cstep, stepReaderDie]
    split
    · exact .readerDie
    · exact .idle
  | fwd ok =>
    simp only [cstep, stepFwd]
    split
    · exact .idle
    · rename_i m rest hq
      split
      · exact .fwdDecode hq
      · split
        · rename_i k hk
          split
          · exact .fwdBack hq hk
          · exact .fwdErr hq
        · split
          · exact .fwdNew hq
          · exact .fwdNewErr hq
  | backendReply k q =>
    simp only [cstep, stepBackendReply]
    split
    · exact .idle
    · split
      · exact .idle
      · rename_i a ho
        split
        · split
          · exact .replyClosed ho ‹_›
          · split
            · exact .replyQ ho
            · exact .replyFull ho
        · exact .idle
  | sockExit k =>
    simp only [cstep, stepSockExit]
    split
    · exact .idle
    · split
      · exact .sockExit
      · exact .idle
  | send ok =>
    simp only [cstep, stepSend]
    split
    · exact .idle
    · split
      · exact .idle
      · rename_i rest hq
        split
        · exact .sendPing hq
        · exact .sendPingFail hq
      · rename_i m rest hq
        split
        · exact .sendPkt hq
        · exact .sendPktFail hq
  | senderEnd =>
    simp only [cstep, stepSenderEnd]
    split
    · rename_i hc
      simp only [Bool.and_eq_true] at hc
      exact .senderEnd hc.1.2
    · exact .idle
  | tick =>
    simp only [cstep, stepTick]
    split
    · exact .idle
    · split
      · exact .tickClosed ‹_›
      · split
        · exact .tickQ
        · exact .idle
  | hbClose =>
    simp only [cstep, stepHbClose]
    split
    · rename_i hc
      simp only [Bool.and_eq_true] at hc
      exact .hbClose hc.2
    · exact .idle

theorem cinv_doClose {c : Conn} {w : Cause} (h : CInv c) : CInv (doClose c w) := by
  unfold doClose
  split
  · exact h
  · exact { h with }

theorem cinv_step {c : Conn} (h : CInv c) (pc : Bool) (l : CLabel) : CInv (cstep pc c l) := by
  have hs := cstep_spec pc c l
  generalize cstep pc c l = c' at hs
  -- the laws with the head of `readCh` / `sendCh` counted apart
  have readHead {m : Packet} {rest : List Packet} (hq : c.readCh = m :: rest) (x : View) :
      c.inLog.count x = [view m].count x + (rest.map view).count x
        + (c.backendLog.map Prod.snd).count x + (c.dropUp.map Prod.snd).count x := by
    have := h.up x
    rw [hq, count_map_cons] at this
    exact this
  have pingHead {rest : List (Option Packet)} (hq : c.sendCh = none :: rest) (x : View) :
      (c.replyLog.map Prod.snd).count x =
        ((pkts rest).map view).count x + c.wire.count x + (c.dropDown.map Prod.snd).count x := by
    have := h.down x
    rw [hq, pkts_cons_none] at this
    exact this
  have pktHead {m : Packet} {rest : List (Option Packet)} (hq : c.sendCh = some m :: rest) (x : View) :
      (c.replyLog.map Prod.snd).count x = [view m].count x
        + ((pkts rest).map view).count x + c.wire.count x + (c.dropDown.map Prod.snd).count x := by
    have := h.down x
    rw [hq, pkts_cons_some, count_map_cons] at this
    exact this
  cases hs with
  | idle => exact h
  | recvLate | recvQ =>
    refine { h with up := fun x => ?_ }
    have := h.up x
    simp only [count_snoc, count_map_snoc] at this ⊢
    omega
  | readerDie | hbClose => exact cinv_doClose { h with }
  | fwdDecode hq | fwdErr hq =>
    refine { h with up := fun x => ?_ }
    have := readHead hq x
    simp only [count_map_snoc]
    omega
  | fwdBack hq hk =>
    refine { h with up := fun x => ?_,
                    backendSock := forall_mem_snoc h.backendSock (h.cmapSock _ (lookup_some hk)) }
    have := readHead hq x
    simp only [count_map_snoc]
    omega
  | fwdNew hq =>
    refine { down := h.down, socksLt := socks_cons_lt h.socksLt,
             socksFun := socks_cons_fun h.socksLt h.socksFun, cmapSock := cmap_cons_sock h.cmapSock,
             backendSock := forall_mem_snoc (fun e he => List.mem_cons_of_mem _ (h.backendSock e he))
               List.mem_cons_self,
             replySock := fun e he => List.mem_cons_of_mem _ (h.replySock e he), up := fun x => ?_ }
    have := readHead hq x
    simp only [count_map_snoc]
    omega
  | fwdNewErr hq =>
    refine { down := h.down, socksLt := socks_cons_lt h.socksLt,
             socksFun := socks_cons_fun h.socksLt h.socksFun, cmapSock := cmap_cons_sock h.cmapSock,
             backendSock := fun e he => List.mem_cons_of_mem _ (h.backendSock e he),
             replySock := fun e he => List.mem_cons_of_mem _ (h.replySock e he), up := fun x => ?_ }
    have := readHead hq x
    simp only [count_map_snoc]
    omega
  | replyClosed ho _ =>
    refine { h with down := fun x => ?_, replySock := forall_mem_snoc h.replySock (ownerOf_some ho),
                    cmapSock := fun e he => h.cmapSock e (List.mem_filter.1 he).1 }
    have := h.down x
    simp only [count_map_snoc] at this ⊢
    omega
  | replyQ ho | replyFull ho =>
    refine { h with down := fun x => ?_, replySock := forall_mem_snoc h.replySock (ownerOf_some ho) }
    have := h.down x
    simp only [pkts_append_some, count_map_snoc] at this ⊢
    omega
  | sockExit => exact { h with cmapSock := fun e he => h.cmapSock e (List.mem_filter.1 he).1 }
  | sendPing hq =>
    refine { h with down := ?_ }
    exact pingHead hq
  | sendPingFail hq =>
    refine cinv_doClose { h with down := ?_ }
    exact pingHead hq
  | sendPkt hq =>
    refine { h with down := fun x => ?_ }
    have := pktHead hq x
    simp only [count_snoc]
    omega
  | sendPktFail hq =>
    refine cinv_doClose { h with down := fun x => ?_ }
    have := pktHead hq x
    simp only [count_map_snoc]
    omega
  | senderEnd | tickClosed => exact { h with }
  | tickQ => exact { h with down := fun x => by rw [pkts_append_none]; exact h.down x }

/-! ### one connection: the goroutines of an open connection are all there; what an open connection may have dropped -/

structure CFlags (c : Conn) : Prop where
  openOK : c.isClose = false → c.reader = true ∧ c.sender = true ∧ c.hb = true ∧ c.cause = none
  openUp : c.isClose = false → ∀ e ∈ c.dropUp, e.1 = PDrop.decodeErr ∨ e.1 = PDrop.writeErr
  openDown : c.isClose = false → ∀ e ∈ c.dropDown, e.1 = PDrop.replyFull
  closedCause : c.isClose = true → c.cause ≠ none

theorem cflags_init (bs cap : Nat) : CFlags (Conn.init bs cap) := by
  constructor <;> simp [Conn.init]

theorem mem_append_one {α} {l : List α} {a e : α} (h : e ∈ l ++ [a]) : e ∈ l ∨ e = a := by
  simpa using h

theorem CFlags.of_closed {c : Conn} (hc : c.isClose = true) (h : c.cause ≠ none) : CFlags c where
  openOK ho := nomatch hc.symm.trans ho
  openUp ho := nomatch hc.symm.trans ho
  openDown ho := nomatch hc.symm.trans ho
  closedCause _ := h

theorem cflags_doClose {c : Conn} {w : Cause} (h : c.isClose = true → c.cause ≠ none) : CFlags (doClose c w) := by
  unfold doClose
  split
  · exact .of_closed ‹_› (h ‹_›)
  · exact .of_closed rfl (Option.some_ne_none w)

/-- each outcome of each action is one of: nothing `CFlags` speaks of changes; the connection is, or gets,
    closed (with a cause); an open connection records one more drop of a kind it may have -/
theorem cflags_step {c : Conn} (h : CFlags c) (pc : Bool) (l : CLabel) : CFlags (cstep pc c l) := by
  have hs := cstep_spec pc c l
  generalize cstep pc c l = c' at hs
  cases hs with
  | idle => exact h
  | recvLate hc | replyClosed _ hc | senderEnd hc | tickClosed hc => exact .of_closed hc (h.closedCause hc)
  | readerDie | sendPingFail | sendPktFail | hbClose => exact cflags_doClose h.closedCause
  | fwdDecode => exact { h with openUp := fun ho => forall_mem_snoc (h.openUp ho) (.inl rfl) }
  | fwdErr | fwdNewErr => exact { h with openUp := fun ho => forall_mem_snoc (h.openUp ho) (.inr rfl) }
  | replyFull => exact { h with openDown := fun ho => forall_mem_snoc (h.openDown ho) rfl }
  | _ => exact { h with }

/-! ### the proxy: every connection keeps its invariants; connections do not touch each other -/

def Inv (s : St) : Prop := ∀ c ∈ s.conns, CInv c ∧ CFlags c ∧ c.bs = s.bs ∧ c.cap = s.cap

theorem inv_init (bs cap : Nat) : Inv (init bs cap) := by
  intro c hc; simp [init] at hc

theorem doClose_fixed (c : Conn) (w : Cause) : (doClose c w).bs = c.bs ∧ (doClose c w).cap = c.cap := by
  unfold doClose
  split <;> exact ⟨rfl, rfl⟩

theorem cstep_fixed (pc : Bool) (c : Conn) (l : CLabel) : (cstep pc c l).bs = c.bs ∧ (cstep pc c l).cap = c.cap := by
  have hs := cstep_spec pc c l
  generalize cstep pc c l = c' at hs
  cases hs with
  | readerDie | sendPingFail | sendPktFail | hbClose => exact doClose_fixed _ _
  | _ => exact ⟨rfl, rfl⟩

theorem conn_lt {s : St} {i : Nat} {c : Conn} (h : s.conn i = some c) : i < s.conns.length :=
  (List.getElem?_eq_some_iff.1 h).1

theorem conn_at (s : St) (i j : Nat) (l : CLabel) :
    (step s (.at j l)).conn i = (s.conn i).map (fun c => if j = i then cstep s.pclosed c l else c) := by
  simp only [step, St.conn, List.getElem?_modify]
  cases s.conns[i]? <;> simp

theorem inv_step {s : St} (h : Inv s) (l : Label) : Inv (step s l) := by
  cases l with
  | open_ => exact forall_mem_snoc h ⟨cinv_init _ _, cflags_init _ _, rfl, rfl⟩
  | proxyClose => exact h
  | «at» j l =>
    intro c hc
    obtain ⟨i, hi⟩ := List.mem_iff_getElem?.1 hc
    have := conn_at s i j l
    simp only [St.conn] at this
    rw [this] at hi
    cases ho : s.conns[i]? with
    | none => rw [ho] at hi; cases hi
    | some c0 =>
      rw [ho] at hi
      simp only [Option.map_some, Option.some.injEq] at hi
      obtain ⟨a, b, e1, e2⟩ := h c0 (List.mem_iff_getElem?.2 ⟨i, ho⟩)
      by_cases hji : j = i
      · simp only [hji, if_true] at hi
        subst hi
        have := cstep_fixed s.pclosed c0 l
        exact ⟨cinv_step a _ _, cflags_step b _ _, this.1.trans e1, this.2.trans e2⟩
      · simp only [hji, if_false] at hi
        subst hi
        exact ⟨a, b, e1, e2⟩

theorem inv_run (s : St) (h : Inv s) (ls : List Label) : Inv (run s ls) :=
  foldl_invariant (P := Inv) h fun _ l _ hs => inv_step hs l

/-- an action of connection `j` leaves every other connection exactly as it was -/
theorem step_other (s : St) {i j : Nat} (hij : i ≠ j) (l : CLabel) : (step s (.at j l)).conn i = s.conn i := by
  rw [conn_at]
  have : ¬ j = i := fun h => hij h.symm
  simp only [this, if_false]
  cases s.conn i <;> rfl

/-- a further InWorkConn call leaves every existing connection exactly as it was, and the new one starts fresh -/
theorem step_open (s : St) :
    (∀ i, i < s.conns.length → (step s .open_).conn i = s.conn i) ∧
    (step s .open_).conn s.conns.length = some (Conn.init s.bs s.cap) ∧
    (step s .open_).conns.length = s.conns.length + 1 := by
  refine ⟨fun i hi => ?_, ?_, ?_⟩
  · simp only [step, St.conn]; exact List.getElem?_append_left hi
  · simp only [step, St.conn]
    rw [List.getElem?_append_right (Nat.le_refl _)]
    simp
  · simp [step]

theorem step_length_mono (s : St) (l : Label) : s.conns.length ≤ (step s l).conns.length := by
  cases l <;> simp [step, List.length_modify]

theorem step_not_addressed (s : St) (l : Label) (i : Nat) (hi : i < s.conns.length)
    (hl : addressed i l = false) : (step s l).conn i = s.conn i := by
  cases l with
  | open_ => exact (step_open s).1 i hi
  | proxyClose => rfl
  | «at» j l =>
    have : i ≠ j := by
      intro h; subst h; simp [addressed] at hl
    exact step_other s this l

/-- **frame**: a run in which no action is addressed to connection `i` — any number of further connections
    opened, any traffic on them, any of them closed in any way, even `Close()` of the proxy — leaves
    connection `i` exactly as it was -/
theorem run_frame (s : St) (ls : List Label) (i : Nat) (hi : i < s.conns.length)
    (hl : ∀ l ∈ ls, addressed i l = false) : (run s ls).conn i = s.conn i :=
  (foldl_invariant (P := fun t => t.conn i = s.conn i ∧ i < t.conns.length) ⟨rfl, hi⟩
    fun t l hm h => ⟨(step_not_addressed t l i h.2 (hl l hm)).trans h.1,
      Nat.lt_of_lt_of_le h.2 (step_length_mono t l)⟩).1

theorem step_pclosed (s : St) (l : Label) :
    (step s l).pclosed = (match l with | .proxyClose => true | _ => s.pclosed) := by
  cases l <;> rfl

/-- **projection**: what connection `i` is after ANY run is what its own actions (with the value of
    `pxy.closeCh` at their time) make of it — however they interleave with the opening, the traffic and the
    closing of every other connection -/
theorem run_proj (s : St) (ls : List Label) (i : Nat) (c : Conn) (hc : s.conn i = some c) :
    (run s ls).conn i = some (crun c (proj i s.pclosed ls)) := by
  unfold run
  induction ls generalizing s c with
  | nil => simpa [proj, crun] using hc
  | cons l ls ih =>
    have hi := conn_lt hc
    simp only [List.foldl_cons]
    cases l with
    | open_ =>
      have h1 : (step s .open_).conn i = some c := by rw [(step_open s).1 i hi]; exact hc
      have := ih (step s .open_) c h1
      simpa [proj, step] using this
    | proxyClose =>
      have h1 : (step s .proxyClose).conn i = some c := hc
      have := ih (step s .proxyClose) c h1
      simpa [proj, step] using this
    | «at» j l =>
      by_cases hji : j = i
      · have h1 : (step s (.at j l)).conn i = some (cstep s.pclosed c l) := by
          rw [conn_at, hc]; simp [hji]
        have := ih (step s (.at j l)) _ h1
        simp only [proj, hji, if_true, crun, List.foldl_cons] at this ⊢
        simpa [step] using this
      · have h1 : (step s (.at j l)).conn i = some c := by
          rw [conn_at, hc]; simp [hji]
        have := ih (step s (.at j l)) c h1
        simp only [proj, hji, if_false] at this ⊢
        simpa [step] using this

/-- an action closes an open connection only by calling `closeFn`, and only three actions do -/
theorem cstep_closes (pc : Bool) (c : Conn) (l : CLabel) (ho : c.isClose = false)
    (hc : (cstep pc c l).isClose = true) :
    (l = .readerDie ∧ (cstep pc c l).cause = some .readErr) ∨
    ((∃ ok, l = .send ok) ∧ (cstep pc c l).cause = some .writeErr) ∨
    (l = .hbClose ∧ pc = true ∧ (cstep pc c l).cause = some .proxyClosed) := by
  -- only `closeFn` touches `isClose`, and on an open connection it records its cause
  have dc {c₁ : Conn} {w : Cause} (e : c₁.isClose = c.isClose) : (doClose c₁ w).cause = some w := by
    simp only [doClose, e, ho, Bool.false_eq_true, if_false]
  have hs := cstep_spec pc c l
  generalize cstep pc c l = c' at hs hc ⊢
  cases hs with
  | readerDie => exact .inl ⟨rfl, dc rfl⟩
  | sendPingFail | sendPktFail => exact .inr (.inl ⟨⟨_, rfl⟩, dc rfl⟩)
  | hbClose hp => exact .inr (.inr ⟨rfl, hp, dc rfl⟩)
  | _ => exact absurd (ho.symm.trans hc) (by decide)

/-- **why a connection gets closed**: a step closes connection `i` only if it is an action of connection `i`
    itself: its reader failing, its sender failing to write, or its heartbeat seeing the proxy closed.  Never a
    new work connection, never anything that happens on another connection. -/
theorem close_causes (s : St) (l : Label) (i : Nat) (c c' : Conn) (h0 : s.conn i = some c)
    (h1 : (step s l).conn i = some c') (ho : c.isClose = false) (hc : c'.isClose = true) :
    (l = .at i .readerDie ∧ c'.cause = some .readErr) ∨
    ((∃ ok, l = .at i (.send ok)) ∧ c'.cause = some .writeErr) ∨
    (l = .at i .hbClose ∧ s.pclosed = true ∧ c'.cause = some .proxyClosed) := by
  have hi := conn_lt h0
  have other {l : Label} (hl : addressed i l = false) (h1 : (step s l).conn i = some c') : False := by
    rw [step_not_addressed s l i hi hl, h0] at h1
    cases h1
    rw [ho] at hc
    cases hc
  cases l with
  | open_ => exact (other rfl h1).elim
  | proxyClose => exact (other rfl h1).elim
  | «at» j l =>
    by_cases hji : j = i
    · subst hji
      rw [conn_at, h0] at h1
      simp only [if_true, Option.map_some, Option.some.injEq] at h1
      subst h1
      rcases cstep_closes _ c l ho hc with ⟨rfl, h⟩ | ⟨⟨ok, rfl⟩, h⟩ | ⟨rfl, hp, h⟩
      · exact .inl ⟨rfl, h⟩
      · exact .inr (.inl ⟨⟨ok, rfl⟩, h⟩)
      · exact .inr (.inr ⟨rfl, hp, h⟩)
    · exact (other (l := .at j l) (beq_false_of_ne hji) h1).elim

/-! ### light load on one connection -/

/-- a datagram that arrives on an open, idle connection is handed to the backend on the socket of its user
    address (the existing one, or a new one), and nothing is dropped -/
theorem conn_delivers (pc : Bool) (c : Conn) (a : Addr) (p : Str) (hb : isBytes p = true)
    (ho : c.isClose = false) (hr : c.reader = true) (hq : c.readCh = []) (hcap : 0 < c.cap)
    (hs : ∀ k, lookup c.cmap (some a) = some k → c.closedSocks.contains k = false) :
    let c' := crun c [(pc, .recv (packetOf p none (some a))), (pc, .fwd true)]
    let k := (lookup c.cmap (some a)).getD c.nextSock
    c'.backendLog = c.backendLog ++ [(k, (some a, some p))] ∧ c'.dropUp = c.dropUp ∧ c'.readCh = [] ∧
      c'.isClose = false := by
  have hv : contentOf (packetOf p none (some a)) = some p := decode_encode p ((isBytes_iff p).1 hb)
  have hvw : view (packetOf p none (some a)) = (some a, some p) := by
    simp only [view, hv]; rfl
  have hra : (packetOf p none (some a)).raddr = some a := rfl
  simp only [crun, List.foldl_cons, List.foldl_nil, cstep, stepRecv, hr, ho, hq, List.length_nil, hcap,
    Bool.not_true, Bool.false_eq_true, if_false, if_true, List.nil_append, stepFwd, hv, hra, hvw]
  cases hl : lookup c.cmap (some a) with
  | none => simp
  | some k =>
    have := hs k hl
    simp only [List.contains_eq_mem, decide_eq_false_iff_not] at this
    simp [this]

/-- a reply the backend sends to a live socket of an open, idle connection is written on THAT work
    connection, tagged with the user address the socket was dialled for, and nothing is dropped -/
theorem conn_reply_delivers (pc : Bool) (c : Conn) (k : Nat) (a : Option Addr) (q : Str) (hb : isBytes q = true)
    (ho : c.isClose = false) (hsd : c.sender = true) (hq : c.sendCh = []) (hcap : 0 < c.cap)
    (hown : ownerOf c.socks k = some a) (hlive : lookup c.cmap a = some k) (hopen : c.closedSocks.contains k = false) :
    let c' := crun c [(pc, .backendReply k q), (pc, .send true)]
    c'.wire = c.wire ++ [(a, some (rd c.bs q))] ∧ c'.dropDown = c.dropDown ∧ c'.sendCh = [] ∧ c'.isClose = false := by
  have hv := view_packetOf' q a hb c.bs
  simp only [crun, List.foldl_cons, List.foldl_nil, cstep, stepBackendReply, hb, hown, hlive, hopen, ho, hq,
    List.length_nil, hcap, Bool.not_true, Bool.not_false, Bool.false_eq_true, if_false, if_true, List.nil_append,
    stepSend, hsd, Bool.and_true]
  simp [hv]

end SudpPx
end Frp
