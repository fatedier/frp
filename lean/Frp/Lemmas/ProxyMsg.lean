import Frp.Model.ProxyMsg
/-
  Lemmas about the assignment-program interpreter of Frp/Model/ProxyMsg.lean:
  what a field holds after running a table in which no target is assigned twice.
-/
namespace Frp
namespace ProxyMsg
open Gen.ProxyMsg ConfNum

namespace Rec
variable {K : Type} [DecidableEq K]

theorem get_ite (p : Prop) [Decidable p] (a b : Rec K) (k : K) :
    (if p then a else b).get k = if p then a.get k else b.get k := by
  split <;> rfl

theorem runAssign_get_notin (prog : List (K × Option Value)) (r : Rec K) (k : K)
    (h : ∀ e ∈ prog, e.1 ≠ k) : (runAssign r prog).get k = r.get k := by
  induction prog generalizing r with
  | nil => rfl
  | cons e rest ih =>
    obtain ⟨k', ov⟩ := e
    have hk : k' ≠ k := h (k', ov) (List.mem_cons_self ..)
    have hrest : ∀ e ∈ rest, e.1 ≠ k := fun e he => h e (List.mem_cons_of_mem _ he)
    cases ov with
    | none => exact ih r hrest
    | some v => rw [runAssign, ih _ hrest, get_set, if_neg (Ne.symm hk)]

/-- value selected by a (possibly skipped) assignment -/
def pick (ov : Option Value) (old : Value) : Value :=
  match ov with
  | some v => v
  | none => old

@[simp] theorem pick_some (v old : Value) : pick (some v) old = v := rfl

theorem pick_ite (b : Prop) [Decidable b] (v old : Value) :
    pick (if b then none else some v) old = if b then old else v := by
  split <;> rfl

theorem runAssign_get_mem (prog : List (K × Option Value)) (r : Rec K) (k : K) (ov : Option Value)
    (hnd : prog.Pairwise (fun a b => a.1 ≠ b.1)) (hmem : (k, ov) ∈ prog) :
    (runAssign r prog).get k = pick ov (r.get k) := by
  induction prog generalizing r with
  | nil => cases hmem
  | cons e rest ih =>
    obtain ⟨k', ov'⟩ := e
    rw [List.pairwise_cons] at hnd
    rcases List.mem_cons.mp hmem with heq | hin
    · -- the assignment is this statement; nothing later touches k
      injection heq with h1 h2
      subst h1; subst h2
      have hrest : ∀ e ∈ rest, e.1 ≠ k := fun e he => Ne.symm (hnd.1 e he)
      cases ov with
      | none => exact runAssign_get_notin rest r k hrest
      | some v => rw [runAssign, runAssign_get_notin rest _ k hrest, get_set, if_pos rfl]; rfl
    · have hk : k' ≠ k := hnd.1 (k, ov) hin
      cases ov' with
      | none => exact ih r hnd.2 hin
      | some v => rw [runAssign, ih _ hnd.2 hin, get_set, if_neg (Ne.symm hk)]

end Rec

/-! ## what a marshal / unmarshal statement does to one value -/

/-- the message value produced from configuration value `v` -/
def viaMsg (mx : MX) (v : Value) : Value :=
  match mx with
  | .copy => v
  | .callString => bwString v
  | .copyUnlessEq lit => if asStr v = lit then .zero else v

/-- the configuration value produced from message value `mv` (`d` = value before the statement) -/
def intoCfg (ux : UX) (mv d : Value) : Value :=
  match ux with
  | .copy => mv
  | .copyIfNonEmpty => if asStr mv = [] then d else mv
  | .parseBandwidth => bwParse mv
  | .parseBandwidthIfNonEmpty => if asStr mv = [] then d else bwParse mv

theorem marshal_get (M : List MEntry) (c : Rec CF) (em : MEntry)
    (hnd : M.Pairwise (fun a b => a.msg ≠ b.msg)) (h : em ∈ M) :
    (marshal M c).get em.msg = viaMsg em.x (c.get em.cfg) := by
  have hp : (M.map (evalM c)).Pairwise (fun a b => a.1 ≠ b.1) := by
    rw [List.pairwise_map]; exact hnd
  have hm : ((evalM c em).1, (evalM c em).2) ∈ M.map (evalM c) := List.mem_map_of_mem h
  have := Rec.runAssign_get_mem (M.map (evalM c)) Rec.empty _ _ hp hm
  rw [marshal]
  simp only [evalM] at this ⊢
  rw [this]
  cases em.x <;> simp only [Rec.pick_some, Rec.pick_ite, viaMsg, Rec.get_empty]

theorem marshal_get_notin (M : List MEntry) (c : Rec CF) (k : MF)
    (h : ∀ e ∈ M, e.msg ≠ k) : (marshal M c).get k = .zero := by
  rw [marshal, Rec.runAssign_get_notin]
  · rfl
  · intro e he
    obtain ⟨a, ha, rfl⟩ := List.mem_map.mp he
    exact h a ha

theorem unmarshal_get (U : List UEntry) (m : Rec MF) (c0 : Rec CF) (eu : UEntry)
    (hnd : U.Pairwise (fun a b => a.cfg ≠ b.cfg)) (h : eu ∈ U) :
    (unmarshal U m c0).get eu.cfg = intoCfg eu.x (m.get eu.msg) (c0.get eu.cfg) := by
  have hp : (U.map (evalU m)).Pairwise (fun a b => a.1 ≠ b.1) := by
    rw [List.pairwise_map]; exact hnd
  have hm : ((evalU m eu).1, (evalU m eu).2) ∈ U.map (evalU m) := List.mem_map_of_mem h
  have := Rec.runAssign_get_mem (U.map (evalU m)) c0 _ _ hp hm
  rw [unmarshal]
  simp only [evalU] at this ⊢
  rw [this]
  cases eu.x <;> simp only [Rec.pick_some, Rec.pick_ite, intoCfg]

theorem unmarshal_get_notin (U : List UEntry) (m : Rec MF) (c0 : Rec CF) (p : CF)
    (h : ∀ e ∈ U, e.cfg ≠ p) : (unmarshal U m c0).get p = c0.get p := by
  rw [unmarshal, Rec.runAssign_get_notin]
  intro e he
  obtain ⟨a, ha, rfl⟩ := List.mem_map.mp he
  exact h a ha

/-- unmarshal reads the message only through `get` -/
theorem unmarshal_congr (U : List UEntry) (m m' : Rec MF) (c0 : Rec CF)
    (h : ∀ k, m.get k = m'.get k) : unmarshal U m c0 = unmarshal U m' c0 := by
  have : U.map (evalU m) = U.map (evalU m') := by
    apply List.map_congr_left
    intro e _
    simp only [evalU, h]
  rw [unmarshal, unmarshal, this]

theorem asStr_ne_nil {v : Value} {s : Str} (h : asStr v = s) (hs : s ≠ []) : v = .str s := by
  cases v <;> simp_all [asStr]

end ProxyMsg
end Frp
