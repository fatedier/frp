import Frp.Model.Base64
/-
  The base64 model as a library: the alphabet, the shape of `encode`'s output, `decode ∘ encode` on byte
  strings, and that `decode` returns byte strings.  More is stated than the udp codec needs.
-/
namespace Frp
namespace Base64

/-- bytes are `Nat`s in the model; the theorems that need them below 256 say so through this -/
def bytes (s : Str) : Prop := ∀ x ∈ s, x < 256

instance (s : Str) : Decidable (bytes s) := by unfold bytes; exact inferInstance

theorem bytes_nil : bytes [] := by intro x h; cases h

theorem bytes_cons {a : Nat} {s : Str} : bytes (a :: s) ↔ a < 256 ∧ bytes s := by
  simp only [bytes, List.mem_cons, forall_eq_or_imp]

/-! ### alphabet facts (finite, by evaluation) -/

theorem alphabet : ∀ n, n < 64 →
    val (ch n) = some n ∧ ch n < 128 ∧ ch n ≠ pad ∧ ch n ≠ 46 ∧ isNL (ch n) = false := by decide

theorem val_ch : ∀ n, n < 64 → val (ch n) = some n := fun n h => (alphabet n h).1

theorem ch_lt_128 : ∀ n, n < 64 → ch n < 128 := fun n h =>
  let ⟨_, hlt, _⟩ := alphabet n h; hlt

theorem ch_not_pad : ∀ n, n < 64 → ch n ≠ pad := fun n h =>
  let ⟨_, _, hpad, _⟩ := alphabet n h; hpad

theorem ch_not_dot : ∀ n, n < 64 → ch n ≠ 46 := fun n h =>
  let ⟨_, _, _, hdot, _⟩ := alphabet n h; hdot

theorem ch_not_nl : ∀ n, n < 64 → isNL (ch n) = false := fun n h =>
  let ⟨_, _, _, _, hnl⟩ := alphabet n h; hnl

theorem ch_injective : ∀ n, n < 64 → ∀ m, m < 64 → ch n = ch m → n = m := fun n hn m hm h =>
  Option.some.inj (by rw [← val_ch n hn, ← val_ch m hm, h])

theorem val_pad : val pad = none := by decide

/-- only alphabet characters have a value, and `ch` gives the character back: on each of the five
    ranges of `val` the matching branch of `ch` applies -/
theorem val_inv {c x : Nat} (h : val c = some x) : x < 64 ∧ ch x = c := by
  unfold val at h
  unfold ch
  split at h
  · cases h
    rw [if_pos (by omega)]; omega
  split at h
  · cases h
    rw [if_neg (by omega), if_pos (by omega)]; omega
  split at h
  · cases h
    rw [if_neg (by omega), if_neg (by omega), if_pos (by omega)]; omega
  split at h
  · cases h
    rw [if_neg (by omega), if_neg (by omega), if_neg (by omega), if_pos rfl]; omega
  split at h
  · cases h
    rw [if_neg (by omega), if_neg (by omega), if_neg (by omega), if_neg (by omega)]; omega
  cases h

/-- the alphabet characters are the `ch n`, `n < 64` -/
theorem inAlphabet_iff (c : Nat) : inAlphabet c = true ↔ ∃ n, n < 64 ∧ ch n = c := by
  unfold inAlphabet
  constructor
  · intro h
    obtain ⟨x, hv⟩ := Option.isSome_iff_exists.mp h
    exact ⟨x, val_inv hv⟩
  · rintro ⟨n, hn, rfl⟩
    rw [val_ch n hn]; rfl

/-! ### encode -/

/-- character class of the encoder's output -/
def okChar (c : Nat) : Bool := inAlphabet c || c == pad

theorem okChar_ch {n : Nat} (h : n < 64) : okChar (ch n) = true := by
  simp only [okChar, inAlphabet, val_ch n h, Option.isSome_some, Bool.true_or]

theorem okChar_pad : okChar pad = true := by decide

theorem okChar_cases {c : Nat} (h : okChar c = true) : (∃ n, n < 64 ∧ ch n = c) ∨ c = pad := by
  simpa only [okChar, Bool.or_eq_true, beq_iff_eq, inAlphabet_iff] using h

theorem okChar_lt_128 {c : Nat} (h : okChar c = true) : c < 128 := by
  rcases okChar_cases h with ⟨n, hn, rfl⟩ | rfl
  · exact ch_lt_128 n hn
  · decide

theorem okChar_not_nl {c : Nat} (h : okChar c = true) : isNL c = false := by
  rcases okChar_cases h with ⟨n, hn, rfl⟩ | rfl
  · exact ch_not_nl n hn
  · decide

theorem encode_length (b : Str) : (encode b).length = 4 * ((b.length + 2) / 3) := by
  induction b using encode.induct with
  | case1 => rfl
  | case2 a => simp [encode]
  | case3 a b => simp [encode]
  | case4 a b c rest ih =>
    simp only [encode, List.length_cons, ih]
    omega

theorem encode_length_mod4 (b : Str) : (encode b).length % 4 = 0 := by
  rw [encode_length]; omega

theorem encode_eq_nil {b : Str} : encode b = [] ↔ b = [] := by
  constructor
  · intro h
    have := encode_length b
    rw [h] at this
    simp only [List.length_nil] at this
    cases b with
    | nil => rfl
    | cons a t => simp only [List.length_cons] at this; omega
  · rintro rfl; rfl

/-- the four sextets of a quantum `a b c` are sextets.  A padded tail is a quantum whose missing bytes
    are 0: below, `a % 4 * 16 + 0 / 16` is `a % 4 * 16` by evaluation, likewise `b % 16 * 4 + 0 / 64`. -/
theorem sextets_lt {a b c : Nat} (ha : a < 256) (hb : b < 256) (hc : c < 256) :
    a / 4 < 64 ∧ a % 4 * 16 + b / 16 < 64 ∧ b % 16 * 4 + c / 64 < 64 ∧ c % 64 < 64 := by omega

/-- every output character is one of the 64 alphabet characters or '=' -/
theorem encode_chars (b : Str) (hb : bytes b) : ∀ c ∈ encode b, okChar c = true := by
  induction b using encode.induct with
  | case1 => intro c h; cases h
  | case2 a =>
    obtain ⟨ha, -⟩ := bytes_cons.mp hb
    have hs := sextets_lt ha (Nat.zero_lt_succ 255) (Nat.zero_lt_succ 255)
    simp only [encode, List.forall_mem_cons]
    exact ⟨okChar_ch hs.1, okChar_ch hs.2.1, okChar_pad, okChar_pad, nofun⟩
  | case3 a b =>
    simp only [bytes_cons] at hb
    have hs := sextets_lt hb.1 hb.2.1 (Nat.zero_lt_succ 255)
    simp only [encode, List.forall_mem_cons]
    exact ⟨okChar_ch hs.1, okChar_ch hs.2.1, okChar_ch hs.2.2.1, okChar_pad, nofun⟩
  | case4 a b c rest ih =>
    simp only [bytes_cons] at hb
    have hs := sextets_lt hb.1 hb.2.1 hb.2.2.1
    simp only [encode, List.forall_mem_cons]
    exact ⟨okChar_ch hs.1, okChar_ch hs.2.1, okChar_ch hs.2.2.1, okChar_ch hs.2.2.2, ih hb.2.2.2⟩

/-- no '.' in the output (used where an encoded value is embedded in a dotted name) -/
theorem encode_no_dot (b : Str) (hb : bytes b) : (46 : Nat) ∉ encode b := by
  intro h
  have := encode_chars b hb 46 h
  revert this; decide

/-- no CR / LF in the output: the decoder's newline skipping does not touch it -/
theorem encode_no_nl (b : Str) (hb : bytes b) : (encode b).filter (fun c => !isNL c) = encode b := by
  apply List.filter_eq_self.2
  intro c hc
  rw [okChar_not_nl (encode_chars b hb c hc)]; rfl

/-- output is 7-bit ASCII -/
theorem encode_ascii (b : Str) (hb : bytes b) : ∀ c ∈ encode b, c < 128 :=
  fun c hc => okChar_lt_128 (encode_chars b hb c hc)

/-! ### decode ∘ encode -/

theorem quantum_bytes {a b c : Nat} (ha : a < 256) (hb : b < 256) (hc : c < 256) :
    b0 (a / 4) (a % 4 * 16 + b / 16) = a ∧ b1 (a % 4 * 16 + b / 16) (b % 16 * 4 + c / 64) = b
      ∧ b2 (b % 16 * 4 + c / 64) (c % 64) = c := by
  unfold b0 b1 b2; omega

theorem decodeQ_encode (b : Str) (hb : bytes b) : decodeQ (encode b) = some b := by
  induction b using encode.induct with
  | case1 => rfl
  | case2 a =>
    obtain ⟨ha, -⟩ := bytes_cons.mp hb
    have z : 0 < 256 := Nat.zero_lt_succ 255
    have h1 : a % 4 * 16 < 64 := (sextets_lt ha z z).2.1
    have hq : b0 (a / 4) (a % 4 * 16) = a := (quantum_bytes ha z z).1
    simp only [encode, decodeQ, val_ch _ (sextets_lt ha z z).1, val_ch _ h1, val_pad, and_self, if_true, hq]
  | case3 a b =>
    simp only [bytes_cons] at hb
    have z : 0 < 256 := Nat.zero_lt_succ 255
    have hs := sextets_lt hb.1 hb.2.1 z
    have h2 : b % 16 * 4 < 64 := hs.2.2.1
    have hq := quantum_bytes hb.1 hb.2.1 z
    have h1 : b1 (a % 4 * 16 + b / 16) (b % 16 * 4) = b := hq.2.1
    simp only [encode, decodeQ, val_ch _ hs.1, val_ch _ hs.2.1, val_ch _ h2, val_pad, and_self, if_true, hq.1, h1]
  | case4 a b c rest ih =>
    simp only [bytes_cons] at hb
    have hs := sextets_lt hb.1 hb.2.1 hb.2.2.1
    have hq := quantum_bytes hb.1 hb.2.1 hb.2.2.1
    simp only [encode, decodeQ, val_ch _ hs.1, val_ch _ hs.2.1, val_ch _ hs.2.2.1, val_ch _ hs.2.2.2,
      ih hb.2.2.2, Option.map_some, hq.1, hq.2.1, hq.2.2]

/-- **round trip**: `GetContent (NewUDPPacket b) = b` for every byte string -/
theorem decode_encode (b : Str) (hb : bytes b) : decode (encode b) = some b := by
  unfold decode
  rw [encode_no_nl b hb, decodeQ_encode b hb]

theorem encode_injective {a b : Str} (ha : bytes a) (hb : bytes b) (h : encode a = encode b) : a = b := by
  have h1 := decode_encode a ha
  rw [h, decode_encode b hb] at h1
  exact (Option.some.inj h1).symm

theorem b0_lt (x y : Nat) : b0 x y < 256 := Nat.mod_lt _ (by decide)

theorem b1_lt (y z : Nat) : b1 y z < 256 := Nat.mod_lt _ (by decide)

theorem b2_lt (z w : Nat) : b2 z w < 256 := Nat.mod_lt _ (by decide)

/-- what the decoder returns is always a byte string: every byte it writes is a `b0`/`b1`/`b2` -/
theorem decodeQ_bytes (s : Str) : ∀ out, decodeQ s = some out → bytes out := by
  induction s using decodeQ.induct_unfolding with
  | case1 => intro out h; cases h; exact bytes_nil
  | case2 a b c d rest x y _ _ z w _ _ ih =>
    intro out h
    obtain ⟨r, hr, rfl⟩ := Option.map_eq_some_iff.mp h
    exact bytes_cons.mpr ⟨b0_lt x y, bytes_cons.mpr ⟨b1_lt y z, bytes_cons.mpr ⟨b2_lt z w, ih r hr⟩⟩⟩
  | case3 a b c d rest x y _ _ z =>
    intro out h; cases h
    exact bytes_cons.mpr ⟨b0_lt x y, bytes_cons.mpr ⟨b1_lt y z, bytes_nil⟩⟩
  | case5 a b c d rest x y =>
    intro out h; cases h
    exact bytes_cons.mpr ⟨b0_lt x y, bytes_nil⟩
  | case4 | case6 | case7 | case8 => intro out h; cases h

theorem decode_bytes {s out : Str} (h : decode s = some out) : bytes out :=
  decodeQ_bytes _ out h

end Base64
end Frp
