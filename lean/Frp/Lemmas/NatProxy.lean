import Frp.Model.NatProxy
/-
  Lemmas about Model/NatProxy.lean (core only): `pstep` label by label, `nget` / `nput`, `prun`.
-/
namespace Frp
namespace NatProxy
open NatHole

/-- `pstep`, read backwards: per label, what an enabled step found and what it left behind -/
inductive PStep (s : PState) : PLabel → PState → Out → Sids → Prop
  | runRepeated {id name sk allow cfg} : nget s.pxs id = none → aget s.ctl.cfgs name = some cfg →
      PStep s (.run id name sk allow) s [] []
  | run {id name sk allow} : nget s.pxs id = none → aget s.ctl.cfgs name = none →
      PStep s (.run id name sk allow)
        { ctl := { s.ctl with cfgs := aput s.ctl.cfgs name { sk := sk, allow := allow, chan := s.ctl.nextChan },
                              nextChan := s.ctl.nextChan + 1 },
          pxs := nput s.pxs id { name := name, chan := s.ctl.nextChan } } [] []
  | closeAgain {id p} : nget s.pxs id = some p → p.closed = true → PStep s (.close id) s [] []
  | close {id p} : nget s.pxs id = some p → p.closed = false →
      PStep s (.close id)
        { ctl := { s.ctl with cfgs := adel s.ctl.cfgs p.name }, pxs := nput s.pxs id { p with closed := true } } [] []
  | recv {id sid p sess} : nget s.pxs id = some p → aget s.ctl.sessions sid = some sess → p.loop = .idle →
      sess.phase = .notifying p.chan →
      PStep s (.recv id sid)
        { ctl := { s.ctl with sessions := aput s.ctl.sessions sid { sess with phase := .waiting } },
          pxs := nput s.pxs id { p with loop := .delivering sid } } [] []
  | fetched {id ok p sid} : nget s.pxs id = some p → p.loop = .delivering sid →
      PStep s (.fetched id ok) { s with pxs := nput s.pxs id { p with loop := .idle } } []
        (if ok then [(id, sid)] else [])
  | exit {id p} : nget s.pxs id = some p → p.loop = .idle → p.closed = true →
      PStep s (.exit id) { s with pxs := nput s.pxs id { p with loop := .stopped } } [] []
  | ctl {l c' o} : ctlFree l = true → step s.ctl l = some (c', o) → PStep s (.ctl l) { s with ctl := c' } o []

theorem pstep_spec {s s' : PState} {l : PLabel} {o : Out} {d : Sids} (h : pstep s l = some (s', o, d)) :
    PStep s l s' o d := by
  cases l <;> simp only [pstep, pstepWith] at h
  case run =>
    split at h
    · cases h
    · next hid =>
      split at h
      · next hc => cases h; exact .runRepeated hid hc
      · next hc => cases h; exact .run hid hc
  case close =>
    split at h
    · cases h
    · next p hp =>
      split at h
      · next hc => cases h; exact .closeAgain hp hc
      · next hc => cases h; exact .close hp (by simpa using hc)
  case recv =>
    split at h
    · next p sess hp hs =>
      split at h
      · next hc => cases h; exact .recv hp hs hc.1 hc.2
      · cases h
    · cases h
  case fetched =>
    split at h
    · next p hp =>
      split at h
      · next sid hl => cases h; exact .fetched hp hl
      · cases h
    · cases h
  case exit =>
    split at h
    · next p hp =>
      split at h
      · next hc => cases h; exact .exit hp hc.1 hc.2
      · cases h
    · cases h
  case ctl =>
    split at h
    · next hf =>
      split at h
      · next c' o' hs => cases h; exact .ctl hf hs
      · cases h
    · cases h

theorem nget_nput_some {α : Type} {l : List (Nat × α)} {k k' : Nat} {v q : α} (h : nget (nput l k v) k' = some q) :
    (k = k' ∧ v = q) ∨ (k ≠ k' ∧ nget l k' = some q) := by
  rw [nget_nput] at h
  split at h
  · next e => cases h; exact Or.inl ⟨e, rfl⟩
  · next e => exact Or.inr ⟨e, h⟩

theorem all_nput {α : Type} {Q : α → Prop} {l : List (Nat × α)} (h : ∀ k q, nget l k = some q → Q q)
    (k : Nat) {v : α} (hv : Q v) : ∀ k' q, nget (nput l k v) k' = some q → Q q := by
  intro k' q hq
  rcases nget_nput_some hq with ⟨_, rfl⟩ | ⟨_, hq⟩
  · exact hv
  · exact h k' q hq

theorem prun_keeps {P : PState → Prop} : ∀ {ls : List PLabel} {s s' : PState} {o : Out} {d : Sids},
    (∀ s s' l o d, l ∈ ls → P s → pstep s l = some (s', o, d) → P s') → P s → prun s ls = some (s', o, d) → P s'
  | [], _, _, _, _, _, hs, h => by cases h; exact hs
  | l :: ls, s, s', o, d, hP, hs, h => by
    simp only [prun, prunWith] at h
    split at h
    · cases h
    · next s1 o1 d1 h1 =>
      split at h
      · cases h
      · next s2 o2 d2 h2 =>
        cases h
        exact prun_keeps (fun s s' l o d hl => hP s s' l o d (List.mem_cons_of_mem _ hl))
          (hP s s1 l o1 d1 List.mem_cons_self hs h1) h2

end NatProxy
end Frp
