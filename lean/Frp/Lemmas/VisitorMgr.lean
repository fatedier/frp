import Frp.Model.VisitorMgr
import Frp.Lemmas.ListFacts
/-
  Lemmas about the visitor manager model (Frp/Model/VisitorMgr.lean) used by Frp/Props/C19Visitors.lean.
-/
namespace Frp
namespace C19
open VisitorMgr

/-- at most one entry per name (vm.cfgs is a Go map) -/
def VNamesNodup (cs : List VCfg) : Prop := cs.Pairwise (fun a b => a.name ≠ b.name)

/-- invariant of the manager: both maps have one entry per name, every visitor object was started
    from the configuration stored under its name, stamps are old -/
def VInv (m : Mgr) : Prop :=
  VNamesNodup m.cfgs ∧
  m.visitors.Pairwise (fun a b => a.cfg.name ≠ b.cfg.name) ∧
  (∀ v ∈ m.visitors, v.cfg ∈ m.cfgs) ∧
  (∀ v ∈ m.visitors, v.id < m.nextId)

namespace VM

theorem hasCfg_iff (cs : List VCfg) (n : Nat) : hasCfg cs n = true ↔ ∃ c ∈ cs, c.name = n := by
  simp [hasCfg, List.any_eq_true]

theorem hasCfg_false_iff (cs : List VCfg) (n : Nat) : hasCfg cs n = false ↔ ∀ c ∈ cs, c.name ≠ n := by
  simp [hasCfg]

theorem hasVisitor_iff (vs : List V) (n : Nat) : hasVisitor vs n = true ↔ ∃ v ∈ vs, v.cfg.name = n := by
  simp [hasVisitor, List.any_eq_true]

theorem hasVisitor_false_iff (vs : List V) (n : Nat) : hasVisitor vs n = false ↔ ∀ v ∈ vs, v.cfg.name ≠ n := by
  simp [hasVisitor]

theorem vnodup_eq {cs : List VCfg} (h : VNamesNodup cs) {a b : VCfg} (ha : a ∈ cs) (hb : b ∈ cs)
    (hn : a.name = b.name) : a = b :=
  eq_of_pairwise_ne h ha hb hn

theorem vlookupLast_mem {cfgs : List VCfg} {n : Nat} {c : VCfg} (h : lookupLast cfgs n = some c) :
    c ∈ cfgs ∧ c.name = n := by
  unfold lookupLast at h
  have h1 := List.mem_of_find?_eq_some h
  have h2 := List.find?_some h
  exact ⟨List.mem_reverse.mp h1, by simpa using h2⟩

theorem vkeeps_mem {cfgs : List VCfg} {c : VCfg} (h : keeps cfgs c = true) : c ∈ cfgs := by
  simp only [keeps, beq_iff_eq] at h
  exact (vlookupLast_mem h).1

theorem find_of_nodup {cs : List VCfg} (h : VNamesNodup cs) {c : VCfg} (hc : c ∈ cs) :
    cs.find? (fun x => x.name == c.name) = some c := by
  cases hf : cs.find? (fun x => x.name == c.name) with
  | none =>
    have := List.find?_eq_none.mp hf c hc
    simp at this
  | some c' =>
    have h1 := List.mem_of_find?_eq_some hf
    have h2 : c'.name = c.name := by simpa using List.find?_some hf
    rw [vnodup_eq h h1 hc h2]

/-- in a list without duplicated names every entry is the configured entry of its name -/
theorem vlookupLast_of_nodup {cfgs : List VCfg} (h : VNamesNodup cfgs) {c : VCfg} (hc : c ∈ cfgs) :
    lookupLast cfgs c.name = some c :=
  find_of_nodup (List.pairwise_reverse.mpr (h.imp Ne.symm)) (List.mem_reverse.mpr hc)

/-! ### startVisitor -/

theorem startVisitor_cfgs (m : Mgr) (c : VCfg) : (startVisitor m c).cfgs = m.cfgs := by
  unfold startVisitor; split <;> rfl

theorem startVisitor_squat (m : Mgr) (c : VCfg) : (startVisitor m c).squat = m.squat := by
  unfold startVisitor; split <;> rfl

theorem startVisitor_closed (m : Mgr) (c : VCfg) : (startVisitor m c).closed = m.closed := by
  unfold startVisitor; split <;> rfl

theorem startVisitor_nextId_le (m : Mgr) (c : VCfg) : m.nextId ≤ (startVisitor m c).nextId := by
  unfold startVisitor; split <;> simp

theorem startVisitor_sub (m : Mgr) (c : VCfg) (v : V) (h : v ∈ m.visitors) : v ∈ (startVisitor m c).visitors := by
  unfold startVisitor; split
  · exact List.mem_append_left _ h
  · exact h

theorem startVisitor_mem (m : Mgr) (c : VCfg) (v : V) (h : v ∈ (startVisitor m c).visitors) :
    v ∈ m.visitors ∨ (v = { cfg := c, id := m.nextId } ∧ canStart m c = true) := by
  unfold startVisitor at h; split at h
  · rename_i hc
    rcases List.mem_append.mp h with h | h
    · exact Or.inl h
    · exact Or.inr ⟨by simpa using h, hc⟩
  · exact Or.inl h

theorem startVisitor_can (m : Mgr) (c : VCfg) (h : canStart m c = true) :
    (startVisitor m c).visitors = m.visitors ++ [{ cfg := c, id := m.nextId }] := by
  simp [startVisitor, h]

theorem startVisitor_cannot (m : Mgr) (c : VCfg) (h : canStart m c = false) : startVisitor m c = m := by
  simp [startVisitor, h]

theorem inv_start (m : Mgr) (c : VCfg) (h : VInv m) (hc : c ∈ m.cfgs)
    (hv : hasVisitor m.visitors c.name = false) : VInv (startVisitor m c) := by
  obtain ⟨h1, h2, h3, h4⟩ := h
  unfold startVisitor
  split
  · refine ⟨h1, List.pairwise_append.mpr ⟨h2, List.pairwise_singleton _ _, fun a ha b hb => ?_⟩,
      forall_mem_snoc h3 hc, forall_mem_snoc (fun v hv => Nat.lt_succ_of_lt (h4 v hv)) (Nat.lt_succ_self _)⟩
    rw [List.mem_singleton.mp hb]
    exact (hasVisitor_false_iff _ _).mp hv a ha
  · exact ⟨h1, h2, h3, h4⟩

/-- storing a configuration under a new name -/
theorem inv_addCfg (m : Mgr) (c : VCfg) (h : VInv m) (hn : hasCfg m.cfgs c.name = false) :
    VInv { m with cfgs := m.cfgs ++ [c] } := by
  obtain ⟨h1, h2, h3, h4⟩ := h
  refine ⟨List.pairwise_append.mpr ⟨h1, List.pairwise_singleton _ _, fun a ha b hb => ?_⟩, h2,
    fun v hv => List.mem_append_left _ (h3 v hv), h4⟩
  rw [List.mem_singleton.mp hb]
  exact (hasCfg_false_iff _ _).mp hn a ha

theorem noVisitor_of_noCfg (m : Mgr) (h : VInv m) (n : Nat) (hn : hasCfg m.cfgs n = false) :
    hasVisitor m.visitors n = false := by
  rw [hasVisitor_false_iff]
  intro v hv
  exact (hasCfg_false_iff _ _).mp hn _ (h.2.2.1 v hv)

theorem tryStart_eq (m : Mgr) (n : Nat) : tryStart m n = m ∨
    ∃ c ∈ m.cfgs, c.name = n ∧ hasVisitor m.visitors n = false ∧ tryStart m n = startVisitor m c := by
  unfold tryStart
  split
  · exact .inl rfl
  · rename_i c hf
    split
    · exact .inl rfl
    · exact .inr ⟨c, List.mem_of_find?_eq_some hf, by simpa using List.find?_some hf, Bool.eq_false_iff.mpr ‹_›, rfl⟩

/-! ### the add loop -/

/-- what every round of the add loop (store the entry under its new name, try to start it) keeps, the loop keeps -/
theorem addLoop_induct {P : Mgr → Prop} (cs : List VCfg)
    (hround : ∀ m, ∀ c ∈ cs, hasCfg m.cfgs c.name = false → P m →
      P (startVisitor { m with cfgs := m.cfgs ++ [c] } c)) :
    ∀ (m : Mgr), P m → P (addLoop m cs) := by
  induction cs with
  | nil => exact fun _ h => h
  | cons c cs ih =>
    intro m h
    have ih := ih (fun m c hc => hround m c (List.mem_cons_of_mem _ hc))
    simp only [addLoop]
    split
    · exact ih m h
    · exact ih _ (hround m c List.mem_cons_self (Bool.eq_false_iff.mpr ‹_›) h)

theorem addLoop_inv (cs : List VCfg) : ∀ (m : Mgr), VInv m → VInv (addLoop m cs) :=
  addLoop_induct cs (fun m c _ hn h =>
    inv_start _ _ (inv_addCfg m c h hn) (List.mem_append_right _ (List.mem_singleton.mpr rfl))
      (noVisitor_of_noCfg m h _ hn))

theorem addLoop_hasCfg (cs : List VCfg) (n : Nat) : ∀ (m : Mgr),
    hasCfg (addLoop m cs).cfgs n = (hasCfg m.cfgs n || hasCfg cs n) := by
  induction cs with
  | nil => intro m; simp [addLoop, hasCfg]
  | cons c cs ih =>
    intro m
    simp only [addLoop]
    split
    · rename_i h
      rw [ih m]
      by_cases hn : c.name = n
      · subst hn; simp [hasCfg] at h ⊢; simp [h]
      · have h2 : (c.name == n) = false := by simpa using hn
        simp [hasCfg, h2]
    · rw [ih, startVisitor_cfgs]
      simp [hasCfg, List.any_append, Bool.or_assoc]

theorem addLoop_cfgs_mem (cs : List VCfg) (m : Mgr) (c : VCfg) (h : c ∈ (addLoop m cs).cfgs) :
    c ∈ m.cfgs ∨ c ∈ cs := by
  refine addLoop_induct (P := fun x => ∀ y ∈ x.cfgs, y ∈ m.cfgs ∨ y ∈ cs) cs ?_ m (fun _ => .inl) c h
  intro x c0 hc0 _ hx y hy
  rw [startVisitor_cfgs] at hy
  rcases List.mem_append.mp hy with hy | hy
  · exact hx y hy
  · exact .inr (List.mem_singleton.mp hy ▸ hc0)

theorem addLoop_cfgs_sub (cs : List VCfg) : ∀ (m : Mgr) (c : VCfg), c ∈ m.cfgs → c ∈ (addLoop m cs).cfgs :=
  fun m c => addLoop_induct (P := fun x => c ∈ x.cfgs) cs
    (fun _ _ _ _ h => by rw [startVisitor_cfgs]; exact List.mem_append_left _ h) m

theorem addLoop_visitors_sub (cs : List VCfg) : ∀ (m : Mgr) (v : V), v ∈ m.visitors → v ∈ (addLoop m cs).visitors :=
  fun m v => addLoop_induct (P := fun x => v ∈ x.visitors) cs (fun _ _ _ _ h => startVisitor_sub _ _ _ h) m

/-- every visitor after the add loop is an old object or one with a fresh stamp -/
theorem addLoop_visitors_mem (cs : List VCfg) (m : Mgr) (v : V) (h : v ∈ (addLoop m cs).visitors) :
    v ∈ m.visitors ∨ m.nextId ≤ v.id := by
  refine (addLoop_induct (P := fun x => m.nextId ≤ x.nextId ∧ ∀ y ∈ x.visitors, y ∈ m.visitors ∨ m.nextId ≤ y.id)
    cs ?_ m ⟨Nat.le_refl _, fun _ => .inl⟩).2 v h
  intro x c _ _ ⟨hle, hx⟩
  refine ⟨Nat.le_trans hle (startVisitor_nextId_le { x with cfgs := x.cfgs ++ [c] } c), fun y hy => ?_⟩
  rcases startVisitor_mem _ _ _ hy with hy | ⟨rfl, _⟩
  · exact hx y hy
  · exact .inr hle

/-- when every name of the list is stored already the add loop does nothing -/
theorem addLoop_noop (cs : List VCfg) (m : Mgr) (h : ∀ c ∈ cs, hasCfg m.cfgs c.name = true) : addLoop m cs = m := by
  induction cs with
  | nil => rfl
  | cons c cs ih =>
    simp only [addLoop]
    rw [if_pos (h c List.mem_cons_self)]
    exact ih (fun c' hc' => h c' (List.mem_cons_of_mem _ hc'))

/-! ### UpdateAll -/

theorem gone_iff (m : Mgr) (cfgs : List VCfg) (n : Nat) :
    (goneNames m cfgs).contains n = true ↔ ∃ c ∈ m.cfgs, keeps cfgs c = false ∧ c.name = n := by
  simp only [goneNames, List.contains_eq_any_beq, List.any_eq_true, List.mem_map, List.mem_filter, beq_iff_eq]
  constructor
  · rintro ⟨x, ⟨c, ⟨hc, hk⟩, rfl⟩, hx⟩
    exact ⟨c, hc, by simpa using hk, hx.symm⟩
  · rintro ⟨c, hc, hk, rfl⟩
    exact ⟨c.name, ⟨c, ⟨hc, by simpa using hk⟩, rfl⟩, rfl⟩

/-- the state between the delete loop and the add loop -/
def afterDelete (m : Mgr) (cfgs : List VCfg) : Mgr :=
  { m with cfgs := m.cfgs.filter (keeps cfgs),
           visitors := m.visitors.filter (fun v => !(goneNames m cfgs).contains v.cfg.name) }

theorem updateAll_eq (m : Mgr) (cfgs : List VCfg) : updateAll m cfgs = addLoop (afterDelete m cfgs) cfgs := rfl

theorem afterDelete_inv (m : Mgr) (cfgs : List VCfg) (h : VInv m) : VInv (afterDelete m cfgs) := by
  obtain ⟨h1, h2, h3, h4⟩ := h
  refine ⟨List.Pairwise.sublist List.filter_sublist h1, List.Pairwise.sublist List.filter_sublist h2, ?_, ?_⟩
  · intro v hv
    simp only [afterDelete, List.mem_filter] at hv ⊢
    refine ⟨h3 v hv.1, ?_⟩
    cases hk : keeps cfgs v.cfg with
    | true => rfl
    | false =>
      have : (goneNames m cfgs).contains v.cfg.name = true := (gone_iff m cfgs _).mpr ⟨v.cfg, h3 v hv.1, hk, rfl⟩
      simp only [List.contains_iff_mem] at this
      exact absurd this (by simpa using hv.2)
  · intro v hv
    simp only [afterDelete, List.mem_filter] at hv
    exact h4 v hv.1

theorem afterDelete_nextId (m : Mgr) (cfgs : List VCfg) : (afterDelete m cfgs).nextId = m.nextId := rfl

theorem afterDelete_cfgs_mem {m : Mgr} {cfgs : List VCfg} {c : VCfg} (h : c ∈ (afterDelete m cfgs).cfgs) : c ∈ cfgs :=
  vkeeps_mem (List.mem_filter.mp h).2

theorem afterDelete_noop (m : Mgr) (cfgs : List VCfg) (hall : ∀ c ∈ m.cfgs, keeps cfgs c = true) :
    afterDelete m cfgs = m := by
  have hg : goneNames m cfgs = [] := by
    simp only [goneNames, List.map_eq_nil_iff, List.filter_eq_nil_iff]
    intro c hc
    simp [hall c hc]
  have hv : m.visitors.filter (fun v => !([] : List Nat).contains v.cfg.name) = m.visitors :=
    List.filter_eq_self.mpr (fun _ _ => rfl)
  simp only [afterDelete, hg, List.filter_eq_self.mpr hall, hv]

end VM
end C19
end Frp
