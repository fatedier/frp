/-
  Facts about core `List` that several models need: invariants along a `foldl` (several models run their
  transition system by one), association lists read with `List.lookup`, lists whose members differ under a
  key, and lists grown at the end.
  Nothing here mentions a model.
-/
namespace Frp

/-! ### folds -/

/-- What every step keeps holds at the end of the run.  The step hypothesis may use that the input
    is one of the run. -/
theorem foldl_invariant {σ α : Type} {P : σ → Prop} {f : σ → α → σ} {l : List α} {s : σ}
    (h0 : P s) (hf : ∀ s a, a ∈ l → P s → P (f s a)) : P (l.foldl f s) := by
  induction l generalizing s with
  | nil => exact h0
  | cons a l ih =>
    exact ih (hf s a (List.mem_cons_self ..) h0) fun s b hb => hf s b (List.mem_cons_of_mem _ hb)

/-- A property that steps keep, once some step of the run establishes it, holds at the end. -/
theorem foldl_reaches {σ α : Type} {P : σ → Prop} {f : σ → α → σ} (hP : ∀ s a, P s → P (f s a))
    {l : List α} {a : α} (ha : a ∈ l) (hit : ∀ s, P (f s a)) (s : σ) : P (l.foldl f s) := by
  induction l generalizing s with
  | nil => cases ha
  | cons b l ih =>
    rw [List.foldl_cons]
    rcases List.mem_cons.mp ha with rfl | ha
    · exact foldl_invariant (hit s) fun s a _ => hP s a
    · exact ih ha _

/-! ### association lists -/

section lookup
variable {α β : Type} [BEq α] [LawfulBEq α] {l : List (α × β)}

theorem lookup_mem {k : α} {v : β} (h : l.lookup k = some v) : (k, v) ∈ l := by
  obtain ⟨l₁, l₂, rfl, _⟩ := List.lookup_eq_some_iff.mp h
  simp

theorem lookup_isSome_iff {k : α} : (l.lookup k).isSome ↔ k ∈ l.map (·.1) := by
  simp [List.lookup_isSome_iff]

theorem lookup_filter_ne {k p : α} (h : k ≠ p) :
    (l.filter (fun e => e.1 != p)).lookup k = l.lookup k := by
  induction l with
  | nil => rfl
  | cons e es ih =>
    obtain ⟨a, b⟩ := e
    by_cases ha : a = p
    · rw [List.filter_cons_of_neg (by simpa using ha), ih, List.lookup_cons,
        show (k == a) = false by simpa [ha] using h]
    · rw [List.filter_cons_of_pos (by simpa using ha), List.lookup_cons, List.lookup_cons, ih]

theorem lookup_filter_self {p : α} : (l.filter (fun e => e.1 != p)).lookup p = none := by
  rw [List.lookup_eq_none_iff]
  intro e he
  have : e.1 ≠ p := by simpa using (List.mem_filter.mp he).2
  simpa using this.symm

end lookup

/-- the models write "delete key `p`" as `filter (·.1 ≠ p)`; the lemmas above speak of `!=` -/
theorem filter_key_ne {α β : Type} [DecidableEq α] (l : List (α × β)) (p : α) :
    l.filter (fun e => e.1 ≠ p) = l.filter (fun e => e.1 != p) := by
  congr 1
  funext e
  by_cases h : e.1 = p <;> simp [h]

/-! ### keys -/

/-- In a list whose members differ pairwise under `f`, the value of `f` identifies the member. -/
theorem eq_of_pairwise_ne {α β : Type} {f : α → β} {l : List α} (h : l.Pairwise (fun a b => f a ≠ f b))
    {x y : α} (hx : x ∈ l) (hy : y ∈ l) (e : f x = f y) : x = y := by
  induction l with
  | nil => cases hx
  | cons z zs ih =>
    have hp := List.pairwise_cons.mp h
    rcases List.mem_cons.mp hx with hx1 | hx2 <;> rcases List.mem_cons.mp hy with hy1 | hy2
    · rw [hx1, hy1]
    · rw [hx1] at e
      exact absurd e (hp.1 y hy2)
    · rw [hy1] at e
      exact absurd e.symm (hp.1 x hx2)
    · exact ih hp.2 hx2 hy2

theorem eq_of_nodup_map {α β : Type} {f : α → β} {l : List α} (h : (l.map f).Nodup)
    {x y : α} (hx : x ∈ l) (hy : y ∈ l) (e : f x = f y) : x = y :=
  eq_of_pairwise_ne (List.pairwise_map.mp h) hx hy e

/-! ### lists grown at the end -/

theorem forall_mem_snoc {α : Type} {P : α → Prop} {l : List α} {a : α} (h : ∀ e ∈ l, P e) (ha : P a) :
    ∀ e ∈ l ++ [a], P e := by
  intro e he
  rcases List.mem_append.mp he with he | he
  · exact h e he
  · rw [List.mem_singleton.mp he]; exact ha

end Frp
