import Frp.Lemmas.GroupConn
/-
  Accounting of user connections in the group transition system (Frp/Model/Group.lean) with
  UNBUFFERED hand-off channels: every connection that reached a group's listener is in exactly one
  place — with the worker, with the one member that received it, or closed.
-/
namespace Frp
namespace Group
open Str

/-- connections waiting with a worker -/
def St.ik (s : St) : List Nat := s.inflight.map (·.1)
/-- connections a member received -/
def St.dk (s : St) : List Nat := s.delivered.map (·.1)

structure AInv (s : St) : Prop where
  /-- nothing is lost: an accepted connection is with the worker, with a member, or closed -/
  acct : ∀ c, c ∈ s.seen → c ∈ s.ik ∨ c ∈ s.dk ∨ c ∈ s.dropped
  sub : ∀ c, (c ∈ s.ik ∨ c ∈ s.dk ∨ c ∈ s.dropped) → c ∈ s.seen
  /-- the three places are disjoint -/
  dis1 : ∀ c, c ∈ s.ik → c ∉ s.dk ∧ c ∉ s.dropped
  dis2 : ∀ c, c ∈ s.dk → c ∉ s.dropped
  /-- a connection is received at most once, by one member -/
  once : s.dk.Nodup

theorem ainv_init (k : Kind) (allow : List Nat) : AInv (init k allow) :=
  ⟨by intro c h; simp [init] at h, by intro c h; simp [init, St.ik, St.dk] at h,
   by intro c h; simp [init, St.ik] at h, by intro c h; simp [init, St.dk] at h, by simp [init, St.dk]⟩

section
variable {s s' : St}

theorem ainv_congr (h : AInv s) (h1 : s'.inflight = s.inflight) (h2 : s'.delivered = s.delivered)
    (h3 : s'.dropped = s.dropped) (h4 : s'.seen = s.seen) : AInv s' := by
  have e1 : s'.ik = s.ik := by simp [St.ik, h1]
  have e2 : s'.dk = s.dk := by simp [St.dk, h2]
  exact ⟨by rw [h4, e1, e2, h3]; exact h.acct, by rw [h4, e1, e2, h3]; exact h.sub,
         by rw [e1, e2, h3]; exact h.dis1, by rw [e2, h3]; exact h.dis2, by rw [e2]; exact h.once⟩

theorem mem_ik_of_lookup {c g : Nat} (h : s.inflight.lookup c = some g) : c ∈ s.ik :=
  List.mem_map.2 ⟨(c, g), lookup_mem h, rfl⟩

theorem mem_ik_filter {l : List (Nat × Nat)} {c x : Nat} :
    x ∈ (l.filter (fun y => !(y.1 == c))).map (·.1) ↔ x ∈ l.map (·.1) ∧ x ≠ c := by
  simp only [List.mem_map, List.mem_filter]
  constructor
  · rintro ⟨y, ⟨hy, hb⟩, rfl⟩
    exact ⟨⟨y, hy, rfl⟩, by simpa using hb⟩
  · rintro ⟨⟨y, hy, rfl⟩, hne⟩
    exact ⟨y, ⟨hy, by simpa using hne⟩, rfl⟩

/-! The three moves of a connection.  In each, once the new lists are written in terms of the old ones, every
clause of `AInv` follows propositionally from the old clauses at the same connection `x` and at `c`. -/

/-- the worker's send failed: c goes from `inflight` to `dropped` -/
theorem ainv_drop {c g : Nat} (h : AInv s) (hc : s.inflight.lookup c = some g)
    (h1 : s'.inflight = s.inflight.filter (fun y => !(y.1 == c))) (h2 : s'.delivered = s.delivered)
    (h3 : s'.dropped = c :: s.dropped) (h4 : s'.seen = s.seen) : AInv s' := by
  have hik := mem_ik_of_lookup hc
  have e1 : ∀ x, x ∈ s'.ik ↔ x ∈ s.ik ∧ x ≠ c := by intro x; simp only [St.ik, h1]; exact mem_ik_filter
  have e2 : s'.dk = s.dk := by simp [St.dk, h2]
  obtain ⟨acct, sub, dis1, dis2, once⟩ := h
  refine ⟨?_, ?_, ?_, ?_, by rw [e2]; exact once⟩
  all_goals
    intro x
    simp only [e1, e2, h3, h4, List.mem_cons]
    have := acct x; have := sub x; have := dis1 x; have := dis2 x; have := dis1 c hik
    clear acct sub dis1 dis2 e1
    grind

/-- the hand-off completed: c goes from `inflight` to `delivered` -/
theorem ainv_deliver {c g : Nat} {m : Str} (h : AInv s) (hc : s.inflight.lookup c = some g)
    (h1 : s'.inflight = s.inflight.filter (fun y => !(y.1 == c))) (h2 : s'.delivered = (c, m) :: s.delivered)
    (h3 : s'.dropped = s.dropped) (h4 : s'.seen = s.seen) : AInv s' := by
  have hik := mem_ik_of_lookup hc
  have e1 : ∀ x, x ∈ s'.ik ↔ x ∈ s.ik ∧ x ≠ c := by intro x; simp only [St.ik, h1]; exact mem_ik_filter
  have e2 : s'.dk = c :: s.dk := by simp [St.dk, h2]
  obtain ⟨acct, sub, dis1, dis2, once⟩ := h
  refine ⟨?_, ?_, ?_, ?_, by rw [e2]; exact List.nodup_cons.2 ⟨(dis1 _ hik).1, once⟩⟩
  all_goals
    intro x
    simp only [e1, e2, h3, h4, List.mem_cons]
    have := acct x; have := sub x; have := dis1 x; have := dis2 x; have := dis1 c hik
    clear acct sub dis1 dis2 e1
    grind

/-- a new connection reaches a listener -/
theorem ainv_accept {c g : Nat} (h : AInv s) (hc : c ∉ s.seen)
    (h1 : s'.inflight = (c, g) :: s.inflight) (h2 : s'.delivered = s.delivered)
    (h3 : s'.dropped = s.dropped) (h4 : s'.seen = c :: s.seen) : AInv s' := by
  have e1 : s'.ik = c :: s.ik := by simp [St.ik, h1]
  have e2 : s'.dk = s.dk := by simp [St.dk, h2]
  obtain ⟨acct, sub, dis1, dis2, once⟩ := h
  refine ⟨?_, ?_, ?_, ?_, by rw [e2]; exact once⟩
  all_goals
    intro x
    simp only [e1, e2, h3, h4, List.mem_cons]
    have := acct x; have := sub x; have := dis1 x; have := dis2 x; have := sub c
    clear acct sub dis1 dis2
    grind

end

/-- **every label preserves the accounting** as long as the hand-off channels are unbuffered and empty -/
theorem ainv_step {fx : Fix} (hf : fx.closeOnFail = true) {s s' : St} {l : Label} {r : Res}
    (hi : AInv s) (hcap : s.cap = 0) (hq : ∀ gid, (s.obj gid).queue = [])
    (hs : step fx s l = some (s', r)) : AInv s' := by
  cases step_spec hs
  case accept hc _ => exact ainv_accept hi hc rfl rfl rfl rfl
  case handoffFail hlk _ => exact ainv_drop hi hlk rfl rfl (if_pos hf) rfl
  case handoff hlk _ _ _ => exact ainv_deliver hi hlk rfl rfl rfl rfl
  case sendFail hlk _ => exact ainv_drop hi hlk rfl rfl (if_pos hf) rfl
  case send hlt _ => rw [hcap] at hlt; exact absurd hlt (Nat.not_lt_zero _)
  case recv gid _ _ hcq _ _ => rw [hq gid] at hcq; cases hcq
  case enter _ he =>
    obtain ⟨s0, ⟨ext, leaked, rfl, _⟩, rfl | ⟨_, rfl⟩ | ⟨rp, k, rfl⟩⟩ := enter_cases he <;>
      exact ainv_congr hi rfl rfl rfl rfl
  -- the other labels touch neither `inflight`, `delivered`, `dropped` nor `seen`
  all_goals exact ainv_congr hi rfl rfl rfl rfl

/-- the accounting holds after every label sequence from a state with unbuffered channels that satisfies the
    connection invariant -/
theorem ainv_run {fx : Fix} (hf : fx.closeOnFail = true) (ls : List Label) :
    ∀ {s s' : St}, AInv s → CInv s → s.cap = 0 → run fx s ls = some s' → AInv s' := by
  intro s s' hi hc hcap h
  refine (run_preserves (P := fun t => AInv t ∧ CInv t ∧ t.cap = 0) ?_ ls ⟨hi, hc, hcap⟩ h).1
  intro s s' l r ⟨hi, hc, hcap⟩ hs
  have hq : ∀ gid, (s.obj gid).queue = [] := fun gid =>
    List.eq_nil_of_length_eq_zero (Nat.le_zero.1 (hcap ▸ hc.bounded gid))
  exact ⟨ainv_step hf hi hcap hq hs, cinv_step hf hc hs, (step_cap hs).trans hcap⟩

end Group
end Frp
