import Frp.Model.Sess
/-
  Inductive invariants of the session model (C12), proved for every label, hence for every
  interleaving.  Three bundles:
    `NInv`  who may stand in the global name table (names ↔ own tables ↔ phases)
    `VInv`  who may stand in the visitor-listener / nat-hole-client tables
    `RInv`  the run-id table, stamps, the wait-for-old hand-over and the id generator
  A label of session `n` rewrites the record of `n` and at most one entry of each table.  `Step` lists the
  outcomes of `step` with their enabling conditions (`step_spec`); each bundle has a frame lemma that reduces
  its preservation to what the label does to session `n` itself.
-/
namespace Frp
namespace Sess

@[simp] theorem s_upd (S : St) (n m : Nat) (f : Rec → Rec) :
    (S.upd n f).s m = if m = n then f (S.s n) else S.s m := by
  simp only [St.s, St.upd, Tbl.get_set]

@[simp] theorem upd_names (S : St) (n : Nat) (f : Rec → Rec) : (S.upd n f).names = S.names := rfl
@[simp] theorem upd_byRun (S : St) (n : Nat) (f : Rec → Rec) : (S.upd n f).byRun = S.byRun := rfl
@[simp] theorem upd_closed (S : St) (n : Nat) (f : Rec → Rec) : (S.upd n f).closed = S.closed := rfl
@[simp] theorem upd_ctr (S : St) (n : Nat) (f : Rec → Rec) : (S.upd n f).ctr = S.ctr := rfl
@[simp] theorem upd_ids (S : St) (n : Nat) (f : Rec → Rec) : (S.upd n f).ids = S.ids := rfl

@[simp] theorem upd_vis (S : St) (n : Nat) (f : Rec → Rec) : (S.upd n f).vis = S.vis := rfl
@[simp] theorem upd_nat (S : St) (n : Nat) (f : Rec → Rec) : (S.upd n f).nat = S.nat := rfl

@[simp] theorem s_mk (a : Tbl Rec) (b c : Tbl (Option Nat)) (d : Tbl Bool) (e : Nat) (f : List Nat)
    (g h : Tbl (Option Nat)) (m : Nat) :
    (St.mk a b c d e f g h).s m = a.get m := rfl
@[simp] theorem sess_get (S : St) (m : Nat) : S.sess.get m = S.s m := rfl
@[simp] theorem upd_sess (S : St) (n : Nat) (f : Rec → Rec) :
    (S.upd n f).sess = S.sess.set n (f (S.s n)) := rfl

@[simp] theorem s_with_names (S : St) (t : Tbl (Option Nat)) (m : Nat) :
    St.s { S with names := t } m = S.s m := rfl
@[simp] theorem s_with_closed (S : St) (t : Tbl Bool) (m : Nat) :
    St.s { S with closed := t } m = S.s m := rfl

@[simp] theorem mem_removeKey (p q : Nat) (l : List Nat) : q ∈ removeKey p l ↔ q ∈ l ∧ q ≠ p := by
  simp [removeKey]

@[simp] theorem mem_insertKey (p q : Nat) (l : List Nat) : q ∈ insertKey p l ↔ q = p ∨ q ∈ l := by
  unfold insertKey
  by_cases h : p ∈ l
  · simp only [if_pos h]
    constructor
    · exact Or.inr
    · rintro (rfl | h') <;> assumption
  · simp [if_neg h]

@[simp] theorem get_init_names (p : Nat) : init.names.get p = none := rfl
@[simp] theorem get_init_byRun (p : Nat) : init.byRun.get p = none := rfl
@[simp] theorem s_init (n : Nat) : init.s n = {} := rfl

/-! ### a state whose session table is that of `S` with a new record for `n` -/

section
variable {S S' : St} {n : Nat} {x' : Rec}

theorem s_of_sess (hs : S'.sess = S.sess.set n x') (m : Nat) :
    S'.s m = if m = n then x' else S.s m := by
  simp only [St.s, hs, Tbl.get_set]

theorem field_of_sess {α : Type} (g : Rec → α) (hs : S'.sess = S.sess.set n x') (hg : g x' = g (S.s n)) (m : Nat) : g (S'.s m) = g (S.s m) := by
  rw [s_of_sess hs]
  split
  · rename_i e
    rw [e, hg]
  · rfl

theorem self_of_sess (hs : S'.sess = S.sess.set n x') : S'.s n = x' :=
  (s_of_sess hs n).trans (if_pos rfl)

theorem other_of_sess (hs : S'.sess = S.sess.set n x') (m : Nat) (hm : m ≠ n) :
    S'.s m = S.s m :=
  (s_of_sess hs m).trans (if_neg hm)

theorem idle_of_sess (hs : S'.sess = S.sess.set n x')
    (hh : x'.hp = (S.s n).hp) (hi : (S.s n).hp = .idle) : (S'.s n).hp = .idle :=
  ((congrArg Rec.hp (self_of_sess hs)).trans hh).trans hi

end

/-! ### the step function as a relation -/

/-- `step`, read backwards: for each outcome of each label, the enabling condition and the new state -/
inductive Step (S : St) : Label → St → Prop
  | login {n r fresh} : (S.s n).phase = .none → (fresh = true → ∀ m ∈ S.ids, (S.s m).rid ≠ r) →
      (fresh = false → ∀ m ∈ S.ids, (S.s m).fresh = true → (S.s m).rid = r → (S.s m).phase.started = true) →
      Step S (.login n r fresh)
        { S.upd n (fun _ => { rid := r, fresh := fresh, phase := .created }) with ids := n :: S.ids }
  | add {n} : (S.s n).phase = .created →
      Step S (.add n)
        { S.upd n (fun y => { y with phase := .added, old := S.byRun.get (S.s n).rid, stamp := S.ctr }) with
            byRun := S.byRun.set (S.s n).rid (some n)
            closed := (match S.byRun.get (S.s n).rid with | some o => S.closed.set o true | none => S.closed)
            ctr := S.ctr + 1 }
  | waitOld {n o} : (S.s n).old = some o → (S.s n).phase = .added → (S.s o).phase = .done →
      Step S (.waitOld n) (S.upd n (fun y => { y with phase := .waited }))
  | start {n} : ((S.s n).phase = .added ∧ (S.s n).old = none) ∨ (S.s n).phase = .waited →
      Step S (.start n) (S.upd n (fun y => { y with phase := .running }))
  | connClose {n} : (S.s n).phase ≠ .none → Step S (.connClose n) { S with closed := S.closed.set n true }
  | dispDone {n} : (S.s n).phase = .running → (S.s n).hp = .idle → S.closed.get n = true →
      Step S (.dispDone n) (S.upd n (fun y => { y with phase := .dispDone }))
  | drain {n} : (S.s n).phase = .dispDone →
      Step S (.drain n) (S.upd n (fun y => { y with phase := .drained, todo := y.own }))
  | closeProxy {n p} : (S.s n).phase = .drained → p ∈ (S.s n).todo →
      Step S (.closeProxy n p)
        { S.upd n (fun y => { y with todo := removeKey p y.todo, vres := removeKey p y.vres, nres := removeKey p y.nres }) with
            names := S.names.set p none, vis := relVis S n p, nat := relNat S n p }
  | done {n} : (S.s n).phase = .drained → (S.s n).todo = [] →
      Step S (.done n) (S.upd n (fun y => { y with phase := .done }))
  | del {n} : (S.s n).phase = .done → (S.s n).deleted = false →
      Step S (.del n)
        { S.upd n (fun y => { y with deleted := true }) with
            byRun := if S.byRun.get (S.s n).rid = some n then S.byRun.set (S.s n).rid none else S.byRun }
  | regExistRefused {n p} : (S.s n).phase = .running → (S.s n).hp = .idle → (S.names.get p).isSome = true →
      Step S (.regExist n p) S
  | regExist {n p} : (S.s n).phase = .running → (S.s n).hp = .idle → S.names.get p = none →
      Step S (.regExist n p) (S.upd n (fun y => { y with hp := .checked p }))
  | regRunPlain {n p ok} : (S.s n).hp = .checked p →
      Step S (.regRun n p .plain ok) (S.upd n (fun y => { y with hp := if ok then .ran p else .idle }))
  | regRunVisRefused {n p ok} : (S.s n).hp = .checked p → (S.vis.get p).isSome = true →
      Step S (.regRun n p .vis ok) (S.upd n (fun y => { y with hp := .idle }))
  | regRunVis {n p ok} : (S.s n).hp = .checked p → S.vis.get p = none →
      Step S (.regRun n p .vis ok)
        { S.upd n (fun y => { y with hp := .ran p, vres := insertKey p y.vres }) with vis := S.vis.set p (some n) }
  | regRunNatRefused {n p ok} : (S.s n).hp = .checked p → (S.nat.get p).isSome = true →
      Step S (.regRun n p .nat ok) (S.upd n (fun y => { y with hp := .idle }))
  | regRunNat {n p ok} : (S.s n).hp = .checked p → S.nat.get p = none →
      Step S (.regRun n p .nat ok)
        { S.upd n (fun y => { y with hp := .ran p, nres := insertKey p y.nres }) with nat := S.nat.set p (some n) }
  | regAddRefused {n p} : (S.s n).hp = .ran p → (S.names.get p).isSome = true →
      Step S (.regAdd n p)
        { S.upd n (fun y => { y with hp := .idle, vres := removeKey p y.vres, nres := removeKey p y.nres }) with
            vis := relVis S n p, nat := relNat S n p }
  | regAdd {n p} : (S.s n).hp = .ran p → S.names.get p = none →
      Step S (.regAdd n p) { S.upd n (fun y => { y with hp := .added p }) with names := S.names.set p (some n) }
  | regOwn {n p} : (S.s n).hp = .added p →
      Step S (.regOwn n p) (S.upd n (fun y => { y with hp := .idle, own := insertKey p y.own }))
  | closeReq {n p} : (S.s n).phase = .running → (S.s n).hp = .idle → p ∈ (S.s n).own →
      Step S (.closeReq n p)
        { S.upd n (fun y => { y with hp := .closing p, vres := removeKey p y.vres, nres := removeKey p y.nres }) with
            names := S.names.set p none, vis := relVis S n p, nat := relNat S n p }
  | closeReqNoop {n p} : (S.s n).phase = .running → (S.s n).hp = .idle → p ∉ (S.s n).own →
      Step S (.closeReq n p) S
  | closeFin {n p} : (S.s n).hp = .closing p →
      Step S (.closeFin n p) (S.upd n (fun y => { y with hp := .idle, own := removeKey p y.own }))

theorem step_spec {S S' : St} {l : Label} (h : step S l = some S') : Step S l S' := by
  -- every label is guarded by `if … then some … else none`: `h` becomes the guard and an equation for `S'`
  cases l <;>
    simp only [step, Option.ite_none_right_eq_some, Option.ite_none_left_eq_some, Option.some.injEq] at h
  case login n r fresh =>
    obtain ⟨h1, h2, h3, rfl⟩ := h
    refine .login (Decidable.not_not.mp h1) (fun hf m hm e => h2 ⟨hf, ?_⟩) fun hf m hm e1 e2 => ?_
    · exact List.any_eq_true.mpr ⟨m, hm, beq_iff_eq.mpr e⟩
    · cases hs : (S.s m).phase.started
      · exact absurd ⟨hf, List.any_eq_true.mpr ⟨m, hm, by simp [e1, e2, hs]⟩⟩ h3
      · rfl
  case add n =>
    obtain ⟨g, rfl⟩ := h
    exact .add (Decidable.not_not.mp g)
  case waitOld n =>
    split at h
    · cases h
    · rename_i ho
      simp only [Option.ite_none_right_eq_some, Option.some.injEq] at h
      obtain ⟨g, rfl⟩ := h
      exact .waitOld ho g.1 g.2
  case start n =>
    obtain ⟨g, rfl⟩ := h
    exact .start g
  case connClose n =>
    obtain ⟨g, rfl⟩ := h
    exact .connClose g
  case dispDone n =>
    obtain ⟨g, rfl⟩ := h
    exact .dispDone g.1 g.2.1 g.2.2
  case drain n =>
    obtain ⟨g, rfl⟩ := h
    exact .drain g
  case closeProxy n p =>
    obtain ⟨g, rfl⟩ := h
    exact .closeProxy g.1 g.2
  case done n =>
    obtain ⟨g, rfl⟩ := h
    exact .done g.1 g.2
  case del n =>
    obtain ⟨g, rfl⟩ := h
    exact .del g.1 g.2
  case regExist n p =>
    obtain ⟨g, h⟩ := h
    split at h
    · cases h
      exact .regExistRefused g.1 g.2 ‹_›
    · cases h
      exact .regExist g.1 g.2 (Option.not_isSome_iff_eq_none.mp ‹_›)
  case regRun n p k ok =>
    obtain ⟨g, h⟩ := h
    cases k <;> dsimp only at h
    · cases h
      exact .regRunPlain g
    · split at h
      · cases h
        exact .regRunVisRefused g ‹_›
      · cases h
        exact .regRunVis g (Option.not_isSome_iff_eq_none.mp ‹_›)
    · split at h
      · cases h
        exact .regRunNatRefused g ‹_›
      · cases h
        exact .regRunNat g (Option.not_isSome_iff_eq_none.mp ‹_›)
  case regAdd n p =>
    obtain ⟨g, h⟩ := h
    split at h
    · cases h
      exact .regAddRefused g ‹_›
    · cases h
      exact .regAdd g (Option.not_isSome_iff_eq_none.mp ‹_›)
  case regOwn n p =>
    obtain ⟨g, rfl⟩ := h
    exact .regOwn g
  case closeReq n p =>
    obtain ⟨g, h⟩ := h
    split at h
    · cases h
      exact .closeReq g.1 g.2 ‹_›
    · cases h
      exact .closeReqNoop g.1 g.2 ‹_›
  case closeFin n p =>
    obtain ⟨g, rfl⟩ := h
    exact .closeFin g

/-- an entry that passes between `none` and `some n` looks the same to every other session -/
theorem entry_other {t : Tbl (Option Nat)} {q n m : Nat} {v : Option Nat} (p : Nat)
    (ht : t.get q = none ∨ t.get q = some n) (hv : v = none ∨ v = some n) (hm : m ≠ n) :
    (t.set q v).get p = some m ↔ t.get p = some m := by
  have hm' : some n ≠ some m := fun e => hm (Option.some.inj e).symm
  rw [Tbl.get_set]
  split
  · rename_i e
    subst e
    rcases ht with ht | ht <;> rcases hv with hv | hv <;> simp [ht, hv, hm']
  · rfl

/-! ### names bundle -/

/-- the pointwise invariant: record `x` of session `m`, name `p`, table entry `v = names p` -/
def NGood (x : Rec) (m p : Nat) (v : Option Nat) : Prop :=
  (x.hp ≠ .idle → x.phase = .running) ∧
  (x.phase.started = false → p ∉ x.own) ∧
  (v = some m → x.phase.live = true ∧
      (x.hp = .added p ∨ (p ∈ x.own ∧ x.hp ≠ .closing p ∧ (x.phase = .drained → p ∈ x.todo)))) ∧
  (p ∈ x.own → (x.phase = .running ∨ x.phase = .dispDone) → x.hp ≠ .closing p → v = some m) ∧
  (p ∈ x.todo → x.phase = .drained → v = some m) ∧
  (x.hp = .added p → v = some m)

def NInv (S : St) : Prop := ∀ m p, NGood (S.s m) m p (S.names.get p)

theorem ninv_init : NInv init := by
  intro m p
  simp [NGood, Phase.started, Phase.live]

/-- the clauses of `NGood` by name -/
theorem NGood.busy_running {x : Rec} {m p : Nat} {v : Option Nat} (h : NGood x m p v) :
    x.hp ≠ .idle → x.phase = .running := h.1

theorem NGood.named_live {x : Rec} {m p : Nat} {v : Option Nat} (h : NGood x m p v) (hv : v = some m) :
    x.phase.live = true ∧
      (x.hp = .added p ∨ (p ∈ x.own ∧ x.hp ≠ .closing p ∧ (x.phase = .drained → p ∈ x.todo))) := h.2.2.1 hv

theorem NGood.own_named {x : Rec} {m p : Nat} {v : Option Nat} (h : NGood x m p v) (ho : p ∈ x.own)
    (hp : x.phase = .running ∨ x.phase = .dispDone) (hc : x.hp ≠ .closing p) : v = some m := h.2.2.2.1 ho hp hc

theorem NGood.todo_named {x : Rec} {m p : Nat} {v : Option Nat} (h : NGood x m p v) (ht : p ∈ x.todo)
    (hp : x.phase = .drained) : v = some m := h.2.2.2.2.1 ht hp

/-- record `x` may call `Close` on its proxy `p` now: the teardown has `p` on its list, or the idle handler of a
    running session finds `p` in the own table (CloseProxy) -/
def MayClose (x : Rec) (p : Nat) : Prop :=
  (p ∈ x.todo ∧ x.phase = .drained) ∨ (p ∈ x.own ∧ x.phase = .running ∧ x.hp = .idle)

theorem NGood.of_mayClose {x : Rec} {m p : Nat} {v : Option Nat} (h : NGood x m p v) (hc : MayClose x p) :
    v = some m := by
  rcases hc with ⟨a, b⟩ | ⟨a, b, c⟩
  · exact h.todo_named a b
  · exact h.own_named a (Or.inl b) (by rw [c]; exact HP.noConfusion)

/-- `NGood … m` reads the table entry only through "it is `m`" -/
theorem NGood.entry_congr {x : Rec} {m p : Nat} {v v' : Option Nat} (h : v' = some m ↔ v = some m) :
    NGood x m p v' ↔ NGood x m p v := by
  simp only [NGood, h]

section
variable {S S' : St} {n : Nat} {x' : Rec}

/-- a step that rewrites the record of `n` alone keeps `NInv` if no entry of another session appears or
    disappears and the clauses hold again for `n` -/
theorem ninv_of_frame (hI : NInv S) (hs : S'.sess = S.sess.set n x')
    (ht : ∀ m p, m ≠ n → (S'.names.get p = some m ↔ S.names.get p = some m))
    (hn : ∀ p, NGood (S.s n) n p (S.names.get p) → NGood x' n p (S'.names.get p)) : NInv S' := by
  intro m p
  rw [s_of_sess hs]
  split
  · rename_i hm
    rw [hm]
    exact hn p (hI n p)
  · rename_i hm
    rw [NGood.entry_congr (ht m p hm)]
    exact hI m p

theorem ninv_of_rec (hI : NInv S) (hs : S'.sess = S.sess.set n x')
    (hnm : S'.names = S.names) (hn : ∀ p v, NGood (S.s n) n p v → NGood x' n p v) : NInv S' :=
  ninv_of_frame hI hs (fun _ _ _ => by rw [hnm]) fun p h => hnm ▸ hn p _ h

/-- the handler holds no name and has not just dropped one (RegisterProxy before `pxyManager.Add`) -/
def HP.free : HP → Bool
  | .idle | .checked _ | .ran _ => true
  | _ => false

theorem HP.free_ne {h : HP} (hf : h.free = true) (p : Nat) : h ≠ .added p ∧ h ≠ .closing p := by
  cases h <;> first | exact ⟨HP.noConfusion, HP.noConfusion⟩ | cases hf

/-- moves of the handler among `idle`, `checked`, `ran`: `NGood` reads nothing else of the handler -/
theorem ninv_of_free (hI : NInv S) (hs : S'.sess = S.sess.set n x')
    (hnm : S'.names = S.names) (hp : x'.phase = (S.s n).phase) (ho : x'.own = (S.s n).own)
    (ht : x'.todo = (S.s n).todo) (hf : (S.s n).hp.free = true) (hf' : x'.hp.free = true)
    (hr : x'.hp = .idle ∨ (S.s n).hp ≠ .idle ∨ (S.s n).phase = .running) : NInv S' := by
  refine ninv_of_rec hI hs hnm fun p v hn => ?_
  have a := HP.free_ne hf p
  have a' := HP.free_ne hf' p
  unfold NGood at hn ⊢
  rw [hp, ho, ht]
  obtain ⟨h1, h2, h3, h4, h5, _⟩ := hn
  refine ⟨fun hne => hr.elim (fun e => absurd e hne) (fun e => e.elim h1 id), h2, fun hv => ?_,
    fun b c _ => h4 b c a.2, h5, fun e => absurd e a'.1⟩
  obtain ⟨hl, hh | ⟨b, _, c⟩⟩ := h3 hv
  · exact absurd hh a.1
  · exact ⟨hl, Or.inr ⟨b, a'.2, c⟩⟩

end

theorem ninv_step {S S' : St} {l : Label} (hI : NInv S) (h : step S l = some S') : NInv S' := by
  cases step_spec h with
  | connClose | regExistRefused | closeReqNoop => exact hI
  -- the name table is not touched: the six clauses are checked again on the new record of the acting session
  | login hp | add hp | waitOld _ hp | start hp | dispDone hp hh | drain hp | done hp ht | del =>
    refine ninv_of_rec hI rfl rfl fun p v hn => ?_
    simp only [NGood] at hn ⊢
    grind [Phase.started, Phase.live]
  | regOwn hh | closeFin hh =>
    refine ninv_of_rec hI rfl rfl fun p v hn => ?_
    simp only [NGood, mem_insertKey, mem_removeKey] at hn ⊢
    grind [Phase.started, Phase.live]
  | regExist hp hh => exact ninv_of_free hI rfl rfl rfl rfl rfl (by rw [hh]; rfl) rfl (Or.inr (Or.inr hp))
  | regRunPlain hh =>
    exact ninv_of_free hI rfl rfl rfl rfl rfl (by rw [hh]; rfl) (by split <;> rfl)
      (Or.inr (Or.inl (by rw [hh]; exact HP.noConfusion)))
  | regRunVisRefused hh | regRunVis hh | regRunNatRefused hh | regRunNat hh =>
    exact ninv_of_free hI rfl rfl rfl rfl rfl (by rw [hh]; rfl) rfl (Or.inr (Or.inl (by rw [hh]; exact HP.noConfusion)))
  | regAddRefused hh => exact ninv_of_free hI rfl rfl rfl rfl rfl (by rw [hh]; rfl) rfl (Or.inl rfl)
  | @closeProxy n q hp ht =>
    -- the entry removed is `n`'s own: `q` is still on its list of proxies to close
    have hq : S.names.get q = some n := (hI n q).of_mayClose (Or.inl ⟨ht, hp⟩)
    refine ninv_of_frame hI rfl (fun m p hm => entry_other p (Or.inr hq) (Or.inl rfl) hm) fun p hn => ?_
    simp only [NGood, Tbl.get_set] at hn ⊢
    grind [Phase.started, Phase.live, mem_removeKey]
  | @closeReq n q hp hh ho =>
    -- the entry removed is `n`'s own: `q` is in its own table and it runs
    have hq : S.names.get q = some n := (hI n q).of_mayClose (Or.inr ⟨ho, hp, hh⟩)
    refine ninv_of_frame hI rfl (fun m p hm => entry_other p (Or.inr hq) (Or.inl rfl) hm) fun p hn => ?_
    simp only [NGood, Tbl.get_set] at hn ⊢
    grind [Phase.started, Phase.live]
  | regAdd hh hq =>
    refine ninv_of_frame hI rfl (fun m p hm => entry_other p (Or.inl hq) (Or.inr rfl) hm) fun p hn => ?_
    simp only [NGood, Tbl.get_set] at hn ⊢
    grind [Phase.started, Phase.live]

/-! ### rendez-vous bundle: who stands in the visitor-listener / nat-hole-client tables -/

/-- session record `x` has an OPEN proxy object named `p`: `Run` has succeeded and `Close` has not been called
    (in flight between Run and the own-table insert, or in `ctl.proxies` and not yet visited by CloseProxy / the teardown) -/
def ObjOpen (x : Rec) (p : Nat) : Prop :=
  x.hp = .ran p ∨ x.hp = .added p ∨
    (p ∈ x.own ∧ x.hp ≠ .closing p ∧ x.phase.live = true ∧ (x.phase = .drained → p ∈ x.todo))

/-- pointwise: record `x` of session `m`, name `p`, `v = vis p`, `w = nat p` -/
def VGood (x : Rec) (m p : Nat) (v w : Option Nat) : Prop :=
  (v = some m ↔ p ∈ x.vres) ∧ (w = some m ↔ p ∈ x.nres) ∧
  (p ∈ x.vres → ObjOpen x p) ∧ (p ∈ x.nres → ObjOpen x p)

def VInv (S : St) : Prop := ∀ m p, VGood (S.s m) m p (S.vis.get p) (S.nat.get p)

@[simp] theorem get_init_vis (p : Nat) : init.vis.get p = none := rfl
@[simp] theorem get_init_nat (p : Nat) : init.nat.get p = none := rfl

theorem vinv_init : VInv init := by
  intro m p
  simp [VGood]

/-- the clauses of `VGood` by name -/
theorem VGood.vis_iff {x : Rec} {m p : Nat} {v w : Option Nat} (h : VGood x m p v w) : v = some m ↔ p ∈ x.vres := h.1

theorem VGood.nat_iff {x : Rec} {m p : Nat} {v w : Option Nat} (h : VGood x m p v w) : w = some m ↔ p ∈ x.nres := h.2.1

theorem VGood.vres_open {x : Rec} {m p : Nat} {v w : Option Nat} (h : VGood x m p v w) : p ∈ x.vres → ObjOpen x p :=
  h.2.2.1

theorem VGood.nres_open {x : Rec} {m p : Nat} {v w : Option Nat} (h : VGood x m p v w) : p ∈ x.nres → ObjOpen x p :=
  h.2.2.2

theorem VGood.entry_congr {x : Rec} {m p : Nat} {v v' w w' : Option Nat} (hv : v' = some m ↔ v = some m)
    (hw : w' = some m ↔ w = some m) : VGood x m p v' w' ↔ VGood x m p v w := by
  simp only [VGood, hv, hw]

section
variable {S S' : St} {n : Nat} {x' : Rec}

theorem vinv_of_frame (hI : VInv S) (hs : S'.sess = S.sess.set n x')
    (hv : ∀ m p, m ≠ n → (S'.vis.get p = some m ↔ S.vis.get p = some m))
    (hw : ∀ m p, m ≠ n → (S'.nat.get p = some m ↔ S.nat.get p = some m))
    (hn : ∀ p, VGood (S.s n) n p (S.vis.get p) (S.nat.get p) → VGood x' n p (S'.vis.get p) (S'.nat.get p)) :
    VInv S' := by
  intro m p
  rw [s_of_sess hs]
  split
  · rename_i hm
    rw [hm]
    exact hn p (hI n p)
  · rename_i hm
    rw [VGood.entry_congr (hv m p hm) (hw m p hm)]
    exact hI m p

/-- `vinv_of_frame` for a step that leaves both tables alone; of `NInv` the record-level check may use that a busy
    handler belongs to a running session -/
theorem vinv_of_rec (hN : NInv S) (hI : VInv S) (hs : S'.sess = S.sess.set n x')
    (hv : S'.vis = S.vis) (hw : S'.nat = S.nat)
    (hn : ∀ p v w, ((S.s n).hp ≠ .idle → (S.s n).phase = .running) → VGood (S.s n) n p v w → VGood x' n p v w) :
    VInv S' :=
  vinv_of_frame hI hs (fun _ _ _ => by rw [hv]) (fun _ _ _ => by rw [hw]) fun p h =>
    hv ▸ hw ▸ hn p _ _ (hN n p).busy_running h

end

/-- the shape of `relVis` / `relNat`: the entry of `q` is cleared iff `q` is on the list `l` -/
theorem rel_get (t : Tbl (Option Nat)) (l : List Nat) (q p : Nat) :
    (if q ∈ l then t.set q none else t).get p = if p = q ∧ q ∈ l then none else t.get p := by
  by_cases c : q ∈ l <;> simp [c]

theorem rel_other {t : Tbl (Option Nat)} {l : List Nat} {n m q : Nat} (p : Nat) (hl : q ∈ l → t.get q = some n)
    (hm : m ≠ n) : (if q ∈ l then t.set q none else t).get p = some m ↔ t.get p = some m := by
  split
  · exact entry_other p (Or.inr (hl ‹_›)) (Or.inl rfl) hm
  · rfl

theorem vinv_step {S S' : St} {l : Label} (hN : NInv S) (hI : VInv S) (h : step S l = some S') : VInv S' := by
  cases step_spec h with
  | connClose | regExistRefused | closeReqNoop => exact hI
  | login hp | add hp | waitOld _ hp | start hp | dispDone hp hh | drain hp | done hp ht | del | regExist _ hh
  | regRunPlain hh | regRunVisRefused hh | regRunNatRefused hh | regAdd hh =>
    refine vinv_of_rec hN hI rfl rfl rfl fun p v w g hn => ?_
    simp only [VGood, ObjOpen] at hn ⊢
    grind [Phase.live]
  | regOwn hh | closeFin hh =>
    refine vinv_of_rec hN hI rfl rfl rfl fun p v w g hn => ?_
    simp only [VGood, ObjOpen, mem_insertKey, mem_removeKey] at hn ⊢
    grind [Phase.live]
  | @closeProxy n q | @regAddRefused n q hh | @closeReq n q _ hh =>
    refine vinv_of_frame hI rfl (fun m p hm => rel_other p (hI n q).vis_iff.mpr hm)
      (fun m p hm => rel_other p (hI n q).nat_iff.mpr hm)
      fun p hn => ?_
    simp only [VGood, ObjOpen, relVis, relNat, rel_get, mem_removeKey] at hn ⊢
    -- at `p = q` the entry and the list lose `q` together and nothing is left to show open; elsewhere nothing moves
    by_cases hpq : p = q
    · grind [Phase.live]
    · grind [Phase.live]
  | regRunVis hh hq =>
    refine vinv_of_frame hI rfl (fun m p hm => entry_other p (Or.inl hq) (Or.inr rfl) hm)
      (fun _ _ _ => Iff.rfl) fun p hn => ?_
    simp only [VGood, ObjOpen, upd_nat, Tbl.get_set, mem_insertKey] at hn ⊢
    grind
  | regRunNat hh hq =>
    refine vinv_of_frame hI rfl (fun _ _ _ => Iff.rfl)
      (fun m p hm => entry_other p (Or.inl hq) (Or.inr rfl) hm) fun p hn => ?_
    simp only [VGood, ObjOpen, upd_vis, Tbl.get_set, mem_insertKey] at hn ⊢
    grind

/-! ### run-id bundle: stamps, the table designates the newest, wait-for-old, the id generator -/

@[simp] theorem s_with_byRun_ctr (S : St) (t : Tbl (Option Nat)) (u : Tbl Bool) (c : Nat) (m : Nat) :
    St.s { S with byRun := t, closed := u, ctr := c } m = S.s m := rfl
@[simp] theorem s_with_byRun (S : St) (t : Tbl (Option Nat)) (m : Nat) :
    St.s { S with byRun := t } m = S.s m := rfl

theorem Phase.started_isAdded {p : Phase} (h : p.started = true) : p.isAdded = true := by
  cases p <;> simp_all [Phase.started, Phase.isAdded]

theorem Phase.live_iff (p : Phase) : p.live = true ↔ p = .running ∨ p = .dispDone ∨ p = .drained := by
  cases p <;> simp [Phase.live]

theorem Phase.live_started {p : Phase} (h : p.live = true) : p.started = true := by
  cases p <;> first | rfl | cases h

structure RInv (S : St) : Prop where
  w : ∀ m, (S.s m).phase = .waited → (S.s m).old ≠ none
  a2 : ∀ m, (S.s m).phase.isAdded = true → (S.s m).stamp < S.ctr
  a3 : ∀ m k, (S.s m).phase.isAdded = true → (S.s k).phase.isAdded = true →
        (S.s m).stamp = (S.s k).stamp → m = k
  d : ∀ m, (S.s m).deleted = true → (S.s m).phase = .done
  b1 : ∀ r m, S.byRun.get r = some m →
        (S.s m).phase.isAdded = true ∧ (S.s m).rid = r ∧ (S.s m).deleted = false
  b2 : ∀ r m k, S.byRun.get r = some m → (S.s k).phase.isAdded = true → (S.s k).rid = r →
        (S.s k).stamp ≤ (S.s m).stamp
  c2 : ∀ m k, ((S.s m).phase = .waited ∨ (S.s m).phase.started = true) → (S.s m).old = some k →
        (S.s k).phase = .done
  c3a : ∀ m o, (S.s m).phase.isAdded = true → (S.s m).old = some o →
        (S.s o).phase.isAdded = true ∧ (S.s o).rid = (S.s m).rid ∧ (S.s o).stamp < (S.s m).stamp
  c3b : ∀ m o k, (S.s m).phase.isAdded = true → (S.s m).old = some o → (S.s k).phase.isAdded = true →
        (S.s k).rid = (S.s m).rid → (S.s k).stamp < (S.s m).stamp → (S.s k).stamp ≤ (S.s o).stamp
  c1 : ∀ m k, (S.s m).phase.isAdded = true → (S.s m).old = none → (S.s k).phase.isAdded = true →
        (S.s k).rid = (S.s m).rid → (S.s k).stamp < (S.s m).stamp → (S.s k).phase = .done
  b3 : ∀ m, (S.s m).phase.isAdded = true → (S.s m).phase ≠ .done → S.byRun.get (S.s m).rid ≠ none
  b4 : ∀ m, (S.s m).phase.isAdded = true → (S.s m).deleted = false → S.byRun.get (S.s m).rid = none →
        ∃ k, (S.s k).phase.isAdded = true ∧ (S.s k).rid = (S.s m).rid ∧ (S.s m).stamp < (S.s k).stamp
  x : ∀ m k, (S.s m).phase.started = true → (S.s k).phase.isAdded = true →
        (S.s k).rid = (S.s m).rid → (S.s k).stamp < (S.s m).stamp → (S.s k).phase = .done
  a1 : ∀ m, (S.s m).phase ≠ .none → m ∈ S.ids
  f1 : ∀ m k, (S.s m).fresh = true → (S.s m).phase = .created → (S.s k).phase ≠ .none → k ≠ m →
        (S.s k).rid ≠ (S.s m).rid
  f2 : ∀ m, (S.s m).fresh = true → (S.s m).old = none

theorem rinv_init : RInv init := by
  constructor <;> simp [Phase.started, Phase.isAdded]

/-- a fresh id is nobody else's, so its run-id slot is empty until its own `Add` -/
theorem fresh_slot_empty {S : St} {n : Nat} (hI : RInv S) (hp : (S.s n).phase = .created)
    (hf : (S.s n).fresh = true) : S.byRun.get (S.s n).rid = none := by
  cases hb : S.byRun.get (S.s n).rid with
  | none => rfl
  | some j =>
    obtain ⟨a, b, -⟩ := hI.b1 _ j hb
    have hj : (S.s j).phase ≠ .none := fun e => by rw [e] at a; cases a
    have hjn : j ≠ n := fun e => by rw [e, hp] at a; cases a
    exact absurd b (hI.f1 n j hf hp hj hjn)

section
variable {S S' : St} {n : Nat} {x' : Rec}

theorem rinv_add (hI : RInv S) (hp : (S.s n).phase = .created)
    (hs : S'.sess = S.sess.set n { S.s n with phase := .added, old := S.byRun.get (S.s n).rid, stamp := S.ctr })
    (eb : S'.byRun = S.byRun.set (S.s n).rid (some n)) (ec : S'.ctr = S.ctr + 1) (ei : S'.ids = S.ids) :
    RInv S' := by
  have e := s_of_sess hs
  clear hs
  have dn := hI.d n
  constructor
  case w =>
    intro m
    have := hI.w m
    grind
  case a2 =>
    intro m
    have := hI.a2 m
    grind
  case a3 =>
    intro m k
    have := hI.a3 m k
    have := hI.a2 m
    have := hI.a2 k
    grind
  case d =>
    intro m
    have := hI.d m
    grind
  case b1 =>
    intro r m
    have := hI.b1 r m
    grind [Phase.isAdded, Tbl.get_set]
  case b2 =>
    intro r m k
    have := hI.b2 r m k
    have := hI.a2 k
    grind [Phase.isAdded, Tbl.get_set]
  case c2 =>
    intro m k
    have := hI.c2 m k
    grind [Phase.started]
  case c3a =>
    intro m o
    have := hI.c3a m o
    have := hI.b1 (S.s n).rid o
    have := hI.a2 o
    grind [Phase.isAdded]
  case c3b =>
    intro m o k
    have := hI.c3b m o k
    have := hI.b2 (S.s n).rid o k
    have := hI.a2 m
    grind [Phase.isAdded]
  case c1 =>
    intro m k
    have := hI.c1 m k
    have := hI.b3 k
    have := hI.a2 m
    grind [Phase.isAdded]
  case b3 =>
    intro m
    have := hI.b3 m
    grind [Phase.isAdded, Tbl.get_set]
  case b4 =>
    intro m
    have := hI.b4 m
    grind [Phase.isAdded, Tbl.get_set]
  case x =>
    intro m k
    have := hI.x m k
    have := hI.a2 m
    have := @Phase.started_isAdded (S.s m).phase
    grind [Phase.isAdded, Phase.started]
  case a1 =>
    intro m
    have := hI.a1 m
    grind
  case f1 =>
    intro m k
    have := hI.f1 m k
    grind
  case f2 =>
    intro m
    rw [e]
    split
    · exact fresh_slot_empty hI hp
    · exact hI.f2 m


theorem rinv_login {r : Nat} {fresh : Bool} (hI : RInv S) (hp : (S.s n).phase = .none)
    (hfr : fresh = true → ∀ m ∈ S.ids, (S.s m).rid ≠ r)
    (hnf : fresh = false → ∀ m ∈ S.ids, (S.s m).fresh = true → (S.s m).rid = r → (S.s m).phase.started = true)
    (hs : S'.sess = S.sess.set n { rid := r, fresh := fresh, phase := .created })
    (eb : S'.byRun = S.byRun) (ec : S'.ctr = S.ctr) (ei : S'.ids = n :: S.ids) : RInv S' := by
  have e := s_of_sess hs
  clear hs
  constructor
  case w =>
    intro m
    have := hI.w m
    grind
  case a2 =>
    intro m
    have := hI.a2 m
    grind [Phase.isAdded]
  case a3 =>
    intro m k
    have := hI.a3 m k
    grind [Phase.isAdded]
  case d =>
    intro m
    have := hI.d m
    grind
  case b1 =>
    intro r m
    have := hI.b1 r m
    grind [Phase.isAdded]
  case b2 =>
    intro r m k
    have := hI.b2 r m k
    have := hI.b1 r m
    grind [Phase.isAdded]
  case c2 =>
    intro m k
    have := hI.c2 m k
    grind [Phase.started]
  case c3a =>
    intro m o
    have := hI.c3a m o
    grind [Phase.isAdded]
  case c3b =>
    intro m o k
    have := hI.c3b m o k
    have := hI.c3a m o
    grind [Phase.isAdded]
  case c1 =>
    intro m k
    have := hI.c1 m k
    grind [Phase.isAdded]
  case b3 =>
    intro m
    have := hI.b3 m
    grind [Phase.isAdded]
  case b4 =>
    intro m
    have := hI.b4 m
    grind [Phase.isAdded]
  case x =>
    intro m k
    have := hI.x m k
    grind [Phase.isAdded, Phase.started]
  case a1 =>
    intro m
    have := hI.a1 m
    grind
  case f1 =>
    intro m k
    -- the new id against the ids there are: this is what the enabling condition of the login says
    have := hI.f1 m k
    have := hI.a1 m
    have := hI.a1 k
    cases fresh
    · grind [Phase.started]
    · grind
  case f2 =>
    intro m
    have := hI.f2 m
    grind

theorem rinv_del (hI : RInv S) (hp : (S.s n).phase = .done)
    (hs : S'.sess = S.sess.set n { S.s n with deleted := true })
    (eb : S'.byRun = if S.byRun.get (S.s n).rid = some n then S.byRun.set (S.s n).rid none else S.byRun)
    (ec : S'.ctr = S.ctr) (ei : S'.ids = S.ids) : RInv S' := by
  have e := s_of_sess hs
  clear hs
  constructor
  case w =>
    intro m
    have := hI.w m
    grind
  case a2 =>
    intro m
    have := hI.a2 m
    grind
  case a3 =>
    intro m k
    have := hI.a3 m k
    grind
  case d =>
    intro m
    have := hI.d m
    grind
  case b1 =>
    intro r m
    have := hI.b1 r m
    grind [Tbl.get_set]
  case b2 =>
    intro r m k
    have := hI.b2 r m k
    grind [Tbl.get_set]
  case c2 =>
    intro m k
    have := hI.c2 m k
    grind
  case c3a =>
    intro m o
    have := hI.c3a m o
    grind
  case c3b =>
    intro m o k
    have := hI.c3b m o k
    grind
  case c1 =>
    intro m k
    have := hI.c1 m k
    grind
  case b3 =>
    intro m
    -- if `m`'s slot is the one being emptied, `n` is the newest of the run id and done, hence so is `m`
    have := hI.b3 m
    have := hI.b2 (S.s n).rid n m
    have := hI.a3 m n
    have := hI.x n m
    grind [Phase.isAdded, Phase.started, Tbl.get_set]
  case b4 =>
    intro m
    -- if `m`'s slot is the one being emptied, `n` is the later session of the run id
    have := hI.b4 m
    have := hI.b2 (S.s n).rid n m
    have := hI.a3 m n
    have := hI.b1 (S.s n).rid n
    grind [Tbl.get_set]
  case x =>
    intro m k
    have := hI.x m k
    grind
  case a1 =>
    intro m
    have := hI.a1 m
    grind
  case f1 =>
    intro m k
    have := hI.f1 m k
    grind
  case f2 =>
    intro m
    have := hI.f2 m
    grind

/-- the fields the run-id bundle reads, the phase aside -/
def RunEq (x y : Rec) : Prop :=
  x.rid = y.rid ∧ x.fresh = y.fresh ∧ x.old = y.old ∧ x.stamp = y.stamp ∧ x.deleted = y.deleted

/-- the handler's labels: nothing the bundle reads changes -/
theorem rinv_of_runEq (hI : RInv S) (hs : S'.sess = S.sess.set n x')
    (hb : S'.byRun = S.byRun) (hc : S'.ctr = S.ctr) (hi : S'.ids = S.ids) (hx : RunEq x' (S.s n))
    (hp : x'.phase = (S.s n).phase) : RInv S' := by
  have h1 : ∀ m, (S'.s m).rid = (S.s m).rid := field_of_sess (·.rid) hs hx.1
  have h2 : ∀ m, (S'.s m).fresh = (S.s m).fresh := field_of_sess (·.fresh) hs hx.2.1
  have h3 : ∀ m, (S'.s m).old = (S.s m).old := field_of_sess (·.old) hs hx.2.2.1
  have h4 : ∀ m, (S'.s m).stamp = (S.s m).stamp := field_of_sess (·.stamp) hs hx.2.2.2.1
  have h5 : ∀ m, (S'.s m).deleted = (S.s m).deleted := field_of_sess (·.deleted) hs hx.2.2.2.2
  have h6 : ∀ m, (S'.s m).phase = (S.s m).phase := field_of_sess (·.phase) hs hp
  obtain ⟨w, a2, a3, d, b1, b2, c2, c3a, c3b, c1, b3, b4, x, a1, f1, f2⟩ := hI
  constructor <;> simp only [h1, h2, h3, h4, h5, h6, hb, hc, hi] <;> assumption

/-- session `n`, added and not yet done, moves on to another added phase, and nothing else the bundle reads
    changes.  What the bundle says of waited and of started sessions (`w`, `c2`, `x`) has to be supplied for
    the new phase; all other clauses read the phase only through `isAdded` and `= done`. -/
theorem rinv_advance (hI : RInv S) (hs : S'.sess = S.sess.set n x')
    (hb : S'.byRun = S.byRun) (hc : S'.ctr = S.ctr) (hi : S'.ids = S.ids) (hx : RunEq x' (S.s n))
    (ha : (S.s n).phase.isAdded = true) (ha' : x'.phase.isAdded = true) (hnd : (S.s n).phase ≠ .done)
    (hw : x'.phase = .waited → (S.s n).old ≠ none)
    (hc2 : x'.phase = .waited ∨ x'.phase.started = true → ∀ k, (S.s n).old = some k → (S.s k).phase = .done)
    (hxx : x'.phase.started = true → ∀ k, (S.s k).phase.isAdded = true → (S.s k).rid = (S.s n).rid →
      (S.s k).stamp < (S.s n).stamp → (S.s k).phase = .done) : RInv S' := by
  have eA : ∀ m, (S'.s m).phase.isAdded = (S.s m).phase.isAdded :=
    field_of_sess (·.phase.isAdded) hs (ha'.trans ha.symm)
  have eR : ∀ m, (S'.s m).rid = (S.s m).rid := field_of_sess (·.rid) hs hx.1
  have eF : ∀ m, (S'.s m).fresh = (S.s m).fresh := field_of_sess (·.fresh) hs hx.2.1
  have eO : ∀ m, (S'.s m).old = (S.s m).old := field_of_sess (·.old) hs hx.2.2.1
  have eS : ∀ m, (S'.s m).stamp = (S.s m).stamp := field_of_sess (·.stamp) hs hx.2.2.2.1
  have eD : ∀ m, (S'.s m).deleted = (S.s m).deleted := field_of_sess (·.deleted) hs hx.2.2.2.2
  -- a phase seen in `S'` is the new phase of `n` or a phase seen in `S`
  have ph : ∀ {m : Nat} (P : Phase → Prop), P (S'.s m).phase → (m = n ∧ P x'.phase) ∨ P (S.s m).phase := by
    intro m P h
    by_cases e : m = n
    · rw [e, self_of_sess hs] at h
      exact Or.inl ⟨e, h⟩
    · rw [other_of_sess hs m e] at h
      exact Or.inr h
  have done : ∀ k, (S.s k).phase = .done → (S'.s k).phase = .done := fun k hk => by
    rw [other_of_sess hs k (fun e => hnd (e ▸ hk))]
    exact hk
  have nn : (S.s n).phase ≠ .none := fun e => by rw [e] at ha; cases ha
  have nc : x'.phase ≠ .created := fun e => by rw [e] at ha'; cases ha'
  exact {
    w := fun m hm => by
      rw [eO]
      rcases ph (· = .waited) hm with ⟨rfl, h⟩ | h
      · exact hw h
      · exact hI.w m h
    a2 := by simpa only [eA, eS, hc] using hI.a2
    a3 := by simpa only [eA, eS] using hI.a3
    d := fun m hm => done m (hI.d m ((eD m).symm.trans hm))
    b1 := by simpa only [hb, eA, eR, eD] using hI.b1
    b2 := by simpa only [hb, eA, eR, eS] using hI.b2
    c2 := fun m k h1 h2 => by
      rw [eO] at h2
      rcases ph (fun p => p = .waited ∨ p.started = true) h1 with ⟨rfl, h⟩ | h
      · exact done k (hc2 h k h2)
      · exact done k (hI.c2 m k h h2)
    c3a := by simpa only [eA, eO, eR, eS] using hI.c3a
    c3b := by simpa only [eA, eO, eR, eS] using hI.c3b
    c1 := fun m k => by
      simp only [eA, eO, eR, eS]
      exact fun a b c d e => done k (hI.c1 m k a b c d e)
    b3 := fun m => by
      simp only [eA, eR, hb]
      exact fun a b => hI.b3 m a (fun h => b (done m h))
    b4 := by simpa only [eA, eD, eR, eS, hb] using hI.b4
    x := fun m k => by
      simp only [eA, eR, eS]
      intro a b c d
      rcases ph (fun p => p.started = true) a with ⟨rfl, h⟩ | h
      · exact done k (hxx h k b c d)
      · exact done k (hI.x m k h b c d)
    a1 := fun m hm => by
      rw [hi]
      rcases ph (· ≠ .none) hm with ⟨rfl, -⟩ | h
      · exact hI.a1 m nn
      · exact hI.a1 m h
    f1 := fun m k => by
      simp only [eF, eR]
      intro a b c d
      rcases ph (· = .created) b with ⟨-, h⟩ | hb
      · exact absurd h nc
      · rcases ph (· ≠ .none) c with ⟨rfl, -⟩ | hc
        · exact hI.f1 m k a hb nn d
        · exact hI.f1 m k a hb hc d
    f2 := by simpa only [eF, eO] using hI.f2 }

end

theorem rinv_step {S S' : St} {l : Label} (hI : RInv S) (h : step S l = some S') : RInv S' := by
  cases step_spec h with
  | regExistRefused | closeReqNoop => exact hI
  -- `closed` is not read by the bundle
  | connClose => exact { hI with }
  | login hp hfr hnf => exact rinv_login hI hp hfr hnf rfl rfl rfl rfl
  | add hp => exact rinv_add hI hp rfl rfl rfl rfl
  | del hp => exact rinv_del hI hp rfl rfl rfl rfl
  | @waitOld n o ho hp hd =>
    refine rinv_advance hI rfl rfl rfl rfl ⟨rfl, rfl, rfl, rfl, rfl⟩ (by rw [hp]; rfl) rfl (by rw [hp]; exact Phase.noConfusion)
      (fun _ => by rw [ho]; exact Option.some_ne_none o) (fun _ k hk => ?_) (fun e => by cases e)
    rw [ho] at hk
    cases hk
    exact hd
  | @start n hg =>
    have an : (S.s n).phase.isAdded = true := by rcases hg with ⟨e, -⟩ | e <;> rw [e] <;> rfl
    have nd : (S.s n).phase ≠ .done := by rcases hg with ⟨e, -⟩ | e <;> rw [e] <;> exact Phase.noConfusion
    refine rinv_advance hI rfl rfl rfl rfl ⟨rfl, rfl, rfl, rfl, rfl⟩ an rfl nd (fun e => by cases e)
      (fun _ k hk => ?_) (fun _ k a b c => ?_)
    · rcases hg with ⟨-, e⟩ | e
      · rw [e] at hk
        cases hk
      · exact hI.c2 n k (Or.inl e) hk
    · -- every earlier session of the run id is done: by `c1` if `n` replaced nobody; otherwise the replaced
      -- session `o` is done (`n` has waited for it), and an earlier one is `o` or earlier than `o` (`c3b`)
      cases ho : (S.s n).old with
      | none => exact hI.c1 n k an ho a b c
      | some o =>
        have hw : (S.s n).phase = .waited := hg.resolve_left (fun g => by rw [ho] at g; cases g.2)
        have od := hI.c2 n o (Or.inl hw) ho
        obtain ⟨oa, orid, -⟩ := hI.c3a n o an ho
        rcases Nat.lt_or_eq_of_le (hI.c3b n o k an ho a b c) with lt | eq
        · exact hI.x o k (by rw [od]; rfl) a (b.trans orid.symm) lt
        · rw [hI.a3 k o a oa eq]
          exact od
  | @dispDone n hp | @drain n hp | @done n hp =>
    -- the worker's moves from one started phase to the next: `c2` and `x` are those of the old phase
    have hst : (S.s n).phase.started = true := by rw [hp]; rfl
    exact rinv_advance hI rfl rfl rfl rfl ⟨rfl, rfl, rfl, rfl, rfl⟩ (Phase.started_isAdded hst) rfl
      (by rw [hp]; exact Phase.noConfusion) (fun e => by cases e) (fun _ k hk => hI.c2 n k (Or.inr hst) hk)
      (fun _ k => hI.x n k hst)
  -- the handler's labels and the teardown's `closeProxy`
  | _ => exact rinv_of_runEq hI rfl rfl rfl rfl ⟨rfl, rfl, rfl, rfl, rfl⟩ rfl

/-! ### runs -/

theorem run_inv {P : St → Prop} (hP : ∀ {S S' : St} {l : Label}, P S → step S l = some S' → P S') :
    ∀ {ls : List Label} {S S' : St}, run S ls = some S' → P S → P S'
  | [], S, S', h, hS => Option.some.inj h ▸ hS
  | l :: ls, S, S', h, hS => by
    simp only [run] at h
    split at h
    · cases h
    · exact run_inv hP h (hP hS ‹_›)

theorem run_append (S : St) (ls ms : List Label) :
    run S (ls ++ ms) = (run S ls).bind (fun T => run T ms) := by
  induction ls generalizing S with
  | nil => rfl
  | cons l ls ih =>
    simp only [List.cons_append, run]
    split
    · rfl
    · exact ih _

/-! ### what a step does to the records -/

/-- **every step, the records and the connections**: no record but the acting session's changes; a closed
    connection stays closed; a handler is entered from `idle` by `regExist` / `closeReq` only -/
theorem step_records {S S' : St} {l : Label} (h : step S l = some S') :
    (∀ m, m ≠ l.sid → S'.s m = S.s m) ∧ (∀ k, S.closed.get k = true → S'.closed.get k = true) ∧
    ((S.s l.sid).hp = .idle → (S'.s l.sid).hp = .idle ∨ ∃ p, l = .regExist l.sid p ∨ l = .closeReq l.sid p) := by
  cases step_spec h with
  | regExistRefused | closeReqNoop => exact ⟨fun _ _ => rfl, fun _ hk => hk, Or.inl⟩
  | login => exact ⟨other_of_sess rfl, fun _ hk => hk, fun _ => Or.inl (by simp [Label.sid])⟩
  | add =>
    refine ⟨other_of_sess rfl, fun k hk => ?_, fun hi => Or.inl (idle_of_sess rfl rfl hi)⟩
    dsimp only
    split
    · rw [Tbl.get_set]
      split
      · rfl
      · exact hk
    · exact hk
  | @connClose n =>
    refine ⟨fun _ _ => rfl, fun k hk => ?_, Or.inl⟩
    show (S.closed.set n true).get k = true
    rw [Tbl.get_set]
    split
    · rfl
    · exact hk
  | waitOld | start | dispDone | drain | closeProxy | done | del =>
    exact ⟨other_of_sess rfl, fun _ hk => hk, fun hi => Or.inl (idle_of_sess rfl rfl hi)⟩
  | regExist => exact ⟨other_of_sess rfl, fun _ hk => hk, fun _ => Or.inr ⟨_, Or.inl rfl⟩⟩
  | closeReq => exact ⟨other_of_sess rfl, fun _ hk => hk, fun _ => Or.inr ⟨_, Or.inr rfl⟩⟩
  | regRunPlain hh | regRunVisRefused hh | regRunVis hh | regRunNatRefused hh | regRunNat hh | regAddRefused hh
  | regAdd hh | regOwn hh | closeFin hh =>
    exact ⟨other_of_sess rfl, fun _ hk => hk, fun hi => absurd (hh.symm.trans hi) HP.noConfusion⟩

/-! ### what a step does to one entry of the three name-keyed tables -/

/-- an entry `v` becomes `v'` by a step of session `n`: it stays, `n` removes it (`rel`: what allowed `n` to),
    or `n` fills a free one -/
def EntryStep (rel : Prop) (n : Nat) (v v' : Option Nat) : Prop :=
  v' = v ∨ (rel ∧ v' = none) ∨ (v = none ∧ v' = some n)

theorem EntryStep.stable {rel : Prop} {n t : Nat} {v v' : Option Nat} (hs : EntryStep rel n v v')
    (hr : rel → v = some n) (hv : v = some t) : v' = some t ∨ (v' = none ∧ n = t) := by
  rcases hs with e | ⟨r, e⟩ | ⟨e, -⟩
  · exact Or.inl (e.trans hv)
  · exact Or.inr ⟨e, Option.some.inj ((hr r).symm.trans hv)⟩
  · rw [hv] at e
    cases e

theorem EntryStep.new {rel : Prop} {n t : Nat} {v v' : Option Nat} (hs : EntryStep rel n v v')
    (hv : v' = some t) : v = some t ∨ t = n := by
  rcases hs with e | ⟨-, e⟩ | ⟨-, e⟩
  · exact Or.inl (e.symm.trans hv)
  · rw [hv] at e
    cases e
  · exact Or.inr (Option.some.inj (hv.symm.trans e))

theorem EntryStep.set_none {rel : Prop} {n q : Nat} (t : Tbl (Option Nat)) (p : Nat) (hr : p = q → rel) :
    EntryStep rel n (t.get p) ((t.set q none).get p) := by
  rw [Tbl.get_set]
  split
  · exact Or.inr (Or.inl ⟨hr ‹_›, rfl⟩)
  · exact Or.inl rfl

theorem EntryStep.set_some {rel : Prop} {n q : Nat} {t : Tbl (Option Nat)} (p : Nat) (hf : t.get q = none) :
    EntryStep rel n (t.get p) ((t.set q (some n)).get p) := by
  rw [Tbl.get_set]
  split
  · rename_i e
    exact Or.inr (Or.inr ⟨e ▸ hf, rfl⟩)
  · exact Or.inl rfl

theorem EntryStep.rel (t : Tbl (Option Nat)) (l : List Nat) (n q p : Nat) :
    EntryStep (p ∈ l) n (t.get p) ((if q ∈ l then t.set q none else t).get p) := by
  split
  · exact .set_none _ p fun e => e ▸ ‹_›
  · exact Or.inl rfl

/-- **every step, every name**: in each of the three tables the entry stays, is removed by the acting session
    (which may close that proxy, resp. lists it among its listeners / nat hole clients), or was free and is the
    acting session's now -/
theorem step_entries {S S' : St} {l : Label} (h : step S l = some S') (p : Nat) :
    EntryStep (MayClose (S.s l.sid) p) l.sid (S.names.get p) (S'.names.get p) ∧
    EntryStep (p ∈ (S.s l.sid).vres) l.sid (S.vis.get p) (S'.vis.get p) ∧
    EntryStep (p ∈ (S.s l.sid).nres) l.sid (S.nat.get p) (S'.nat.get p) := by
  cases step_spec h with
  | closeProxy hp ht => exact ⟨.set_none _ p fun e => Or.inl ⟨e ▸ ht, hp⟩, .rel _ _ _ _ p, .rel _ _ _ _ p⟩
  | closeReq hp hh ho => exact ⟨.set_none _ p fun e => Or.inr ⟨e ▸ ho, hp, hh⟩, .rel _ _ _ _ p, .rel _ _ _ _ p⟩
  | regRunVis _ hf => exact ⟨Or.inl rfl, .set_some p hf, Or.inl rfl⟩
  | regRunNat _ hf => exact ⟨Or.inl rfl, Or.inl rfl, .set_some p hf⟩
  | regAddRefused => exact ⟨Or.inl rfl, .rel _ _ _ _ p, .rel _ _ _ _ p⟩
  | regAdd _ hf => exact ⟨.set_some p hf, Or.inl rfl, Or.inl rfl⟩
  | _ => exact ⟨Or.inl rfl, Or.inl rfl, Or.inl rfl⟩

end Sess
end Frp
