import Frp.Model.MsgObj
import Frp.Lemmas.ListFacts
/-! Round-trip lemmas for the level-generic object model. -/
namespace Frp
namespace MsgObj

variable {α : Type}

def names (fs : List FieldS) : List Str := fs.map (·.json)

/-- only names of the schema are written -/
theorem lookup_toMembers_none (subJ : String → α → J) (k : Str) :
    ∀ (fs : List FieldS) (vs : List (ValF α)), k ∉ names fs → (toMembersF subJ fs vs).lookup k = none := by
  intro fs
  induction fs with
  | nil => intro vs _; cases vs <;> simp [toMembersF]
  | cons f fs ih =>
    intro vs hk
    cases vs with
    | nil => simp [toMembersF]
    | cons v vs =>
      simp only [names, List.map_cons, List.mem_cons, not_or] at hk
      simp only [toMembersF]
      split
      · exact ih vs hk.2
      · rw [List.lookup_cons]
        have : (k == f.json) = false := by simpa using hk.1
        rw [this]
        exact ih vs hk.2

@[simp] theorem unStr_str (s : Str) : unStr (.str s) = s := rfl

theorem unStr_map (l : List Str) : List.map (unStr ∘ J.str) l = l := by
  induction l with
  | nil => rfl
  | cons a l ih => simp only [List.map_cons, Function.comp, unStr]; exact congrArg _ ih

theorem unStr_map_kv (m : List (Str × Str)) :
    List.map ((fun kv : Str × J => (kv.1, unStr kv.2)) ∘ (fun kv : Str × Str => (kv.1, J.str kv.2))) m = m := by
  induction m with
  | nil => rfl
  | cons a l ih => simp only [List.map_cons, Function.comp, unStr]; exact congrArg _ ih

theorem udp_roundtrip (a : UDP) : udpFromJ [(kIP, .str a.ip), (kPort, .num a.port), (kZone, .str a.zone)] = a := by
  simp [udpFromJ, List.lookup, kIP, kPort, kZone, unStr, unNum]

section field
/- the per-field functions are finite case tables: `simp` evaluates them once kind, value and
   `omitempty` flag are known -/
attribute [local simp] typedF decodeOpt isEmpty toJF fromJF zeroF normF

/-- one field: writing it (or dropping it) and reading the result back gives the normalised value -/
theorem field_roundtrip (subJ : String → α → J) (subV : String → J → α) (zeroSub : String → α)
    (normSub : String → α → α) (subTyped : String → α → Bool)
    (hsub : ∀ n a, subTyped n a = true → ∃ ms, subJ n a = .obj ms ∧ subV n (.obj ms) = normSub n a)
    (f : FieldS) (v : ValF α) (ht : typedF subTyped f.kind v = true) :
    decodeOpt subV zeroSub f (if f.omitE && isEmpty v then none else some (toJF subJ f.kind v))
      = normF normSub f v := by
  -- `typedF` leaves the eight pairs of a kind with a value of its shape
  cases hk : f.kind <;> cases v <;> simp [hk] at ht
  case str.str s => cases ho : f.omitE <;> cases s <;> simp [hk]
  case bool.bool b => cases ho : f.omitE <;> cases b <;> simp [hk]
  case int.int i =>
    cases ho : f.omitE
    · simp [hk, unNum]
    · by_cases hi : i = 0
      · subst hi; simp [hk]
      · simp [hk, hi, unNum]
  case strs.strs o =>
    cases o with
    | none => cases ho : f.omitE <;> simp [hk]
    | some l => cases ho : f.omitE <;> cases hl : l <;> simp [hk, ho, unStr_map]
  case smap.smap o =>
    cases o with
    | none => cases ho : f.omitE <;> simp [hk]
    | some l => cases ho : f.omitE <;> cases hl : l <;> simp [hk, ho, unStr_map_kv]
  case udp.udp o =>
    cases o with
    | none => cases ho : f.omitE <;> simp [hk]
    | some a => cases ho : f.omitE <;> simp [hk, udpToJ, udp_roundtrip]
  case sub.sub n a =>
    obtain ⟨ms, h1, h2⟩ := hsub n a ht
    cases ho : f.omitE <;> simp [hk, h1, h2]
  case subs.subs n o =>
    cases o with
    | none => cases ho : f.omitE <;> simp [hk]
    | some l =>
      have ht' : ∀ a ∈ l, subTyped n a = true := by simpa using ht
      have hmap : List.map (subV n ∘ subJ n) l = l.map (normSub n) := by
        apply List.map_congr_left
        intro a ha
        obtain ⟨ms, h1, h2⟩ := hsub n a (ht' a ha)
        simp [Function.comp, h1, h2]
      by_cases hl : l = []
      · subst hl
        cases ho : f.omitE <;> simp [hk, ho]
      · have hl' : l.isEmpty = false := by cases l <;> simp_all
        cases ho : f.omitE <;> simp [hk, ho, hl', hmap]

end field

/-- `members_roundtrip` for ANY member list `ms` that agrees with the written one on the schema's names: the
    induction peels fields off the schema while every lookup still goes into the whole list -/
theorem members_roundtrip_aux (subJ : String → α → J) (subV : String → J → α) (zeroSub : String → α)
    (normSub : String → α → α) (subTyped : String → α → Bool)
    (hsub : ∀ n a, subTyped n a = true → ∃ ms, subJ n a = .obj ms ∧ subV n (.obj ms) = normSub n a) :
    ∀ (fs : List FieldS) (vs : List (ValF α)) (ms : List (Str × J)),
      typedMembers subTyped fs vs = true → (names fs).Nodup →
      (∀ k, k ∈ names fs → ms.lookup k = (toMembersF subJ fs vs).lookup k) →
      fs.map (fun f => decodeOpt subV zeroSub f (ms.lookup f.json)) = normMembersF normSub fs vs := by
  intro fs
  induction fs with
  | nil => intro vs ms _ _ _; cases vs <;> simp [normMembersF]
  | cons f fs ih =>
    intro vs ms ht hnd hag
    cases vs with
    | nil => simp [typedMembers] at ht
    | cons v vs =>
      simp only [typedMembers, Bool.and_eq_true] at ht
      simp only [names, List.map_cons, List.nodup_cons] at hnd
      have hfr := field_roundtrip subJ subV zeroSub normSub subTyped hsub f v ht.1
      have hhead : ms.lookup f.json = (if f.omitE && isEmpty v then none else some (toJF subJ f.kind v)) := by
        rw [hag f.json (by simp [names])]
        simp only [toMembersF]
        split
        · exact lookup_toMembers_none subJ f.json fs vs hnd.1
        · simp
      simp only [List.map_cons, normMembersF]
      rw [hhead, hfr]
      congr 1
      apply ih vs ms ht.2 hnd.2
      intro k hk
      rw [hag k (by simp only [names, List.map_cons, List.mem_cons]; exact Or.inr hk)]
      simp only [toMembersF]
      split
      · rfl
      · rw [List.lookup_cons]
        have hne : (k == f.json) = false := by
          have : k ≠ f.json := fun h => hnd.1 (h ▸ hk)
          simpa using this
        rw [hne]

/-- a whole struct: decoding what was written gives the normalised value -/
theorem members_roundtrip (subJ : String → α → J) (subV : String → J → α) (zeroSub : String → α)
    (normSub : String → α → α) (subTyped : String → α → Bool)
    (hsub : ∀ n a, subTyped n a = true → ∃ ms, subJ n a = .obj ms ∧ subV n (.obj ms) = normSub n a)
    (fs : List FieldS) (vs : List (ValF α))
    (ht : typedMembers subTyped fs vs = true) (hnd : (names fs).Nodup) :
    fromMembersF subV zeroSub fs (toMembersF subJ fs vs) = normMembersF normSub fs vs := by
  unfold fromMembersF
  exact members_roundtrip_aux subJ subV zeroSub normSub subTyped hsub fs vs _ ht hnd (fun _ _ => rfl)

/-- every struct of the schema has pairwise distinct JSON names -/
def Schema.NamesNodup (sch : Schema) : Prop := ∀ n, (names (sch.fieldsOf n)).Nodup

/-- it suffices to check the rows of the table -/
theorem Schema.namesNodup_of_rows (sch : Schema) (h : ∀ r ∈ sch.rows, (names r.2).Nodup) : sch.NamesNodup := by
  intro n
  unfold Schema.fieldsOf
  cases hl : sch.rows.lookup n with
  | none => simp [names]
  | some fs => exact h (n, fs) (lookup_mem hl)

theorem roundtrip0 (sch : Schema) (hnd : sch.NamesNodup) (n : String) (m : Struct0)
    (ht : typed0 sch n m = true) : fromObj0 sch n (toObj0 sch n m) = norm0 sch n m := by
  unfold fromObj0 toObj0 norm0
  simp only [objOf]
  exact members_roundtrip _ _ _ _ (fun _ _ => false) (fun _ _ h => by simp at h) _ m ht (hnd n)

theorem roundtrip1 (sch : Schema) (hnd : sch.NamesNodup) (n : String) (m : Struct1)
    (ht : typed1 sch n m = true) : fromObj1 sch n (toObj1 sch n m) = norm1 sch n m := by
  unfold fromObj1 toObj1 norm1
  simp only [objOf]
  refine members_roundtrip _ _ _ _ (typed0 sch) ?_ _ m ht (hnd n)
  intro n' a h
  exact ⟨_, rfl, by have := roundtrip0 sch hnd n' a h; simpa [toObj0] using this⟩

theorem roundtrip2 (sch : Schema) (hnd : sch.NamesNodup) (n : String) (m : Struct2)
    (ht : typed2 sch n m = true) : fromObj2 sch n (toObj2 sch n m) = norm2 sch n m := by
  unfold fromObj2 toObj2 norm2
  simp only [objOf]
  refine members_roundtrip _ _ _ _ (typed1 sch) ?_ _ m ht (hnd n)
  intro n' a h
  exact ⟨_, rfl, by have := roundtrip1 sch hnd n' a h; simpa [toObj1] using this⟩

end MsgObj
end Frp
