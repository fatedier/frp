import Frp.Model.CodecPool
/-
  The ownership invariant of the pooled codec objects and its preservation by every step of
  `CodecPool.step` under a discipline that never recycles an object somebody may still use.
-/
namespace Frp
namespace CodecPool

/-- recycle at most once after Join returned, never at the return of the plugin path -/
def Safe (d : Disc) : Prop := d.plainRel ≤ 1 ∧ d.pluginRelAtReturn = false

instance (d : Disc) : Decidable (Safe d) := by unfold Safe; exact inferInstance

structure Inv (st : St) : Prop where
  own : ∀ k ∈ st.live, ownerOf st k.obj = some k.id     -- the object of a live connection is bound to ITS stream
  held : ∀ k ∈ st.live, k.obj ∉ st.free                   -- and does not lie in the pool
  nodup : st.free.Nodup                                   -- nothing lies in the pool twice
  freeLt : ∀ o ∈ st.free, o < st.next
  liveLt : ∀ k ∈ st.live, k.obj < st.next

theorem inv_init : Inv St.init :=
  ⟨nofun, nofun, List.nodup_nil, nofun, nofun⟩

theorem findConn_mem {st : St} {c : Nat} {k : Conn} (h : findConn st c = some k) : k ∈ st.live ∧ k.id = c :=
  ⟨List.mem_of_find?_eq_some h, by simpa using List.find?_some h⟩

theorem mem_dropConn {st : St} {c : Nat} {k : Conn} : k ∈ dropConn st c ↔ k ∈ st.live ∧ k.id ≠ c := by
  simp [dropConn, List.mem_filter]

/-- two live connections with the same object are the same connection -/
theorem obj_inj {st : St} (h : Inv st) {a b : Conn} (ha : a ∈ st.live) (hb : b ∈ st.live) (e : a.obj = b.obj) :
    a.id = b.id := by
  have h1 := h.own a ha
  have h2 := h.own b hb
  rw [e, h2] at h1
  exact (Option.some.inj h1).symm

theorem exclusive_of_inv {st : St} (h : Inv st) : exclusive st = true := by
  simp only [exclusive, List.all_eq_true]
  intro a ha b hb
  by_cases e : a.obj = b.obj
  · simp [obj_inj h ha hb e]
  · simp [e]

/-- the connection ends (nobody uses its wrapper any more) and its object goes back to the pool AT MOST ONCE -/
theorem inv_end {st : St} (h : Inv st) {c : Nat} {k : Conn} (hf : findConn st c = some k) {n : Nat} (hn : n ≤ 1) :
    Inv { st with free := List.replicate n k.obj ++ st.free, live := dropConn st c } := by
  obtain ⟨hk, rfl⟩ := findConn_mem hf
  have hfree : ∀ o ∈ List.replicate n k.obj ++ st.free, o = k.obj ∨ o ∈ st.free :=
    fun o ho => (List.mem_append.1 ho).imp List.eq_of_mem_replicate id
  refine ⟨fun k' hk' => h.own k' (mem_dropConn.mp hk').1, ?_, ?_, ?_,
    fun k' hk' => h.liveLt k' (mem_dropConn.mp hk').1⟩
  · intro k' hk' hmem
    have hk'' := mem_dropConn.mp hk'
    rcases hfree _ hmem with e | e
    · exact hk''.2 (obj_inj h hk''.1 hk e)
    · exact h.held k' hk''.1 e
  · match n, hn with
    | 0, _ => exact h.nodup
    | 1, _ => exact List.nodup_cons.mpr ⟨h.held k hk, h.nodup⟩
  · intro o ho
    rcases hfree o ho with rfl | e
    · exact h.liveLt k hk
    · exact h.freeLt o e

/-- `WithCompressionFromPool`: connection `c` is given object `o`, which no live connection holds and which does not
    lie in what is left of the pool -/
theorem inv_start {st : St} (h : Inv st) (c o : Nat) (plugin : Bool) {free' : List Nat} {next' : Nat}
    (hsub : ∀ x ∈ free', x ∈ st.free) (hnd : free'.Nodup) (ho : o ∉ free') (hlive : ∀ k ∈ st.live, k.obj ≠ o)
    (hn : st.next ≤ next') (hon : o < next') :
    Inv { st with free := free', next := next', owner := (o, c) :: st.owner, live := ⟨c, o, plugin⟩ :: st.live } := by
  refine ⟨?_, ?_, hnd, fun x hx => Nat.lt_of_lt_of_le (h.freeLt x (hsub x hx)) hn, ?_⟩
  · intro k hk
    rcases List.mem_cons.mp hk with rfl | e
    · exact List.lookup_cons_self
    · rw [ownerOf, List.lookup_cons, beq_false_of_ne (hlive k e)]
      exact h.own k e
  · intro k hk hmem
    rcases List.mem_cons.mp hk with rfl | e
    · exact ho hmem
    · exact h.held k e (hsub _ hmem)
  · intro k hk
    rcases List.mem_cons.mp hk with rfl | e
    · exact hon
    · exact Nat.lt_of_lt_of_le (h.liveLt k e) hn

/-- `WithCompressionFromPool` with an object taken out of the pool -/
theorem inv_start_pooled {st : St} (h : Inv st) (c o : Nat) (plugin : Bool) (ho : o ∈ st.free) :
    Inv { st with free := st.free.erase o, owner := (o, c) :: st.owner, live := ⟨c, o, plugin⟩ :: st.live } :=
  inv_start h c o plugin (fun _ hx => List.mem_of_mem_erase hx) (h.nodup.erase o) h.nodup.not_mem_erase
    (fun k e e' => h.held k e (e' ▸ ho)) (Nat.le_refl _) (h.freeLt o ho)

/-- `WithCompressionFromPool` with a newly made object -/
theorem inv_start_fresh {st : St} (h : Inv st) (c : Nat) (plugin : Bool) :
    Inv { st with next := st.next + 1, owner := (st.next, c) :: st.owner, live := ⟨c, st.next, plugin⟩ :: st.live } :=
  inv_start h c st.next plugin (fun _ hx => hx) h.nodup (fun hm => Nat.lt_irrefl _ (h.freeLt _ hm))
    (fun k e => Nat.ne_of_lt (h.liveLt k e)) (Nat.le_succ _) (Nat.lt_succ_self _)

theorem inv_step {d : Disc} (hd : Safe d) {st : St} (h : Inv st) (e : Ev) : Inv (step d st e).1 := by
  cases e with
  | start c plugin pick =>
    simp only [step]
    cases hf : findConn st c with
    | some k => exact h
    | none =>
      cases pick with
      | none => exact inv_start_fresh h c plugin
      | some o =>
        by_cases ho : o ∈ st.free
        · simp only [if_pos ho]; exact inv_start_pooled h c o plugin ho
        · simp only [if_neg ho]; exact inv_start_fresh h c plugin
  | io c =>
    simp only [step]
    cases findConn st c <;> exact h
  | ret c =>
    simp only [step]
    cases hf : findConn st c with
    | none => exact h
    | some k =>
      by_cases hp : k.plugin = true
      · simp only [hp, hd.2, Bool.false_eq_true, ↓reduceIte]; exact h
      · simp only [hp, Bool.false_eq_true, ↓reduceIte]; exact inv_end h hf hd.1
  | fail c =>
    simp only [step]
    cases hf : findConn st c with
    | none => exact h
    | some k =>
      by_cases hp : k.plugin = true
      · simp only [hp, ↓reduceIte]; exact h
      · simp only [hp, Bool.false_eq_true, ↓reduceIte]
        cases d.errRel
        · exact inv_end h hf (Nat.zero_le 1)
        · exact inv_end h hf (Nat.le_refl 1)
  | done c =>
    simp only [step]
    cases hf : findConn st c with
    | none => exact h
    | some k =>
      by_cases hp : k.plugin = true
      · simp only [hp, ↓reduceIte]; exact inv_end h hf (Nat.zero_le 1)
      · simp only [hp, Bool.false_eq_true, ↓reduceIte]; exact h

/-- a Read / Write through the wrapper of a live connection works on that connection's own stream -/
theorem io_own {d : Disc} {st : St} (h : Inv st) (c : Nat) :
    (step d st (.io c)).2 = none ∨ (step d st (.io c)).2 = some c := by
  simp only [step]
  cases hf : findConn st c with
  | none => exact Or.inl rfl
  | some k =>
    have hk := findConn_mem hf
    exact Or.inr (hk.2 ▸ h.own k hk.1)

theorem run_inv {d : Disc} (hd : Safe d) : ∀ (evs : List Ev) {st : St}, Inv st → Inv (run d st evs).1
  | [], _, h => h
  | e :: es, st, h => by
    simp only [run]
    exact run_inv hd es (inv_step hd h e)

theorem run_ownStream {d : Disc} (hd : Safe d) : ∀ (evs : List Ev) {st : St}, Inv st → ownStream (run d st evs).2 = true
  | [], _, _ => rfl
  | e :: es, st, h => by
    have ih := run_ownStream hd es (inv_step hd h e)
    simp only [run]
    cases e with
    | io c =>
      rcases io_own (d := d) h c with h0 | h0
      · rw [h0]; simpa [ownStream] using ih
      · rw [h0]; simpa [ownStream] using ih
    | _ => simpa [ownStream] using ih

end CodecPool
end Frp
