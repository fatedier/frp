import Frp.Model.WrapperConc
/-
  Lemmas for the atomic wrapper machine `Frp.Wrapper.step` (what one event does to status and wire) and
  for its interleaving model: every schedule refines the atomic machine (used by Props/C19 Part K).
-/
namespace Frp
namespace Wrapper

theorem wantsStart_phase {w : W} {now : Nat} (h : wantsStart w now = true) :
    w.phase = .new ∨ w.phase = .checkFailed ∨ w.phase = .waitStart ∨ w.phase = .startErr := by
  simp only [wantsStart, Bool.or_eq_true, Bool.and_eq_true, beq_iff_eq] at h
  rcases h with ((h | h) | ⟨h, _⟩) | ⟨h, _⟩ <;> simp [h]

/-- What one event does to the reported status and to the wire, clocks and health flag forgotten:
    `Move e p q ms` — on `e` the status goes from `p` to `q` and `ms` is handed to the handler.  `step`
    makes only these moves (`step_move`), so an invariant over status and wire is checked on seven cases. -/
inductive Move : Event → Phase → Phase → List Msg → Prop
  | stay (e p) : Move e p p []
  | register (now) {p} : p = .new ∨ p = .checkFailed ∨ p = .waitStart ∨ p = .startErr →
      Move (.tick now) p .waitStart [.newProxy]
  | withdraw (now) {p} : p = .running ∨ p = .waitStart → Move (.tick now) p .checkFailed [.closeProxy]
  | refused (now) : Move (.startResp now true) .waitStart .startErr []
  | runFailed (now) : Move (.startResp now false) .waitStart .startErr [.closeProxy]
  | started (now) : Move (.startResp now false) .waitStart .running []
  | stop {p} : p ≠ .closed → Move .stop p .closed [.closeProxy]

theorem step_move (w : W) (e : Event) : Move e w.phase (step w e).1.phase (step w e).2.1 := by
  cases e <;> simp only [step]
  case tick now =>
    split
    · split
      · exact .register now (wantsStart_phase ‹_›)
      · exact .stay _ _
    · split
      · exact .withdraw now ‹_›
      · exact .stay _ _
  case startResp now respErr =>
    by_cases hp : w.phase = .waitStart
    · rw [if_neg (not_not_intro hp), hp]
      cases respErr
      · rw [if_neg Bool.false_ne_true]
        split
        · exact .runFailed now
        · exact .started now
      · exact .refused now
    · rw [if_pos hp]
      exact .stay _ _
  case stop =>
    split
    · exact .stay _ _
    · exact .stop ‹_›
  case inWorkConn =>
    split <;> exact .stay _ _
  all_goals exact .stay _ _

/-- only `Stop` closes a wrapper -/
theorem step_ne_closed {w : W} {e : Event} (he : e ≠ .stop) (h : w.phase ≠ .closed) :
    (step w e).1.phase ≠ .closed := by
  have hm := step_move w e
  generalize (step w e).1.phase = q, (step w e).2.1 = ms at hm ⊢
  generalize w.phase = p at hm h
  cases hm with
  | stay => exact h
  | stop => exact absurd rfl he
  | _ => nofun

theorem tick_health (w : W) (now : Nat) : (step w (.tick now)).1.health = w.health := by
  simp only [step, apply_ite Prod.fst, apply_ite W.health, ite_self]

theorem run_append (w : W) (a b : List Event) :
    run w (a ++ b) = ((run (run w a).1 b).1, (run w a).2.1 ++ (run (run w a).1 b).2.1,
      (run w a).2.2 ++ (run (run w a).1 b).2.2) := by
  induction a generalizing w with
  | nil => simp [run]
  | cons e es ih => simp [run, ih]

theorem run_snoc_state (w : W) (a : List Event) (e : Event) :
    (run w (a ++ [e])).1 = (step (run w a).1 e).1 := by
  rw [run_append]; simp [run]

theorem run_snoc_msgs (w : W) (a : List Event) (e : Event) :
    (run w (a ++ [e])).2.1 = (run w a).2.1 ++ (step (run w a).1 e).2.1 := by
  rw [run_append]; simp [run]

end Wrapper

namespace WrapperConc
open Wrapper

-- `wantsStart` as a function of the three fields it reads
def wants (p : Phase) (ls le now : Nat) : Bool :=
  p == .new || p == .checkFailed ||
  (p == .waitStart && decide (ls + waitResponseTimeout < now)) ||
  (p == .startErr && decide (le + startErrTimeout < now))

theorem wantsStart_eq (w : W) (now : Nat) : wantsStart w now = wants w.phase w.lastSend w.lastErr now := rfl

/-- `Stop`, `SetRunningStatus` and `InWorkConn` neither read nor write `health` -/
theorem step_health (w : W) (x : Nat) (e : Event) (ht : ∀ now, e ≠ .tick now) (hs : isStore e = false) :
    step { w with health := x } e = ({ (step w e).1 with health := x }, (step w e).2) := by
  cases e with
  | tick now => exact absurd rfl (ht now)
  | healthUp => cases hs
  | healthDown => cases hs
  | _ => simp only [step] <;> (repeat' split) <;> rfl

/-- a list of monitor callbacks only moves the health flag -/
theorem run_stores (d : List Event) : ∀ (w : W), (∀ e ∈ d, isStore e = true) →
    (run w d).1 = { w with health := applyStores d w.health } ∧ (run w d).2.1 = [] := by
  induction d with
  | nil => intro w _; exact ⟨rfl, rfl⟩
  | cons e es ih =>
    intro w h
    obtain ⟨i1, i2⟩ := ih (step w e).1 (fun e' h' => h e' (List.mem_cons_of_mem _ h'))
    have he := h e List.mem_cons_self
    cases e with
    | healthUp => simp only [run, i1, i2]; exact ⟨rfl, rfl⟩
    | healthDown => simp only [run, i1, i2]; exact ⟨rfl, rfl⟩
    | _ => cases he

theorem applyStores_snoc (d : List Event) (h : Nat) (e : Event) :
    applyStores (d ++ [e]) h = applyStores [e] (applyStores d h) := by
  induction d generalizing h with
  | nil => rfl
  | cons e' es ih => cases e' <;> exact ih _

/-- the refinement relation between a state of the interleaving model and the atomic machine run
    over the linearised events:
    * `st`, `ms`: the atomic run over `lin` has reached the wrapper the lock holder will leave behind (`fin`),
      with the health value of the linearised history (`hl`), and has emitted the wire plus what the holder still sends;
    * `df`, `dst`, `dn`: the deferred events are stores, applied to `hl` they give the current flag, and there are
      none unless the worker stands between its load and its `Lock()`;
    * `wc`, `np`: while a worker statement holds the mutex the worker's counter is `crit`; it is never `pendingNew`
      (that counter exists only in the `early` variant). -/
structure Ref (w0 : W) (s : S) : Prop where
  st : (run w0 s.lin).1 = { (fin s).1 with health := hl s }
  ms : (run w0 s.lin).2.1 = s.wire ++ (fin s).2
  df : applyStores s.deferred (hl s) = s.w.health
  dst : ∀ e ∈ s.deferred, isStore e = true
  dn : (∀ now h, s.wpc ≠ .loaded now h) → s.deferred = []
  wc : s.hold.isW = true → s.wpc = .crit
  np : s.wpc ≠ .pendingNew

theorem holdStep_frame (s : S) : (holdStep false s).lin = s.lin ∧
    (holdStep false s).deferred = s.deferred ∧ (holdStep false s).w.health = s.w.health := by
  unfold holdStep
  split <;>
    simp only [apply_ite S.lin, apply_ite S.deferred, apply_ite S.w, apply_ite W.health, ite_self, and_self]

/-- each statement of a critical section does what `fin` foretold: the state at Unlock() stays as
    predicted, and a message that is sent moves from the prediction to the wire -/
theorem holdStep_fin (s : S) : (fin (holdStep false s)).1 = (fin s).1 ∧
    (holdStep false s).wire ++ (fin (holdStep false s)).2 = s.wire ++ (fin s).2 := by
  obtain ⟨w, wpc, hold, closeCh, wire, lin, deferred⟩ := s
  cases hold <;> simp only [holdStep]
  case wLocked now h =>
    by_cases h0 : h = 0
    · subst h0
      have hw : wantsStart { w with health := 0 } now = wantsStart w now := rfl
      cases hs : wantsStart w now <;> simp [fin, step, hw, hs]
    · by_cases hp : w.phase = .running ∨ w.phase = .waitStart <;> simp [fin, step, h0, hp]
  case sLocked => split <;> simp [fin, step, *]
  case rLocked now e => (repeat' split) <;> simp [fin, step, *]
  all_goals simp [fin]

/-- only the worker's Unlock moves its program counter, and the mutex stays with the goroutine that
    has it until that goroutine's Unlock -/
theorem holdStep_worker (s : S) :
    (holdStep false s).wpc = (if s.hold = .wUnlock then .select else s.wpc) ∧
    (holdStep false s).hold.isW = (s.hold.isW && s.hold != .wUnlock) := by
  obtain ⟨w, wpc, hold, closeCh, wire, lin, deferred⟩ := s
  -- the two components as one equation between pairs
  apply Prod.mk.inj
  cases hold <;>
    simp only [holdStep, reduceCtorEq, Bool.false_eq_true, if_false, if_true] <;> (repeat' split) <;> rfl

theorem ref_init (w0 : W) : Ref w0 (init w0) := by
  constructor <;> simp [init, fin, hl, run, applyStores, Hold.isW]

/-- a step that leaves the linearised history alone keeps the relation if the lock holder's prospect
    (`fin`, with what is on the wire already) is what it was, and the worker's counter moved at most
    from its critical section back to the select -/
theorem Ref.same_lin {w0 : W} {s s' : S} (h : Ref w0 s) (hlin : s'.lin = s.lin)
    (hdef : s'.deferred = s.deferred) (hh : s'.w.health = s.w.health)
    (hfin : (fin s').1 = (fin s).1) (hms : s'.wire ++ (fin s').2 = s.wire ++ (fin s).2)
    (hwpc : (s'.wpc = s.wpc ∧ s'.hold.isW = s.hold.isW) ∨
      (s.wpc = .crit ∧ s'.wpc = .select ∧ s'.hold.isW = false)) : Ref w0 s' := by
  obtain ⟨hhl, hld, hwc, hnp⟩ : hl s' = hl s ∧
      ((∀ now v, s'.wpc ≠ .loaded now v) → ∀ now v, s.wpc ≠ .loaded now v) ∧
      (s'.hold.isW = true → s'.wpc = .crit) ∧ s'.wpc ≠ .pendingNew := by
    unfold hl
    rcases hwpc with ⟨e, e'⟩ | ⟨e, e', e''⟩
    · rw [e, e', hh]; exact ⟨rfl, id, h.wc, h.np⟩
    · rw [e, e', e'', hh]; exact ⟨rfl, fun _ => nofun, nofun, nofun⟩
  exact ⟨by rw [hlin, hfin, hhl]; exact h.st, by rw [hlin, hms]; exact h.ms,
    by rw [hdef, hhl, hh]; exact h.df, by rw [hdef]; exact h.dst, fun hn => hdef ▸ h.dn (hld hn), hwc, hnp⟩

theorem ref_hold (w0 : W) (s : S) (h : Ref w0 s) : Ref w0 (sstep s .hold) := by
  show Ref w0 (holdStep false s)
  obtain ⟨hlin, hdef, hh⟩ := holdStep_frame s
  obtain ⟨hfin, hms⟩ := holdStep_fin s
  obtain ⟨hwpc, hW⟩ := holdStep_worker s
  refine h.same_lin hlin hdef hh hfin hms ?_
  by_cases hu : s.hold = .wUnlock
  · rw [if_pos hu] at hwpc
    exact .inr ⟨h.wc (by rw [hu]; rfl), hwpc, by simpa [hu] using hW⟩
  · rw [if_neg hu] at hwpc
    rw [bne_iff_ne.mpr hu, Bool.and_true] at hW
    exact .inl ⟨hwpc, hW⟩

/-- the worker leaves the select: nobody is in the worker's critical section, nothing is deferred -/
theorem Ref.leave_select {w0 : W} {s : S} (h : Ref w0 s) (hs : s.wpc = .select) {x : WPc}
    (hx : x = .exited ∨ ∃ now, x = .loaded now s.w.health) : Ref w0 { s with wpc := x } := by
  have hd : s.deferred = [] := h.dn (by rw [hs]; nofun)
  have hhl : hl { s with wpc := x } = hl s := by
    unfold hl
    rcases hx with rfl | ⟨now, rfl⟩ <;> simp only [hs]
  refine ⟨by rw [hhl]; exact h.st, h.ms, by rw [hhl]; exact h.df, h.dst, fun _ => hd, ?_, ?_⟩
  · intro hw
    have := h.wc hw
    rw [hs] at this
    cases this
  · rcases hx with rfl | ⟨now, rfl⟩ <;> nofun

/-- `Stop` or `SetRunningStatus` takes the free mutex: its event is linearised here -/
theorem Ref.lock {w0 : W} {s : S} (h : Ref w0 s) (hf : s.hold = .free) (e : Event) (x : Hold)
    (ht : ∀ now, e ≠ .tick now) (hs : isStore e = false) (hW : x.isW = false)
    (hx : fin { s with hold := x, lin := s.lin ++ [e] } = ((step s.w e).1, (step s.w e).2.1)) :
    Ref w0 { s with hold := x, lin := s.lin ++ [e] } := by
  have st := h.st
  have ms := h.ms
  simp only [fin, hf] at st ms
  have hhl : hl { s with hold := x, lin := s.lin ++ [e] } = hl s := rfl
  refine ⟨?_, ?_, h.df, h.dst, h.dn, ?_, h.np⟩
  · rw [hx, hhl]
    simp only
    rw [run_snoc_state, st, step_health _ _ _ ht hs]
  · rw [hx]
    simp only
    rw [run_snoc_msgs, ms, st, step_health _ _ _ ht hs, List.append_nil]
  · intro hw
    rw [hW] at hw
    cases hw

theorem ref_wLock (w0 : W) (s : S) (h : Ref w0 s) : Ref w0 (sstep s .wLock) := by
  obtain ⟨st, ms, df, dst, dn, wc, np⟩ := h
  simp only [sstep, sstepG]
  split
  · rename_i now hh hs hf
    simp only [hf, fin, hs, hl] at st ms df
    obtain ⟨r1, r2⟩ := run_stores s.deferred (step (run w0 s.lin).1 (.tick now)).1 dst
    rw [st] at r1 r2
    -- the history grows by the worker's tick and the stores deferred behind it
    refine ⟨?_, ?_, rfl, nofun, fun _ => rfl, fun _ => rfl, nofun⟩
    · simp only [fin, hl]
      rw [run_append, run_append]
      simp only [run, st, r1, tick_health, df]
    · simp only [fin]
      rw [run_append, run_append]
      simp only [run, ms, st, r2]
      simp
  · exact ⟨st, ms, df, dst, dn, wc, np⟩

/-- a store commutes with whatever the lock holder still does: critical sections read the loaded
    value, never the flag -/
theorem fin_store (s : S) (v : Nat) (d l : List Event) :
    fin { s with w := { s.w with health := v }, deferred := d, lin := l } =
      ({ (fin s).1 with health := v }, (fin s).2) := by
  obtain ⟨w, wpc, hold, closeCh, wire, lin, deferred⟩ := s
  cases hold
  case sLocked => simp only [fin, step_health w v .stop nofun rfl]
  case rLocked now e => simp only [fin, step_health w v (.startResp now e) nofun rfl]
  all_goals rfl

/-- a monitor callback `e` that stores `v` -/
theorem ref_store (w0 : W) (s : S) (v : Nat) (e : Event) (hst : isStore e = true)
    (hv : ∀ (w : W) x, step { w with health := x } e = ({ w with health := v }, [], .none))
    (ha : ∀ x, applyStores [e] x = v) (h : Ref w0 s) : Ref w0 (store s v e) := by
  obtain ⟨st, ms, df, dst, dn, wc, np⟩ := h
  simp only [store]
  split
  · -- between the worker's load and its Lock(): the store is deferred behind the worker's tick
    rename_i now hh hs
    have hlq : hl { s with w := { s.w with health := v }, deferred := s.deferred ++ [e] } = hl s := by
      simp only [hl, hs]
    refine ⟨?_, ?_, ?_, ?_, fun hc => absurd hs (hc now hh), wc, np⟩
    · rw [hlq, fin_store]; exact st
    · rw [fin_store]; exact ms
    · rw [hlq, applyStores_snoc]; exact ha _
    · exact fun e' he' => (List.mem_append.mp he').elim (dst e') (fun h1 => List.mem_singleton.mp h1 ▸ hst)
  · -- otherwise it is linearised at once
    rename_i hn
    have hd : s.deferred = [] := dn (fun a b hc => hn a b hc)
    have hlq : hl { s with w := { s.w with health := v }, lin := s.lin ++ [e] } = v := by
      simp only [hl]
    refine ⟨?_, ?_, ?_, dst, fun _ => hd, wc, np⟩
    · rw [hlq, fin_store, run_snoc_state, st, hv]
    · rw [fin_store, run_snoc_msgs, ms, st, hv, List.append_nil]
    · rw [hd]; exact hlq

/-- one step of ANY label keeps the refinement relation -/
theorem ref_step (w0 : W) (s : S) (l : Label) (h : Ref w0 s) : Ref w0 (sstep s l) := by
  cases l with
  | wWake now =>
    simp only [sstep, sstepG]
    split
    · exact h.leave_select ‹_› (.inr ⟨now, rfl⟩)
    · exact h
  | wExit =>
    simp only [sstep, sstepG]
    split
    · split
      · exact h.leave_select ‹_› (.inl rfl)
      · exact h
    · exact h
  | wLock => exact ref_wLock w0 s h
  | wLate => exact h
  | hold => exact ref_hold w0 s h
  | stopLock =>
    simp only [sstep, sstepG]
    split
    · exact h.lock ‹_› .stop .sLocked nofun rfl rfl rfl
    · exact h
  | respLock now e =>
    simp only [sstep, sstepG]
    split
    · exact h.lock ‹_› (.startResp now e) (.rLocked now e) nofun rfl rfl rfl
    · exact h
  | healthUp => exact ref_store w0 s 0 .healthUp rfl (fun _ _ => rfl) (fun _ => rfl) h
  | healthDown => exact ref_store w0 s 1 .healthDown rfl (fun _ _ => rfl) (fun _ => rfl) h

theorem exec_cons (s : S) (l : Label) (ls : List Label) : exec s (l :: ls) = exec (sstep s l) ls := rfl

theorem exec_induct {P : S → Prop} (hstep : ∀ s l, P s → P (sstep s l)) (ls : List Label) :
    ∀ (s : S), P s → P (exec s ls) := by
  induction ls with
  | nil => exact fun _ h => h
  | cons l ls ih => exact fun s h => ih _ (hstep s l h)

theorem exec_append (s : S) (a b : List Label) : exec s (a ++ b) = exec (exec s a) b := by
  induction a generalizing s with
  | nil => rfl
  | cons l ls ih => simp only [List.cons_append, exec_cons, ih]

theorem ref_exec (w0 : W) (ls : List Label) : ∀ (s : S), Ref w0 s → Ref w0 (exec s ls) :=
  exec_induct (ref_step w0) ls

/-- the worker stands between its phase write and its send only with `Phase = wait start` (nobody
    else can write the phase meanwhile: every writer needs the mutex) -/
def critOK : Hold → Phase → Bool
  | .wSendNew, p => p == .waitStart
  | .wSendClose, p | .wSetFailed, p => p == .running || p == .waitStart
  | .rSendClose _, p | .rSetErr _, p => p == .waitStart
  | _, _ => true

def SendInv (s : S) : Prop := critOK s.hold s.w.phase = true

theorem sendInv_init (w : W) : SendInv (init w) := rfl

/-- outside `hold` no label writes the phase or the wire, and the mutex only passes from `free` to
    the top of a critical section -/
theorem sstep_frame (s : S) (l : Label) (hl : l ≠ .hold) :
    (sstep s l).w.phase = s.w.phase ∧ (sstep s l).wire = s.wire ∧
    ∀ p, critOK s.hold p = true → critOK (sstep s l).hold p = true := by
  cases l with
  | hold => exact absurd rfl hl
  | wLate => exact ⟨rfl, rfl, fun _ h => h⟩
  | wLock | stopLock | respLock =>
    simp only [sstep, sstepG]
    split
    · exact ⟨rfl, rfl, fun _ _ => rfl⟩
    · exact ⟨rfl, rfl, fun _ h => h⟩
  | _ => simp only [sstep, sstepG, store] <;> (repeat' split) <;> exact ⟨rfl, rfl, fun _ h => h⟩

theorem sendInv_hold (s : S) (h : SendInv s) : SendInv (holdStep false s) := by
  obtain ⟨w, wpc, hold, closeCh, wire, lin, deferred⟩ := s
  unfold SendInv at *
  cases hold <;> simp only [holdStep] <;> (repeat' split) <;> simp_all [critOK]

theorem sendInv_step (s : S) (l : Label) (h : SendInv s) : SendInv (sstep s l) := by
  by_cases hl : l = .hold
  · rw [hl]; exact sendInv_hold s h
  · obtain ⟨hp, _, hc⟩ := sstep_frame s l hl
    unfold SendInv
    rw [hp]
    exact hc _ h

theorem sendInv_exec (ls : List Label) : ∀ s, SendInv s → SendInv (exec s ls) :=
  exec_induct sendInv_step ls

theorem closed_hold (s : S) (h : SendInv s) (hc : s.w.phase = .closed) :
    (holdStep false s).w.phase = .closed ∧
    ((holdStep false s).wire = s.wire ∨ (holdStep false s).wire = s.wire ++ [.closeProxy]) := by
  obtain ⟨w, wpc, hold, closeCh, wire, lin, deferred⟩ := s
  unfold SendInv at h
  cases hold <;> simp only [holdStep] <;> (repeat' split) <;> simp_all [critOK, wantsStart]

/-- once `Phase = closed` is written: every further step of any goroutine leaves it closed and
    appends nothing or one CloseProxy to the wire -/
theorem closed_step (s : S) (l : Label) (h : SendInv s) (hc : s.w.phase = .closed) :
    (sstep s l).w.phase = .closed ∧
    ((sstep s l).wire = s.wire ∨ (sstep s l).wire = s.wire ++ [.closeProxy]) := by
  by_cases hl : l = .hold
  · rw [hl]; exact closed_hold s h hc
  · obtain ⟨hp, hw, _⟩ := sstep_frame s l hl
    exact ⟨hp.trans hc, .inl hw⟩

theorem closed_exec (ls : List Label) : ∀ s, SendInv s → s.w.phase = .closed →
    (exec s ls).w.phase = .closed ∧
    ∃ extra, (exec s ls).wire = s.wire ++ extra ∧ ∀ m ∈ extra, m = Msg.closeProxy := by
  induction ls with
  | nil => intro s _ hc; exact ⟨hc, [], by simp [exec, execG], by simp⟩
  | cons l ls ih =>
    intro s h hc
    obtain ⟨c1, c2⟩ := closed_step s l h hc
    obtain ⟨i1, extra, i2, i3⟩ := ih (sstep s l) (sendInv_step s l h) c1
    refine ⟨i1, ?_⟩
    rcases c2 with c2 | c2
    · exact ⟨extra, by rw [exec_cons, i2, c2], i3⟩
    · refine ⟨.closeProxy :: extra, by rw [exec_cons, i2, c2]; simp, ?_⟩
      intro m hm
      rcases List.mem_cons.mp hm with rfl | hm
      · rfl
      · exact i3 m hm

end WrapperConc
end Frp
