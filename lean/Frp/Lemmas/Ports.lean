import Frp.Model.Ports
import Frp.Lemmas.ListFacts
/-
  Helper lemmas for the port manager model (property theorems: Frp/Props/C09.lean).
-/
namespace Frp
namespace Ports

/-! ### association lists -/

theorem map_fst_filter {α β : Type} [DecidableEq α] (l : List (α × β)) (p : α) :
    (l.filter (fun e => e.1 ≠ p)).map (·.1) = (l.map (·.1)).filter (· ≠ p) := by
  rw [List.filter_map]
  rfl

theorem mem_of_lookup {β : Type} {l : List (Nat × β)} {k : Nat} {v : β}
    (h : l.lookup k = some v) : (k, v) ∈ l :=
  lookup_mem h

theorem lookup_of_mem_nodup {β : Type} {l : List (Nat × β)} {k : Nat} {v : β}
    (hn : (l.map (·.1)).Nodup) (h : (k, v) ∈ l) : l.lookup k = some v := by
  induction l with
  | nil => cases h
  | cons e es ih =>
    obtain ⟨a, b⟩ := e
    obtain ⟨ha, hn⟩ := List.nodup_cons.mp hn
    rcases List.mem_cons.mp h with h | h
    · cases h
      exact List.lookup_cons_self
    · have hm : k ∈ es.map (·.1) := List.mem_map.mpr ⟨(k, v), h, rfl⟩
      have hk : (k == a) = false := by simpa using fun e : k = a => ha (e ▸ hm)
      rw [List.lookup_cons, hk]
      exact ih hn h

/-! ### the manager invariant -/

/-- free / used partition the allowed set, used has one owner per port, reserved ports are allowed -/
structure PMInv (A : List Nat) (pm : PM) : Prop where
  freeA : ∀ p ∈ pm.free, p ∈ A
  usedA : ∀ p ∈ pm.usedKeys, p ∈ A
  cover : ∀ p ∈ A, p ∈ pm.free ∨ p ∈ pm.usedKeys
  disj  : ∀ p ∈ pm.free, p ∉ pm.usedKeys
  nodup : pm.usedKeys.Nodup
  resA  : ∀ n p, (n, p) ∈ pm.reserved → p ∈ A

theorem usedBy_isSome_iff (pm : PM) (p : Nat) : (pm.usedBy p).isSome ↔ p ∈ pm.usedKeys :=
  lookup_isSome_iff

theorem mem_usedKeys_iff {pm : PM} {p : Nat} : p ∈ pm.usedKeys ↔ ∃ n, pm.usedBy p = some n := by
  rw [← usedBy_isSome_iff, Option.isSome_iff_exists]

theorem new_inv (A : List Nat) : PMInv A (PM.new A) := by
  refine ⟨?_, ?_, ?_, ?_, ?_, ?_⟩ <;> simp [PM.new, PM.usedKeys, List.mem_eraseDups]

/-! #### `take`: the three tables after a successful Acquire -/

theorem mem_free_take {pm : PM} {name : Str} {p q : Nat} :
    p ∈ (pm.take name q).free ↔ p ∈ pm.free ∧ p ≠ q := by
  simp [PM.take]

theorem usedKeys_take (pm : PM) (name : Str) (p : Nat) :
    (pm.take name p).usedKeys = p :: pm.usedKeys.filter (· ≠ p) :=
  congrArg (p :: ·) (map_fst_filter pm.used p)

theorem mem_usedKeys_take {pm : PM} {name : Str} {p q : Nat} :
    p ∈ (pm.take name q).usedKeys ↔ p = q ∨ (p ∈ pm.usedKeys ∧ p ≠ q) := by
  simp [usedKeys_take]

theorem usedBy_take_self (pm : PM) (name : Str) (p : Nat) : (pm.take name p).usedBy p = some name :=
  List.lookup_cons_self

theorem usedBy_take_other (pm : PM) (name : Str) {p q : Nat} (h : q ≠ p) :
    (pm.take name p).usedBy q = pm.usedBy q := by
  have hk : (q == p) = false := by simpa using h
  simp only [PM.take, PM.usedBy, List.lookup_cons, hk, filter_key_ne]
  exact lookup_filter_ne h

theorem take_inv {A : List Nat} {pm : PM} (h : PMInv A pm) (name : Str) {q : Nat} (hq : q ∈ A) :
    PMInv A (pm.take name q) where
  freeA p hp := h.freeA p (mem_free_take.mp hp).1
  usedA p hp := by
    rcases mem_usedKeys_take.mp hp with e | hp
    · exact e ▸ hq
    · exact h.usedA p hp.1
  cover p hp := by
    rw [mem_free_take, mem_usedKeys_take]
    by_cases e : p = q
    · exact Or.inr (Or.inl e)
    · exact (h.cover p hp).imp (⟨·, e⟩) (fun hu => Or.inr ⟨hu, e⟩)
  disj p hp hu := by
    obtain ⟨hf, hne⟩ := mem_free_take.mp hp
    rcases mem_usedKeys_take.mp hu with e | hu
    · exact hne e
    · exact h.disj p hf hu.1
  nodup := by
    rw [usedKeys_take]
    exact List.nodup_cons.mpr ⟨by simp, h.nodup.filter _⟩
  resA n p hp := by
    rcases List.mem_cons.mp hp with e | hp
    · cases e
      exact hq
    · exact h.resA n p (List.mem_filter.mp hp).1

/-! #### `release` -/

theorem release_noop {pm : PM} {p : Nat} (hu : ¬ (pm.usedBy p).isSome) : pm.release p = pm :=
  if_neg hu

theorem mem_free_release {pm : PM} {p q : Nat} (hu : (pm.usedBy q).isSome) :
    p ∈ (pm.release q).free ↔ p = q ∨ p ∈ pm.free := by
  unfold PM.release
  rw [if_pos hu]
  by_cases hq : q ∈ pm.free
  · simp only [if_pos hq]
    exact ⟨Or.inr, fun h => h.elim (· ▸ hq) id⟩
  · simp only [if_neg hq, List.mem_cons]

theorem release_free {pm : PM} {p : Nat} (hu : (pm.usedBy p).isSome) : p ∈ (pm.release p).free :=
  (mem_free_release hu).mpr (Or.inl rfl)

theorem usedKeys_release {pm : PM} {p : Nat} (hu : (pm.usedBy p).isSome) :
    (pm.release p).usedKeys = pm.usedKeys.filter (· ≠ p) := by
  unfold PM.release
  rw [if_pos hu]
  exact map_fst_filter pm.used p

theorem mem_usedKeys_release {pm : PM} {p q : Nat} (hu : (pm.usedBy q).isSome) :
    p ∈ (pm.release q).usedKeys ↔ p ∈ pm.usedKeys ∧ p ≠ q := by
  simp [usedKeys_release hu]

theorem usedBy_release_self (pm : PM) (p : Nat) : (pm.release p).usedBy p = none := by
  by_cases hu : (pm.usedBy p).isSome
  · unfold PM.release
    rw [if_pos hu]
    exact filter_key_ne pm.used p ▸ lookup_filter_self
  · rw [release_noop hu]
    exact Option.not_isSome_iff_eq_none.mp hu

theorem usedBy_release_other (pm : PM) {p q : Nat} (h : q ≠ p) :
    (pm.release p).usedBy q = pm.usedBy q := by
  by_cases hu : (pm.usedBy p).isSome
  · unfold PM.release
    rw [if_pos hu]
    exact filter_key_ne pm.used p ▸ lookup_filter_ne h
  · rw [release_noop hu]

theorem release_inv {A : List Nat} {pm : PM} (h : PMInv A pm) (q : Nat) : PMInv A (pm.release q) := by
  by_cases hu : (pm.usedBy q).isSome
  · have hq : q ∈ pm.usedKeys := (usedBy_isSome_iff pm q).mp hu
    exact {
      freeA := fun p hp => by
        rcases (mem_free_release hu).mp hp with e | hp
        · exact e ▸ h.usedA q hq
        · exact h.freeA p hp
      usedA := fun p hp => h.usedA p ((mem_usedKeys_release hu).mp hp).1
      cover := fun p hp => by
        rw [mem_free_release hu, mem_usedKeys_release hu]
        by_cases e : p = q
        · exact Or.inl (Or.inl e)
        · exact (h.cover p hp).imp Or.inr (⟨·, e⟩)
      disj := fun p hp hk => by
        obtain ⟨hk, hne⟩ := (mem_usedKeys_release hu).mp hk
        rcases (mem_free_release hu).mp hp with e | hp
        · exact hne e
        · exact h.disj p hp hk
      nodup := by
        rw [usedKeys_release hu]
        exact h.nodup.filter _
      resA := fun n p hp => by
        unfold PM.release at hp
        rw [if_pos hu] at hp
        exact h.resA n p hp }
  · rw [release_noop hu]
    exact h

/-- a failed listen — `take` then `release` of a port that had no owner — restores every port's owner -/
theorem usedBy_take_release {pm : PM} (name : Str) {q : Nat} (hq : pm.usedBy q = none) (p : Nat) :
    ((pm.take name q).release q).usedBy p = pm.usedBy p := by
  by_cases e : p = q
  · rw [e, usedBy_release_self, hq]
  · rw [usedBy_release_other _ e, usedBy_take_other _ _ e]

/-- `take` then `release` of a free port restores the free set -/
theorem mem_free_take_release {pm : PM} (name : Str) {q : Nat} (hq : q ∈ pm.free) (p : Nat) :
    p ∈ ((pm.take name q).release q).free ↔ p ∈ pm.free := by
  rw [mem_free_release (by rw [usedBy_take_self]; rfl), mem_free_take]
  by_cases e : p = q
  · simp [e, hq]
  · simp [e]

/-! #### `acquire` -/

/-- shape of every Acquire outcome: either refused with the manager untouched, or port `q` taken,
    where `q` passed the OS probe and was free or was the caller's reserved port -/
theorem acquire_cases (pm : PM) (name : Str) (port : Nat) (avail : Nat → Bool) (choice : Option Nat) :
    (∃ e, pm.acquire name port avail choice = (pm, .error e)) ∨
    (∃ q, pm.acquire name port avail choice = (pm.take name q, .ok q) ∧ avail q = true ∧
        ((q ∈ pm.free ∧ (port = 0 ∨ port = q)) ∨ (port = 0 ∧ pm.reserved.lookup name = some q))) := by
  generalize hr : pm.acquire name port avail choice = r
  unfold PM.acquire at hr
  split at hr
  · rename_i hp0
    split at hr
    · rename_i rp hrp
      split at hr
      · rename_i ha
        exact Or.inr ⟨rp, hr.symm, ha, Or.inr ⟨hp0, hrp⟩⟩
      · split at hr
        · rename_i k
          split at hr
          · rename_i hk
            exact Or.inr ⟨k, hr.symm, hk.2, Or.inl ⟨hk.1, Or.inl hp0⟩⟩
          · exact Or.inl ⟨_, hr.symm⟩
        · exact Or.inl ⟨_, hr.symm⟩
    · split at hr
      · rename_i k
        split at hr
        · rename_i hk
          exact Or.inr ⟨k, hr.symm, hk.2, Or.inl ⟨hk.1, Or.inl hp0⟩⟩
        · exact Or.inl ⟨_, hr.symm⟩
      · exact Or.inl ⟨_, hr.symm⟩
  · split at hr
    · rename_i hf
      split at hr
      · rename_i ha
        exact Or.inr ⟨port, hr.symm, ha, Or.inl ⟨hf, Or.inr rfl⟩⟩
      · exact Or.inl ⟨_, hr.symm⟩
    · split at hr
      · exact Or.inl ⟨_, hr.symm⟩
      · exact Or.inl ⟨_, hr.symm⟩

theorem acquire_zero_ok (pm : PM) (name : Str) (avail : Nat → Bool) {k : Nat} (hk : k ∈ pm.free)
    (ha : avail k = true) :
    ∃ q, pm.acquire name 0 avail (some k) = (pm.take name q, .ok q) ∧ avail q = true := by
  unfold PM.acquire
  rw [if_pos rfl]
  split
  · rename_i rp _
    split
    · rename_i har
      exact ⟨rp, rfl, har⟩
    · refine ⟨k, ?_, ha⟩
      dsimp only
      rw [if_pos ⟨hk, ha⟩]
  · refine ⟨k, ?_, ha⟩
    dsimp only
    rw [if_pos ⟨hk, ha⟩]

theorem acquire_fixed_ok (pm : PM) (name : Str) (avail : Nat → Bool) (choice : Option Nat) {port : Nat}
    (hp : port ≠ 0) (hf : port ∈ pm.free) (ha : avail port = true) :
    pm.acquire name port avail choice = (pm.take name port, .ok port) := by
  unfold PM.acquire
  rw [if_neg hp, if_pos hf, if_pos ha]

/-- both sources of an acquired port lie in the allow set -/
theorem granted_mem {A : List Nat} {pm : PM} (h : PMInv A pm) {name : Str} {port q : Nat}
    (hsrc : (q ∈ pm.free ∧ (port = 0 ∨ port = q)) ∨ (port = 0 ∧ pm.reserved.lookup name = some q)) :
    q ∈ A := by
  rcases hsrc with ⟨hf, _⟩ | ⟨_, hr⟩
  · exact h.freeA q hf
  · exact h.resA name q (lookup_mem hr)

/-- a numbered request is granted that number -/
theorem granted_fixed {pm : PM} {name : Str} {port q : Nat}
    (hsrc : (q ∈ pm.free ∧ (port = 0 ∨ port = q)) ∨ (port = 0 ∧ pm.reserved.lookup name = some q)) :
    port = 0 ∨ port = q := by
  rcases hsrc with ⟨_, h⟩ | ⟨h, _⟩
  · exact h
  · exact Or.inl h

theorem acquire_inv {A : List Nat} {pm : PM} (h : PMInv A pm) (name : Str) (port : Nat)
    (avail : Nat → Bool) (choice : Option Nat) : PMInv A (pm.acquire name port avail choice).1 := by
  rcases acquire_cases pm name port avail choice with ⟨e, he⟩ | ⟨q, hq, _, hsrc⟩
  · rw [he]
    exact h
  · rw [hq]
    exact take_inv h name (granted_mem h hsrc)

end Ports
end Frp
