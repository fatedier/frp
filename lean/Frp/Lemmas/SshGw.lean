import Frp.Model.SshGw
import Frp.Lemmas.ListFacts
/-
  Lemmas for Model/SshGw.lean: the request loop of handleNewChannel under both arithmetics, x/crypto/ssh's parsers,
  one connection as a fold.
-/
namespace Frp
namespace SshGw
open UserIn (Go NumT)
open Crash (Outcome)

theorem be32_lt (p : Str) : be32 p < 4294967296 := by
  unfold be32
  split <;> omega

theorem handleReq_ignored (t : NumT) (w : IntW) {typ p : Str} (cap : Nat) (hg : typ ≠ execType ∨ p.length ≤ 4) :
    handleReq t w typ p cap = .ignored := if_pos hg

theorem exec_of_not_ignored {typ p : Str} (hg : ¬ (typ ≠ execType ∨ p.length ≤ 4)) : typ = execType ∧ 4 < p.length :=
  ⟨Decidable.not_not.1 (not_or.1 hg).1, Nat.lt_of_not_le (not_or.1 hg).2⟩

/-- an exec request longer than the prefix, sum in uint32: `req.Payload[:4]` is in range, what is left is `end` -/
theorem handleReq_u32 (w : IntW) {p : Str} {cap : Nat} (h : p.length ≤ cap) (h4 : 4 < p.length) :
    handleReq .u32 w execType p cap =
      if (p.length : Int) < toInt w ((4 + be32 p) % 4294967296) then .ignored
      else if !(indexFits w ((4 + be32 p) % 4294967296) && sliceOk cap 4 ((4 + be32 p) % 4294967296)) then .panic
      else .extra ((p.take ((4 + be32 p) % 4294967296)).drop 4) := by
  have hs : sliceOk cap 0 4 = true := by simp only [sliceOk, Bool.and_eq_true, decide_eq_true_eq]; omega
  unfold handleReq
  rw [if_neg (fun hg => hg.elim (fun e => e rfl) (Nat.not_le_of_lt h4)), hs]
  rfl

theorem handleReq_wide (w : IntW) {p : Str} (cap : Nat) (h4 : 4 < p.length) :
    handleReq .wide w execType p cap =
      if !sliceOk cap 0 4 then .panic
      else if p.length < 4 + be32 p then .ignored
      else if !sliceOk cap 4 (4 + be32 p) then .panic
      else .extra ((p.take (4 + be32 p)).drop 4) := by
  unfold handleReq
  rw [if_neg (fun hg => hg.elim (fun e => e rfl) (Nat.not_le_of_lt h4))]

/-- the loop body panics when the length guard lets the request through and the slice expression is out of range -/
theorem guarded_eq_panic {a : Prop} [Decidable a] {b : Bool} {s : Str} :
    (if a then ExecOut.ignored else if b then .panic else .extra s) = .panic ↔ ¬ a ∧ b = true := by
  by_cases ha : a <;> cases b <;> simp [ha]

/-- repaired arithmetic: no payload makes a slice expression of the loop body fail Go's check — for every capacity the
    buffer may have and either width of `int` -/
theorem handleReq_wide_never_panics (w : IntW) (typ p : Str) (cap : Nat) (h : p.length ≤ cap) :
    handleReq .wide w typ p cap ≠ .panic := by
  by_cases hg : typ ≠ execType ∨ p.length ≤ 4
  · rw [handleReq_ignored _ _ _ hg]; nofun
  · obtain ⟨rfl, h4⟩ := exec_of_not_ignored hg
    have hs : sliceOk cap 0 4 = true := by simp only [sliceOk, Bool.and_eq_true, decide_eq_true_eq]; omega
    rw [handleReq_wide w cap h4, hs, Ne, if_neg (by decide), guarded_eq_panic]
    simp only [sliceOk, Bool.not_eq_true', Bool.and_eq_false_iff, decide_eq_false_iff_not]
    omega

/-- the wrap: `end = 4 + n` computed in uint32 is below 4 exactly for the four largest prefixes -/
theorem wrap_lt_four_iff {n : Nat} (hn : n < 4294967296) : (4 + n) % 4294967296 < 4 ↔ 4294967292 ≤ n := by
  omega

/-- as the code is (uint32 sum, 64-bit int): the loop body panics EXACTLY for an exec request of more than four bytes
    whose length prefix is one of 0xFFFFFFFC … 0xFFFFFFFF -/
theorem handleReq_u32_panics_iff (typ p : Str) (cap : Nat) (h : p.length ≤ cap) :
    handleReq .u32 .i64 typ p cap = .panic ↔ (typ = execType ∧ 4 < p.length ∧ 4294967292 ≤ be32 p) := by
  have hb := be32_lt p
  by_cases hg : typ ≠ execType ∨ p.length ≤ 4
  · rw [handleReq_ignored _ _ _ hg]
    exact ⟨nofun, fun ⟨h1, h2, _⟩ => hg.elim (absurd h1) (by omega)⟩
  · obtain ⟨rfl, h4⟩ := exec_of_not_ignored hg
    rw [handleReq_u32 .i64 h h4, guarded_eq_panic]
    simp only [toInt, indexFits, sliceOk, Bool.true_and, Bool.not_eq_true', Bool.and_eq_false_iff,
      decide_eq_false_iff_not, true_and]
    -- `end ≤ len ≤ cap` once the guard has passed: the slice `[4:end]` is out of range exactly when `end < 4`
    rw [← wrap_lt_four_iff hb]
    omega

/-- the same code built for a 32-bit platform: `int(end)` is negative from 2^31 on, the guard passes and the index does
    not fit an int — the panic starts at the prefix 0x7FFFFFFC -/
theorem handleReq_u32_int32_panics_iff (typ p : Str) (cap : Nat) (h : p.length ≤ cap) (h31 : p.length < 2147483648) :
    handleReq .u32 .i32 typ p cap = .panic ↔ (typ = execType ∧ 4 < p.length ∧ 2147483644 ≤ be32 p) := by
  have hb := be32_lt p
  by_cases hg : typ ≠ execType ∨ p.length ≤ 4
  · rw [handleReq_ignored _ _ _ hg]
    exact ⟨nofun, fun ⟨h1, h2, _⟩ => hg.elim (absurd h1) (by omega)⟩
  · obtain ⟨rfl, h4⟩ := exec_of_not_ignored hg
    rw [handleReq_u32 .i32 h h4, guarded_eq_panic]
    simp only [toInt, indexFits, sliceOk, Bool.not_eq_true', Bool.and_eq_false_iff,
      decide_eq_false_iff_not, true_and]
    -- `end < 2^31`: as on 64 bit; from 2^31 on `int(end)` is negative, the guard passes and the index does not fit
    split
    · omega
    · omega

/-- the repair changes nothing below the wrap: same verdict, same extra payload -/
theorem handleReq_agree (typ p : Str) (cap : Nat) (hn : be32 p < 4294967292) :
    handleReq .u32 .i64 typ p cap = handleReq .wide .i64 typ p cap := by
  unfold handleReq
  have : (4 + be32 p) % 4294967296 = 4 + be32 p := Nat.mod_eq_of_lt (by omega)
  simp only [this, toInt, indexFits, Bool.true_and, Int.ofNat_lt]

/-- what is handed on is the announced number of bytes after the prefix -/
theorem handleReq_extra_spec (w : IntW) (typ p : Str) (cap : Nat) (s : Str)
    (h : handleReq .wide w typ p cap = .extra s) :
    typ = execType ∧ s = (p.drop 4).take (be32 p) ∧ s.length = be32 p := by
  by_cases hg : typ ≠ execType ∨ p.length ≤ 4
  · rw [handleReq_ignored _ _ _ hg] at h; cases h
  · obtain ⟨rfl, h4⟩ := exec_of_not_ignored hg
    rw [handleReq_wide w cap h4] at h
    -- of the four ways out only the last hands a payload on
    split at h
    · cases h
    · split at h
      · cases h
      · split at h
        · cases h
        · cases h
          refine ⟨rfl, ?_, ?_⟩
          · rw [List.drop_take]
            congr 1
            omega
          · rw [List.length_drop, List.length_take]
            omega

/-! ## x/crypto/ssh's parsers never slice out of range -/

theorem parseStringG_ne_panic (inp : Str) : parseStringG inp ≠ .panic := by
  unfold parseStringG
  split
  · intro h; cases h
  · rename_i hl
    split
    · rename_i hs
      simp only [sliceOk, Bool.not_eq_true', Bool.and_eq_false_iff, decide_eq_false_iff_not] at hs
      omega
    · simp only
      split
      · intro h; cases h
      · rename_i hlt
        split
        · rename_i hs
          simp only [List.length_drop] at hlt hs
          simp only [sliceOk, Bool.not_eq_true', Bool.and_eq_false_iff, decide_eq_false_iff_not] at hs
          have : (inp.length - 4) % 4294967296 ≤ inp.length - 4 := Nat.mod_le _ _
          omega
        · intro h; cases h

theorem parseUint32G_ne_panic (inp : Str) : parseUint32G inp ≠ .panic := by
  unfold parseUint32G
  split
  · intro h; cases h
  · split
    · rename_i hs
      simp only [sliceOk, Bool.not_eq_true', Bool.and_eq_false_iff, decide_eq_false_iff_not] at hs
      omega
    · intro h; cases h

theorem unmarshalForwardG_ne_panic (data : Str) : unmarshalForwardG data ≠ .panic := by
  unfold unmarshalForwardG
  split
  · intro h; cases h
  · split
    · rename_i hp; exact absurd hp (parseStringG_ne_panic data)
    · intro h; cases h
    · rename_i host rest _
      split
      · rename_i hp; exact absurd hp (parseUint32G_ne_panic rest)
      · intro h; cases h
      · split <;> (intro h; cases h)

/-! ## one connection -/

theorem step_dead (t : NumT) (c : Conn) (e : Ev) : step t (c, .processDies) e = (c, .processDies) := by
  simp [step]

theorem run_dead (t : NumT) (evs : List Ev) (c : Conn) : evs.foldl (step t) (c, .processDies) = (c, .processDies) := by
  induction evs with
  | nil => rfl
  | cons e es ih => simp only [List.foldl_cons, step_dead, ih]

/-- one event never ends the process unless it is a channel request whose payload makes the loop body panic -/
theorem step_alive (t : NumT) (st : Conn × Outcome) (e : Ev) (h : st.2 = .alive)
    (hreq : ∀ ch typ p slack, e = .chanReq ch typ p slack → handleReq t .i64 typ p (p.length + slack) ≠ .panic) :
    (step t st e).2 = .alive := by
  unfold step
  simp only
  split
  · exact h
  · cases e with
    | disconnect => rfl
    | openCh _ => rfl
    | closeCh _ => rfl
    | global typ p =>
      simp only
      split
      · rfl
      · split
        · rename_i hp; exact absurd hp (unmarshalForwardG_ne_panic p)
        · rfl
        · rfl
    | chanReq ch typ p slack =>
      simp only
      split
      · rfl
      · split
        · rename_i hp; exact absurd hp (hreq ch typ p slack rfl)
        · rfl
        · rfl

theorem run_alive (t : NumT) (evs : List Ev) (st : Conn × Outcome) (h : st.2 = .alive)
    (hreq : ∀ e ∈ evs, ∀ ch typ p slack, e = .chanReq ch typ p slack →
      handleReq t .i64 typ p (p.length + slack) ≠ .panic) :
    (evs.foldl (step t) st).2 = .alive :=
  foldl_invariant (P := fun st : Conn × Outcome => st.2 = .alive) h (fun st e he hst => step_alive t st e hst (hreq e he))

theorem run_wide_alive (evs : List Ev) (st : Conn × Outcome) (h : st.2 = .alive) : (evs.foldl (step .wide) st).2 = .alive :=
  run_alive .wide evs st h (fun _ _ _ typ p _ _ => handleReq_wide_never_panics .i64 typ p _ (Nat.le_add_right _ _))

/-- as the code is: without a wrapping request in the script nothing dies either -/
theorem run_u32_alive (evs : List Ev) (st : Conn × Outcome) (h : st.2 = .alive) (hw : ∀ e ∈ evs, wrapsReq e = false) :
    (evs.foldl (step .u32) st).2 = .alive := by
  refine run_alive .u32 evs st h (fun e he ch typ p slack heq hp => ?_)
  have hwr := hw e he
  rw [heq] at hwr
  have := (handleReq_u32_panics_iff typ p _ (Nat.le_add_right _ _)).mp hp
  simp [wrapsReq, this] at hwr

end SshGw
end Frp
