import Frp.Model.RegCtl
import Frp.Lemmas.ListFacts
/-
  Lemmas about the RegisterControl chain model (Frp/Model/RegCtl.lean).
-/
namespace Frp
namespace RegCtl

/-! ### `upd` -/

theorem upd_eq_modify : ∀ (l : List Ctl) (k : Nat) (f : Ctl → Ctl), upd l k f = l.modify k f
  | [], _, _ => (List.modify_nil _ _).symm
  | _ :: _, 0, _ => rfl
  | c :: rest, k + 1, f => congrArg (c :: ·) (upd_eq_modify rest k f)

theorem length_upd (l : List Ctl) (k : Nat) (f : Ctl → Ctl) : (upd l k f).length = l.length := by
  rw [upd_eq_modify, List.length_modify]

theorem getElem?_upd_self (l : List Ctl) (k : Nat) (f : Ctl → Ctl) :
    (upd l k f)[k]? = (l[k]?).map f := by
  rw [upd_eq_modify, List.getElem?_modify_eq]; rfl

theorem getElem?_upd_ne (l : List Ctl) (k i : Nat) (f : Ctl → Ctl) (h : i ≠ k) :
    (upd l k f)[i]? = l[i]? := by
  rw [upd_eq_modify, List.getElem?_modify_ne _ _ (Ne.symm h)]

theorem upd_forall {P : Nat → Ctl → Prop} (l : List Ctl) (k : Nat) (f : Ctl → Ctl)
    (h : ∀ i c, l[i]? = some c → P i c)
    (hf : ∀ c, l[k]? = some c → P k c → P k (f c)) :
    ∀ i c, (upd l k f)[i]? = some c → P i c := by
  intro i c hc
  by_cases e : i = k
  · subst e
    rw [getElem?_upd_self] at hc
    obtain ⟨c0, h0, rfl⟩ := Option.map_eq_some_iff.1 hc
    exact hf c0 h0 (h _ _ h0)
  · rw [getElem?_upd_ne _ _ _ _ e] at hc
    exact h i c hc

/-! ### what one step does -/

theorem statOf_of_get {s : St} {k : Nat} {c : Ctl} (h : s.ctls[k]? = some c) : statOf s k = some c.stat := by
  simp [statOf, h]

theorem upd_at {s : St} {k : Nat} {c : Ctl} (f : Ctl → Ctl) (h : s.ctls[k]? = some c) :
    ({ s with ctls := upd s.ctls k f } : St).ctls[k]? = some (f c) := by
  show (upd s.ctls k f)[k]? = _
  rw [getElem?_upd_self, h]; rfl

/-- the table once `ControlManager.Add` has closed the connection of the control it replaces -/
def replaced (s : St) : List Ctl :=
  match s.cur with
  | some j => upd s.ctls j closeConn
  | none => s.ctls

section step
variable (b : Bool) (s : St)

theorem login_eq :
    step b s .login = { ctls := replaced s ++ [{ stat := .waiting s.cur }], cur := some s.ctls.length } := rfl

theorem length_replaced : (replaced s).length = s.ctls.length := by
  unfold replaced
  split
  · exact length_upd _ _ _
  · rfl

theorem login_length : (step b s .login).ctls.length = s.ctls.length + 1 := by
  rw [login_eq, List.length_append, length_replaced]; rfl

/-- a property of all controls after a login: shown for the untouched ones, for the replaced one with its
    connection closed, and for the new one -/
theorem login_forall {P : Nat → Ctl → Prop}
    (h : ∀ i c, s.ctls[i]? = some c → s.cur ≠ some i → P i c)
    (hcl : ∀ i c, s.ctls[i]? = some c → s.cur = some i → P i (closeConn c))
    (hnew : P s.ctls.length { stat := .waiting s.cur }) :
    ∀ i c, (step b s .login).ctls[i]? = some c → P i c := by
  intro i c hc
  rw [login_eq] at hc
  by_cases hi : i < s.ctls.length
  · have hc : (replaced s)[i]? = some c := by
      rwa [List.getElem?_append_left (by rw [length_replaced]; exact hi)] at hc
    unfold replaced at hc
    split at hc
    next j hj =>
      by_cases e : i = j
      · subst e
        rw [getElem?_upd_self] at hc
        obtain ⟨c0, h0, rfl⟩ := Option.map_eq_some_iff.1 hc
        exact hcl i c0 h0 hj
      · rw [getElem?_upd_ne _ _ _ _ e] at hc
        exact h i c hc (by rw [hj]; exact fun e' => e (Option.some.inj e').symm)
    next hn => exact h i c hc (by rw [hn]; nofun)
  · have hc : [({ stat := .waiting s.cur } : Ctl)][i - s.ctls.length]? = some c := by
      rwa [List.getElem?_append_right (by rw [length_replaced]; omega), length_replaced] at hc
    cases hd : i - s.ctls.length with
    | zero =>
      rw [hd] at hc
      cases hc
      have : i = s.ctls.length := by omega
      exact this ▸ hnew
    | succ m => rw [hd] at hc; cases hc

/-- `proceed k` changes nothing while control `k` is not waiting or the control it waits for is not closed; else it
    starts control `k` — or, without `startAlways`, abandons it when it has been superseded -/
theorem proceed_cases (k : Nat) :
    (step b s (.proceed k) = s ∧
      ∀ on, statOf s k = some (.waiting on) → ∃ j, on = some j ∧ statOf s j ≠ some .closed) ∨
    (∃ on, statOf s k = some (.waiting on) ∧
      (∀ j, on = some j → statOf s j = some .closed ∧ (b = true ∨ s.cur = some k)) ∧
      step b s (.proceed k) = { s with ctls := upd s.ctls k start }) ∨
    (∃ j, b = false ∧ statOf s k = some (.waiting (some j)) ∧ statOf s j = some .closed ∧
      step b s (.proceed k) = { s with ctls := upd s.ctls k abandon }) := by
  simp only [step]
  split
  next hst => exact Or.inr (Or.inl ⟨none, hst, nofun, rfl⟩)
  next j hst =>
    split
    next hcl =>
      split
      next hb =>
        refine Or.inr (Or.inl ⟨some j, hst, fun j' hj' => ?_, rfl⟩)
        cases hj'
        exact ⟨hcl, by simpa using hb⟩
      next hb =>
        cases b with
        | true => simp at hb
        | false => exact Or.inr (Or.inr ⟨j, rfl, hst, hcl, rfl⟩)
    next hcl =>
      refine Or.inl ⟨rfl, fun on hon => ⟨j, ?_, hcl⟩⟩
      rw [hst] at hon
      cases hon
      rfl
  next h1 h2 =>
    refine Or.inl ⟨rfl, fun on hon => ?_⟩
    cases on with
    | none => exact absurd hon (h1 ·)
    | some j => exact absurd hon (h2 j ·)

/-- `exit k` changes nothing unless control `k` is started with its connection closed; then it is closed -/
theorem exit_cases (k : Nat) :
    (step b s (.exit k) = s ∧ ∀ c, s.ctls[k]? = some c → ¬ (c.stat = .started ∧ c.connOpen = false)) ∨
    ∃ c, s.ctls[k]? = some c ∧ c.stat = .started ∧ c.connOpen = false ∧
      step b s (.exit k) = { s with ctls := upd s.ctls k finish } := by
  simp only [step]
  split
  next c hc =>
    split
    next h => exact Or.inr ⟨c, hc, h.1, h.2, rfl⟩
    next h => exact Or.inl ⟨rfl, fun c' hc' => by rw [hc] at hc'; cases hc'; exact h⟩
  next hn => exact Or.inl ⟨rfl, fun c' hc' => absurd hc' (by rw [hn]; nofun)⟩

/-- `del k` changes nothing, or control `k` was closed and current and the run id is free again -/
theorem del_cases (k : Nat) :
    step b s (.del k) = s ∨
    (statOf s k = some .closed ∧ s.cur = some k ∧ step b s (.del k) = { s with cur := none }) := by
  simp only [step]
  split
  next h => exact Or.inr ⟨h.1, h.2, rfl⟩
  next => exact Or.inl rfl

/-- the control a label is about -/
def Label.idx : Label → Option Nat
  | .login => none
  | .proceed k | .drop k | .exit k | .del k => some k

/-- a step about control `k` rewrites at most control `k` -/
theorem step_ctls_shape {l : Label} {k : Nat} (hl : l.idx = some k) :
    (step b s l).ctls = s.ctls ∨ ∃ f, (step b s l).ctls = upd s.ctls k f := by
  cases l with
  | login => cases hl
  | proceed k' =>
    cases hl
    rcases proceed_cases b s k with ⟨e, _⟩ | ⟨_, _, _, e⟩ | ⟨_, _, _, _, e⟩ <;> rw [e]
    · exact Or.inl rfl
    · exact Or.inr ⟨_, rfl⟩
    · exact Or.inr ⟨_, rfl⟩
  | drop k' => cases hl; exact Or.inr ⟨_, rfl⟩
  | exit k' =>
    cases hl
    rcases exit_cases b s k with ⟨e, _⟩ | ⟨_, _, _, _, e⟩ <;> rw [e]
    · exact Or.inl rfl
    · exact Or.inr ⟨_, rfl⟩
  | del k' =>
    cases hl
    rcases del_cases b s k with e | ⟨_, _, e⟩ <;> rw [e] <;> exact Or.inl rfl

theorem step_other {l : Label} {k i : Nat} (hl : l.idx = some k) (hi : i ≠ k) :
    (step b s l).ctls[i]? = s.ctls[i]? := by
  rcases step_ctls_shape b s hl with e | ⟨f, e⟩
  · rw [e]
  · rw [e, getElem?_upd_ne _ _ _ _ hi]

theorem step_length {l : Label} {k : Nat} (hl : l.idx = some k) :
    (step b s l).ctls.length = s.ctls.length := by
  rcases step_ctls_shape b s hl with e | ⟨f, e⟩
  · rw [e]
  · rw [e, length_upd]

end step

theorem run_nil (b : Bool) (s : St) : run b s [] = s := rfl

theorem run_append (b : Bool) (s : St) (l1 l2 : List Label) :
    run b s (l1 ++ l2) = run b (run b s l1) l2 := by
  simp [run, List.foldl_append]

theorem run_other (b : Bool) {k i : Nat} (hi : i ≠ k) (ls : List Label) (s : St) (h : ∀ l ∈ ls, l.idx = some k) :
    (run b s ls).ctls[i]? = s.ctls[i]? :=
  foldl_invariant (P := fun t => t.ctls[i]? = s.ctls[i]?) rfl (fun t l hl ht => (step_other b t (h l hl) hi).trans ht)

theorem run_length (b : Bool) {k : Nat} (ls : List Label) (s : St) (h : ∀ l ∈ ls, l.idx = some k) :
    (run b s ls).ctls.length = s.ctls.length :=
  foldl_invariant (P := fun t => t.ctls.length = s.ctls.length) rfl (fun t l hl ht => (step_length b t (h l hl)).trans ht)

/-! ### the invariant -/

/-- what holds of control `k` in every reachable state (`t` = startAlways) -/
def CtlOk (t : Bool) (k : Nat) (c : Ctl) : Prop :=
  (∀ j, c.stat = .waiting (some j) → j < k) ∧
  (t = true → c.stat ≠ .abandoned ∧ ((c.stat = .started ∨ c.stat = .closed) → c.answered = true))

def Inv (t : Bool) (s : St) : Prop :=
  (∀ j, s.cur = some j → j < s.ctls.length) ∧ ∀ k c, s.ctls[k]? = some c → CtlOk t k c

theorem ctlOk_start (t : Bool) (k : Nat) (c : Ctl) : CtlOk t k (start c) := by
  simp [CtlOk, start]

theorem ctlOk_abandon (k : Nat) (c : Ctl) : CtlOk false k (abandon c) := by
  simp [CtlOk, abandon]

theorem ctlOk_finish {t : Bool} {k : Nat} {c : Ctl} (h : CtlOk t k c) (hs : c.stat = .started) :
    CtlOk t k (finish c) :=
  ⟨nofun, fun ht => ⟨nofun, fun _ => (h.2 ht).2 (Or.inl hs)⟩⟩

theorem inv_upd {t : Bool} {s : St} {k : Nat} {f : Ctl → Ctl} (h : Inv t s)
    (hf : ∀ c, s.ctls[k]? = some c → CtlOk t k c → CtlOk t k (f c)) :
    Inv t { s with ctls := upd s.ctls k f } :=
  ⟨fun j hj => (length_upd ..).symm ▸ h.1 j hj, upd_forall _ _ _ h.2 hf⟩

theorem inv_init (t : Bool) : Inv t {} :=
  ⟨nofun, fun k c hc => by simp at hc⟩

theorem inv_login (b : Bool) (s : St) (h : Inv b s) : Inv b (step b s .login) := by
  refine ⟨fun j hj => ?_, login_forall b s (fun i c hc _ => h.2 i c hc) (fun i c hc _ => h.2 i c hc) ?_⟩
  · have hj : some s.ctls.length = some j := hj
    rw [login_length, ← Option.some.inj hj]
    exact Nat.lt_succ_self _
  · refine ⟨fun j hj => h.1 j (Stat.waiting.inj hj), fun _ => ⟨nofun, ?_⟩⟩
    rintro (e | e) <;> cases e

theorem inv_step (b : Bool) (s : St) (l : Label) (h : Inv b s) : Inv b (step b s l) := by
  cases l with
  | login => exact inv_login b s h
  | proceed k =>
    rcases proceed_cases b s k with ⟨e, _⟩ | ⟨_, _, _, e⟩ | ⟨_, hb, _, _, e⟩ <;> rw [e]
    · exact h
    · exact inv_upd h (fun c _ _ => ctlOk_start _ _ _)
    · subst hb
      exact inv_upd h (fun c _ _ => ctlOk_abandon _ _)
  | drop k => exact inv_upd h (fun _ _ hc => hc)
  | exit k =>
    rcases exit_cases b s k with ⟨e, _⟩ | ⟨c, hc, hs, _, e⟩ <;> rw [e]
    · exact h
    · refine inv_upd h (fun c' hc' hok => ?_)
      rw [hc] at hc'
      cases hc'
      exact ctlOk_finish hok hs
  | del k =>
    rcases del_cases b s k with e | ⟨_, _, e⟩ <;> rw [e]
    · exact h
    · exact ⟨nofun, h.2⟩

theorem inv_run (b : Bool) (ls : List Label) (s : St) (h : Inv b s) : Inv b (run b s ls) :=
  foldl_invariant h (fun s l _ => inv_step b s l)

theorem inv_reach (b : Bool) (ls : List Label) : Inv b (run b {} ls) := inv_run b ls {} (inv_init b)

/-- a control only ever waits on an OLDER control -/
theorem waits_on_older (b : Bool) (ls : List Label) (k j : Nat) (c : Ctl) :
    (run b {} ls).ctls[k]? = some c → c.stat = .waiting (some j) → j < k :=
  fun hc hs => ((inv_reach b ls).2 k c hc).1 j hs

theorem startAlways_never_abandons (ls : List Label) (k : Nat) (c : Ctl) :
    (run true {} ls).ctls[k]? = some c → c.stat ≠ .abandoned :=
  fun hc => (((inv_reach true ls).2 k c hc).2 rfl).1

/-! ### `startAlways = false`: the wedge -/

def wedgeWitness : List Label := [.login, .proceed 0, .login, .login, .exit 0, .proceed 1]

theorem wedgeWitness_state :
    (run false {} wedgeWitness).ctls.map Ctl.stat = [.closed, .abandoned, .waiting (some 1)] := by decide

/-- control 1 never gets started, every later control waits on its predecessor, unanswered (control 0 is free) -/
def WedgedCtl (k : Nat) (c : Ctl) : Prop :=
  (k = 1 → c.stat = .waiting (some 0) ∨ c.stat = .abandoned) ∧
  (2 ≤ k → c.stat = .waiting (some (k - 1)) ∧ c.answered = false)

/-- what holds for ever once two logins overlap the closing session, without `startAlways` -/
def Wedged (s : St) : Prop :=
  3 ≤ s.ctls.length ∧ s.cur = some (s.ctls.length - 1) ∧
  ∀ (k : Nat) (c : Ctl), s.ctls[k]? = some c → WedgedCtl k c

theorem wedged_upd {s : St} (k : Nat) (f : Ctl → Ctl) (h : Wedged s)
    (hf : ∀ c, s.ctls[k]? = some c → WedgedCtl k c → WedgedCtl k (f c)) :
    Wedged { s with ctls := upd s.ctls k f } :=
  ⟨(length_upd ..).symm ▸ h.1, (length_upd ..).symm ▸ h.2.1, upd_forall _ _ _ h.2.2 hf⟩

theorem wedged_upd0 {s : St} (f : Ctl → Ctl) (h : Wedged s) : Wedged { s with ctls := upd s.ctls 0 f } :=
  wedged_upd 0 f h (fun _ _ _ => ⟨nofun, fun e => by omega⟩)

theorem wedged_statOf {s : St} (h : Wedged s) (k : Nat) (st : Stat) (hst : statOf s k = some st) :
    k = 0 ∨ (k = 1 ∧ (st = .waiting (some 0) ∨ st = .abandoned)) ∨ (2 ≤ k ∧ st = .waiting (some (k - 1))) := by
  obtain ⟨c, hc, rfl⟩ := Option.map_eq_some_iff.1 hst
  have hw := h.2.2 k c hc
  match k with
  | 0 => exact Or.inl rfl
  | 1 => exact Or.inr (Or.inl ⟨rfl, hw.1 rfl⟩)
  | k + 2 => exact Or.inr (Or.inr ⟨by omega, (hw.2 (by omega)).1⟩)

/-- from control 1 on nothing is ever started or closed -/
theorem wedged_waiting {s : St} (h : Wedged s) (k : Nat) (hk : 1 ≤ k) (st : Stat) (hst : statOf s k = some st) :
    st ≠ .closed ∧ st ≠ .started := by
  rcases wedged_statOf h k _ hst with h0 | ⟨_, (rfl | rfl)⟩ | ⟨_, rfl⟩
  · omega
  · exact ⟨nofun, nofun⟩
  · exact ⟨nofun, nofun⟩
  · exact ⟨nofun, nofun⟩

theorem wedged_login (s : St) (h : Wedged s) : Wedged (step false s .login) := by
  have h3 := h.1
  have hcur := h.2.1
  refine ⟨by rw [login_length]; omega, ?_,
    login_forall false s (fun i c hc _ => h.2.2 i c hc) (fun i c hc _ => h.2.2 i c hc) ?_⟩
  · rw [login_length]
    exact congrArg some (Nat.add_sub_cancel ..).symm
  · rw [hcur]
    exact ⟨fun e => by omega, fun _ => ⟨rfl, rfl⟩⟩

theorem wedged_proceed (s : St) (k : Nat) (h : Wedged s) : Wedged (step false s (.proceed k)) := by
  have h3 := h.1
  have hcur := h.2.1
  rcases proceed_cases false s k with ⟨e, _⟩ | ⟨on, hst, hg, e⟩ | ⟨j, _, hst, hcl, e⟩ <;> rw [e]
  · exact h
  · -- only control 0 can be started: control 1 is not current, and no control from 1 on is ever closed
    rcases wedged_statOf h k _ hst with h0 | ⟨hk1, (h1 | h1)⟩ | ⟨hk, h2⟩
    · subst h0; exact wedged_upd0 _ h
    · cases h1
      rcases (hg 0 rfl).2 with hb | hc
      · cases hb
      · rw [hcur] at hc
        have := Option.some.inj hc
        omega
    · cases h1
    · cases h2
      exact absurd rfl (wedged_waiting h _ (by omega) _ (hg _ rfl).1).1
  · rcases wedged_statOf h k _ hst with h0 | ⟨hk1, _⟩ | ⟨hk, h2⟩
    · subst h0; exact wedged_upd0 _ h
    · subst hk1
      exact wedged_upd 1 abandon h (fun _ _ _ => ⟨fun _ => Or.inr rfl, fun e => by omega⟩)
    · cases h2
      exact absurd rfl (wedged_waiting h _ (by omega) _ hcl).1

theorem wedged_step (s : St) (l : Label) (h : Wedged s) : Wedged (step false s l) := by
  have h3 := h.1
  have hcur := h.2.1
  cases l with
  | login => exact wedged_login s h
  | proceed k => exact wedged_proceed s k h
  | drop k => exact wedged_upd k closeConn h (fun _ _ hc => hc)
  | exit k =>
    rcases exit_cases false s k with ⟨e, _⟩ | ⟨c, hc, hs, _, e⟩ <;> rw [e]
    · exact h
    · match k with
      | 0 => exact wedged_upd0 _ h
      | k + 1 => exact absurd hs (wedged_waiting h (k + 1) (by omega) _ (statOf_of_get hc)).2
  | del k =>
    rcases del_cases false s k with e | ⟨hst, hk, e⟩ <;> rw [e]
    · exact h
    · rw [hk] at hcur
      have := Option.some.inj hcur
      exact absurd rfl (wedged_waiting h k (by omega) _ hst).1

theorem wedged_run (ls : List Label) (s : St) (h : Wedged s) : Wedged (run false s ls) :=
  foldl_invariant h (fun s l _ => wedged_step s l)

theorem wedged_base : Wedged (run false {} [.login, .proceed 0, .login, .login]) := by
  refine ⟨by decide, by decide, ?_⟩
  intro k c hc
  have e : (run false {} [.login, .proceed 0, .login, .login]).ctls =
      [⟨.started, false, true⟩, ⟨.waiting (some 0), false, false⟩, ⟨.waiting (some 1), true, false⟩] := by decide
  rw [e] at hc
  match k with
  | 0 => exact ⟨nofun, fun e => by omega⟩
  | 1 => cases hc; exact ⟨fun _ => Or.inl rfl, fun e => by omega⟩
  | 2 => cases hc; exact ⟨nofun, fun _ => ⟨rfl, rfl⟩⟩
  | k + 3 => cases hc

/-- with startAlways = false, once two logins overlap the closing session the run id is wedged for ever: the witness goes on from
    `wedged_base` -/
theorem superseded_skip_wedges (ls : List Label) (k : Nat) (c : Ctl) :
    2 ≤ k → (run false {} (wedgeWitness ++ ls)).ctls[k]? = some c → c.answered = false := by
  intro hk hc
  have e : wedgeWitness ++ ls = [.login, .proceed 0, .login, .login] ++ ([.exit 0, .proceed 1] ++ ls) := rfl
  rw [e, run_append] at hc
  exact (((wedged_run _ _ wedged_base).2.2 k c hc).2 hk).2

/-! ### the server closes the connection of every control it replaces -/

/-- every control that is not the current one has had its connection closed (Replaced) or is closed; the current
    control is the newest one -/
def ReplacedClosed (s : St) : Prop :=
  (∀ (i : Nat) (c : Ctl), s.ctls[i]? = some c → s.cur ≠ some i → c.connOpen = false ∨ c.stat = .closed) ∧
  (∀ i, s.cur = some i → i + 1 = s.ctls.length)

theorem replacedClosed_upd {s : St} {k : Nat} {f : Ctl → Ctl} (h : ReplacedClosed s)
    (hf : ∀ c, s.ctls[k]? = some c → (c.connOpen = false ∨ c.stat = .closed) →
      ((f c).connOpen = false ∨ (f c).stat = .closed)) :
    ReplacedClosed { s with ctls := upd s.ctls k f } :=
  ⟨upd_forall (P := fun i c => s.cur ≠ some i → c.connOpen = false ∨ c.stat = .closed) _ _ _ h.1
      (fun c hc hp hne => hf c hc (hp hne)),
    fun i hi => (length_upd ..).symm ▸ h.2 i hi⟩

/-- starting or abandoning a waiting control leaves its connection as it was -/
theorem replacedClosed_upd_waiting {s : St} {k : Nat} {f : Ctl → Ctl} {on : Option Nat} (h : ReplacedClosed s)
    (hst : statOf s k = some (.waiting on)) (hf : ∀ c, (f c).connOpen = c.connOpen) :
    ReplacedClosed { s with ctls := upd s.ctls k f } := by
  refine replacedClosed_upd h (fun c hc hp => ?_)
  have e := statOf_of_get hc
  rw [hst] at e
  rcases hp with hp | hp
  · exact Or.inl (by rw [hf]; exact hp)
  · rw [hp] at e; cases e

theorem replacedClosed_init : ReplacedClosed {} :=
  ⟨fun i c hc => by simp at hc, nofun⟩

theorem replacedClosed_step (b : Bool) (s : St) (l : Label) (h : ReplacedClosed s) : ReplacedClosed (step b s l) := by
  cases l with
  | login =>
    refine ⟨login_forall b s (fun i c hc hne _ => h.1 i c hc hne) (fun _ _ _ _ _ => Or.inl rfl)
      (fun hne => absurd rfl hne), fun i hi => ?_⟩
    have hi : some s.ctls.length = some i := hi
    rw [login_length, Option.some.inj hi]
  | proceed k =>
    rcases proceed_cases b s k with ⟨e, _⟩ | ⟨_, hst, _, e⟩ | ⟨_, _, hst, _, e⟩ <;> rw [e]
    · exact h
    · exact replacedClosed_upd_waiting h hst (fun _ => rfl)
    · exact replacedClosed_upd_waiting h hst (fun _ => rfl)
  | drop k => exact replacedClosed_upd h (fun _ _ _ => Or.inl rfl)
  | exit k =>
    rcases exit_cases b s k with ⟨e, _⟩ | ⟨_, _, _, _, e⟩ <;> rw [e]
    · exact h
    · exact replacedClosed_upd h (fun _ _ _ => Or.inr rfl)
  | del k =>
    rcases del_cases b s k with e | ⟨hst, hcur, e⟩ <;> rw [e]
    · exact h
    · refine ⟨fun i c hc _ => ?_, nofun⟩
      have hc : s.ctls[i]? = some c := hc
      by_cases hik : i = k
      · subst hik
        have e' := statOf_of_get hc
        rw [hst] at e'
        exact Or.inr (Option.some.inj e').symm
      · exact h.1 i c hc (by rw [hcur]; exact fun e' => hik (Option.some.inj e').symm)

theorem replacedClosed_run (b : Bool) (ls : List Label) (s : St) (h : ReplacedClosed s) : ReplacedClosed (run b s ls) :=
  foldl_invariant h (fun s l _ => replacedClosed_step b s l)

theorem replacedClosed_reach (b : Bool) (ls : List Label) : ReplacedClosed (run b {} ls) := replacedClosed_run b ls {} replacedClosed_init

theorem proceed_cur (b : Bool) (s : St) (k : Nat) : (step b s (.proceed k)).cur = s.cur := by
  rcases proceed_cases b s k with ⟨e, _⟩ | ⟨_, _, _, e⟩ | ⟨_, _, _, _, e⟩ <;> rw [e]

/-! ### the drain and settle schedules: every goroutine gets to run, oldest control first -/

/-- answered and closed -/
def Done (c : Ctl) : Prop := c.stat = .closed ∧ c.answered = true

/-- `proceed k` when every older control is closed: control `k` is started (or was already past that) -/
theorem proceed_at (s : St) (k : Nat) (c : Ctl) (hc : s.ctls[k]? = some c) (hok : CtlOk true k c)
    (hold : ∀ i c', i < k → s.ctls[i]? = some c' → Done c') :
    ∃ c', (step true s (.proceed k)).ctls[k]? = some c' ∧
      (c'.stat = .started ∨ c'.stat = .closed) ∧ c'.answered = true := by
  have hst := statOf_of_get hc
  rcases proceed_cases true s k with ⟨e, hg⟩ | ⟨_, _, _, e⟩ | ⟨_, hb, _⟩
  · rw [e]
    cases hcs : c.stat with
    | waiting on =>
      -- the control it waits for is older, hence closed: `proceed` cannot have left it waiting
      obtain ⟨j, rfl, hj⟩ := hg on (hcs ▸ hst)
      obtain ⟨hlt, hcj⟩ := List.getElem?_eq_some_iff.1 hc
      have hjk : j < k := hok.1 j hcs
      have hjget : s.ctls[j]? = some s.ctls[j] := List.getElem?_eq_getElem (by omega)
      exact absurd (by rw [statOf_of_get hjget, (hold j _ hjk hjget).1]) hj
    | started => exact ⟨c, hc, Or.inl hcs, (hok.2 rfl).2 (Or.inl hcs)⟩
    | closed => exact ⟨c, hc, Or.inr hcs, (hok.2 rfl).2 (Or.inr hcs)⟩
    | abandoned => exact absurd hcs (hok.2 rfl).1
  · exact ⟨start c, e ▸ upd_at start hc, Or.inl rfl, rfl⟩
  · cases hb

theorem drop_at (b : Bool) (s : St) (k : Nat) (c : Ctl) (hc : s.ctls[k]? = some c) :
    (step b s (.drop k)).ctls[k]? = some (closeConn c) :=
  upd_at closeConn hc

theorem del_ctls (b : Bool) (s : St) (k : Nat) : (step b s (.del k)).ctls = s.ctls := by
  rcases del_cases b s k with e | ⟨_, _, e⟩ <;> rw [e]

/-- `exit k`, `del k` on a control that is started or closed: it stays answered, and is closed if its connection is -/
theorem exit_del_at (b : Bool) (s : St) (k : Nat) (c : Ctl) (hc : s.ctls[k]? = some c)
    (hs : c.stat = .started ∨ c.stat = .closed) (ha : c.answered = true) :
    ∃ c', (run b s [.exit k, .del k]).ctls[k]? = some c' ∧ c'.answered = true ∧
      ((c.connOpen = false ∨ c.stat = .closed) → Done c') := by
  have hrun : (run b s [.exit k, .del k]).ctls = (step b s (.exit k)).ctls := del_ctls b _ k
  rw [hrun]
  rcases exit_cases b s k with ⟨e, hg⟩ | ⟨c0, hc0, _, _, e⟩ <;> rw [e]
  · refine ⟨c, hc, ha, fun h => ⟨?_, ha⟩⟩
    -- started with the connection closed is the case in which `exit` does change the state
    exact h.elim (fun hconn => hs.resolve_left (fun hst => hg c hc ⟨hst, hconn⟩)) id
  · rw [hc] at hc0
    cases hc0
    exact ⟨finish c, upd_at finish hc, ha, fun _ => ⟨rfl, ha⟩⟩

/-- one block of the drain schedule (`d = true`: the peer hangs up as well) or of the settle schedule -/
def block (d : Bool) (k : Nat) : List Label :=
  .proceed k :: ((if d then [.drop k] else []) ++ [.exit k, .del k])

theorem block_idx (d : Bool) (k : Nat) : ∀ l ∈ block d k, l.idx = some k := by
  cases d <;> simp [block, Label.idx]

/-- after its block control `k` is answered; it is closed as well if its peer has hung up or it is not the current
    one (the server has closed the connection of every control it replaced) -/
theorem block_spec (d : Bool) (s : St) (k : Nat) (hinv : Inv true s) (hj : ReplacedClosed s) (hk : k < s.ctls.length)
    (hold : ∀ (i : Nat) (c' : Ctl), i < k → s.ctls[i]? = some c' → Done c') :
    ∀ i c', i < k + 1 → (run true s (block d k)).ctls[i]? = some c' →
      c'.answered = true ∧ ((d = true ∨ s.cur ≠ some k) → Done c') := by
  intro i c' hi hc'
  by_cases e : i = k
  · subst e
    have hget : s.ctls[i]? = some s.ctls[i] := List.getElem?_eq_getElem hk
    obtain ⟨c1, h1, hs1, ha1⟩ := proceed_at s i _ hget (hinv.2 i _ hget) hold
    cases d with
    | false =>
      obtain ⟨c2, h2, ha2, hd2⟩ := exit_del_at true _ i c1 h1 hs1 ha1
      have hc' : (run true (step true s (.proceed i)) [.exit i, .del i]).ctls[i]? = some c' := hc'
      rw [h2] at hc'
      cases hc'
      refine ⟨ha2, fun h => hd2 ?_⟩
      exact (replacedClosed_step true s (.proceed i) hj).1 i c1 h1 (by rw [proceed_cur]; exact h.resolve_left nofun)
    | true =>
      obtain ⟨c3, h3, ha3, hd3⟩ := exit_del_at true _ i _ (drop_at true _ i c1 h1) hs1 ha1
      have hc' : (run true (step true (step true s (.proceed i)) (.drop i)) [.exit i, .del i]).ctls[i]? = some c' := hc'
      rw [h3] at hc'
      cases hc'
      exact ⟨ha3, fun _ => hd3 (Or.inl rfl)⟩
  · rw [run_other true e _ _ (block_idx d k)] at hc'
    exact ⟨(hold i c' (by omega) hc').2, fun _ => hold i c' (by omega) hc'⟩

/-- a schedule made of blocks, oldest control first, from a state in which every older control is done: every login is
    answered, and with the hang-ups every control is closed -/
theorem sched_spec (d : Bool) (sched : Nat → Nat → List Label) (h0 : ∀ k, sched k 0 = [])
    (hs : ∀ k n, sched k (n + 1) = block d k ++ sched (k + 1) n) (n : Nat) :
    ∀ (k : Nat) (s : St), Inv true s → ReplacedClosed s → k + n = s.ctls.length →
    (∀ (i : Nat) (c' : Ctl), i < k → s.ctls[i]? = some c' → Done c') →
    ∀ (i : Nat) (c' : Ctl), (run true s (sched k n)).ctls[i]? = some c' →
      c'.answered = true ∧ (d = true → Done c') := by
  induction n with
  | zero =>
    intro k s _ _ hlen hold i c' hc
    rw [h0] at hc
    have hc : s.ctls[i]? = some c' := hc
    obtain ⟨hi, _⟩ := List.getElem?_eq_some_iff.1 hc
    exact ⟨(hold i c' (by omega) hc).2, fun _ => hold i c' (by omega) hc⟩
  | succ n ih =>
    intro k s hinv hj hlen hold
    rw [hs, run_append]
    have hlen' := run_length true _ s (block_idx d k)
    have hb := block_spec d s k hinv hj (by omega) hold
    by_cases hcur : s.cur = some k
    · -- the current control is the newest one: nothing is left to run
      have hn : n = 0 := by have := hj.2 k hcur; omega
      subst hn
      rw [h0]
      intro i c' hc
      have hc : (run true s (block d k)).ctls[i]? = some c' := hc
      obtain ⟨hi, _⟩ := List.getElem?_eq_some_iff.1 hc
      exact ⟨(hb i c' (by omega) hc).1, fun hd => (hb i c' (by omega) hc).2 (Or.inl hd)⟩
    · exact ih (k + 1) _ (inv_run true _ s hinv) (replacedClosed_run true _ s hj) (by omega)
        (fun i c' hi hc => (hb i c' hi hc).2 (Or.inr hcur))

theorem settled_of_done (s : St) (h : ∀ (i : Nat) (c : Ctl), s.ctls[i]? = some c → Done c) : settled s = true := by
  simp only [settled, List.all_eq_true]
  intro c hc
  rcases List.mem_iff_getElem?.1 hc with ⟨i, hi⟩
  have hd := h i c hi
  simp [hd.1, hd.2]

/-- from every reachable state of the code as it is, the drain continuation leaves every login answered and
    every control closed -/
theorem relogin_never_wedged (ls : List Label) :
    settled (run true (run true {} ls) (drain (run true {} ls))) = true :=
  settled_of_done _ fun i c hc =>
    (sched_spec true drainFrom (fun _ => rfl) (fun _ _ => rfl) _ 0 _ (inv_reach true ls) (replacedClosed_reach true ls) (by simp)
      (fun i _ hi _ => absurd hi (Nat.not_lt_zero i)) i c hc).2 rfl

/-- without anybody hanging up, every login of every reachable state is answered once the goroutines run -/
theorem settle_answers_all (ls : List Label) (i : Nat) (c : Ctl) :
    (run true (run true {} ls) (settleFrom 0 (run true {} ls).ctls.length)).ctls[i]? = some c →
    c.answered = true := fun hc =>
  (sched_spec false settleFrom (fun _ => rfl) (fun _ _ => rfl) _ 0 _ (inv_reach true ls) (replacedClosed_reach true ls) (by simp)
    (fun i _ hi _ => absurd hi (Nat.not_lt_zero i)) i c hc).1

/-! ### the schedule of the engine op `relogin` -/

theorem run_logins_length (b : Bool) (n : Nat) (s : St) :
    (run b s (List.replicate n .login)).ctls.length = s.ctls.length + n := by
  induction n generalizing s with
  | zero => rfl
  | succ n ih =>
    rw [List.replicate_succ, run, List.foldl_cons, ← run, ih, login_length]; omega

theorem releaseOf_idx (i : Nat) : ∀ l ∈ releaseOf i, l.idx = some i := by
  unfold releaseOf
  split
  · subst i; simp [Label.idx]
  · simp [Label.idx]

theorem run_releases_length (b : Bool) (order : List Nat) (s : St) :
    (run b s (releases order)).ctls.length = s.ctls.length := by
  induction order generalizing s with
  | nil => rfl
  | cons i rest ih =>
    have e : releases (i :: rest) = releaseOf i ++ releases rest := rfl
    rw [e, run_append, ih, run_length b _ s (releaseOf_idx i)]

theorem relogin_prefix_length (b : Bool) (k : Nat) (order : List Nat) :
    (run b {} ([.login, .proceed 0] ++ List.replicate k .login ++ releases order)).ctls.length = k + 1 := by
  rw [run_append, run_append, run_releases_length, run_logins_length]
  have e : run b {} [.login, .proceed 0] = step b (step b {} .login) (.proceed 0) := rfl
  rw [e, step_length b _ (l := .proceed 0) rfl, login_length]
  simp; omega

theorem lastAnswered_of_all (s : St) (h : ∀ (i : Nat) (c : Ctl), s.ctls[i]? = some c → c.answered = true) :
    lastAnswered s = true := by
  unfold lastAnswered
  cases hl : s.ctls.getLast? with
  | none => rfl
  | some c =>
    rw [List.getLast?_eq_getElem?] at hl
    exact h _ c hl

/-- code as it is: whatever the number of overlapping logins and whatever the release order, the last login gets
    its LoginResp -/
theorem relogin_schedule_answered (k : Nat) (order : List Nat) :
    lastAnswered (run true {} (reloginSchedule k order)) = true := by
  apply lastAnswered_of_all
  intro i c hc
  unfold reloginSchedule at hc
  rw [run_append] at hc
  have hlen := relogin_prefix_length true k order
  rw [← hlen] at hc
  exact settle_answers_all _ i c hc

theorem relogin_schedule_examples :
    lastAnswered (run true {} (reloginSchedule 2 [0, 2, 1])) = true ∧
    lastAnswered (run true {} (reloginSchedule 3 [3, 2, 1, 0])) = true ∧
    lastAnswered (run false {} (reloginSchedule 1 [0, 1])) = true ∧
    lastAnswered (run false {} (reloginSchedule 2 [0, 2, 1])) = false ∧
    lastAnswered (run false {} (reloginSchedule 2 [1, 2, 0])) = false ∧
    lastAnswered (run false {} (reloginSchedule 4 [4, 3, 0, 2, 1])) = false := by decide

/-! ### `startAlways = false`: the relogin schedule with two or more logins overlapping the closing session -/

theorem lastAnswered_wedged (s : St) (h : Wedged s) : lastAnswered s = false := by
  have h3 := h.1
  have hget : s.ctls[s.ctls.length - 1]? = some s.ctls[s.ctls.length - 1] :=
    List.getElem?_eq_getElem (by omega)
  have hw := h.2.2 _ _ hget
  unfold lastAnswered
  rw [List.getLast?_eq_getElem?, hget]
  exact (hw.2 (by omega)).2

/-- startAlways = false: with two or more logins overlapping the closing session the last one is never answered, whatever the
    release order -/
theorem relogin_schedule_wedged (k : Nat) (order : List Nat) :
    2 ≤ k → lastAnswered (run false {} (reloginSchedule k order)) = false := by
  intro hk
  apply lastAnswered_wedged
  obtain ⟨m, rfl⟩ : ∃ m, k = m + 2 := ⟨k - 2, by omega⟩
  have e : reloginSchedule (m + 2) order =
      [.login, .proceed 0, .login, .login] ++
        (List.replicate m .login ++ releases order ++ settleFrom 0 (m + 2 + 1)) := by
    simp [reloginSchedule, List.replicate_succ]
  rw [e, run_append]
  exact wedged_run _ _ wedged_base

end RegCtl
end Frp
