import Frp.Model.RegSteps
import Frp.Lemmas.ListFacts
/-
  Helper lemmas for Frp/Model/RegSteps.lean (core only): association lists, the quota table, `claim`,
  and the sums the quota counter must equal.
-/
namespace Frp
namespace RegSteps
open Release

/-! ### lists and association lists -/

/-- the quota table is filtered with `e.1 ≠ a` -/
theorem lookup_filter_fst_ne {α β : Type} [DecidableEq α] (l : List (α × β)) (a b : α) :
    (l.filter (fun e => e.1 ≠ a)).lookup b = if b = a then none else l.lookup b := by
  rw [filter_key_ne]
  split
  · rename_i h; rw [h]; exact lookup_filter_self
  · rename_i h; exact lookup_filter_ne h

/-- entries of `who` in front of a table do not survive `releaseAll` (which is this filter) -/
theorem filter_snd_ne_append {α ι : Type} [DecidableEq ι] {new old : List (α × ι)} {who : ι}
    (h : ∀ e ∈ new, e.2 = who) :
    (new ++ old).filter (fun e => e.2 ≠ who) = old.filter (fun e => e.2 ≠ who) := by
  rw [List.filter_append, List.filter_eq_nil_iff.mpr fun e he => by simp [h e he], List.nil_append]

theorem filter_snd_ne_self {α ι : Type} [DecidableEq ι] {l : List (α × ι)} {who : ι}
    (h : ∀ e ∈ l, e.2 ≠ who) : l.filter (fun e => e.2 ≠ who) = l :=
  List.filter_eq_self.mpr fun e he => by simpa using h e he

theorem nodup_map_filter {α β : Type} {φ : α → β} {l : List α} (h : (l.map φ).Nodup) (p : α → Bool) :
    ((l.filter p).map φ).Nodup :=
  h.sublist (List.filter_sublist.map φ)

theorem foldl_filter_eq {α β : Type} (p : β → α → Bool) (ns : List β) (l : List α) :
    ns.foldl (fun l n => l.filter (p n)) l = l.filter (fun e => ns.all (p · e)) := by
  induction ns generalizing l with
  | nil => exact (List.filter_eq_self.mpr fun _ _ => rfl).symm
  | cons n ns ih =>
    rw [List.foldl_cons, ih, List.filter_filter]
    exact List.filter_congr fun e _ => by rw [List.all_cons, Bool.and_comm]

theorem foldl_filter_eq_filter {α β : Type} (p : β → α → Bool) (q : α → Bool) (ns : List β) (l : List α)
    (h : ∀ e ∈ l, q e = true ↔ ∀ n ∈ ns, p n e = true) :
    ns.foldl (fun l n => l.filter (p n)) l = l.filter q := by
  rw [foldl_filter_eq]
  exact List.filter_congr fun e he => Bool.eq_iff_iff.mpr (List.all_eq_true.trans (h e he).symm)

/-! ### quota table -/

theorem quotaOf_setQuota (s : CState) (sid v x : Nat) :
    (s.setQuota sid v).quotaOf x = if x = sid then v else s.quotaOf x := by
  unfold CState.quotaOf CState.setQuota
  by_cases h : x = sid
  · simp [h]
  · have hb : (x == sid) = false := by simpa using h
    simp only [List.lookup_cons, hb, lookup_filter_fst_ne, if_neg h]

theorem quotaOf_charge (s : CState) (sid n x : Nat) :
    (s.charge sid n).quotaOf x = if x = sid then s.quotaOf sid + s.amt n else s.quotaOf x := by
  unfold CState.charge CState.amt
  split
  · exact quotaOf_setQuota s sid _ x
  · split <;> simp_all

theorem quotaOf_refund (s : CState) (sid n x : Nat) :
    (s.refund sid n).quotaOf x = if x = sid then s.quotaOf sid - s.amt n else s.quotaOf x := by
  unfold CState.refund CState.amt
  split
  · exact quotaOf_setQuota s sid _ x
  · split <;> simp_all

@[simp] theorem charge_frame (s : CState) (a b : Nat) :
    (s.charge a b).held = s.held ∧ (s.charge a b).names = s.names ∧ (s.charge a b).own = s.own ∧
    (s.charge a b).flights = s.flights ∧ (s.charge a b).maxPorts = s.maxPorts := by
  unfold CState.charge CState.setQuota; split <;> simp

@[simp] theorem refund_frame (s : CState) (a b : Nat) :
    (s.refund a b).held = s.held ∧ (s.refund a b).names = s.names ∧ (s.refund a b).own = s.own ∧
    (s.refund a b).flights = s.flights ∧ (s.refund a b).maxPorts = s.maxPorts := by
  unfold CState.refund CState.setQuota; split <;> simp

theorem amt_eq (s t : CState) (h : t.maxPorts = s.maxPorts) (x : Nat) : t.amt x = s.amt x := by
  unfold CState.amt; rw [h]

theorem amt_add (s : CState) (a b : Nat) : s.amt (a + b) = s.amt a + s.amt b := by
  unfold CState.amt; split <;> rfl

theorem amt_zero (s : CState) : s.amt 0 = 0 := by
  unfold CState.amt; split <;> rfl

/-! ### `claim` -/

/-- `Release.claim` (holders are proxy names) and `claim` (holders are proxy objects) are the same
    recursion; what its two equations imply is proved here for both: only entries held by `who` are
    prepended, on keys that were free, so keys stay distinct -/
theorem claim_shape_of {ι : Type} (c : List (Key × ι) → List Key → List (Key × ι) × Option Key) (who : ι)
    (hnil : ∀ held, c held [] = (held, none))
    (hcons : ∀ held k ks, c held (k :: ks) =
      if (held.lookup k).isSome then (held, some k) else c ((k, who) :: held) ks)
    (held : List (Key × ι)) (ks : List Key) :
    ∃ new, (c held ks).1 = new ++ held ∧ (∀ e ∈ new, e.2 = who) ∧
      ((held.map (·.1)).Nodup → (((c held ks).1).map (·.1)).Nodup) := by
  induction ks generalizing held with
  | nil => rw [hnil]; exact ⟨[], rfl, fun _ he => (nomatch he), id⟩
  | cons k ks ih =>
    rw [hcons]
    split
    · exact ⟨[], rfl, fun _ he => (nomatch he), id⟩
    · rename_i hk
      obtain ⟨new, h1, h2, h3⟩ := ih ((k, who) :: held)
      refine ⟨new ++ [(k, who)], by rw [h1]; simp, fun e he => ?_, fun hn => h3 ?_⟩
      · rcases List.mem_append.mp he with he | he
        · exact h2 e he
        · rw [List.mem_singleton.mp he]
      · exact List.nodup_cons.mpr ⟨mt lookup_isSome_iff.mpr hk, hn⟩

theorem claim_shape (held : List (Key × Inst)) (who : Inst) (ks : List Key) :
    ∃ new, (claim held who ks).1 = new ++ held ∧ (∀ e ∈ new, e.2 = who) ∧
      ((held.map (·.1)).Nodup → (((claim held who ks).1).map (·.1)).Nodup) :=
  claim_shape_of (claim · who) who (fun _ => rfl) (fun _ _ _ => rfl) held ks

/-- distinct free keys are all claimed -/
theorem claim_free (held : List (Key × Inst)) (who : Inst) (ks : List Key) (hnd : ks.Nodup)
    (hfree : ∀ k ∈ ks, k ∉ held.map (·.1)) : (claim held who ks).2 = none := by
  induction ks generalizing held with
  | nil => rfl
  | cons k ks ih =>
    have ⟨hk, hks⟩ := List.nodup_cons.mp hnd
    unfold claim
    rw [if_neg (mt lookup_isSome_iff.mp (hfree k List.mem_cons_self))]
    apply ih _ hks
    intro k' hk'
    simp only [List.map_cons, List.mem_cons, not_or]
    exact ⟨fun e => hk (e ▸ hk'), hfree k' (List.mem_cons_of_mem _ hk')⟩

/-! ### the sums -/

theorem ownSum_cons (o : Own) (os : List Own) (x : Nat) :
    ownSum (o :: os) x = (if o.sid = x then o.n else 0) + ownSum os x := rfl

theorem flightSum_cons (f : Flight) (fs : List Flight) (x : Nat) :
    flightSum (f :: fs) x = (if f.sid = x then f.n else 0) + flightSum fs x := rfl

theorem ownSum_none (l : List Own) (x : Nat) (h : ∀ o ∈ l, o.sid ≠ x) : ownSum l x = 0 := by
  induction l with
  | nil => rfl
  | cons o os ih =>
    rw [ownSum_cons, if_neg (h o List.mem_cons_self), ih fun p hp => h p (List.mem_cons_of_mem _ hp)]

theorem flightSum_none (l : List Flight) (x : Nat) (h : ∀ f ∈ l, f.sid ≠ x) : flightSum l x = 0 := by
  induction l with
  | nil => rfl
  | cons f fs ih =>
    rw [flightSum_cons, if_neg (h f List.mem_cons_self), ih fun g hg => h g (List.mem_cons_of_mem _ hg)]

theorem ownSum_filter (l : List Own) (p : Own → Bool) (x : Nat) (h : ∀ o ∈ l, o.sid = x → p o = true) :
    ownSum (l.filter p) x = ownSum l x := by
  induction l with
  | nil => rfl
  | cons o os ih =>
    have ih := ih fun q hq => h q (List.mem_cons_of_mem _ hq)
    by_cases hp : p o = true
    · rw [List.filter_cons_of_pos hp, ownSum_cons, ownSum_cons, ih]
    · have : ¬ o.sid = x := fun e => hp (h o List.mem_cons_self e)
      rw [List.filter_cons_of_neg hp, ih, ownSum_cons, if_neg this, Nat.zero_add]

theorem flightSum_filter (l : List Flight) (p : Flight → Bool) (x : Nat)
    (h : ∀ f ∈ l, f.sid = x → p f = true) : flightSum (l.filter p) x = flightSum l x := by
  induction l with
  | nil => rfl
  | cons f fs ih =>
    have ih := ih fun g hg => h g (List.mem_cons_of_mem _ hg)
    by_cases hp : p f = true
    · rw [List.filter_cons_of_pos hp, flightSum_cons, flightSum_cons, ih]
    · have : ¬ f.sid = x := fun e => hp (h f List.mem_cons_self e)
      rw [List.filter_cons_of_neg hp, ih, flightSum_cons, if_neg this, Nat.zero_add]

theorem flightSum_filter_other (l : List Flight) (sid x : Nat) (h : x ≠ sid) :
    flightSum (l.filter (fun f => f.sid ≠ sid)) x = flightSum l x :=
  flightSum_filter l _ x fun f _ e => by simpa [e] using h

theorem flightSum_filter_self (l : List Flight) (sid : Nat) :
    flightSum (l.filter (fun f => f.sid ≠ sid)) sid = 0 :=
  flightSum_none _ sid fun f hf => by simpa using (List.mem_filter.mp hf).2

/-- with one flight per session, the session's sum is the charge of its flight -/
theorem flightSum_of_mem (l : List Flight) (hnd : (l.map (·.sid)).Nodup) (f : Flight) (hf : f ∈ l) :
    flightSum l f.sid = f.n := by
  induction l with
  | nil => cases hf
  | cons g gs ih =>
    have ⟨hg, hgs⟩ := List.nodup_cons.mp hnd
    rw [flightSum_cons]
    rcases List.mem_cons.mp hf with e | e
    · subst e
      rw [if_pos rfl, flightSum_none gs f.sid fun g' hg' e' => hg (List.mem_map.mpr ⟨g', hg', e'⟩),
        Nat.add_zero]
    · rw [if_neg fun e' => hg (List.mem_map.mpr ⟨f, e, e'.symm⟩), Nat.zero_add, ih hgs e]

/-- names being distinct, dropping (sid, name) takes exactly that entry's charge off the session's sum -/
theorem ownSum_drop_self (l : List Own) (hnd : (l.map (·.name)).Nodup) (o : Own) (ho : o ∈ l) :
    ownSum (l.filter (fun p => ¬ (p.sid = o.sid ∧ p.name = o.name))) o.sid + o.n = ownSum l o.sid := by
  induction l with
  | nil => cases ho
  | cons p ps ih =>
    have ⟨hp, hps⟩ := List.nodup_cons.mp hnd
    rcases List.mem_cons.mp ho with e | e
    · subst e
      have : ps.filter (fun p => ¬ (p.sid = o.sid ∧ p.name = o.name)) = ps :=
        List.filter_eq_self.mpr fun q hq =>
          decide_eq_true fun e => hp (List.mem_map.mpr ⟨q, hq, e.2⟩)
      rw [List.filter_cons, if_neg (by simp), this, ownSum_cons, if_pos rfl, Nat.add_comm]
    · have hne : ¬ (p.sid = o.sid ∧ p.name = o.name) :=
        fun e' => hp (List.mem_map.mpr ⟨o, e, e'.2.symm⟩)
      rw [List.filter_cons, if_pos (decide_eq_true hne), ownSum_cons, ownSum_cons, Nat.add_assoc, ih hps e]

end RegSteps
end Frp
