import Frp.Model.Validate
import Frp.Model.ConfNum
/-
  String lemmas for C18: `splitOn`, `contains`, `joinWith`, and the bytes of a Lean string as a list.
-/
namespace Frp
namespace Str

theorem splitOn_ne_nil (sep : Nat) : ∀ s : Str, splitOn sep s ≠ []
  | [] => by simp [splitOn]
  | c :: cs => by
    simp only [splitOn]
    split
    · simp
    · split <;> simp

/-- `len(strings.Split(s, sep))` = number of separators + 1 -/
theorem splitOn_length (sep : Nat) : ∀ s : Str, (splitOn sep s).length = s.count sep + 1
  | [] => by simp [splitOn]
  | c :: cs => by
    have ih := splitOn_length sep cs
    simp only [splitOn]
    by_cases h : c = sep
    · subst h; simp [ih]
    · simp only [h, if_false]
      have hne := splitOn_ne_nil sep cs
      cases hs : splitOn sep cs with
      | nil => exact absurd hs hne
      | cons a t =>
        rw [hs] at ih
        simp only [List.length_cons] at ih ⊢
        have : List.count sep (c :: cs) = List.count sep cs := by
          simp [h]
        omega

/-- no separator: one piece -/
theorem splitOn_of_not_mem (sep : Nat) : ∀ s : Str, sep ∉ s → splitOn sep s = [s]
  | [], _ => rfl
  | c :: cs, h => by
    have hc : c ≠ sep := fun e => h (e ▸ List.mem_cons_self ..)
    have hcs : sep ∉ cs := fun m => h (List.mem_cons_of_mem _ m)
    simp [splitOn, hc, splitOn_of_not_mem sep cs hcs]

/-- first piece ends at the first separator -/
theorem splitOn_append (sep : Nat) : ∀ (a b : Str), sep ∉ a →
    splitOn sep (a ++ sep :: b) = a :: splitOn sep b
  | [], b, _ => by simp [splitOn]
  | c :: cs, b, h => by
    have hc : c ≠ sep := fun e => h (e ▸ List.mem_cons_self ..)
    have hcs : sep ∉ cs := fun m => h (List.mem_cons_of_mem _ m)
    simp [splitOn, hc, splitOn_append sep cs b hcs]

/-- pieces without the separator come back from their join -/
theorem splitOn_joinWith (sep : Nat) : ∀ l : List Str, l ≠ [] → (∀ s ∈ l, sep ∉ s) →
    splitOn sep (joinWith sep l) = l
  | [a], _, h => splitOn_of_not_mem sep a (h a (List.mem_cons_self ..))
  | a :: b :: rest, _, h => by
    rw [joinWith, splitOn_append sep _ _ (h a (List.mem_cons_self ..)),
      splitOn_joinWith sep (b :: rest) (List.cons_ne_nil _ _) fun s hs => h s (List.mem_cons_of_mem _ hs)]

theorem mem_joinWith {sep c : Nat} : ∀ {l : List Str}, c ∈ joinWith sep l → c = sep ∨ ∃ s ∈ l, c ∈ s
  | [a], h => Or.inr ⟨a, List.mem_cons_self .., h⟩
  | a :: b :: rest, h => by
    rw [joinWith] at h
    rcases List.mem_append.mp h with h | h
    · exact Or.inr ⟨a, List.mem_cons_self .., h⟩
    · rcases List.mem_cons.mp h with h | h
      · exact Or.inl h
      · rcases mem_joinWith h with h | ⟨s, hs, hc⟩
        · exact Or.inl h
        · exact Or.inr ⟨s, List.mem_cons_of_mem _ hs, hc⟩

theorem byteArray_toList_loop (bs : ByteArray) (i : Nat) (r : List UInt8) :
    ByteArray.toList.loop bs i r = r.reverse ++ bs.data.toList.drop i := by
  fun_induction ByteArray.toList.loop bs i r with
  | case1 i r h ih =>
    have hi : i < bs.data.toList.length := h
    have hget : bs.get! i = bs.data.toList[i] := by
      show bs.data[i]! = _
      rw [getElem!_pos bs.data i h, Array.getElem_toList]
    rw [ih, List.reverse_cons, List.append_assoc, List.singleton_append, List.drop_eq_getElem_cons hi, hget]
  | case2 i r h =>
    have hi : bs.data.toList.length ≤ i := Nat.le_of_not_lt h
    rw [List.drop_of_length_le hi, List.append_nil]

theorem byteArray_toList (bs : ByteArray) : bs.toList = bs.data.toList := by
  rw [ByteArray.toList, byteArray_toList_loop]; rfl

/-- the bytes of a string read off the list under its array (`ByteArray.toList` walks the array by index under
    well-founded recursion, which does not evaluate structurally) -/
theorem ofString_eq (s : String) : ofString s = s.toUTF8.data.toList.map UInt8.toNat := by
  rw [ofString, byteArray_toList]

end Str

namespace Validate
open Str

theorem contains_self : ∀ s : Str, contains s s = true
  | [] => rfl
  | c :: cs => by simp [contains]

theorem contains_append_left (sub : Str) : ∀ p s : Str, contains s sub = true → contains (p ++ s) sub = true
  | [], s, h => h
  | c :: cs, s, h => by
    simp only [List.cons_append, contains, Bool.or_eq_true]
    exact Or.inr (contains_append_left sub cs s h)

/-- a name of the form `p.host` is caught by the test as written (same letter case on both sides) -/
theorem belongs_of_suffix (host p : Str) (hh : host ≠ []) :
    domainBelongs host (p ++ dot :: host) = true := by
  simp only [domainBelongs, Bool.and_eq_true, decide_eq_true_eq]
  refine ⟨⟨by simp [hh], ?_⟩, ?_⟩
  · rw [splitOn_length, splitOn_length]
    simp [List.count_append]
    omega
  · exact contains_append_left host p (dot :: host)
      (contains_append_left host [dot] host (contains_self host))

end Validate
end Frp
