import Frp.Model.NatHole
/-
  Lemmas about Model/NatHole.lean (core only): score lists and the analyzer invariant `AInv`, `compact` / `classify`,
  `step` label by label (what an enabled step found and what it left behind), `run`.
-/
namespace Frp
namespace NatHole
open NatBeh Gen.NatTables

/-! ## association lists -/

theorem all_aput {α : Type} {P : α → Prop} {l : List (Str × α)} (h : ∀ k v, aget l k = some v → P v)
    (k : Str) {x : α} (hx : P x) : ∀ k' v, aget (aput l k x) k' = some v → P v := by
  intro k' v hv
  rw [aget_aput] at hv
  split at hv
  · cases hv; exact hx
  · exact h k' v hv

theorem all_adel {α : Type} {P : α → Prop} {l : List (Str × α)} (h : ∀ k v, aget l k = some v → P v)
    (k : Str) : ∀ k' v, aget (adel l k) k' = some v → P v := by
  intro k' v hv
  rw [aget_adel] at hv
  split at hv
  · cases hv
  · exact h k' v hv

/-! ## score lists: the (mode, index) shape never changes -/

def shape (l : List Score) : List (Nat × Nat) := l.map (fun s => (s.mode, s.index))

theorem shape_append (a b : List Score) : shape (a ++ b) = shape a ++ shape b := by
  simp [shape]

theorem shape_decAt (l : List Score) (k : Nat) : shape (decAt l k) = shape l := by
  induction l generalizing k with
  | nil => simp [decAt]
  | cons s r ih =>
    cases k with
    | zero => simp [decAt, shape]
    | succ k => simp only [decAt, shape, List.map_cons]; have := ih k; simp only [shape] at this; rw [this]

theorem shape_reportSuccess (mode index : Nat) (l : List Score) :
    shape (reportSuccess mode index l) = shape l := by
  induction l with
  | nil => simp [reportSuccess]
  | cons s r ih =>
    simp only [reportSuccess]
    split
    · simp only [shape, List.map_cons] at ih ⊢; rw [ih]
    · simp [shape]

theorem shape_recommand (l : List Score) : shape (recommand l).1 = shape l := by
  unfold recommand
  split
  · rfl
  · exact shape_decAt _ _

/-- what `Recommand` returns is (0,0) or the (mode, index) of a stored entry -/
theorem recommand_mem (l : List Score) :
    (recommand l).2 = (0, 0) ∨ (recommand l).2 ∈ shape l := by
  unfold recommand
  split
  · left; rfl
  · next s hs =>
    right
    have := List.mem_of_getElem? hs
    simp only [shape, List.mem_map]
    exact ⟨s, this, rfl⟩

/-- every stored (mode, index) indexes an existing row of the mode's table -/
def Valid (l : List Score) : Prop := ∀ p ∈ shape l, p.2 < (behaviorsByMode p.1).length

theorem valid_append {a b : List Score} (ha : Valid a) (hb : Valid b) : Valid (a ++ b) := by
  intro p hp
  rw [shape_append] at hp
  rcases List.mem_append.mp hp with h | h
  · exact ha p h
  · exact hb p h

theorem scoresFrom_bound (mode : Nat) (s r : Int) (tbl : List (Beh × Beh)) (i : Nat) :
    ∀ p ∈ shape (scoresFrom mode s r tbl i), p.1 = mode ∧ p.2 < i + tbl.length := by
  induction tbl generalizing i with
  | nil => intro p hp; simp [scoresFrom, shape] at hp
  | cons x xs ih =>
    intro p hp
    simp only [scoresFrom, shape, List.map_cons, List.mem_cons] at hp
    rcases hp with h | h
    · subst h; exact ⟨rfl, by simp only [List.length_cons]; omega⟩
    · have := ih (i + 1) p (by simpa [shape] using h)
      simp only [List.length_cons]
      exact ⟨this.1, by omega⟩

theorem valid_scoresByMode2 (mode : Nat) (s r : Int) : Valid (scoresByMode2 mode s r) := by
  intro p hp
  have := scoresFrom_bound mode s r (behaviorsByMode mode) 0 p hp
  rw [this.1]
  omega

theorem valid_scoresByMode (mode : Nat) (d : Int) : Valid (scoresByMode mode d) :=
  valid_scoresByMode2 mode d d

theorem valid_ite {p : Prop} [Decidable p] {a b : List Score} (ha : Valid a) (hb : Valid b) :
    Valid (if p then a else b) := by
  split <;> assumption

theorem valid_newRecords (c v : Feature) : Valid (newRecords c v) := by
  have m (mode : Nat) (d : Int) : Valid (scoresByMode mode d) := valid_scoresByMode mode d
  have h0 : Valid (if c.pub then scoresByMode2 detectMode0 0 1
      else if v.pub then scoresByMode2 detectMode0 1 0 else scoresByMode detectMode0 0) :=
    valid_ite (valid_scoresByMode2 _ _ _) (valid_ite (valid_scoresByMode2 _ _ _) (m _ _))
  unfold newRecords
  generalize featureCount [c, v] = counts
  obtain ⟨easy, hard, reg⟩ := counts
  exact valid_ite h0 (valid_ite (valid_append (valid_append (m _ _) (m _ _)) h0)
    (valid_ite (valid_append (valid_append (m _ _) (m _ _)) h0)
      (valid_ite (valid_append (m _ _) (m _ _))
        (valid_ite (m _ _) (valid_append (valid_append (m _ _) (m _ _)) (m _ _))))))

theorem valid_recommand {l : List Score} (h : Valid l) : Valid (recommand l).1 := by
  intro p hp; rw [shape_recommand] at hp; exact h p hp

theorem valid_reportSuccess {l : List Score} (mode index : Nat) (h : Valid l) :
    Valid (reportSuccess mode index l) := by
  intro p hp; rw [shape_reportSuccess] at hp; exact h p hp

theorem zero_row : 0 < (behaviorsByMode 0).length := by decide

/-- the recommended (mode, index) of a valid record set indexes an existing row -/
theorem recommand_index_lt {l : List Score} (h : Valid l) :
    (recommand l).2.2 < (behaviorsByMode (recommand l).2.1).length := by
  rcases recommand_mem l with h0 | hm
  · rw [h0]; exact zero_row
  · exact h _ hm

/-! ## analyzer invariant -/

def AInv (A : Analyzer) : Prop := ∀ key r, aget A.records key = some r → Valid r

theorem ainv_init : AInv {} := by intro key r h; simp [aget] at h

theorem ainv_put {A : Analyzer} (h : AInv A) (key : Str) (r : List Score) (hr : Valid r) :
    AInv { records := aput A.records key r } := all_aput h key hr

/-- the record set `GetRecommandBehaviors` works on -/
def recsFor (A : Analyzer) (key : Str) (c v : Feature) : List Score :=
  match aget A.records key with
  | some r => r
  | none => newRecords c v

theorem valid_recsFor {A : Analyzer} (h : AInv A) (key : Str) (c v : Feature) : Valid (recsFor A key c v) := by
  unfold recsFor
  split
  · next r hr => exact h key r hr
  · exact valid_newRecords c v

theorem ainv_getRecommand {A : Analyzer} (h : AInv A) (key : Str) (c v : Feature) :
    AInv (getRecommand A key c v).1 :=
  ainv_put h key _ (valid_recommand (valid_recsFor h key c v))

theorem getRecommand_index_lt {A : Analyzer} (hA : AInv A) (key : Str) (c v : Feature) :
    (getRecommand A key c v).2.index < (behaviorsByMode (getRecommand A key c v).2.mode).length :=
  recommand_index_lt (valid_recsFor hA key c v)

theorem ainv_report {A : Analyzer} (h : AInv A) (key : Str) (mode index : Nat) :
    AInv (analyzerReport A key mode index) := by
  unfold analyzerReport
  split
  · exact h
  · next r hr => exact ainv_put h key _ (valid_reportSuccess mode index (h key r hr))

theorem ainv_forget {A : Analyzer} (h : AInv A) (key : Str) : AInv (analyzerForget A key) := all_adel h key

/-! ## compact, classify -/

theorem mem_compact (a : Str) : ∀ l : List Str, a ∈ compact l ↔ a ∈ l
  | [] => by simp [compact]
  | [x] => by simp [compact]
  | x :: y :: r => by
    have ih := mem_compact a (y :: r)
    simp only [compact]
    split
    · next h => subst h; rw [ih]; simp
    · simp only [List.mem_cons] at ih ⊢; rw [ih]

theorem getLast_mem {α : Type} {l : List α} {a : α} (h : l.getLast? = some a) : a ∈ l := by
  exact List.mem_of_getLast? h

/-- the last element of the slice left behind by `slices.Compact` is an original element or "" -/
theorem getLast_compactZeroed {l : List Str} {a : Str} (h : (compactZeroed l).getLast? = some a) :
    a ∈ l ∨ a = [] := by
  have hm := List.mem_of_getLast? h
  unfold compactZeroed at hm
  rcases List.mem_append.mp hm with h1 | h2
  · left; exact (mem_compact a l).mp h1
  · right; exact (List.mem_replicate.mp h2).2

theorem splitHostPort_nil : splitHostPort [] = none := by decide

theorem classifyLoop_minmax (loc : List Str) : ∀ (addrs : List Str) (st st' : ClsSt),
    st.portMin ≤ st.portMax → classifyLoop loc addrs st = some st' → st'.portMin ≤ st'.portMax := by
  intro addrs
  induction addrs with
  | nil => intro st st' h e; simp only [classifyLoop] at e; cases e; exact h
  | cons a r ih =>
    intro st st' h e
    simp only [classifyLoop] at e
    split at e
    · cases e
    · split at e
      · cases e
      · next pn _ =>
        split at e
        · cases e
        · split at e
          · exact ih _ _ (by simp) e
          · refine ih _ _ ?_ e
            simp only
            split <;> split <;> omega

theorem classify_diff_nonneg {addrs loc : List Str} {f : Feature} (h : classify addrs loc = some f) :
    0 ≤ f.portsDifference := by
  unfold classify at h
  split at h
  · cases h
  · split at h
    · cases h
    · next st hst =>
      have hmm := classifyLoop_minmax loc addrs {} st (by simp) hst
      cases h
      simp only [featureOf]
      split <;> omega

/-- `step`, read backwards: per label, what an enabled step found and what it left behind -/
inductive Step (s : State) : Label → State → Out → Prop
  | listenRepeated {name sk allow cfg} : aget s.cfgs name = some cfg → Step s (.listen name sk allow) s []
  | listen {name sk allow} : aget s.cfgs name = none →
      Step s (.listen name sk allow)
        { s with cfgs := aput s.cfgs name { sk := sk, allow := allow, chan := s.nextChan }, nextChan := s.nextChan + 1 } []
  | close {name} : Step s (.close name) { s with cfgs := adel s.cfgs name } []
  | precheck {m t u} (e : ErrKind) : Step s (.precheck m t u) s [(t, errResp m.tid e)]
  | refused {sid m t u} (e : ErrKind) : aget s.sessions sid = none → e ≠ .none →
      Step s (.visitorLookup sid m t u) s [(t, errResp m.tid e)]
  | created {sid m t u cfg} : aget s.sessions sid = none → aget s.cfgs m.proxyName = some cfg →
      m.signed = authInput cfg.sk m.timestamp → userAllowed cfg.allow u = true →
      Step s (.visitorLookup sid m t u)
        { s with sessions := aput s.sessions sid { vmsg := m, vT := t, phase := .notifying cfg.chan } } []
  | notify {sid sess ch} : aget s.sessions sid = some sess → sess.phase = .notifying ch → chanAlive s.cfgs ch = true →
      Step s (.notify sid) { s with sessions := aput s.sessions sid { sess with phase := .waiting } } []
  | notifyTimeout {sid sess ch} : aget s.sessions sid = some sess → sess.phase = .notifying ch →
      Step s (.notifyTimeout sid) { s with sessions := adel s.sessions sid }
        [(sess.vT, errResp sess.vmsg.tid .notifyTimeout)]
  | clientUnknown {m t} : aget s.sessions m.sid = none → Step s (.clientMsg m t) s []
  | client {m t sess} : aget s.sessions m.sid = some sess →
      Step s (.clientMsg m t)
        { s with sessions := aput s.sessions m.sid { sess with cmsg := some m, cT := some t, notified := true } } []
  | analysed {sid sess cm t A' r} : aget s.sessions sid = some sess → sess.phase = .waiting → sess.cmsg = some cm →
      sess.cT = some t → analysis s.analyzer sid sess.vmsg cm = .ok (A', r) →
      Step s (.wake sid)
        { s with analyzer := A',
                 sessions := aput s.sessions sid
                   { sess with notified := false, key := r.key, mode := r.mode, index := r.index,
                               phase := .responding r.vResp r.cResp false false } } []
  | analysisFailed {sid sess cm t e} : aget s.sessions sid = some sess → sess.phase = .waiting → sess.cmsg = some cm →
      sess.cT = some t → analysis s.analyzer sid sess.vmsg cm = .error e →
      Step s (.wake sid)
        { s with sessions := aput s.sessions sid
                   { sess with notified := false,
                               phase := .responding (errResp sess.vmsg.tid e) (errResp cm.tid e) false false } } []
  | timeout {sid sess} : aget s.sessions sid = some sess → sess.phase = .waiting →
      Step s (.timeout sid) { s with sessions := adel s.sessions sid } []
  | sendV {sid sess vr cr c} : aget s.sessions sid = some sess → sess.phase = .responding vr cr false c →
      Step s (.sendV sid) { s with sessions := aput s.sessions sid (finishSend sess vr cr true c) } [(sess.vT, vr)]
  | sendC {sid sess vr cr v t} : aget s.sessions sid = some sess → sess.phase = .responding vr cr v false →
      sess.cT = some t →
      Step s (.sendC sid) { s with sessions := aput s.sessions sid (finishSend sess vr cr v true) } [(t, cr)]
  | sleepDone {sid sess} : aget s.sessions sid = some sess → sess.phase = .sleeping →
      Step s (.sleepDone sid) { s with sessions := adel s.sessions sid } []
  | reportNoop {sid b} : Step s (.report sid b) s []
  | reported {sid sess} : aget s.sessions sid = some sess →
      Step s (.report sid true) { s with analyzer := analyzerReport s.analyzer sess.key sess.mode sess.index } []
  | clean {key} : Step s (.clean key) { s with analyzer := analyzerForget s.analyzer key } []

theorem step_spec {s s' : State} {l : Label} {o : Out} (h : step s l = some (s', o)) : Step s l s' o := by
  cases l <;> simp only [step] at h
  case listen =>
    split at h
    · next hc => cases h; exact .listenRepeated hc
    · next hc => cases h; exact .listen hc
  case close => cases h; exact .close
  case precheck =>
    repeat' split at h
    all_goals cases h; exact .precheck _
  case visitorLookup =>
    split at h
    · cases h
    · next hs =>
      split at h
      · cases h; exact .refused _ hs (by decide)
      · next cfg hcfg =>
        split at h
        · cases h; exact .refused _ hs (by decide)
        · next hsig =>
          split at h
          · cases h; exact .refused _ hs (by decide)
          · next hal => cases h; exact .created hs hcfg (Decidable.not_not.mp hsig) (by simpa using hal)
  case notify =>
    split at h
    · next sess hs =>
      split at h
      · next ch hp =>
        split at h
        · next ha => cases h; exact .notify hs hp ha
        · cases h
      · cases h
    · cases h
  case notifyTimeout =>
    split at h
    · next sess hs =>
      split at h
      · next ch hp => cases h; exact .notifyTimeout hs hp
      · cases h
    · cases h
  case clientMsg =>
    split at h
    · next hs => cases h; exact .clientUnknown hs
    · next sess hs => cases h; exact .client hs
  case wake =>
    split at h
    · next sess hs =>
      split at h
      · next cm t hp _ hcm hct =>
        split at h
        · next A' r ha => cases h; exact .analysed hs hp hcm hct ha
        · next e ha => cases h; exact .analysisFailed hs hp hcm hct ha
      · cases h
    · cases h
  case timeout =>
    split at h
    · next sess hs =>
      split at h
      · next hp => cases h; exact .timeout hs hp
      · cases h
    · cases h
  case sendV =>
    split at h
    · next sess hs =>
      split at h
      · next vr cr c hp => cases h; exact .sendV hs hp
      · cases h
    · cases h
  case sendC =>
    split at h
    · next sess hs =>
      split at h
      · next vr cr v t hp ht => cases h; exact .sendC hs hp ht
      · cases h
    · cases h
  case sleepDone =>
    split at h
    · next sess hs =>
      split at h
      · next hp => cases h; exact .sleepDone hs hp
      · cases h
    · cases h
  case report =>
    split at h
    · cases h; exact .reportNoop
    · next sess hs =>
      split at h
      · next hb => cases h; rw [hb]; exact .reported hs
      · cases h; exact .reportNoop
  case clean => cases h; exact .clean

/-- `analysisWith`, read backwards: both sides classified, and the answer is built from the recommendation `r` -/
theorem analysisWith_ok {cls : List Str → List Str → Option Feature} {A A' : Analyzer} {sid : Str} {vm : VMsg} {cm : CMsg}
    {o : AnalysisOut} (h : analysisWith cls A sid vm cm = .ok (A', o)) :
    ∃ cf vf, cls cm.mapped (parseIPs cm.assisted) = some cf ∧ cls vm.mapped (parseIPs vm.assisted) = some vf ∧
      let r := (getRecommand A (analysisKey vm vf cm cf) cf vf).2
      let timeout0 := max r.cBeh.sendDelayMs r.vBeh.sendDelayMs + 5000
      let timeoutMs := if r.cBeh.listenRandomPorts > 0 ∨ r.vBeh.listenRandomPorts > 0 then timeout0 + 30000 else timeout0
      A' = (getRecommand A (analysisKey vm vf cm cf) cf vf).1 ∧
      o = { key := analysisKey vm vf cm cf, mode := r.mode, index := r.index,
            vResp := { tid := vm.tid, sid := sid, protocol := vm.protocol,
                       candidateAddrs := compact cm.mapped, assistedAddrs := compact cm.assisted,
                       role := r.vBeh.role, mode := r.mode, ttl := r.vBeh.ttl, sendDelayMs := r.vBeh.sendDelayMs,
                       readTimeoutMs := timeoutMs - r.vBeh.sendDelayMs,
                       candidatePorts := getRangePorts (compactZeroed cm.mapped) cf.portsDifference r.vBeh.portsRangeNumber,
                       sendRandomPorts := r.vBeh.portsRandomNumber, listenRandomPorts := r.vBeh.listenRandomPorts },
            cResp := { tid := cm.tid, sid := sid, protocol := vm.protocol,
                       candidateAddrs := compact vm.mapped, assistedAddrs := compact vm.assisted,
                       role := r.cBeh.role, mode := r.mode, ttl := r.cBeh.ttl, sendDelayMs := r.cBeh.sendDelayMs,
                       readTimeoutMs := timeoutMs - r.cBeh.sendDelayMs,
                       candidatePorts := getRangePorts (compactZeroed vm.mapped) vf.portsDifference r.cBeh.portsRangeNumber,
                       sendRandomPorts := r.cBeh.portsRandomNumber, listenRandomPorts := r.cBeh.listenRandomPorts } } := by
  unfold analysisWith at h
  split at h
  · cases h
  · next cf hcf =>
    split at h
    · cases h
    · next vf hvf =>
      cases h
      exact ⟨cf, vf, hcf, hvf, rfl, rfl⟩

/-- an analysis fails only in one of the two classifications -/
theorem analysisWith_error {cls : List Str → List Str → Option Feature} {A : Analyzer} {sid : Str} {vm : VMsg} {cm : CMsg}
    {e : ErrKind} (h : analysisWith cls A sid vm cm = .error e) : e = .classifyClient ∨ e = .classifyVisitor := by
  unfold analysisWith at h
  split at h
  · cases h; exact Or.inl rfl
  · split at h
    · cases h; exact Or.inr rfl
    · cases h

theorem run_cons {s s' : State} {l : Label} {ls : List Label} {o : Out} (h : run s (l :: ls) = some (s', o)) :
    ∃ s₁ o₁ o₂, step s l = some (s₁, o₁) ∧ run s₁ ls = some (s', o₂) ∧ o = o₁ ++ o₂ := by
  simp only [run] at h
  split at h
  · cases h
  · next s₁ o₁ hstep =>
    split at h
    · cases h
    · next s₂ o₂ hrun => cases h; exact ⟨s₁, o₁, o₂, hstep, hrun, rfl⟩

theorem run_keeps {P : State → Prop} (hP : ∀ s s' l o, P s → step s l = some (s', o) → P s') :
    ∀ (ls : List Label) (s s' : State) (o : Out), P s → run s ls = some (s', o) → P s'
  | [], s, s', o, hs, h => by cases h; exact hs
  | l :: ls, s, s', o, hs, h => by
    obtain ⟨s₁, o₁, o₂, hstep, hrun, _⟩ := run_cons h
    exact run_keeps hP ls s₁ s' o₂ (hP s s₁ l o₁ hs hstep) hrun

theorem run_snoc : ∀ (ls : List Label) (s s1 s2 : State) (o1 o2 : Out) (l : Label),
    run s ls = some (s1, o1) → step s1 l = some (s2, o2) → run s (ls ++ [l]) = some (s2, o1 ++ o2)
  | [], s, s1, s2, o1, o2, l, h, hs => by cases h; simp [run, hs]
  | a :: ls, s, s1, s2, o1, o2, l, h, hs => by
    obtain ⟨sa, oa, ob, hstep, hrun, rfl⟩ := run_cons h
    simp only [List.cons_append, run, hstep, run_snoc ls sa s1 s2 ob o2 l hrun hs, List.append_assoc]

theorem finishSend_cT (sess : Session) (vr cr : Resp) (v c : Bool) : (finishSend sess vr cr v c).cT = sess.cT := by
  unfold finishSend; split <;> rfl

theorem finishSend_key (sess : Session) (vr cr : Resp) (v c : Bool) : (finishSend sess vr cr v c).key = sess.key := by
  unfold finishSend; split <;> rfl

theorem finishSend_responding {sess : Session} {vr cr vr' cr' : Resp} {v c v' c' : Bool}
    (h : (finishSend sess vr cr v c).phase = .responding vr' cr' v' c') :
    vr = vr' ∧ cr = cr' ∧ v = v' ∧ c = c' ∧ (v && c) = false := by
  unfold finishSend at h
  split at h
  · cases h
  · next hvc => cases h; exact ⟨rfl, rfl, rfl, rfl, by simpa using hvc⟩

theorem aget_analyzerReport (A : Analyzer) (key k : Str) (m i : Nat) :
    aget (analyzerReport A key m i).records k =
      if key = k then (aget A.records k).map (reportSuccess m i) else aget A.records k := by
  unfold analyzerReport
  split
  · next hn =>
    split
    · next e => rw [← e, hn]; rfl
    · rfl
  · next r hr =>
    rw [aget_aput]
    split
    · next e => rw [← e, hr]; rfl
    · rfl

theorem analyzerForget_absent {A : Analyzer} {k : Str} (h : aget A.records k = none) (key : Str) :
    aget (analyzerForget A key).records k = none := by
  simp only [analyzerForget, aget_adel]
  split
  · rfl
  · exact h

end NatHole
end Frp
