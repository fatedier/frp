import Frp.Lemmas.Router
import Frp.Model.VhostReg
/-
  Invariant of the registration layer (Frp/Model/VhostReg.lean) and its preservation by every
  single registration / un-registration step of `Run` and `Close` (property theorems live in
  Frp/Props/C06.lean).

  `InvL` falls into the clauses about proxies outside any group and the routes they hold themselves
  (even payload, `PlainInv`) and the clauses about groups, their members and the groups' routes (odd
  payload, `GroupInv`).  A step of a proxy of one kind changes only routes of that kind's parity and only
  what that proxy holds, which the clauses of the other kind do not look at (`PlainInv.frame`,
  `GroupInv.frame`); within `GroupInv`, what is said of one stored group (`GroupOK`) is not touched by a
  step on another group (`GroupOK.frame_head`).
-/
namespace Frp
namespace VhostReg
open Str Router

/-- `r` is stored in table `R` (under its own domain and user) -/
def Reg (R : Routers) (r : Route) : Prop := r ∈ R r.domain r.user

/-- a bucket never holds two routes with the same location -/
theorem reg_unique {R : Routers} (h : Inv R) {x y : Route} (hx : Reg R x) (hy : Reg R y)
    (ed : x.domain = y.domain) (eu : x.user = y.user) (el : x.location = y.location) : x = y := by
  unfold Reg at hx hy
  rw [ed, eu] at hx
  exact eq_of_pairwise_ne (f := (·.location)) (desc_ne (h.desc _ _)) hx hy el

/-! ### stored routes after `add` / `del` -/

theorem add_ok_fresh {R R' : Routers} {d l u : Str} {p : Nat} (h : add R d l u p = (R', .ok)) :
    ∀ x ∈ R (toLower d) u, x.location ≠ l := by
  intro x hx e
  have := (add_refused_iff R d l u p).mpr ⟨x, hx, e⟩
  rw [h] at this
  cases this

theorem reg_add {R R' : Routers} {d l u : Str} {p : Nat} (h : add R d l u p = (R', .ok)) (x : Route) :
    Reg R' x ↔ Reg R x ∨ x = { domain := toLower d, location := l, user := u, payload := p } := by
  have hm := mem_add_ok R d l u p (by rw [h]) x.domain x.user x
  rw [h] at hm
  refine hm.trans (or_congr_right ⟨fun e => e.2.2, fun e => ?_⟩)
  subst e
  exact ⟨rfl, rfl, rfl⟩

theorem inv_add_ok {R R' : Routers} {d l u : Str} {p : Nat} (hR : Inv R) (h : add R d l u p = (R', .ok)) :
    Inv R' := by
  have := inv_add hR d l u p
  rw [h] at this; exact this

theorem reg_del (R : Routers) (d l u : Str) (x : Route) :
    Reg (del R d l u) x ↔ Reg R x ∧ ¬ (x.domain = toLower d ∧ x.user = u ∧ x.location = l) :=
  mem_del R d l u x.domain x.user x

/-- `Del` with the key of a stored route takes away that route and no other -/
theorem reg_del_of_reg {R : Routers} (hR : Inv R) {q : Route} (hq : Reg R q) {d : Str}
    (hd : toLower d = q.domain) (x : Route) :
    Reg (del R d q.location q.user) x ↔ Reg R x ∧ x ≠ q := by
  rw [reg_del, hd]
  refine and_congr_right fun hx => not_congr ⟨fun ⟨e1, e2, e3⟩ => reg_unique hR hx hq e1 e2 e3, ?_⟩
  rintro rfl
  exact ⟨rfl, rfl, rfl⟩

/-! ### the group table -/

theorem get_set_same (G : Groups) (n : Str) (v : Option Group) : (G.set n v).get n = v := by
  simp [Groups.get, Groups.set]

theorem get_set_other (G : Groups) (n n' : Str) (v : Option Group) (h : n' ≠ n) :
    (G.set n v).get n' = G.get n' := by
  have hk : (n' == n) = false := by simpa using h
  simp [Groups.get, Groups.set, List.lookup_cons, hk]

theorem get_set_of_ne {G : Groups} {n n' : Str} {g : Group} {v : Option Group} (h : n' ≠ n)
    (hg : G.get n' = some g) : (G.set n v).get n' = some g :=
  (get_set_other G n n' v h).trans hg

theorem get_set_eq_some {G : Groups} {n n' : Str} {v : Option Group} {g : Group} :
    (G.set n v).get n' = some g ↔ (n' = n ∧ v = some g) ∨ (n' ≠ n ∧ G.get n' = some g) := by
  by_cases e : n' = n
  · rw [e, get_set_same]; simp
  · rw [get_set_other _ _ _ _ e]; simp [e]

/-! ### the invariant -/

/-- the route a non-group proxy holds for one of its (domain, location) pairs -/
def pr (h : Holder) (k : Str × Str) : Route :=
  { domain := toLower k.1, location := k.2, user := h.user, payload := 2 * h.id }

/-- the route a non-empty group holds -/
def gr (g : Group) : Route :=
  { domain := toLower g.domain, location := g.location, user := g.user, payload := 2 * g.gid + 1 }

structure InvL (T : Tab) (hs : List Holder) : Prop where
  rinv    : Router.Inv T.R
  ids     : hs.Pairwise (fun a b => a.id ≠ b.id)
  own     : ∀ h ∈ hs, h.group = [] → ∀ k ∈ h.keys, Reg T.R (pr h k)
  owned   : ∀ r, Reg T.R r → r.payload % 2 = 0 → ∃ h ∈ hs, h.group = [] ∧ ∃ k ∈ h.keys, r = pr h k
  nodup   : ∀ h ∈ hs, h.group = [] →
              h.keys.Pairwise (fun a b => ¬ (toLower a.1 = toLower b.1 ∧ a.2 = b.2))
  gmem    : ∀ h ∈ hs, h.group ≠ [] → h.keys ≠ [] →
              ∃ g, T.G.get h.group = some g ∧ (h.name, h.id) ∈ g.members
  groute  : ∀ n g, T.G.get n = some g → g.members ≠ [] → Reg T.R (gr g) ∧ g.group = n ∧ n ≠ []
  gholder : ∀ n g, T.G.get n = some g → ∀ m ∈ g.members,
              ∃ h ∈ hs, h.id = m.2 ∧ h.name = m.1 ∧ h.group = n ∧
                h.keys = [(g.domain, g.location)] ∧ h.user = g.user
  gnames  : ∀ n g, T.G.get n = some g → g.members.Pairwise (fun a b => a.1 ≠ b.1)
  gowned  : ∀ r, Reg T.R r → r.payload % 2 = 1 →
              ∃ n g, T.G.get n = some g ∧ g.members ≠ [] ∧ r = gr g
  gids    : ∀ n g, T.G.get n = some g → g.gid < T.nextG
  ginj    : ∀ n n' g g', T.G.get n = some g → T.G.get n' = some g' → g.gid = g'.gid → n = n'

theorem id_unique {hs : List Holder} (h : hs.Pairwise (fun a b => a.id ≠ b.id)) {a b : Holder}
    (ha : a ∈ hs) (hb : b ∈ hs) (e : a.id = b.id) : a = b :=
  eq_of_pairwise_ne (f := (·.id)) h ha hb e

theorem pr_even (h : Holder) (k : Str × Str) : (pr h k).payload % 2 = 0 := Nat.mul_mod_right 2 _

theorem gr_odd (g : Group) : (gr g).payload % 2 = 1 := by
  show (2 * g.gid + 1) % 2 = 1
  omega

theorem pr_id {h h' : Holder} {k k' : Str × Str} (e : pr h k = pr h' k') : h.id = h'.id := by
  have := congrArg Route.payload e
  dsimp only [pr] at this
  omega

theorem gr_gid {g g' : Group} (e : gr g = gr g') : g.gid = g'.gid := by
  have := congrArg Route.payload e
  dsimp only [gr] at this
  omega

theorem odd_ne_pr {r : Route} (ho : r.payload % 2 = 1) (h : Holder) (k : Str × Str) : r ≠ pr h k := by
  rintro rfl
  rw [pr_even] at ho
  omega

theorem even_ne_gr {r : Route} (he : r.payload % 2 = 0) (g : Group) : r ≠ gr g := by
  rintro rfl
  rw [gr_odd] at he
  omega

/-! ### the parts of the invariant and what each of them looks at -/

/-- the clauses of `InvL` about proxies outside any group and the routes they hold themselves -/
structure PlainInv (R : Routers) (hs : List Holder) : Prop where
  own   : ∀ h ∈ hs, h.group = [] → ∀ k ∈ h.keys, Reg R (pr h k)
  owned : ∀ r, Reg R r → r.payload % 2 = 0 → ∃ h ∈ hs, h.group = [] ∧ ∃ k ∈ h.keys, r = pr h k
  nodup : ∀ h ∈ hs, h.group = [] →
            h.keys.Pairwise (fun a b => ¬ (toLower a.1 = toLower b.1 ∧ a.2 = b.2))

/-- what `InvL` says of the group object `g` stored under the name `n` -/
structure GroupOK (R : Routers) (hs : List Holder) (n : Str) (g : Group) : Prop where
  route  : g.members ≠ [] → Reg R (gr g) ∧ g.group = n ∧ n ≠ []
  holder : ∀ m ∈ g.members, ∃ h ∈ hs, h.id = m.2 ∧ h.name = m.1 ∧ h.group = n ∧
             h.keys = [(g.domain, g.location)] ∧ h.user = g.user
  names  : g.members.Pairwise (fun a b => a.1 ≠ b.1)

/-- the clauses of `InvL` about the groups, their members and their routes -/
structure GroupInv (T : Tab) (hs : List Holder) : Prop where
  gmem   : ∀ h ∈ hs, h.group ≠ [] → h.keys ≠ [] →
             ∃ g, T.G.get h.group = some g ∧ (h.name, h.id) ∈ g.members
  ok     : ∀ n g, T.G.get n = some g → GroupOK T.R hs n g
  gowned : ∀ r, Reg T.R r → r.payload % 2 = 1 → ∃ n g, T.G.get n = some g ∧ g.members ≠ [] ∧ r = gr g
  gids   : ∀ n g, T.G.get n = some g → g.gid < T.nextG
  ginj   : ∀ n n' g g', T.G.get n = some g → T.G.get n' = some g' → g.gid = g'.gid → n = n'

section
variable {T : Tab} {R R' : Routers} {hs hs' : List Holder} {n : Str} {g : Group}

theorem InvL.plain (h : InvL T hs) : PlainInv T.R hs :=
  ⟨h.own, h.owned, h.nodup⟩

theorem InvL.grp (h : InvL T hs) : GroupInv T hs :=
  ⟨h.gmem, fun n g hg => ⟨h.groute n g hg, h.gholder n g hg, h.gnames n g hg⟩, h.gowned, h.gids, h.ginj⟩

theorem InvL.of (hR : Router.Inv T.R) (hi : hs.Pairwise (fun a b => a.id ≠ b.id)) (hp : PlainInv T.R hs)
    (hg : GroupInv T hs) : InvL T hs :=
  ⟨hR, hi, hp.own, hp.owned, hp.nodup, hg.gmem, fun n g h => (hg.ok n g h).route,
    fun n g h => (hg.ok n g h).holder, fun n g h => (hg.ok n g h).names, hg.gowned, hg.gids, hg.ginj⟩

/-- the plain clauses see the even routes and the non-group proxies that hold something -/
theorem PlainInv.frame (h : PlainInv R hs) (hR : ∀ r, r.payload % 2 = 0 → (Reg R' r ↔ Reg R r))
    (hh : ∀ x, x.group = [] → x.keys ≠ [] → (x ∈ hs' ↔ x ∈ hs)) : PlainInv R' hs' where
  own x hx hg k hk :=
    (hR _ (pr_even x k)).mpr (h.own x ((hh x hg (List.ne_nil_of_mem hk)).mp hx) hg k hk)
  owned r hr he := by
    obtain ⟨x, hx, hg, k, hk, e⟩ := h.owned r ((hR r he).mp hr) he
    exact ⟨x, (hh x hg (List.ne_nil_of_mem hk)).mpr hx, hg, k, hk, e⟩
  nodup x hx hg := by
    by_cases hk : x.keys = []
    · rw [hk]; exact List.Pairwise.nil
    · exact h.nodup x ((hh x hg hk).mp hx) hg

/-- a stored group sees its own route and the proxies that hold something for it -/
theorem GroupOK.frame (h : GroupOK R hs n g) (hR : Reg R (gr g) → Reg R' (gr g))
    (hh : n ≠ [] → ∀ x ∈ hs, x.group = n → x.keys ≠ [] → x ∈ hs') : GroupOK R' hs' n g where
  route hne := ⟨hR (h.route hne).1, (h.route hne).2⟩
  holder m hm := by
    obtain ⟨x, hx, e1, e2, e3, e4, e5⟩ := h.holder m hm
    have hk : x.keys ≠ [] := by rw [e4]; exact List.cons_ne_nil _ _
    exact ⟨x, hh (h.route (List.ne_nil_of_mem hm)).2.2 x hx e3 hk, e1, e2, e3, e4, e5⟩
  names := h.names

/-- a stored group does not see the first proxy, whatever that one comes to hold, if that proxy is
    configured for another group -/
theorem GroupOK.frame_head {p p' : Holder} (h : GroupOK R (p :: hs) n g)
    (hR : Reg R (gr g) → Reg R' (gr g)) (hn : n ≠ p.group) : GroupOK R' (p' :: hs) n g :=
  h.frame hR fun _ x hx e _ =>
    List.mem_cons_of_mem _ ((List.mem_cons.mp hx).resolve_left (by rintro rfl; exact hn e.symm))

/-- the group clauses see the odd routes and the group proxies that hold something -/
theorem GroupInv.frame (h : GroupInv T hs) (hR : ∀ r, r.payload % 2 = 1 → (Reg R' r ↔ Reg T.R r))
    (hh : ∀ x, x.group ≠ [] → x.keys ≠ [] → (x ∈ hs' ↔ x ∈ hs)) : GroupInv { T with R := R' } hs' where
  gmem x hx hg hk := h.gmem x ((hh x hg hk).mp hx) hg hk
  ok n g hget := (h.ok n g hget).frame (hR _ (gr_odd g)).mpr
    fun hn x hx e hk => (hh x (by rw [e]; exact hn) hk).mpr hx
  gowned r hr ho := h.gowned r ((hR r ho).mp hr) ho
  gids := h.gids
  ginj := h.ginj

/-- `InvL` looks at the proxies that hold something only -/
theorem InvL.of_holders (hI : InvL T hs) (hi : hs'.Pairwise (fun a b => a.id ≠ b.id))
    (hh : ∀ x, x.keys ≠ [] → (x ∈ hs' ↔ x ∈ hs)) : InvL T hs' :=
  .of hI.rinv hi (hI.plain.frame (fun _ _ => Iff.rfl) (fun x _ => hh x))
    (hI.grp.frame (fun _ _ => Iff.rfl) (fun x _ => hh x))

/-- exchanging the first proxy for one configured for the same group is not seen from a proxy configured
    for another -/
theorem mem_cons_swap {p p' x : Holder} (hp : p'.group = p.group) (hx : x.group ≠ p.group) :
    x ∈ p' :: hs ↔ x ∈ p :: hs := by
  have h : x ≠ p := by rintro rfl; exact hx rfl
  have h' : x ≠ p' := by rintro rfl; exact hx hp
  simp only [List.mem_cons, h, h', false_or]

end

theorem invL_empty : InvL Tab.empty [] := by
  have hR : ∀ r, ¬ Reg Tab.empty.R r := fun r hr => by
    simp [Reg, Tab.empty, Router.empty, Routers.bucket] at hr
  have hG : ∀ n g, Tab.empty.G.get n ≠ some g := fun n g hg => by simp [Tab.empty, Groups.get] at hg
  exact .of inv_empty .nil
    ⟨fun _ hh => (nomatch hh), fun r hr => absurd hr (hR r), fun _ hh => (nomatch hh)⟩
    ⟨fun _ hh => (nomatch hh), fun n g hg => absurd hg (hG n g), fun r hr => absurd hr (hR r),
      fun n g hg => absurd hg (hG n g), fun n _ g _ hg => absurd hg (hG n g)⟩

/-- the route behind a pair a running instance holds: its own (no group) or its group's -/
theorem route_of_holder {T : Tab} {hs : List Holder} (hI : InvL T hs) {h : Holder} (hh : h ∈ hs)
    {k : Str × Str} (hk : k ∈ h.keys) :
    ∃ ro, Reg T.R ro ∧ ro.domain = toLower k.1 ∧ ro.location = k.2 ∧ ro.user = h.user ∧
      ((h.group = [] ∧ ro.payload = 2 * h.id) ∨
       (h.group ≠ [] ∧ ∃ g, T.G.get h.group = some g ∧ ro.payload = 2 * g.gid + 1 ∧
          (h.name, h.id) ∈ g.members ∧ h.keys = [(g.domain, g.location)] ∧ h.user = g.user)) := by
  by_cases hg : h.group = []
  · exact ⟨pr h k, hI.own h hh hg k hk, rfl, rfl, rfl, Or.inl ⟨hg, rfl⟩⟩
  · have hkne : h.keys ≠ [] := by intro e; rw [e] at hk; cases hk
    obtain ⟨g, hget, hm⟩ := hI.gmem h hh hg hkne
    obtain ⟨h', hh', e1, _, _, e4, e5⟩ := hI.gholder _ g hget _ hm
    have : h' = h := id_unique hI.ids hh' hh e1
    subst this
    have hk' : k = (g.domain, g.location) := by rw [e4] at hk; exact List.mem_singleton.mp hk
    subst hk'
    exact ⟨gr g, (hI.groute _ g hget (List.ne_nil_of_mem hm)).1, rfl, rfl, e5.symm,
      Or.inr ⟨hg, g, hget, rfl, hm, e4, e5⟩⟩

/-! ### single steps of a non-group proxy -/

/-- a successful `HTTPReverseProxy.Register` / `Muxer.Listen` of one more (domain, location) -/
theorem inv_claim_plain {T : Tab} {p : Holder} {hs : List Holder} {d l : Str} {R' : Routers}
    (hI : InvL T (p :: hs)) (hg : p.group = []) (ha : add T.R d l p.user (2 * p.id) = (R', .ok)) :
    InvL { T with R := R' } ({ p with keys := p.keys ++ [(d, l)] } :: hs) := by
  have hreg := reg_add ha
  have hown := hI.own p List.mem_cons_self hg
  refine .of (inv_add_ok hI.rinv ha) (List.pairwise_cons.mpr (List.pairwise_cons.mp hI.ids)) ⟨?_, ?_, ?_⟩
    (hI.grp.frame (fun r ho => (hreg r).trans (or_iff_left (odd_ne_pr ho p (d, l))))
      (fun x hx _ => mem_cons_swap rfl fun e => hx (e.trans hg)))
  · intro h hh hgr k hk
    refine (hreg _).mpr ?_
    rcases List.mem_cons.mp hh with rfl | hh'
    · rcases List.mem_append.mp hk with hk' | hk'
      · exact Or.inl (hown k hk')
      · rw [List.mem_singleton.mp hk']; exact Or.inr rfl
    · exact Or.inl (hI.own h (List.mem_cons_of_mem _ hh') hgr k hk)
  · intro r hr he
    rcases (hreg r).mp hr with hr0 | hr0
    · obtain ⟨h, hh, hgr, k, hk, hrk⟩ := hI.owned r hr0 he
      rcases List.mem_cons.mp hh with rfl | hh'
      · exact ⟨_, List.mem_cons_self, hg, k, List.mem_append_left _ hk, hrk⟩
      · exact ⟨h, List.mem_cons_of_mem _ hh', hgr, k, hk, hrk⟩
    · exact ⟨_, List.mem_cons_self, hg, (d, l), List.mem_append_right _ (List.mem_singleton.mpr rfl), hr0⟩
  · intro h hh hgr
    rcases List.mem_cons.mp hh with rfl | hh'
    · refine List.pairwise_append.mpr ⟨hI.nodup p List.mem_cons_self hg, List.pairwise_singleton _ _, ?_⟩
      intro a ha' b hb ⟨e1, e2⟩
      rw [List.mem_singleton.mp hb] at e1 e2
      -- the route `p` holds for `a` would be stored in the bucket under the location just added
      have hr : pr p a ∈ T.R (toLower a.1) p.user := hown a ha'
      rw [e1] at hr
      exact add_ok_fresh ha _ hr e2
    · exact hI.nodup h (List.mem_cons_of_mem _ hh') hgr

/-- one `closeFuncs` entry / `Listener.Close` of a non-group proxy: its oldest pair is given back -/
theorem inv_release_plain {T : Tab} {p : Holder} {hs : List Holder} {k : Str × Str} {ks : List (Str × Str)}
    (hI : InvL T ({ p with keys := k :: ks } :: hs)) (hg : p.group = []) :
    InvL { T with R := del T.R k.1 k.2 p.user } ({ p with keys := ks } :: hs) := by
  have hq : Reg T.R (pr p k) := hI.own _ List.mem_cons_self hg k List.mem_cons_self
  have hreg : ∀ x, Reg (del T.R k.1 k.2 p.user) x ↔ Reg T.R x ∧ x ≠ pr p k :=
    reg_del_of_reg hI.rinv hq rfl
  have hids := List.pairwise_cons.mp hI.ids
  have hnd := List.pairwise_cons.mp (hI.nodup _ List.mem_cons_self hg)
  refine .of (inv_del hI.rinv _ _ _) (List.pairwise_cons.mpr hids) ⟨?_, ?_, ?_⟩
    (hI.grp.frame (fun r ho => (hreg r).trans (and_iff_left (odd_ne_pr ho p k)))
      (fun x hx _ => mem_cons_swap rfl fun e => hx (e.trans hg)))
  · intro h hh hgr k' hk'
    refine (hreg _).mpr ?_
    rcases List.mem_cons.mp hh with rfl | hh'
    · refine ⟨hI.own _ List.mem_cons_self hg k' (List.mem_cons_of_mem _ hk'), fun e => ?_⟩
      exact hnd.1 k' hk' ⟨(congrArg Route.domain e).symm, (congrArg Route.location e).symm⟩
    · exact ⟨hI.own h (List.mem_cons_of_mem _ hh') hgr k' hk', fun e => hids.1 h hh' (pr_id e).symm⟩
  · intro r hr he
    obtain ⟨hr0, hne⟩ := (hreg r).mp hr
    obtain ⟨h, hh, hgr, k', hk', hrk⟩ := hI.owned r hr0 he
    rcases List.mem_cons.mp hh with rfl | hh'
    · rcases List.mem_cons.mp hk' with rfl | hk''
      · exact absurd hrk hne
      · exact ⟨_, List.mem_cons_self, hg, k', hk'', hrk⟩
    · exact ⟨h, List.mem_cons_of_mem _ hh', hgr, k', hk', hrk⟩
  · intro h hh hgr
    rcases List.mem_cons.mp hh with rfl | hh'
    · exact hnd.2
    · exact hI.nodup h (List.mem_cons_of_mem _ hh') hgr

/-! ### the group controller -/

/-- the group objects stay numbered apart when the entry of one name is replaced by an object whose
    number no other name has -/
theorem ginj_set {G : Groups} {pg : Str} {v : Option Group}
    (hv : ∀ g1, v = some g1 → ∀ n a, n ≠ pg → G.get n = some a → a.gid ≠ g1.gid)
    (hinj : ∀ n n' a b, G.get n = some a → G.get n' = some b → a.gid = b.gid → n = n') :
    ∀ n n' a b, (G.set pg v).get n = some a → (G.set pg v).get n' = some b → a.gid = b.gid → n = n' := by
  intro n n' a b ha hb e
  rcases get_set_eq_some.mp ha with ⟨e1, ea⟩ | ⟨e1, ha⟩ <;>
    rcases get_set_eq_some.mp hb with ⟨e2, eb⟩ | ⟨e2, hb⟩
  · rw [e1, e2]
  · exact absurd e.symm (hv a ea n' b e2 hb)
  · exact absurd e (hv b eb n a e1 ha)
  · exact hinj n n' a b ha hb e

theorem ginj_set_some {G : Groups} {pg : Str} {g g1 : Group} (hget : G.get pg = some g)
    (hgid : g1.gid = g.gid)
    (hinj : ∀ n n' a b, G.get n = some a → G.get n' = some b → a.gid = b.gid → n = n') :
    ∀ n n' a b, (G.set pg (some g1)).get n = some a → (G.set pg (some g1)).get n' = some b →
      a.gid = b.gid → n = n' :=
  ginj_set (fun g' e n a hn ha h => hn (hinj n pg a g ha hget (by cases e; exact h.trans hgid))) hinj

theorem gids_set {G : Groups} {pg : Str} {v : Option Group} {N : Nat} (hv : ∀ g1, v = some g1 → g1.gid < N)
    (h : ∀ n g, G.get n = some g → g.gid < N) : ∀ n g, (G.set pg v).get n = some g → g.gid < N := by
  intro n g hg
  rcases get_set_eq_some.mp hg with ⟨_, e⟩ | ⟨_, hg⟩
  · exact hv g e
  · exact h n g hg

theorem ensure_R (T : Tab) (group : Str) : (ensureGroup T group).R = T.R := by
  unfold ensureGroup; split <;> rfl

theorem ensure_get (T : Tab) (group : Str) : ∃ g, (ensureGroup T group).G.get group = some g := by
  unfold ensureGroup
  split
  · rename_i g hg; exact ⟨g, hg⟩
  · exact ⟨_, get_set_same _ _ _⟩

/-- `NewHTTPGroup` stored for a name that had none: nothing observable changes -/
theorem inv_ensure {T : Tab} {hs : List Holder} (hI : InvL T hs) (group : Str) :
    InvL (ensureGroup T group) hs := by
  unfold ensureGroup
  split
  · exact hI
  · rename_i hnone
    have hne : ∀ {n g}, T.G.get n = some g → n ≠ group := fun hg e => by rw [e, hnone] at hg; cases hg
    refine .of hI.rinv hI.ids hI.plain ⟨?_, ?_, ?_, ?_, ?_⟩
    · intro h hh hgr hk
      obtain ⟨g, hg, hm⟩ := hI.gmem h hh hgr hk
      exact ⟨g, get_set_of_ne (hne hg) hg, hm⟩
    · intro n g hg
      rcases get_set_eq_some.mp hg with ⟨_, e⟩ | ⟨_, hg⟩
      · cases e; exact ⟨fun h => absurd rfl h, fun _ hm => (nomatch hm), List.Pairwise.nil⟩
      · exact hI.grp.ok n g hg
    · intro r hr ho
      obtain ⟨n, g, hg, hm, hrg⟩ := hI.gowned r hr ho
      exact ⟨n, g, get_set_of_ne (hne hg) hg, hm, hrg⟩
    · exact gids_set (fun _ e => by cases e; exact Nat.lt_succ_self _)
        (fun n g hg => Nat.lt_succ_of_lt (hI.gids n g hg))
    · exact ginj_set (fun _ e n a _ ha => by cases e; exact Nat.ne_of_lt (hI.gids n a ha)) hI.ginj

/-- `HTTPGroup.Register`, "the first proxy in this group": the group's route is added -/
theorem inv_group_first {T : Tab} {p : Holder} {hs : List Holder} {g : Group} {gkey d l : Str}
    {R' : Routers} (hI : InvL T (p :: hs)) (hgr : p.group ≠ []) (hget : T.G.get p.group = some g)
    (hmem : g.members = []) (ha : add T.R d l p.user (2 * g.gid + 1) = (R', .ok)) (hk : p.keys = []) :
    InvL { T with R := R',
                  G := T.G.set p.group (some { g with group := p.group, key := gkey, domain := d,
                                                      location := l, user := p.user,
                                                      members := [(p.name, p.id)] }) }
      ({ p with keys := p.keys ++ [(d, l)] } :: hs) := by
  have hreg := reg_add ha
  -- the stored object had no members, so nothing else refers to this group
  have hnot : ∀ {n g'}, T.G.get n = some g' → g'.members ≠ [] → n ≠ p.group := by
    intro n g' hget' hne e
    rw [e, hget] at hget'; cases hget'; exact hne hmem
  refine .of (inv_add_ok hI.rinv ha) (List.pairwise_cons.mpr (List.pairwise_cons.mp hI.ids))
    (hI.plain.frame (fun r he => (hreg r).trans (or_iff_left (by rintro rfl; dsimp only at he; omega)))
      (fun x hx _ => mem_cons_swap rfl fun e => hgr (e.symm.trans hx)))
    ⟨?_, ?_, ?_, gids_set (fun _ e => by cases e; exact hI.gids _ g hget) hI.gids,
      ginj_set_some hget rfl hI.ginj⟩
  · intro h hh hgr' hk'
    rcases List.mem_cons.mp hh with rfl | hh'
    · exact ⟨_, get_set_same _ _ _, List.mem_singleton.mpr rfl⟩
    · obtain ⟨g', hget', hm'⟩ := hI.gmem h (List.mem_cons_of_mem _ hh') hgr' hk'
      exact ⟨g', get_set_of_ne (hnot hget' (List.ne_nil_of_mem hm')) hget', hm'⟩
  · intro n g' hget'
    rcases get_set_eq_some.mp hget' with ⟨rfl, e⟩ | ⟨hn, hget'⟩
    · cases e
      refine ⟨fun _ => ⟨(hreg _).mpr (Or.inr rfl), rfl, hgr⟩, ?_, List.pairwise_singleton _ _⟩
      intro m hm
      rw [List.mem_singleton.mp hm]
      exact ⟨_, List.mem_cons_self, rfl, rfl, rfl, by rw [hk]; rfl, rfl⟩
    · exact (hI.grp.ok n g' hget').frame_head (fun h => (hreg _).mpr (Or.inl h)) hn
  · intro r hr ho
    rcases (hreg r).mp hr with hr0 | hr0
    · obtain ⟨n, g', hget', hne', hrg⟩ := hI.gowned r hr0 ho
      exact ⟨n, g', get_set_of_ne (hnot hget' hne') hget', hne', hrg⟩
    · exact ⟨p.group, _, get_set_same _ _ _, List.cons_ne_nil _ _, hr0⟩

/-- `HTTPGroup.Register`, a further proxy joins a group that already has members -/
theorem inv_group_join {T : Tab} {p : Holder} {hs : List Holder} {g : Group} {d l : Str}
    (hI : InvL T (p :: hs)) (hgr : p.group ≠ []) (hget : T.G.get p.group = some g)
    (hne : g.members ≠ [])
    (hpar : ¬ (g.group ≠ p.group ∨ g.domain ≠ d ∨ g.location ≠ l ∨ g.user ≠ p.user))
    (hnm : ¬ (g.members.any (fun m => m.1 = p.name)) = true) (hk : p.keys = []) :
    InvL { T with G := T.G.set p.group (some { g with members := g.members ++ [(p.name, p.id)] }) }
      ({ p with keys := p.keys ++ [(d, l)] } :: hs) := by
  obtain ⟨_, p2, p3, p4⟩ : g.group = p.group ∧ g.domain = d ∧ g.location = l ∧ g.user = p.user := by
    simpa [not_or] using hpar
  have hnm' : ∀ m ∈ g.members, m.1 ≠ p.name := fun m hm e =>
    hnm (List.any_eq_true.mpr ⟨m, hm, decide_eq_true e⟩)
  have hg := hI.grp.ok _ g hget
  refine .of hI.rinv (List.pairwise_cons.mpr (List.pairwise_cons.mp hI.ids))
    (hI.plain.frame (fun _ _ => Iff.rfl)
      (fun x hx _ => mem_cons_swap rfl fun e => hgr (e.symm.trans hx)))
    ⟨?_, ?_, ?_, gids_set (fun _ e => by cases e; exact hI.gids _ g hget) hI.gids,
      ginj_set_some hget rfl hI.ginj⟩
  · intro h hh hgr' hk'
    rcases List.mem_cons.mp hh with rfl | hh'
    · exact ⟨_, get_set_same _ _ _, List.mem_append_right _ (List.mem_singleton.mpr rfl)⟩
    · obtain ⟨g', hget', hm'⟩ := hI.gmem h (List.mem_cons_of_mem _ hh') hgr' hk'
      by_cases e : h.group = p.group
      · rw [e, hget] at hget'; cases hget'
        exact ⟨_, by rw [e]; exact get_set_same _ _ _, List.mem_append_left _ hm'⟩
      · exact ⟨g', get_set_of_ne e hget', hm'⟩
  · intro n g' hget'
    rcases get_set_eq_some.mp hget' with ⟨rfl, e⟩ | ⟨hn, hget'⟩
    · cases e
      refine ⟨fun _ => hg.route hne, ?_, ?_⟩
      · intro m hm
        rcases List.mem_append.mp hm with hm' | hm'
        · -- an old member's proxy is not `p`: the names differ
          obtain ⟨x, hx, e1, e2, rest⟩ := hg.holder m hm'
          have hx' := (List.mem_cons.mp hx).resolve_left (by rintro rfl; exact hnm' m hm' e2.symm)
          exact ⟨x, List.mem_cons_of_mem _ hx', e1, e2, rest⟩
        · rw [List.mem_singleton.mp hm']
          exact ⟨_, List.mem_cons_self, rfl, rfl, rfl, by rw [hk, p2, p3]; rfl, p4.symm⟩
      · refine List.pairwise_append.mpr ⟨hg.names, List.pairwise_singleton _ _, ?_⟩
        intro a ha b hb
        rw [List.mem_singleton.mp hb]
        exact hnm' a ha
    · exact (hI.grp.ok n g' hget').frame_head id hn
  · intro r hr ho
    obtain ⟨n, g', hget', hne', hrg⟩ := hI.gowned r hr ho
    by_cases e : n = p.group
    · rw [e, hget] at hget'; cases hget'
      exact ⟨p.group, _, get_set_same _ _ _, List.append_ne_nil_of_left_ne_nil hne' _, hrg⟩
    · exact ⟨n, g', get_set_of_ne e hget', hne', hrg⟩

/-- `HTTPGroupController.UnRegister` for a proxy that is a member of its group -/
theorem inv_release_group {T : Tab} {p : Holder} {hs : List Holder} {k : Str × Str}
    {ks : List (Str × Str)} (hI : InvL T ({ p with keys := k :: ks } :: hs)) (hgr : p.group ≠ []) :
    InvL (groupUnRegister T p.name p.group) ({ p with keys := ks } :: hs) := by
  have hids := List.pairwise_cons.mp hI.ids
  obtain ⟨g, hget, hm⟩ := hI.gmem _ List.mem_cons_self hgr (List.cons_ne_nil k ks)
  dsimp only at hget hm
  have hg := hI.grp.ok _ g hget
  obtain ⟨hgreg, _, _⟩ := hg.route (List.ne_nil_of_mem hm)
  -- the holder is the one recorded for this member, so it holds exactly the group's pair
  have hks : ks = [] := by
    obtain ⟨h, hh, e1, _, _, e4, _⟩ := hg.holder _ hm
    rw [id_unique hI.ids hh List.mem_cons_self e1] at e4
    exact (List.cons.inj e4).2
  -- a proxy of `hs` that is a member does not carry this proxy's name
  have hother : ∀ h ∈ hs, (h.name, h.id) ∈ g.members → h.name ≠ p.name := by
    intro h hh hmi e
    have : (h.name, h.id) = (p.name, p.id) := eq_of_pairwise_ne (f := (·.1)) hg.names hmi hm e
    exact hids.1 h hh (congrArg Prod.snd this).symm
  have hswap : ∀ x, x.group = [] → x.keys ≠ [] →
      (x ∈ { p with keys := ks } :: hs ↔ x ∈ { p with keys := k :: ks } :: hs) :=
    fun x hx _ => mem_cons_swap rfl fun e => hgr (e.symm.trans hx)
  unfold groupUnRegister
  rw [hget]
  dsimp only
  split
  · -- the last member leaves: the group's route is removed, the group deleted
    rename_i hms
    have hall : ∀ m ∈ g.members, m.1 = p.name := fun m hm' => by
      simpa using List.filter_eq_nil_iff.mp hms m hm'
    have hreg : ∀ x, Reg (del T.R g.domain g.location g.user) x ↔ Reg T.R x ∧ x ≠ gr g :=
      reg_del_of_reg hI.rinv hgreg rfl
    refine .of (inv_del hI.rinv _ _ _) (List.pairwise_cons.mpr hids)
      (hI.plain.frame (fun r he => (hreg r).trans (and_iff_left (even_ne_gr he g))) hswap)
      ⟨?_, ?_, ?_, gids_set (fun _ e => (nomatch e)) hI.gids, ginj_set (fun _ e => (nomatch e)) hI.ginj⟩
    · intro h hh hgr' hk'
      rcases List.mem_cons.mp hh with rfl | hh'
      · exact absurd hks hk'
      · obtain ⟨g', hget', hm'⟩ := hI.gmem h (List.mem_cons_of_mem _ hh') hgr' hk'
        have e : h.group ≠ p.group := by
          intro e; rw [e, hget] at hget'; cases hget'
          exact hother h hh' hm' (hall _ hm')
        exact ⟨g', get_set_of_ne e hget', hm'⟩
    · intro n g' hget'
      rcases get_set_eq_some.mp hget' with ⟨_, e⟩ | ⟨hn, hget'⟩
      · cases e
      · refine (hI.grp.ok n g' hget').frame_head (fun h => (hreg _).mpr ⟨h, fun e => ?_⟩) hn
        exact hn (hI.ginj n p.group g' g hget' hget (gr_gid e))
    · intro r hr ho
      obtain ⟨hr0, hne⟩ := (hreg r).mp hr
      obtain ⟨n, g', hget', hne', hrg⟩ := hI.gowned r hr0 ho
      have e : n ≠ p.group := by
        intro e; rw [e, hget] at hget'; cases hget'; exact hne hrg
      exact ⟨n, g', get_set_of_ne e hget', hne', hrg⟩
  · -- other members stay: only the membership changes
    rename_i hms
    refine .of hI.rinv (List.pairwise_cons.mpr hids) (hI.plain.frame (fun _ _ => Iff.rfl) hswap)
      ⟨?_, ?_, ?_, gids_set (fun _ e => by cases e; exact hI.gids _ g hget) hI.gids,
        ginj_set_some hget rfl hI.ginj⟩
    · intro h hh hgr' hk'
      rcases List.mem_cons.mp hh with rfl | hh'
      · exact absurd hks hk'
      · obtain ⟨g', hget', hm'⟩ := hI.gmem h (List.mem_cons_of_mem _ hh') hgr' hk'
        by_cases e : h.group = p.group
        · rw [e, hget] at hget'; cases hget'
          refine ⟨_, by rw [e]; exact get_set_same _ _ _, List.mem_filter.mpr ⟨hm', ?_⟩⟩
          simpa using hother h hh' hm'
        · exact ⟨g', get_set_of_ne e hget', hm'⟩
    · intro n g' hget'
      rcases get_set_eq_some.mp hget' with ⟨rfl, e⟩ | ⟨hn, hget'⟩
      · cases e
        refine ⟨fun _ => hg.route (List.ne_nil_of_mem hm), ?_, List.Pairwise.filter _ hg.names⟩
        intro m hm'
        obtain ⟨hm1, hm2⟩ := List.mem_filter.mp hm'
        obtain ⟨x, hx, e1, e2, rest⟩ := hg.holder m hm1
        -- the proxy recorded for a member that stays is not `p`: the names differ
        have hx' := (List.mem_cons.mp hx).resolve_left (by rintro rfl; simp [← e2] at hm2)
        exact ⟨x, List.mem_cons_of_mem _ hx', e1, e2, rest⟩
      · exact (hI.grp.ok n g' hget').frame_head id hn
    · intro r hr ho
      obtain ⟨n, g', hget', hne', hrg⟩ := hI.gowned r hr ho
      by_cases e : n = p.group
      · rw [e, hget] at hget'; cases hget'
        exact ⟨p.group, _, get_set_same _ _ _, hms, hrg⟩
      · exact ⟨n, g', get_set_of_ne e hget', hne', hrg⟩

/-! ### `Run` and `Close` as sequences of single steps -/

theorem groupJoin_cases {T T' : Tab} {g : Group} {name group key d l u : Str} {id : Nat}
    {r : Option Err} (h : groupJoin T g name id group key d l u = (T', r)) :
    ((∃ e, r = some e) ∧ T' = T) ∨
    (r = none ∧ g.members = [] ∧ ∃ R', add T.R d l u (2 * g.gid + 1) = (R', .ok) ∧
      T' = { T with R := R',
                    G := T.G.set group (some { g with group := group, key := key, domain := d,
                                                      location := l, user := u,
                                                      members := [(name, id)] }) }) ∨
    (r = none ∧ g.members ≠ [] ∧
      ¬ (g.group ≠ group ∨ g.domain ≠ d ∨ g.location ≠ l ∨ g.user ≠ u) ∧ g.key = key ∧
      ¬ (g.members.any (fun m => m.1 = name)) = true ∧
      T' = { T with G := T.G.set group (some { g with members := g.members ++ [(name, id)] }) }) := by
  have refused : ∀ e, (T, some e) = (T', r) → (∃ e, r = some e) ∧ T' = T := fun e h => by
    cases h; exact ⟨⟨e, rfl⟩, rfl⟩
  unfold groupJoin at h
  by_cases hmem : g.members = []
  · rw [if_pos hmem] at h
    cases ha : add T.R d l u (2 * g.gid + 1) with
    | mk R' res =>
      rw [ha] at h
      cases res with
      | conflict => exact Or.inl (refused _ h)
      | ok => cases h; exact Or.inr (Or.inl ⟨rfl, hmem, R', rfl, rfl⟩)
  · rw [if_neg hmem] at h
    by_cases hpar : g.group ≠ group ∨ g.domain ≠ d ∨ g.location ≠ l ∨ g.user ≠ u
    · rw [if_pos hpar] at h; exact Or.inl (refused _ h)
    · rw [if_neg hpar] at h
      by_cases hkey : g.key ≠ key
      · rw [if_pos hkey] at h; exact Or.inl (refused _ h)
      · rw [if_neg hkey] at h
        by_cases hany : (g.members.any (fun m => m.1 = name)) = true
        · rw [if_pos hany] at h; exact Or.inl (refused _ h)
        · rw [if_neg hany] at h
          cases h
          exact Or.inr (Or.inr ⟨rfl, hmem, hpar, Decidable.not_not.mp hkey, hany, rfl⟩)

/-- one iteration of the loops of `Run`: after a success the proxy holds one more pair, after a
    refusal it holds what it held -/
theorem inv_regOne {T T' : Tab} {p : Holder} {hs : List Holder} {gkey d l : Str} {r : Option Err}
    (hI : InvL T (p :: hs)) (h : regOne T p gkey d l = (T', r)) :
    match r with
    | none => InvL T' ({ p with keys := p.keys ++ [(d, l)] } :: hs)
    | some _ => InvL T' (p :: hs) := by
  unfold regOne at h
  split at h
  · rename_i hgr
    unfold groupRegister at h
    dsimp only at h
    have hI0 := inv_ensure hI p.group
    obtain ⟨g, hget⟩ := ensure_get T p.group
    rw [hget] at h
    dsimp only at h
    -- a proxy that is not yet a member of its group holds nothing yet
    have hk : (p.name, p.id) ∉ g.members → p.keys = [] := fun hnot =>
      Decidable.byContradiction fun hk => by
        obtain ⟨g', hget', hm⟩ := hI0.gmem p List.mem_cons_self hgr hk
        rw [hget] at hget'; cases hget'
        exact hnot hm
    rcases groupJoin_cases h with ⟨⟨e, rfl⟩, rfl⟩ | ⟨rfl, hmem, R', ha, rfl⟩ | ⟨rfl, hne, hpar, _, hany, rfl⟩
    · exact hI0
    · exact inv_group_first hI0 hgr hget hmem ha (hk (by rw [hmem]; exact List.not_mem_nil))
    · refine inv_group_join hI0 hgr hget hne hpar hany (hk fun hm => hany ?_)
      exact List.any_eq_true.mpr ⟨_, hm, decide_eq_true rfl⟩
  · rename_i hgr
    have hg : p.group = [] := Decidable.not_not.mp hgr
    split at h
    · rename_i R' ha
      cases h
      exact inv_claim_plain hI hg ha
    · cases h
      exact hI

/-- the loops of `Run` -/
theorem inv_claim {gkey : Str} {hs : List Holder} (keys : List (Str × Str)) :
    ∀ (T : Tab) (p : Holder), InvL T (p :: hs) →
      InvL (claim T p gkey keys).1 ((claim T p gkey keys).2.1 :: hs) ∧
      ((claim T p gkey keys).2.2 = none → (claim T p gkey keys).2.1 = { p with keys := p.keys ++ keys }) := by
  induction keys with
  | nil => intro T p hI; exact ⟨hI, fun _ => by simp [claim]⟩
  | cons k rest ih =>
    intro T p hI
    obtain ⟨d, l⟩ := k
    unfold claim
    cases hr : regOne T p gkey d l with
    | mk T' r =>
      have hstep := inv_regOne hI hr
      cases r with
      | none =>
        dsimp only
        obtain ⟨h1, h3⟩ := ih T' { p with keys := p.keys ++ [(d, l)] } hstep
        refine ⟨h1, fun hn => ?_⟩
        rw [h3 hn]; simp
      | some e =>
        dsimp only
        exact ⟨hstep, fun h => by cases h⟩

theorem claim_one (T : Tab) (p : Holder) (gkey d l : Str) :
    (claim T p gkey [(d, l)]).2.2 = (regOne T p gkey d l).2 := by
  unfold claim
  cases h : regOne T p gkey d l with
  | mk T' r => cases r <;> rfl

/-- `Close`: the proxy gives back everything it holds -/
theorem inv_releaseKeys {hs : List Holder} (p : Holder) (ks : List (Str × Str)) :
    ∀ (T : Tab), InvL T ({ p with keys := ks } :: hs) →
      InvL (releaseKeys T p ks) ({ p with keys := [] } :: hs) := by
  induction ks with
  | nil => intro T hI; exact hI
  | cons k rest ih =>
    intro T hI
    obtain ⟨d, l⟩ := k
    unfold releaseKeys
    apply ih
    unfold unregOne
    split
    · rename_i hgr; exact inv_release_group hI hgr
    · rename_i hgr
      exact inv_release_plain hI (Decidable.not_not.mp hgr)

theorem inv_release {T : Tab} {p : Holder} {hs : List Holder} (hI : InvL T (p :: hs)) :
    InvL (release T p) ({ p with keys := [] } :: hs) :=
  inv_releaseKeys p p.keys T hI

theorem mem_cons_of_keys {x p : Holder} {hs : List Holder} (hx : x.keys ≠ []) (hk : p.keys = []) :
    x ∈ p :: hs ↔ x ∈ hs :=
  List.mem_cons.trans (or_iff_right (by rintro rfl; exact hx hk))

/-- a proxy that holds nothing may be forgotten -/
theorem inv_drop {T : Tab} {p : Holder} {hs : List Holder} (hI : InvL T (p :: hs)) (hk : p.keys = []) :
    InvL T hs :=
  hI.of_holders (List.pairwise_cons.mp hI.ids).2 fun _ hx => (mem_cons_of_keys hx hk).symm

/-- a new proxy instance that holds nothing yet may be introduced -/
theorem inv_intro {T : Tab} {p : Holder} {hs : List Holder} (hI : InvL T hs) (hk : p.keys = [])
    (hfresh : ∀ h ∈ hs, p.id ≠ h.id) : InvL T (p :: hs) :=
  hI.of_holders (List.pairwise_cons.mpr ⟨hfresh, hI.ids⟩) fun _ hx => mem_cons_of_keys hx hk

theorem inv_intro_new {S : St} (hI : InvL S.tab S.hs) {id : Nat} (c : Cfg)
    (hfresh : ¬ (S.hs.any (fun h => h.id = id)) = true) : InvL S.tab (holderOf id c [] :: S.hs) :=
  inv_intro hI rfl fun h hh e => hfresh (List.any_eq_true.mpr ⟨h, hh, decide_eq_true e.symm⟩)

/-- `NewProxy` + `Run` (with its rollback) keeps the invariant -/
theorem inv_run (sh : Str) {S : St} (hI : InvL S.tab S.hs) (id : Nat) (c : Cfg) :
    InvL (run sh S id c).1.tab (run sh S id c).1.hs := by
  unfold run
  split
  · exact hI
  · rename_i hfresh
    obtain ⟨h1, _⟩ := inv_claim (gkey := c.groupKey) (triples sh c) S.tab _ (inv_intro_new hI c hfresh)
    split
    · rename_i T' p hc
      rw [hc] at h1; exact h1
    · rename_i T' p e hc
      rw [hc] at h1
      exact inv_drop (inv_release h1) rfl

/-- `Close` keeps the invariant -/
theorem inv_close {S : St} (hI : InvL S.tab S.hs) (id : Nat) :
    InvL (close S id).tab (close S id).hs := by
  unfold close
  split
  · exact hI
  · rename_i p hf
    have hp : p ∈ S.hs := List.mem_of_find?_eq_some hf
    have hpid : p.id = id := by simpa using List.find?_some hf
    -- the same proxies, `p` first
    have hmem : ∀ x, x ∈ p :: S.hs.filter (fun h => h.id ≠ id) ↔ x ∈ S.hs := by
      intro x
      rw [List.mem_cons, List.mem_filter]
      constructor
      · rintro (rfl | ⟨hx, _⟩)
        · exact hp
        · exact hx
      · intro hx
        by_cases e : x.id = id
        · exact Or.inl (id_unique hI.ids hx hp (e.trans hpid.symm))
        · exact Or.inr ⟨hx, decide_eq_true e⟩
    have hI' : InvL S.tab (p :: S.hs.filter (fun h => h.id ≠ id)) := by
      refine hI.of_holders (List.pairwise_cons.mpr ⟨?_, List.Pairwise.filter _ hI.ids⟩) fun x _ => hmem x
      intro h hh e
      exact of_decide_eq_true (List.mem_filter.mp hh).2 (e ▸ hpid)
    exact inv_drop (inv_release hI') rfl

/-- after a successful `Run` the new instance, holding every pair of its configuration, is the first of
    the running ones -/
theorem run_ok_hs {sh : Str} {S : St} (hI : InvL S.tab S.hs) (id : Nat) (c : Cfg)
    (h : (run sh S id c).2 = .ok) : (run sh S id c).1.hs = holderOf id c (triples sh c) :: S.hs := by
  unfold run at h ⊢
  split
  · rename_i hb; rw [if_pos hb] at h; cases h
  · rename_i hfresh
    rw [if_neg hfresh] at h
    obtain ⟨_, h3⟩ := inv_claim (gkey := c.groupKey) (triples sh c) S.tab _ (inv_intro_new hI c hfresh)
    split
    · rename_i T' p hc
      rw [hc] at h3
      have h4 : p = _ := h3 rfl
      rw [h4]; rfl
    · rename_i T' p e hc
      rw [hc] at h; cases h

theorem run_refused_hs (sh : Str) (S : St) (id : Nat) (c : Cfg) (h : (run sh S id c).2 ≠ .ok) :
    (run sh S id c).1.hs = S.hs := by
  unfold run at h ⊢
  split
  · rfl
  · rename_i hfresh
    rw [if_neg hfresh] at h
    split
    · rename_i T' p hc; rw [hc] at h; exact absurd rfl h
    · rfl

theorem mem_close_hs (S : St) (id : Nat) (h : Holder) :
    h ∈ (close S id).hs ↔ h ∈ S.hs ∧ h.id ≠ id := by
  unfold close
  split
  · rename_i hf
    constructor
    · intro hh
      refine ⟨hh, fun e => ?_⟩
      have := List.find?_eq_none.mp hf h hh
      simp [e] at this
    · exact fun hh => hh.1
  · rw [List.mem_filter]; simp

end VhostReg
end Frp
