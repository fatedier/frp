import Frp.Model.HttpRewrite
import Frp.Lemmas.Base64
/-
  Lemmas about Frp/Model/HttpRewrite.lean (core only): the header-map algebra, what each stage of the proxy
  leaves under a key (`get` after the stage, as an equation), the separator lemma behind the pool key.
-/
namespace Frp
namespace HttpRewrite
open Str

/-! ### header map algebra: every operation is known by what `get` reads afterwards -/

section
variable {h : Hdr} {k k' v : Str}

theorem get_filter (p : Str → Bool) :
    get (h.filter (fun e => p e.1)) k = if p k then get h k else [] := by
  induction h with
  | nil => simp [get]
  | cons e t ih =>
    by_cases hk : e.1 = k
    · cases hp : p k <;> simp [get, hk, hp, ih]
    · cases hp : p e.1 <;> simp [get, hk, hp, ih]

theorem get_del : get (del h k) k' = if k' = k then [] else get h k' := by
  rw [del, get_filter (fun x => decide (x ≠ k))]
  by_cases e : k' = k <;> simp [e]

theorem get_delAll {ks : List Str} :
    get (delAll h ks) k = if k ∈ ks then [] else get h k := by
  rw [delAll, get_filter (fun x => !ks.contains x)]
  by_cases e : k ∈ ks <;> simp [e]

theorem get_set : get (set h k v) k' = if k' = k then [v] else get h k' := by
  rw [set, get]
  by_cases e : k' = k
  · simp [e]
  · simp [e, Ne.symm e, get_del]

theorem get_hset :
    get (hset h k v) k' = if canonKey k = k' then [v] else get h k' := by
  rw [hset, get_set]
  by_cases e : k' = canonKey k
  · simp [e]
  · simp [e, Ne.symm e]

theorem get_ite_set {c : Prop} [Decidable c] :
    get (if c then set h k v else h) k' = if c ∧ k' = k then [v] else get h k' := by
  by_cases hc : c <;> simp [hc, get_set]

theorem get_ite_set_ne {c : Prop} [Decidable c] (hne : k' ≠ k) :
    get (if c then set h k v else h) k' = get h k' := by
  rw [get_ite_set, if_neg (fun hc => hne hc.2)]

theorem get_ite_del_ne {c : Prop} [Decidable c] (hne : k' ≠ k) :
    get (if c then del h k else h) k' = get h k' := by
  split
  · rw [get_del, if_neg hne]
  · rfl

end

/-- the value the `range`-and-`Set` loop leaves for key `k`: the last entry whose canonical key is `k` -/
def lastSet : List (Str × Str) → Str → Option Str
  | [], _ => none
  | kv :: t, k =>
    match lastSet t k with
    | some v => some v
    | none => if canonKey kv.1 = k then some kv.2 else none

theorem get_applySets (sets : List (Str × Str)) (h : Hdr) (k : Str) :
    get (applySets h sets) k = match lastSet sets k with | some v => [v] | none => get h k := by
  induction sets generalizing h with
  | nil => rfl
  | cons kv t ih =>
    rw [applySets, List.foldl_cons, ← applySets, ih, lastSet, get_hset]
    cases lastSet t k with
    | some v => rfl
    | none => by_cases e : canonKey kv.1 = k <;> simp [e]

theorem lastSet_none_iff (sets : List (Str × Str)) (k : Str) :
    lastSet sets k = none ↔ ∀ kv ∈ sets, canonKey kv.1 ≠ k := by
  induction sets with
  | nil => simp [lastSet]
  | cons kv t ih =>
    rw [List.forall_mem_cons, ← ih, lastSet]
    cases lastSet t k with
    | some v => simp
    | none => by_cases e : canonKey kv.1 = k <;> simp [e]

theorem lastSet_none_of_not_mem {sets : List (Str × Str)} {k : Str}
    (h : k ∉ sets.map (fun kv => canonKey kv.1)) : lastSet sets k = none :=
  (lastSet_none_iff sets k).2 fun _ hkv hk => h (hk ▸ List.mem_map_of_mem hkv)

theorem lastSet_mem {sets : List (Str × Str)} {k v : Str} (h : lastSet sets k = some v) :
    ∃ kv ∈ sets, canonKey kv.1 = k ∧ kv.2 = v := by
  induction sets with
  | nil => cases h
  | cons kv t ih =>
    rw [lastSet] at h
    cases hl : lastSet t k with
    | some w =>
      rw [hl] at h ih
      obtain ⟨kv', hm, hk⟩ := ih h
      exact ⟨kv', List.mem_cons_of_mem _ hm, hk⟩
    | none =>
      simp only [hl] at h
      split at h
      · exact ⟨kv, List.mem_cons_self, ‹_›, Option.some.inj h⟩
      · cases h

/-- with pairwise distinct canonical keys the loop's result is the unique matching entry -/
theorem lastSet_some_iff (sets : List (Str × Str)) (hnd : (sets.map (fun kv => canonKey kv.1)).Nodup)
    (k v : Str) : lastSet sets k = some v ↔ ∃ kv ∈ sets, canonKey kv.1 = k ∧ kv.2 = v := by
  constructor
  · exact lastSet_mem
  · rintro ⟨kv, hm, hk, hv⟩
    induction sets with
    | nil => cases hm
    | cons kv' t ih =>
      simp only [List.map_cons, List.nodup_cons] at hnd
      rw [lastSet]
      rcases List.mem_cons.1 hm with rfl | hm
      · -- the entry is the head: by `Nodup` nothing later in the loop overwrites it
        rw [lastSet_none_of_not_mem (hk ▸ hnd.1)]
        simp [hk, hv]
      · rw [ih hnd.2 hm]

/-! ### the stages of a request on its way to the backend, key by key -/

/-- the forwarding keys are four different keys -/
theorem fwd_keys_distinct :
    kXFF ≠ kXFH ∧ kXFF ≠ kXFP ∧ kXFH ≠ kXFP ∧ kForwarded ≠ kXFF ∧ kForwarded ≠ kXFH ∧ kForwarded ≠ kXFP := by
  decide +kernel

/-- no forwarding key is one that `transportHdr` treats in a way of its own -/
theorem fwd_key_plain : ∀ k ∈ [kForwarded, kXFF, kXFH, kXFP], k ≠ kUA ∧ k ≠ kAE ∧ k ∉ wireExcluded := by
  decide +kernel

theorem get_preRewrite_fwd (q : Req) {k : Str} (hk : k ∈ [kForwarded, kXFF, kXFH, kXFP]) :
    get (preRewrite q) k = [] := by
  rw [preRewrite, get_delAll, if_pos hk]

/-- the keys the standard proxy may write again after the hop-by-hop removal are themselves hop-by-hop -/
theorem te_connection_upgrade_mem_hopHeaders : kTe ∈ hopHeaders ∧ kConnection ∈ hopHeaders ∧ kUpgrade ∈ hopHeaders := by
  simp [hopHeaders]

theorem get_preRewrite (q : Req) (k : Str) (h1 : k ∉ [kForwarded, kXFF, kXFH, kXFP])
    (h2 : k ∉ connNamed q.hdr ++ hopHeaders) : get (preRewrite q) k = get q.hdr k := by
  have hhop : k ∉ hopHeaders := fun m => h2 (List.mem_append_right _ m)
  have hTe : k ≠ kTe := fun e => hhop (e ▸ te_connection_upgrade_mem_hopHeaders.1)
  have hCo : k ≠ kConnection := fun e => hhop (e ▸ te_connection_upgrade_mem_hopHeaders.2.1)
  have hUp : k ≠ kUpgrade := fun e => hhop (e ▸ te_connection_upgrade_mem_hopHeaders.2.2)
  rw [preRewrite, get_delAll, if_neg h1]
  by_cases hu : upgradeType q.hdr ≠ []
  · rw [if_pos hu, get_set, if_neg hUp, get_set, if_neg hCo, get_ite_set_ne hTe, removeHop, get_delAll, if_neg h2]
  · rw [if_neg hu, get_ite_set_ne hTe, removeHop, get_delAll, if_neg h2]

/-- hop-by-hop keys are gone after the standard proxy's first steps (`Te` and the upgrade pair may be put back) -/
theorem get_preRewrite_hop (q : Req) (k : Str) (hk : k ∈ connNamed q.hdr ++ hopHeaders)
    (hte : k ≠ kTe) (hup : upgradeType q.hdr = []) : get (preRewrite q) k = [] := by
  rw [preRewrite, get_delAll, if_neg (show ¬ upgradeType q.hdr ≠ [] from fun h => h hup), get_ite_set_ne hte,
      removeHop, get_delAll, if_pos hk]
  exact ite_self _

theorem get_setXForwarded (q : Req) (peer : Option Str) (tls : Bool) (h : Hdr) (k : Str) :
    get (setXForwarded q peer tls h) k =
      if k = kXFP then [ofString (if tls then "https" else "http")]
      else if k = kXFH then [q.host]
      else if k = kXFF then
        match peer with
        | some ip => [if get q.hdr kXFF ≠ [] then joinCS (get q.hdr kXFF) ++ 44 :: 32 :: ip else ip]
        | none => []
      else get h k := by
  cases peer <;> simp only [setXForwarded, get_set, get_del]

/-- what `Transport` writes: the keys it never takes from the map are absent, the others (`User-Agent` and
    `Accept-Encoding`, which it may add itself, aside) as in the map -/
theorem get_transportHdr {m : Str} {h : Hdr} {k : Str} (h1 : k ≠ kUA) (h2 : k ≠ kAE) :
    get (transportHdr m h) k = if k ∈ wireExcluded then [] else get h k := by
  rw [transportHdr, get_ite_set_ne h2, get_ite_set_ne h1, get_delAll]
  simp [h1]

/-- the loop over the configured headers, then the `User-Agent` rule of ReverseProxy.ServeHTTP -/
theorem get_uaRule_applySets {base : Hdr} {sets : List (Str × Str)} {k : Str} (hk : k ≠ kUA) :
    get (let h := applySets base sets; if get h kUA = [] then set h kUA [] else h) k =
      match lastSet sets k with
      | some v => [v]
      | none => get base k :=
  (get_ite_set_ne hk).trans (get_applySets sets base k)

theorem get_copyKey (q : Req) (h : Hdr) (k k' : Str) :
    get (copyKey q h k) k' = if k' = k then get q.hdr k' else get h k' := by
  unfold copyKey
  by_cases e : k' = k
  · subst e
    split
    · rename_i he; rw [get_del, if_pos rfl, if_pos rfl, he]
    · simp [get]
  · have e' : ¬ k = k' := fun x => e x.symm
    split <;> simp [get, get_del, e, e']

/-! ### the stages of an answer on its way to the user -/

theorem get_serverFinish {m : Str} {r : Resp} {k : Str} (h1 : k ≠ kDate) (h2 : k ≠ kCT) :
    get (serverFinish m r).hdr k = get r.hdr k := by
  rw [serverFinish, get_ite_set_ne h1, get_ite_set_ne h2, get_ite_del_ne h2]

theorem connNamed_del_connection (h : Hdr) : connNamed (del h kConnection) = [] := by
  simp [connNamed, get_del, fields]

/-- a `Connection: close` the Transport deleted names nothing any more; either way the keys outside the list
    of the answer AS SENT survive the hop-by-hop removal -/
theorem get_removeHop_transportResp (h : Hdr) (k : Str) (hk : k ∉ connNamed h ++ hopHeaders) :
    get (removeHop (transportResp h)) k = get h k := by
  have hhop : k ∉ hopHeaders := fun m => hk (List.mem_append_right _ m)
  have hC : k ≠ kConnection := fun e => hhop (e ▸ te_connection_upgrade_mem_hopHeaders.2.1)
  unfold transportResp
  split
  · rw [removeHop, get_delAll, connNamed_del_connection, List.nil_append, if_neg hhop, get_del, if_neg hC]
  · rw [removeHop, get_delAll, if_neg hk]

/-! ### pool key -/

/-- splitting at the LAST separator is unambiguous: the suffixes have no separator, so neither prefix can end
    inside the other's suffix -/
theorem split_last {a b x y : Str} (ha : (46 : Nat) ∉ a) (hb : (46 : Nat) ∉ b)
    (h : x ++ 46 :: a = y ++ 46 :: b) : x = y ∧ a = b := by
  induction x generalizing y with
  | nil =>
    cases y with
    | nil => exact ⟨rfl, List.tail_eq_of_cons_eq h⟩
    | cons d u => exact absurd (List.tail_eq_of_cons_eq h ▸ List.mem_append_right u List.mem_cons_self) ha
  | cons c t ih =>
    cases y with
    | nil => exact absurd (List.tail_eq_of_cons_eq h.symm ▸ List.mem_append_right t List.mem_cons_self) hb
    | cons d u =>
      obtain ⟨hcd, ht⟩ := List.cons.inj h
      exact ⟨by rw [hcd, (ih ht).1], (ih ht).2⟩

end HttpRewrite
end Frp
