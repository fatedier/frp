import Frp.Model.Limit
/-! Lemmas about Frp/Model/Limit.lean (core only): `limit.Writer.Write`'s chunk loop against a sink with a capacity and
    against scripted sinks, `limit.Reader.Read` draining a stream, wrapper stacks over scripted sources (the io.Reader
    contract), and the token bucket. -/
namespace Frp
namespace Limit

/-- `end := len(p); if b < len(p) { end = b }`, and `if b < len(p) { p = p[:b] }` of the reader -/
theorem ite_lt_eq_min (b n : Nat) : (if b < n then b else n) = min b n := by split <;> omega

theorem readerAsk_eq_min (b k : Nat) : readerAsk b k = min b k := ite_lt_eq_min b k

/-- a request of at most one burst is admissible: `WaitN` cannot refuse it -/
theorem waitOk_of_le (inf : Bool) {b n : Nat} (h : n ≤ b) : waitOk inf b n = true := by
  simp only [waitOk, Bool.or_eq_true, decide_eq_true_eq]; exact Or.inr h

/-! ### `Writer.Write` with the limiter's admission check and a failing sink -/

/-- everything one `Write` does, for every sink capacity -/
structure WSpec (b room : Nat) (p : C01Bytes) (o : WOut) : Prop where
  noWait : o.err ≠ .wait
  n_eq : o.n = min room p.length
  ok_iff : o.err = .none ↔ p.length ≤ room
  pre : o.offered.flatten <+: p
  n_le : o.n ≤ o.offered.flatten.length
  reqs : o.reqs = o.offered.map List.length
  bounds : ∀ c ∈ o.offered, 0 < c.length ∧ c.length ≤ b
  room_eq : o.room = room - o.n

section capacitySink
-- the limiter (`inf`: its rate is `rate.Inf`; `b`: its burst); explicit first arguments, in this order, of every lemma below
variable (inf : Bool) (b : Nat)

theorem writeAux_nil (fuel room : Nat) :
    writeAux inf b fuel room [] = { n := 0, err := .none, reqs := [], offered := [], room := room } := by
  cases fuel <;> rfl

/-- one iteration on a non-empty `p`; `WaitN` is asked for one chunk, at most a burst, and lets it pass -/
theorem writeAux_succ (f room : Nat) (p : C01Bytes) (hp : 0 < p.length) :
    writeAux inf b (f + 1) room p =
      let e := min b p.length
      if e ≤ room then
        let o := writeAux inf b f (room - e) (p.drop e)
        { n := e + o.n, err := o.err, reqs := e :: o.reqs, offered := p.take e :: o.offered, room := o.room }
      else { n := room, err := .sink, reqs := [e], offered := [p.take e], room := 0 } := by
  simp only [writeAux, Nat.ne_of_gt hp, if_false, ite_lt_eq_min, waitOk_of_le inf (Nat.min_le_left _ _), if_true]

theorem WSpec.nil (room : Nat) : WSpec b room [] { n := 0, err := .none, reqs := [], offered := [], room := room } :=
  ⟨nofun, (Nat.min_zero _).symm, by simp, List.prefix_refl _, Nat.le_refl _, rfl, nofun, rfl⟩

theorem writeAux_spec (hb : 0 < b) :
    ∀ (fuel room : Nat) (p : C01Bytes), p.length ≤ fuel → WSpec b room p (writeAux inf b fuel room p) := by
  intro fuel
  induction fuel with
  | zero =>
    intro room p hp
    rw [List.eq_nil_of_length_eq_zero (Nat.le_zero.mp hp), writeAux_nil]
    exact .nil b room
  | succ f ih =>
    intro room p hp
    rcases Nat.eq_zero_or_pos p.length with h0 | h0
    · rw [List.eq_nil_of_length_eq_zero h0, writeAux_nil]
      exact .nil b room
    rw [writeAux_succ inf b f room p h0]
    generalize he : min b p.length = e
    obtain ⟨he0, heb, hel⟩ : 0 < e ∧ e ≤ b ∧ e ≤ p.length := by omega
    clear he
    have htl : (p.take e).length = e := by rw [List.length_take, Nat.min_eq_left hel]
    by_cases hr : e ≤ room
    · have s := ih (room - e) (p.drop e) (by rw [List.length_drop]; omega)
      simp only [hr, if_true]
      generalize writeAux inf b f (room - e) (p.drop e) = o at s
      have h1 := s.n_eq
      rw [List.length_drop] at h1
      constructor <;> dsimp only
      · exact s.noWait
      · omega
      · rw [s.ok_iff, List.length_drop]; omega
      · have := (List.prefix_append_right_inj (p.take e)).mpr s.pre
        rwa [List.take_append_drop] at this
      · rw [List.flatten_cons, List.length_append, htl]; exact Nat.add_le_add_left s.n_le e
      · rw [List.map_cons, htl, s.reqs]
      · exact List.forall_mem_cons.mpr ⟨htl.symm ▸ ⟨he0, heb⟩, s.bounds⟩
      · rw [s.room_eq, Nat.sub_sub]
    · have hr' : room < e := Nat.lt_of_not_le hr
      simp only [hr, if_false]
      constructor <;> dsimp only
      · nofun
      · exact (Nat.min_eq_left (Nat.le_trans (Nat.le_of_lt hr') hel)).symm
      · exact ⟨nofun, fun h => absurd (Nat.le_trans hel h) hr⟩
      · rw [List.flatten_cons, List.flatten_nil, List.append_nil]; exact List.take_prefix _ _
      · rw [List.flatten_cons, List.flatten_nil, List.append_nil, htl]; exact Nat.le_of_lt hr'
      · rw [List.map_cons, List.map_nil, htl]
      · exact List.forall_mem_singleton.mpr (htl.symm ▸ ⟨he0, heb⟩)
      · exact (Nat.sub_self room).symm

theorem write_spec (hb : 0 < b) (room : Nat) (p : C01Bytes) :
    WSpec b room p (write inf b room p) := writeAux_spec inf b hb p.length room p (Nat.le_refl _)

/-- the bytes the sink accepted are exactly the first `n` bytes of `p` -/
theorem write_accepted (hb : 0 < b) (room : Nat) (p : C01Bytes) :
    (write inf b room p).accepted = p.take (write inf b room p).n := by
  have s := write_spec inf b hb room p
  rw [WOut.accepted, List.prefix_iff_eq_take.mp s.pre, List.take_take, Nat.min_eq_left s.n_le]

/-! ### the chunk run of `chunks` is what a sink with room is offered -/

theorem chunksAux_succ (f : Nat) (p : C01Bytes) (hp : 0 < p.length) :
    chunksAux b (f + 1) p = p.take (min b p.length) :: chunksAux b f (p.drop (min b p.length)) := by
  simp only [chunksAux, Nat.ne_of_gt hp, if_false, ite_lt_eq_min]

theorem writeAux_offered : ∀ (fuel room : Nat) (p : C01Bytes), p.length ≤ room →
    (writeAux inf b fuel room p).offered = chunksAux b fuel p := by
  intro fuel
  induction fuel with
  | zero => intro room p _; rfl
  | succ f ih =>
    intro room p hp
    rcases Nat.eq_zero_or_pos p.length with h0 | h0
    · rw [List.eq_nil_of_length_eq_zero h0, writeAux_nil]; rfl
    have he : min b p.length ≤ room := by omega
    rw [writeAux_succ inf b f room p h0, chunksAux_succ b f p h0]
    simp only [he, if_true]
    rw [ih _ _ (by rw [List.length_drop]; omega)]

theorem chunks_eq_offered (p : C01Bytes) : chunks b p = (write false b p.length p).offered :=
  (writeAux_offered false b p.length p.length p (Nat.le_refl _)).symm

theorem chunks_flatten (hb : 0 < b) (p : C01Bytes) : (chunks b p).flatten = p := by
  have s := write_spec false b hb p.length p
  rw [chunks_eq_offered]
  exact s.pre.eq_of_length_le (by have := s.n_le; have := s.n_eq; omega)

theorem writerN_eq (hb : 0 < b) (p : C01Bytes) : writerN b p = p.length := by
  rw [writerN, ← List.length_flatten, chunks_flatten b hb p]

end capacitySink

/-! ### `Reader.Read` with the limiter's admission check, draining a stream -/

/-- what every `Read` of a drain satisfies -/
def ROutOk (b plen : Nat) (r : ROut) : Prop :=
  r.err ≠ .wait ∧ r.got.length ≤ min plen b ∧
    (r.err = .none → r.req = some r.got.length ∧ 0 < r.got.length) ∧ (r.err = .eof → r.got = [] ∧ r.req = none)

/-- a `Read` on a stream that is not exhausted hands out its next `k ≤ burst` bytes; `WaitN` lets them pass -/
theorem readOnce_pos (inf : Bool) (b plen per : Nat) (src : C01Bytes) (h0 : 0 < src.length) :
    readOnce inf b plen per src =
      let k := min (min b plen) per
      ({ got := src.take k, req := some (src.take k).length, err := .none }, src.drop k) := by
  have hw : waitOk inf b (src.take (min (min b plen) per)).length = true :=
    waitOk_of_le inf (by rw [List.length_take]; omega)
  simp only [readOnce, Nat.ne_of_gt h0, if_false, readerAsk_eq_min, hw, if_true]

theorem readAll_spec (inf : Bool) (b plen per : Nat) (hb : 0 < b) (hp : 0 < plen) (hper : 0 < per) :
    ∀ (fuel : Nat) (src : C01Bytes), src.length < fuel →
      ((readAll inf b plen per fuel src).map (·.got)).flatten = src ∧
      (∀ r ∈ readAll inf b plen per fuel src, ROutOk b plen r) ∧
      (∃ pre, readAll inf b plen per fuel src = pre ++ [{ got := [], req := none, err := .eof }] ∧
        ∀ r ∈ pre, r.err = .none) := by
  intro fuel
  induction fuel with
  | zero => intro src h; omega
  | succ f ih =>
    intro src hlen
    rcases Nat.eq_zero_or_pos src.length with h0 | h0
    · rw [List.eq_nil_of_length_eq_zero h0]
      exact ⟨rfl, List.forall_mem_singleton.mpr ⟨nofun, Nat.zero_le _, nofun, fun _ => ⟨rfl, rfl⟩⟩, [], rfl, nofun⟩
    · simp only [readAll, readOnce_pos inf b plen per src h0, if_true]
      generalize hk : min (min b plen) per = k
      obtain ⟨hk0, hkb⟩ : 0 < k ∧ k ≤ min plen b := by omega
      clear hk
      have hgl : (src.take k).length ≤ k ∧ 0 < (src.take k).length := by rw [List.length_take]; omega
      obtain ⟨i1, i2, pre, i3, i4⟩ := ih (src.drop k) (by rw [List.length_drop]; omega)
      refine ⟨?_, ?_, _ :: pre, by rw [i3]; rfl, List.forall_mem_cons.mpr ⟨rfl, i4⟩⟩
      · rw [List.map_cons, List.flatten_cons, i1, List.take_append_drop]
      · exact List.forall_mem_cons.mpr ⟨⟨nofun, Nat.le_trans hgl.1 hkb, fun _ => ⟨rfl, hgl.2⟩, nofun⟩, i2⟩

/-! ### the io.Reader contract: wrapper stacks over scripted sources -/

theorem srcFuel_pos : ∀ (src : List Seg), 0 < srcFuel src
  | [] => Nat.one_pos
  | _ :: _ => by simp only [srcFuel]; omega

theorem finalErr_ne_none : ∀ (src : List Seg), finalErr src ≠ .none
  | [] => nofun
  | s :: rest => by
    simp only [finalErr]
    split
    · exact finalErr_ne_none rest
    · assumption

theorem PErr.ofS_eq_none {e : SErr} : PErr.ofS e = .none ↔ e = .none := by cases e <;> simp [PErr.ofS]

theorem PErr.ofS_ne_wait (e : SErr) : PErr.ofS e ≠ .wait := by cases e <;> simp [PErr.ofS]

theorem srcRead_len (k : Nat) (src : List Seg) : (srcRead k src).1.1.length ≤ k := by
  cases src with
  | nil => exact Nat.zero_le k
  | cons s rest =>
    simp only [srcRead]
    split
    · assumption
    · rw [List.length_take]; omega

/-- one read of the source with a non-empty buffer: what it hands out is the next part of `delivered`, and either the
    source goes on (strictly smaller) or this was its final error -/
theorem srcRead_step {k : Nat} (hk : 0 < k) {src rest : List Seg} {d : C01Bytes} {e : SErr}
    (h : srcRead k src = ((d, e), rest)) :
    (e = .none → delivered src = d ++ delivered rest ∧ finalErr src = finalErr rest ∧ srcFuel rest < srcFuel src) ∧
    (e ≠ .none → delivered src = d ∧ finalErr src = e) := by
  cases src with
  | nil => cases h; exact ⟨nofun, fun _ => ⟨rfl, rfl⟩⟩
  | cons s tl =>
    simp only [srcRead] at h
    split at h <;> cases h
    · simp only [delivered, finalErr, srcFuel]
      refine ⟨fun he => ?_, fun he => ?_⟩
      · simp only [he, if_true]; exact ⟨trivial, trivial, by omega⟩
      · simp only [he, if_false]; exact ⟨trivial, trivial⟩
    · refine ⟨fun _ => ?_, fun hne => absurd rfl hne⟩
      simp only [delivered, finalErr, srcFuel, List.length_drop]
      split
      · rw [← List.append_assoc, List.take_append_drop]; exact ⟨rfl, trivial, by omega⟩
      · rw [List.take_append_drop]; exact ⟨rfl, trivial, by omega⟩

/-- the buffer size that reaches the source through a wrapper stack: every limiter truncates to its burst -/
def effK : List RW → Nat → Nat
  | [], k => k
  | .limit _ b :: ws, k => effK ws (readerAsk b k)
  | .pass :: ws, k => effK ws k
  | .stats :: ws, k => effK ws k

/-- number of limiters in a stack -/
def nLim : List RW → Nat
  | [] => 0
  | .limit _ _ :: ws => nLim ws + 1
  | .pass :: ws => nLim ws
  | .stats :: ws => nLim ws

/-- every limiter of the stack has a positive burst (frp builds none with burst 0) -/
def burstsPos : List RW → Bool
  | [] => true
  | .limit _ b :: ws => decide (0 < b) && burstsPos ws
  | .pass :: ws => burstsPos ws
  | .stats :: ws => burstsPos ws

theorem effK_le : ∀ (ws : List RW) (k : Nat), effK ws k ≤ k
  | [], k => Nat.le_refl k
  | .limit _ b :: ws, k => Nat.le_trans (effK_le ws _) (readerAsk_eq_min b k ▸ Nat.min_le_right b k)
  | .pass :: ws, k | .stats :: ws, k => effK_le ws k

theorem effK_le_burst : ∀ (ws : List RW) (k : Nat) (inf : Bool) (b : Nat), RW.limit inf b ∈ ws → effK ws k ≤ b
  | .limit _ b' :: ws, k, inf, b, h => by
    rcases List.mem_cons.mp h with h | h
    · obtain ⟨_, rfl⟩ := RW.limit.inj h
      exact Nat.le_trans (effK_le ws _) (readerAsk_eq_min b k ▸ Nat.min_le_left b k)
    · exact effK_le_burst ws _ inf b h
  | .pass :: ws, k, inf, b, h | .stats :: ws, k, inf, b, h =>
    effK_le_burst ws k inf b ((List.mem_cons.mp h).resolve_left nofun)

theorem effK_pos : ∀ (ws : List RW) (k : Nat), burstsPos ws = true → 0 < k → 0 < effK ws k
  | [], _, _, hk => hk
  | .limit _ b :: ws, k, hb, hk => by
    simp only [burstsPos, Bool.and_eq_true, decide_eq_true_eq] at hb
    exact effK_pos ws _ hb.2 (by rw [readerAsk_eq_min]; omega)
  | .pass :: ws, k, hb, hk | .stats :: ws, k, hb, hk => effK_pos ws k hb hk

/-- the tokens every limiter of a stack is asked for by one `Read` that got `(d, e)` from the source: the bytes, unless
    the read brought an error and nothing else -/
def reqsOf (n : Nat) (d : C01Bytes) (e : SErr) : List Nat :=
  if e = SErr.none ∨ d.length ≠ 0 then List.replicate n d.length else []

theorem reqsOf_zero (d : C01Bytes) (e : SErr) : reqsOf 0 d e = [] := by
  unfold reqsOf; split <;> rfl

theorem reqsOf_sum (n : Nat) (d : C01Bytes) (e : SErr) : (reqsOf n d e).sum = n * d.length := by
  simp only [reqsOf]
  split
  · exact List.sum_replicate_nat
  · rename_i h
    rw [Decidable.not_not.mp (not_or.mp h).2]; rfl

/-- a wrapper stack reads the source with the effective buffer and hands the `(n, err)` pair on UNCHANGED; each of its
    limiters is asked for exactly the bytes of the read, with or without an error (not at all for `(0, err)`);
    no `WaitN` is refused -/
theorem readW_eq : ∀ (ws : List RW) (k : Nat) (src : List Seg), burstsPos ws = true →
    readW ws k src =
      let x := srcRead (effK ws k) src
      ({ got := x.1.1, err := PErr.ofS x.1.2, reqs := reqsOf (nLim ws) x.1.1 x.1.2 }, x.2)
  | [], k, src, _ => by
    simp only [readW, effK, nLim, reqsOf_zero]
  | .pass :: ws, k, src, hb | .stats :: ws, k, src, hb => readW_eq ws k src hb
  | .limit inf b :: ws, k, src, hb => by
    simp only [burstsPos, Bool.and_eq_true, decide_eq_true_eq] at hb
    have hlen := srcRead_len (effK ws (readerAsk b k)) src
    have hle := effK_le_burst (.limit inf b :: ws) k inf b List.mem_cons_self
    have hw := waitOk_of_le inf (Nat.le_trans hlen hle)
    -- `Reader.Read` on the pair `(d, e)` of the reader below: with `len(d) ≤ burst` all three branches hand it on
    simp only [readW, effK, nLim, readW_eq ws (readerAsk b k) src hb.2, hw, if_true, PErr.ofS_eq_none, reqsOf,
      List.replicate_succ']
    generalize srcRead (effK ws (readerAsk b k)) src = x
    by_cases he : x.1.2 = .none
    · simp only [he, if_true, true_or, PErr.ofS]
    · by_cases h0 : x.1.1.length = 0 <;> simp [he, h0]

/-- what every `Read` of a drain through a wrapper stack satisfies -/
def RResOk (ws : List RW) (plen : Nat) (r : RRes) : Prop :=
  r.err ≠ .wait ∧ r.got.length ≤ effK ws plen ∧
    (r.err = .none → r.reqs = List.replicate (nLim ws) r.got.length) ∧ r.reqs.sum = nLim ws * r.got.length

section drain
-- the wrapper stack and the caller's buffer size; explicit first arguments, in this order
variable (ws : List RW) (plen : Nat)

theorem rresOk_read (d : C01Bytes) (e : SErr) (hd : d.length ≤ effK ws plen) :
    RResOk ws plen { got := d, err := PErr.ofS e, reqs := reqsOf (nLim ws) d e } :=
  ⟨PErr.ofS_ne_wait e, hd, fun h => if_pos (Or.inl (PErr.ofS_eq_none.mp h)), reqsOf_sum _ _ _⟩

theorem drainW_succ (f : Nat) (src : List Seg) (hb : burstsPos ws = true) :
    drainW ws plen (f + 1) src =
      let x := srcRead (effK ws plen) src
      let r : RRes := { got := x.1.1, err := PErr.ofS x.1.2, reqs := reqsOf (nLim ws) x.1.1 x.1.2 }
      if x.1.2 = .none then r :: drainW ws plen f x.2 else [r] := by
  simp only [drainW, readW_eq ws plen src hb, PErr.ofS_eq_none]

theorem drainW_spec (hb : burstsPos ws = true) (hp : 0 < plen) :
    ∀ (fuel : Nat) (src : List Seg), srcFuel src ≤ fuel →
      ((drainW ws plen fuel src).map (·.got)).flatten = delivered src ∧
      (∀ r ∈ drainW ws plen fuel src, RResOk ws plen r) ∧
      (∃ pre last, drainW ws plen fuel src = pre ++ [last] ∧ (∀ r ∈ pre, r.err = .none) ∧
        last.err = PErr.ofS (finalErr src)) := by
  intro fuel
  induction fuel with
  | zero => intro src h; have := srcFuel_pos src; omega
  | succ f ih =>
    intro src hfuel
    have hok := rresOk_read ws plen _ (srcRead (effK ws plen) src).1.2 (srcRead_len (effK ws plen) src)
    rw [drainW_succ ws plen f src hb]
    rcases hx : srcRead (effK ws plen) src with ⟨⟨d, e⟩, rest⟩
    have hstep := srcRead_step (effK_pos ws plen hb hp) hx
    rw [hx] at hok
    dsimp only at hok ⊢
    by_cases he : e = .none
    · obtain ⟨h1, h2, h3⟩ := hstep.1 he
      obtain ⟨i1, i2, pre, last, i3, i4, i5⟩ := ih rest (by omega)
      rw [if_pos he]
      refine ⟨?_, ?_, _ :: pre, last, by rw [i3]; rfl, ?_, by rw [i5, h2]⟩
      · rw [List.map_cons, List.flatten_cons, i1, h1]
      · exact List.forall_mem_cons.mpr ⟨hok, i2⟩
      · exact List.forall_mem_cons.mpr ⟨PErr.ofS_eq_none.mpr he, i4⟩
    · obtain ⟨h1, h2⟩ := hstep.2 he
      rw [if_neg he]
      exact ⟨by rw [h1]; exact List.append_nil d, List.forall_mem_singleton.mpr hok, [], _, rfl, nofun, by rw [h2]⟩

end drain

/-! ### the io.Writer contract: `Writer.Write` over scripted sinks -/

/-- no answer of the script breaks the io.Writer contract (short count ⇒ error) -/
def sinkOk (ss : List SinkResp) : Bool := ss.all fun s => !s.lax

/-- everything one `Write` over a contract-abiding scripted sink does -/
structure WSSpec (p : C01Bytes) (x : WRes × List SinkResp) : Prop where
  noWait : x.1.err ≠ .wait
  n_eq : x.1.n = x.1.took.sum
  n_le : x.1.n ≤ p.length
  acc : x.1.accepted = p.take x.1.n
  ok_full : x.1.err = .none → x.1.n = p.length
  rest_ok : sinkOk x.2 = true

theorem sinkWrite_spec (c : C01Bytes) (ss : List SinkResp) (h : sinkOk ss = true) :
    (sinkWrite c ss).1.1 ≤ c.length ∧ ((sinkWrite c ss).1.2 = false → (sinkWrite c ss).1.1 = c.length) ∧
      sinkOk (sinkWrite c ss).2 = true := by
  cases ss with
  | nil => exact ⟨Nat.le_refl _, fun _ => rfl, rfl⟩
  | cons s rest =>
    simp only [sinkOk, List.all_cons, Bool.and_eq_true, Bool.not_eq_true'] at h
    simp only [sinkWrite, h.1, Bool.not_false, Bool.and_true, Bool.or_eq_false_iff, decide_eq_false_iff_not]
    exact ⟨Nat.min_le_right _ _, fun hh => by omega, h.2⟩

section scriptedSink
-- the limiter, as in `capacitySink`
variable (inf : Bool) (b : Nat)

theorem writeSAux_nil (fuel : Nat) (ss : List SinkResp) :
    writeSAux inf b fuel ss [] = ({ n := 0, err := .none, reqs := [], offered := [], took := [] }, ss) := by
  cases fuel <;> rfl

theorem writeSAux_succ (f : Nat) (ss : List SinkResp) (p : C01Bytes) (hp : 0 < p.length) :
    writeSAux inf b (f + 1) ss p =
      let e := min b p.length
      let x := sinkWrite (p.take e) ss
      if x.1.2 then ({ n := x.1.1, err := .sink, reqs := [e], offered := [p.take e], took := [x.1.1] }, x.2)
      else
        let o := writeSAux inf b f x.2 (p.drop e)
        ({ n := x.1.1 + o.1.n, err := o.1.err, reqs := e :: o.1.reqs, offered := p.take e :: o.1.offered,
           took := x.1.1 :: o.1.took }, o.2) := by
  simp only [writeSAux, Nat.ne_of_gt hp, if_false, ite_lt_eq_min, waitOk_of_le inf (Nat.min_le_left _ _), if_true]

theorem WSSpec.nil {ss : List SinkResp} (hs : sinkOk ss = true) :
    WSSpec [] ({ n := 0, err := .none, reqs := [], offered := [], took := [] }, ss) :=
  ⟨nofun, rfl, Nat.le_refl _, rfl, fun _ => rfl, hs⟩

theorem writeSAux_spec (hb : 0 < b) :
    ∀ (fuel : Nat) (ss : List SinkResp) (p : C01Bytes), p.length ≤ fuel → sinkOk ss = true →
      WSSpec p (writeSAux inf b fuel ss p) := by
  intro fuel
  induction fuel with
  | zero =>
    intro ss p hp hs
    rw [List.eq_nil_of_length_eq_zero (Nat.le_zero.mp hp), writeSAux_nil]
    exact .nil hs
  | succ f ih =>
    intro ss p hp hs
    rcases Nat.eq_zero_or_pos p.length with h0 | h0
    · rw [List.eq_nil_of_length_eq_zero h0, writeSAux_nil]
      exact .nil hs
    rw [writeSAux_succ inf b f ss p h0]
    dsimp only
    generalize he : min b p.length = e
    obtain ⟨he0, hel⟩ : 0 < e ∧ e ≤ p.length := by omega
    clear he
    have htl : (p.take e).length = e := by rw [List.length_take, Nat.min_eq_left hel]
    obtain ⟨hnn, hfull, hs'⟩ := sinkWrite_spec (p.take e) ss hs
    rw [htl] at hnn hfull
    generalize sinkWrite (p.take e) ss = x at hnn hfull hs'
    obtain ⟨⟨nn, flag⟩, ss'⟩ := x
    dsimp only at hnn hfull hs' ⊢
    cases flag with
    | true =>
      rw [if_pos rfl]
      refine ⟨nofun, (Nat.add_zero nn).symm, Nat.le_trans hnn hel, ?_, nofun, hs'⟩
      show (p.take e).take nn ++ [] = p.take nn
      rw [List.append_nil, List.take_take, Nat.min_eq_left hnn]
    | false =>
      obtain rfl : nn = e := hfull rfl
      have s := ih ss' (p.drop nn) (by rw [List.length_drop]; omega) hs'
      rw [if_neg Bool.false_ne_true]
      generalize writeSAux inf b f ss' (p.drop nn) = o at s
      have h1 := s.n_le
      rw [List.length_drop] at h1
      refine ⟨s.noWait, ?_, (by omega : nn + o.1.n ≤ p.length), ?_, fun h => ?_, s.rest_ok⟩
      · show nn + o.1.n = nn + o.1.took.sum
        rw [s.n_eq]
      · show (p.take nn).take nn ++ o.1.accepted = p.take (nn + o.1.n)
        rw [s.acc, List.take_take, Nat.min_self, List.take_add]
      · show nn + o.1.n = p.length
        rw [s.ok_full h, List.length_drop]; omega

/-- every `WaitN` of `Writer.Write` asks for exactly the bytes of the sink write that follows it -/
theorem writeSAux_reqs :
    ∀ (fuel : Nat) (ss : List SinkResp) (p : C01Bytes),
      (writeSAux inf b fuel ss p).1.reqs = (writeSAux inf b fuel ss p).1.offered.map List.length := by
  intro fuel
  induction fuel with
  | zero => intro ss p; rfl
  | succ f ih =>
    intro ss p
    rcases Nat.eq_zero_or_pos p.length with h0 | h0
    · rw [List.eq_nil_of_length_eq_zero h0, writeSAux_nil]; rfl
    have htl : (p.take (min b p.length)).length = min b p.length := by rw [List.length_take]; omega
    rw [writeSAux_succ inf b f ss p h0]
    dsimp only
    split
    · rw [List.map_cons, htl]; rfl
    · rw [List.map_cons, htl, ih]

end scriptedSink

/-- the limiter `writeW` uses (the first of the stack) has a positive burst -/
def limPos (ws : List RW) : Bool :=
  match limOf ws with
  | some (_, b) => decide (0 < b)
  | none => true

theorem writeW_spec (ws : List RW) (hb : limPos ws = true) (ss : List SinkResp) (p : C01Bytes) (hs : sinkOk ss = true) :
    WSSpec p (writeW ws ss p) := by
  simp only [limPos] at hb
  simp only [writeW]
  cases hl : limOf ws with
  | some ib =>
    rw [hl] at hb
    exact writeSAux_spec ib.1 ib.2 (of_decide_eq_true hb) p.length ss p (Nat.le_refl _) hs
  | none =>
    obtain ⟨hnn, hfull, hs'⟩ := sinkWrite_spec p ss hs
    generalize sinkWrite p ss = x at hnn hfull hs'
    obtain ⟨⟨nn, flag⟩, ss'⟩ := x
    refine ⟨?_, (Nat.add_zero nn).symm, hnn, List.append_nil _, ?_, hs'⟩
    · cases flag <;> nofun
    · cases flag with
      | true => nofun
      | false => exact fun _ => hfull rfl

/-! ### token bucket -/

section bucket
-- `r` tokens per tick, capacity `B`; explicit first arguments, in this order
variable (r B : Nat)

theorem lastT_ge : ∀ (evs : List (Nat × Nat)) (L t : Nat), valid r B L t evs = true → t ≤ lastT t evs
  | [], _, _, _ => Nat.le_refl _
  | (g, n) :: rest, L, t, h => by
    simp only [valid, Bool.and_eq_true, decide_eq_true_eq] at h
    exact Nat.le_trans h.1 (lastT_ge rest _ g h.2.2)

/-- from `L` tokens at tick `t`, the grants of a valid history sum to at most
    `L + r·(last tick − t)` -/
theorem segment_bound : ∀ (evs : List (Nat × Nat)) (L t : Nat),
    valid r B L t evs = true → sumN evs ≤ L + r * (lastT t evs - t)
  | [], _, _, _ => Nat.zero_le _
  | (g, n) :: rest, L, t, h => by
    simp only [valid, Bool.and_eq_true, decide_eq_true_eq] at h
    obtain ⟨htg, hn, hrest⟩ := h
    have hlast := lastT_ge r B rest _ _ hrest
    have ih := segment_bound rest _ _ hrest
    -- the refill over `[t, last]` is the refill up to this grant plus the refill after it
    have hsplit : r * (lastT g rest - t) = r * (g - t) + r * (lastT g rest - g) := by
      rw [← Nat.mul_add]
      congr 1
      omega
    simp only [sumN, lastT]
    omega

theorem valid_of_append_left : ∀ (a b : List (Nat × Nat)) (L t : Nat),
    valid r B L t (a ++ b) = true → valid r B L t a = true
  | [], _, _, _, _ => rfl
  | (g, n) :: rest, b, L, t, h => by
    simp only [List.cons_append, valid, Bool.and_eq_true, decide_eq_true_eq] at h ⊢
    exact ⟨h.1, h.2.1, valid_of_append_left rest b _ _ h.2.2⟩

theorem valid_of_append_right : ∀ (a b : List (Nat × Nat)) (L t : Nat),
    valid r B L t (a ++ b) = true → ∃ L' t', valid r B L' t' b = true
  | [], _, L, t, h => ⟨L, t, h⟩
  | (g, n) :: rest, b, L, t, h => by
    simp only [List.cons_append, valid, Bool.and_eq_true] at h
    exact valid_of_append_right rest b _ _ h.2.2

end bucket

end Limit
end Frp
