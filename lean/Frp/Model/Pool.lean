/-
  Model of the per-session work-connection pool of frps and of the vhost hand-off (C11).

    server/control.go    NewControl (poolCount, workConnCh capacity), Start (advance ReqWorkConn),
                         RegisterWorkConn (non-blocking send, recover), GetWorkConn (take | request; wait | timeout),
                         RegisterProxy / CloseProxy (the session's proxy map over its whole history: no request),
                         worker (close pool, drain, close proxies, done)
    server/service.go    RegisterWorkConn (GetByID, plugin, VerifyNewWorkConn), handleConnection (close on error),
                         RegisterControl (Del after WaitClosed)
    server/proxy/proxy.go GetWorkConnFromPool (retry loop, shadowed err), handleUserTCPConnection
    pkg/util/vhost/vhost.go Muxer.handle / Listener.Accept / Listener.Close   (namespace Handoff below)
    pkg/util/net/listener.go InternalListener PutConn / Accept / Close; server/visitor/visitor.go NewConn /
                         CloseListener; the accept loop of startCommonTCPListenersHandler   (namespace VListen below)

  ONE small-step transition system per session.  A label is one atomic action of the Go code (one
  channel operation, one critical section, or the stretch between two gate points).  `step` returns
  `none` when the label is not enabled.  The code is modelled AS IT IS (`pinned`); the proposed
  repairs are the switches of `Fix` (`repaired`); `current` is what the correspondence engine runs.

  Time: `tick` is one unit of `UserConnTimeout`'s clock.  Only the blocking wait of GetWorkConn takes
  time: `tick` is not enabled while some handler is between two non-blocking actions (`accepted`,
  `holding`) or while a waiting handler's timer has run out (the timeout is then due).
-/
namespace Frp
namespace Pool

/-! ### NewControl / Start arithmetic (Go `int`) -/

/-- `poolCount := loginMsg.PoolCount; if poolCount > MaxPoolCount { poolCount = MaxPoolCount }` -/
def newPoolCount (client serverMax : Int) : Int := if client > serverMax then serverMax else client

/-- proposed repair: negative values are clamped (`if poolCount < 0 { poolCount = 0 }`) -/
def clampPoolCount (clamp : Bool) (pc : Int) : Int := if clamp ∧ pc < 0 then 0 else pc

/-- `make(chan net.Conn, poolCount+10)` panics for a negative size; the goroutine handling the login has no recover -/
def newControlPanics (pc : Int) : Bool := decide (pc + 10 < 0)

/-- capacity of `workConnCh` -/
def capOf (pc : Int) : Nat := (pc + 10).toNat

/-- `for i := 0; i < ctl.poolCount; i++ { Send(ReqWorkConn) }` -/
def advance (pc : Int) : Nat := pc.toNat

/-- `for i := 0; i < pxy.poolCount+1; i++` in GetWorkConnFromPool -/
def tries (pc : Int) : Nat := (pc + 1).toNat

/-! ### association tables (newest binding first) -/

structure Tbl (α : Type) where
  l : List (Nat × α) := []
deriving Repr

def Tbl.get {α} (t : Tbl α) (k : Nat) : Option α := t.l.lookup k
def Tbl.set {α} (t : Tbl α) (k : Nat) (v : α) : Tbl α := ⟨(k, v) :: t.l⟩

theorem Tbl.get_set {α} (t : Tbl α) (k k' : Nat) (v : α) :
    (t.set k v).get k' = if k' = k then some v else t.get k' := by
  unfold Tbl.get Tbl.set
  by_cases h : k' = k
  · subst h; simp [List.lookup]
  · have : (k' == k) = false := by simp [h]
    simp [List.lookup, this, h]

theorem Tbl.get_empty {α} (k : Nat) : (({} : Tbl α)).get k = none := rfl

/-! ### states -/

/-- a work connection, seen from frps -/
inductive W
  | dialled            -- NewWorkConn read by handleConnection
  | lookedUp           -- session found, plugin + verifier passed
  | pooled             -- sitting in workConnCh
  | taken (u : Nat)    -- received by the handler of user connection u
  | closed
  | limbo              -- open, in no channel, held by no goroutine
deriving DecidableEq, Repr

/-- a user connection (handleUserTCPConnection); `k` = index of the GetWorkConnFromPool loop -/
inductive U
  | accepted (k : Nat)            -- about to call getWorkConnFn
  | waiting (k since : Nat)       -- ReqWorkConn sent, in the second select
  | holding (k c : Nat)           -- got c, about to write StartWorkConn
  | bridged (c : Nat)             -- libio.Join(workConn, userConn)
  | closed
deriving DecidableEq, Repr

/-- proposed repairs (hooks/C11-fix-*.patch); all off at the pinned tree -/
structure Fix where
  closeOnClosedPool : Bool    -- RegisterWorkConn returns an error when the pool has been closed ⇒ the caller closes
  clampPoolCount : Bool       -- NewControl clamps a negative poolCount to 0
  closeOnFailedHandoff : Bool -- Muxer.handle closes the connection whose hand-off send panicked
deriving DecidableEq, Repr

def pinned : Fix := ⟨false, false, false⟩
def repaired : Fix := ⟨true, true, true⟩

/-- the tree the correspondence engine is compared with: /repo carries
    hooks/C11-fix-workconn-closed-pool.patch, C11-fix-negative-poolcount.patch and
    C11-fix-muxer-handoff-close.patch, hence `repaired` -/
def current : Fix := repaired

structure St where
  pc : Int := 0                 -- ctl.poolCount = pxy.poolCount
  T : Nat := 1                  -- UserConnTimeout, in ticks
  pool : List Nat := []         -- workConnCh, head = next to be received
  dispDone : Bool := false      -- msgDispatcher.Done() closed (control connection gone)
  poolClosed : Bool := false    -- close(ctl.workConnCh)
  drained : Bool := false       -- the `for range` of worker finished
  proxyOpen : Bool := false     -- ctl.proxies holds the tcp proxy the users dial (proxy 0): its listener accepts
  px : List Nat := []           -- the other entries of ctl.proxies (names > 0)
  pxClosed : Bool := false      -- worker closed every proxy of the session (after the drain)
  inManager : Bool := true      -- ctlManager.GetByID finds the session (Del runs after doneCh)
  w : Tbl W := {}
  u : Tbl U := {}
  reqs : Nat := 0               -- ReqWorkConn messages handed to the dispatcher before dispDone
  adv : Nat := 0                -- ghost: those of them sent in advance (on behalf of no user connection)
  ureq : Nat := 0               -- ghost: those sent by GetWorkConn for a user connection (replacement / empty pool)
  lateSend : Bool := false      -- ghost: some send met the closed pool
  panicked : Bool := false      -- unrecovered panic: frps is gone
deriving Repr

def St.cap (s : St) : Nat := capOf s.pc

/-- a session right after `Start()`: the advance requests are out, no proxy is registered yet -/
def init (pc : Int) (T : Nat) : St := { pc := pc, T := T, reqs := advance pc, adv := advance pc }

inductive Label
  | dial (c : Nat)
  | lookup (c : Nat) (authOk : Bool)
  | send (c : Nat)
  | accept (u : Nat)
  | take (u : Nat)
  | request (u : Nat) (ok : Bool)
  | recv (u : Nat)
  | timeout (u : Nat)
  | tick
  | startMsg (u : Nat) (ok : Bool)
  | joinEnd (u : Nat)
  | dispDone | closePool | drain | closeProxies | del
  | regProxy (p : Nat)       -- NewProxy handled: RegisterProxy succeeded (p = 0: the proxy the users dial)
  | closeProxy (p : Nat)     -- CloseProxy handled
deriving DecidableEq, Repr

inductive Res
  | none | pooled | refused | limbo | closed | got (c : Nat) | waiting | bridged (c : Nat) | retry | exhausted | crash
deriving DecidableEq, Repr

/-- all keys bound in a table satisfy p on their current value -/
def Tbl.allCur {α} (t : Tbl α) (p : α → Bool) : Bool :=
  t.l.all (fun e => match t.get e.1 with | some v => p v | none => true)

/-- `tick` is enabled: no handler is between two non-blocking actions, no timer is due -/
def tickOk (s : St) : Bool :=
  s.u.allCur (fun x => match x with
    | .accepted _ => false
    | .holding _ _ => false
    | .waiting _ t => decide (t < s.T)
    | _ => true)

def bumpU : U → U
  | .waiting k t => .waiting k (t + 1)
  | x => x

/-- receive from workConnCh on behalf of user u (loop index k): first select of GetWorkConn, or the second one -/
def recvFor (s : St) (u k : Nat) : Option (St × Res) :=
  match s.pool with
  | c :: rest =>
    -- `workConn, ok = <-ctl.workConnCh`; then `_ = ctl.msgDispatcher.Send(&msg.ReqWorkConn{})`
    some ({ s with pool := rest, w := s.w.set c (.taken u), u := s.u.set u (.holding k c),
                   reqs := if s.dispDone then s.reqs else s.reqs + 1,
                   ureq := if s.dispDone then s.ureq else s.ureq + 1 }, .got c)
  | [] =>
    if s.poolClosed then
      -- `!ok` ⇒ ErrCtlClosed ⇒ handleUserTCPConnection returns, deferred userConn.Close()
      some ({ s with u := s.u.set u .closed }, .closed)
    else none

def step (fx : Fix) (s : St) : Label → Option (St × Res)
  | .dial c =>
    if s.panicked ∨ (s.w.get c).isSome then none
    else some ({ s with w := s.w.set c .dialled }, .none)
  | .lookup c authOk =>
    if s.panicked ∨ s.w.get c ≠ some .dialled then none
    else if s.inManager = false ∨ authOk = false then
      -- "no client control found" / "invalid NewWorkConn": error ⇒ handleConnection closes
      some ({ s with w := s.w.set c .closed }, .closed)
    else some ({ s with w := s.w.set c .lookedUp }, .none)
  | .send c =>
    if s.panicked ∨ s.w.get c ≠ some .lookedUp then none
    else if s.poolClosed then
      -- send on a closed channel panics inside the select; the deferred recover swallows it and the
      -- function returns its zero result `nil` ⇒ the caller does not close (§7/11)
      if fx.closeOnClosedPool then some ({ s with w := s.w.set c .closed, lateSend := true }, .refused)
      else some ({ s with w := s.w.set c .limbo, lateSend := true }, .limbo)
    else if s.pool.length < s.cap then
      some ({ s with pool := s.pool ++ [c], w := s.w.set c .pooled }, .pooled)
    else
      -- `default:` "work connection pool is full, discarding" ⇒ error ⇒ handleConnection closes
      some ({ s with w := s.w.set c .closed }, .refused)
  | .accept u =>
    if s.panicked ∨ s.proxyOpen = false ∨ (s.u.get u).isSome then none
    else if tries s.pc = 0 then
      -- the loop body never runs: (nil, nil) is returned and `defer workConn.Close()` dereferences nil
      -- in a goroutine without recover
      some ({ s with panicked := true }, .crash)
    else some ({ s with u := s.u.set u (.accepted 0) }, .none)
  | .take u =>
    if s.panicked then none else
    match s.u.get u with
    | some (.accepted k) => recvFor s u k
    | _ => none
  | .request u ok =>
    if s.panicked then none else
    match s.u.get u with
    | some (.accepted k) =>
      if s.pool ≠ [] ∨ s.poolClosed then none
      else if ok then
        -- `msgDispatcher.Send(&msg.ReqWorkConn{})` accepted
        some ({ s with u := s.u.set u (.waiting k 0), reqs := if s.dispDone then s.reqs else s.reqs + 1,
                       ureq := if s.dispDone then s.ureq else s.ureq + 1 }, .waiting)
      else if s.dispDone then
        -- Send returned io.EOF ⇒ "control is already closed"
        some ({ s with u := s.u.set u .closed }, .closed)
      else none
    | _ => none
  | .recv u =>
    if s.panicked then none else
    match s.u.get u with
    | some (.waiting k _) => recvFor s u k
    | _ => none
  | .timeout u =>
    if s.panicked then none else
    match s.u.get u with
    | some (.waiting _ t) =>
      if s.T ≤ t then some ({ s with u := s.u.set u .closed }, .closed) else none
    | _ => none
  | .tick =>
    if s.panicked ∨ tickOk s = false then none
    else some ({ s with u := ⟨s.u.l.map (fun e => (e.1, bumpU e.2))⟩ }, .none)
  | .startMsg u ok =>
    if s.panicked then none else
    match s.u.get u with
    | some (.holding k c) =>
      if ok then some ({ s with u := s.u.set u (.bridged c) }, .bridged c)
      else
        -- write failed: `workConn.Close()`, next round of the loop
        let s1 := { s with w := s.w.set c .closed }
        if k + 1 < tries s.pc then some ({ s1 with u := s1.u.set u (.accepted (k + 1)) }, .retry)
        else
          -- loop exhausted: the shadowed `err` leaves the outer one nil, the CLOSED connection is
          -- returned as a success; Join on it returns at once and the deferred closes run
          some ({ s1 with u := s1.u.set u .closed }, .exhausted)
    | _ => none
  | .joinEnd u =>
    if s.panicked then none else
    match s.u.get u with
    | some (.bridged c) => some ({ s with u := s.u.set u .closed, w := s.w.set c .closed }, .closed)
    | _ => none
  | .dispDone =>
    if s.panicked ∨ s.dispDone then none else some ({ s with dispDone := true }, .none)
  | .closePool =>
    if s.panicked ∨ s.dispDone = false ∨ s.poolClosed then none else some ({ s with poolClosed := true }, .none)
  | .drain =>
    if s.panicked ∨ s.poolClosed = false ∨ s.drained then none
    else some ({ s with pool := [], drained := true,
                        w := s.pool.foldl (fun t c => t.set c .closed) s.w }, .none)
  | .closeProxies =>
    -- `for _, pxy := range ctl.proxies { pxy.Close() … }` under ctl.mu
    if s.panicked ∨ s.drained = false ∨ s.pxClosed then none
    else some ({ s with proxyOpen := false, px := [], pxClosed := true }, .none)
  | .del =>
    if s.panicked ∨ s.pxClosed = false ∨ s.inManager = false then none else some ({ s with inManager := false }, .none)
  | .regProxy p =>
    -- handleNewProxy runs inside the dispatcher's read loop: only while the control connection lives.
    -- RegisterProxy: pxy.Run(), `ctl.proxies[name] = pxy`.  It asks the client for NOTHING: the advance
    -- requests were sent once, by Start().
    if s.panicked ∨ s.dispDone then none
    else if p = 0 then (if s.proxyOpen then none else some ({ s with proxyOpen := true }, .none))
    else if p ∈ s.px then none else some ({ s with px := p :: s.px }, .none)
  | .closeProxy p =>
    -- CloseProxy: pxy.Close() (the listener; established bridges and waiting handlers go on), delete from the map
    if s.panicked ∨ s.dispDone then none
    else if p = 0 then (if s.proxyOpen then some ({ s with proxyOpen := false }, .none) else none)
    else if p ∈ s.px then some ({ s with px := s.px.erase p }, .none) else none

/-- run a label list; `none` if some label is not enabled -/
def run (fx : Fix) : St → List Label → Option St
  | s, [] => some s
  | s, l :: ls => match step fx s l with
    | none => none
    | some (s', _) => run fx s' ls

/-- reachable from a fresh session -/
inductive Reach (fx : Fix) (pc : Int) (T : Nat) : St → Prop
  | init : Reach fx pc T (init pc T)
  | step {s s' l r} : Reach fx pc T s → step fx s l = some (s', r) → Reach fx pc T s'

end Pool

/-! ## vhost hand-off (pkg/util/vhost/vhost.go) -/
namespace Handoff
open Pool (Tbl Fix)

/-- a connection accepted by `Muxer.run` -/
inductive H
  | parsed               -- vhostFunc read the host name
  | routed (l : Nat)     -- getListener found l; about to `l.accept <- c` (deadline cleared)
  | delivered (l : Nat)  -- received by l.Accept()
  | closed
  | limbo                -- open, deadline cleared, held by nobody
deriving DecidableEq, Repr

structure St where
  lsn : Tbl Bool := {}    -- listener ↦ still registered / channel open
  c : Tbl H := {}
deriving Repr

inductive Label
  | listen (l : Nat)           -- Muxer.Listen: routers.Add
  | conn (c : Nat)             -- accepted + host parsed
  | route (c l : Nat)          -- getListener → l (enabled iff l is registered)
  | noRoute (c : Nat)          -- getListener → not found: failHook closes
  | closeListener (l : Nat)    -- Listener.Close: routers.Del; close(l.accept)
  | handoff (c : Nat)          -- the send inside PanicToError completes (received or panicked)
deriving DecidableEq, Repr

def step (fx : Fix) (s : St) : Label → Option St
  | .listen l => if (s.lsn.get l).isSome then none else some { s with lsn := s.lsn.set l true }
  | .conn c => if (s.c.get c).isSome then none else some { s with c := s.c.set c .parsed }
  | .route c l =>
    if s.c.get c = some .parsed ∧ s.lsn.get l = some true then some { s with c := s.c.set c (.routed l) } else none
  | .noRoute c =>
    if s.c.get c = some .parsed then some { s with c := s.c.set c .closed } else none
  | .closeListener l =>
    if s.lsn.get l = some true then some { s with lsn := s.lsn.set l false } else none
  | .handoff c =>
    match s.c.get c with
    | some (.routed l) =>
      if s.lsn.get l = some true then some { s with c := s.c.set c (.delivered l) }
      else
        -- send on the closed channel: PanicToError returns an error, a warning is logged, `c` is
        -- not closed and its deadline was already cleared (§7/10)
        some { s with c := s.c.set c (if fx.closeOnFailedHandoff then .closed else .limbo) }
    | _ => none

def run (fx : Fix) : St → List Label → Option St
  | s, [] => some s
  | s, l :: ls => match step fx s l with
    | none => none
    | some s' => run fx s' ls

inductive Reach (fx : Fix) : St → Prop
  | init : Reach fx {}
  | step {s s' l} : Reach fx s → step fx s l = some s' → Reach fx s'

end Handoff

/-! ## visitor-listener accept path (pkg/util/net/listener.go, server/visitor/visitor.go, server/proxy/proxy.go)

  One stcp / sudp / xtcp proxy: its `InternalListener` (buffered `acceptCh`), the visitor manager's entry
  for it, and the accept goroutine of `startCommonTCPListenersHandler`.  A label is one call of
  `Manager.NewConn` (→ `PutConn`), one `Accept()` of the loop, `listener.Close()` (BaseProxy.Close) or
  `VisitorManager.CloseListener` (STCPProxy.Close, after BaseProxy.Close). -/
namespace VListen
open Pool (Tbl)

/-- a visitor connection, seen from frps -/
inductive V
  | queued      -- sitting in acceptCh
  | accepted    -- returned by Accept: `go handleUserTCPConnection(c)` owns it (bridged or closed: Pool model)
  | closed      -- closed by PutConn (queue full) or by the caller of NewConn (error returned)
deriving DecidableEq, Repr

structure St where
  cap : Nat := 128               -- `make(chan net.Conn, 128)`
  q : List Nat := []             -- acceptCh, head = next to be received
  chClosed : Bool := false       -- `close(l.acceptCh)`
  registered : Bool := true      -- visitor.Manager.listeners holds the name
  loopExit : Bool := false       -- the accept goroutine has returned ("listener is closed")
  c : Tbl V := {}
deriving Repr

inductive Label
  | put (c : Nat)     -- Manager.NewConn for this name
  | accept            -- one round of the accept loop
  | closeL            -- InternalListener.Close (idempotent)
  | unregister        -- Manager.CloseListener
deriving DecidableEq, Repr

inductive Res
  | none | queued | full | err | got (c : Nat) | exit
deriving DecidableEq, Repr

def step (s : St) : Label → Option (St × Res)
  | .put c =>
    if (s.c.get c).isSome then none
    else if s.registered = false then
      -- "custom listener for [name] doesn't exist": RegisterVisitorConn fails, handleConnection closes
      some ({ s with c := s.c.set c .closed }, .err)
    else if s.chClosed then
      -- the send case of the select panics on the closed channel; PanicToError turns it into
      -- "put conn error: listener is closed"; NewConn returns it and handleConnection closes
      some ({ s with c := s.c.set c .closed }, .err)
    else if s.q.length < s.cap then
      some ({ s with q := s.q ++ [c], c := s.c.set c .queued }, .queued)
    else
      -- `default: conn.Close()`, nil is returned
      some ({ s with c := s.c.set c .closed }, .full)
  | .accept =>
    if s.loopExit then none else
    match s.q with
    | c :: rest =>
      -- `conn, ok := <-l.acceptCh` yields the buffered connections first, also after close(acceptCh)
      some ({ s with q := rest, c := s.c.set c .accepted }, .got c)
    | [] =>
      -- `!ok`: "listener closed" ⇒ the loop logs and returns;  open and empty: Accept blocks
      if s.chClosed then some ({ s with loopExit := true }, .exit) else none
  | .closeL => some ({ s with chClosed := true }, .none)
  | .unregister =>
    if s.chClosed ∧ s.registered then some ({ s with registered := false }, .none) else none

def run : St → List Label → Option St
  | s, [] => some s
  | s, l :: ls => match step s l with
    | none => none
    | some (s', _) => run s' ls

inductive Reach (cap : Nat) : St → Prop
  | init : Reach cap { cap := cap }
  | step {s s' l r} : Reach cap s → step s l = some (s', r) → Reach cap s'

end VListen

/-! ## group-listener accept path (server/group/tcp.go; tcpmux.go has the same shape)

  One load-balancing group: the shared real listener (kernel accept queue), the group worker that
  takes one connection at a time and sits in the UNBUFFERED send `tg.acceptCh <- c`, the members'
  `Accept`, and `CloseListener` of the last member (`close(acceptCh)`, `tcpLn.Close()`).
  (The join / leave protocol with its two locks is C13's `Frp.Group`; here only who owns a user
  connection.) -/
namespace GroupAccept
open Pool (Tbl)

inductive G
  | backlog     -- completed handshake, in the kernel queue of tcpLn
  | held        -- returned by tcpLn.Accept(), the worker is in the send
  | delivered   -- received by a member's Accept: the proxy's handler owns it
  | closed      -- refused, reset with the listener, or closed by the worker after the failed send
deriving DecidableEq, Repr

structure St where
  members : Nat := 0
  backlog : List Nat := []
  hold : Option Nat := none
  c : Tbl G := {}
deriving Repr

inductive Label
  | listen            -- a member joins (the first one listens and starts the worker)
  | conn (c : Nat)    -- a user connects to the group's port
  | workerAccept      -- the worker takes the next connection and enters the send
  | recv              -- some member's Accept receives the held connection
  | leave             -- a member's Close; the last one closes channel and listener
deriving DecidableEq, Repr

def step (s : St) : Label → Option St
  | .listen => some { s with members := s.members + 1 }
  | .conn c =>
    if (s.c.get c).isSome then none
    else if s.members = 0 then some { s with c := s.c.set c .closed }       -- nobody listens: refused
    else some { s with backlog := s.backlog ++ [c], c := s.c.set c .backlog }
  | .workerAccept =>
    match s.hold, s.backlog with
    | none, c :: rest => if s.members = 0 then none else some { s with backlog := rest, hold := some c, c := s.c.set c .held }
    | _, _ => none
  | .recv =>
    match s.hold with
    | some c => if s.members = 0 then none else some { s with hold := none, c := s.c.set c .delivered }
    | none => none
  | .leave =>
    if s.members = 0 then none
    else if s.members = 1 then
      -- close(acceptCh): the worker's send panics, PanicToError, `c.Close()`; tcpLn.Close(): the kernel
      -- resets every connection still in the accept queue
      let t := match s.hold with
        | some c => s.c.set c .closed
        | none => s.c
      some { members := 0, backlog := [], hold := none, c := s.backlog.foldl (fun t c => t.set c .closed) t }
    else some { s with members := s.members - 1 }

def run : St → List Label → Option St
  | s, [] => some s
  | s, l :: ls => match step s l with
    | none => none
    | some s' => run s' ls

inductive Reach : St → Prop
  | init : Reach {}
  | step {s s' l} : Reach s → step s l = some s' → Reach s'

end GroupAccept
end Frp
