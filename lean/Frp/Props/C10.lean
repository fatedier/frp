import Frp.Model.Release
import Frp.Lemmas.RegSteps
import Frp.Props.C09
/-
  C10 — Everything a proxy or session held is released on every termination path.

  Model: Frp/Model/Release.lean (exclusive-key tables: http / https / tcpmux routes, visitor and
  NAT-hole listener entries, proxy names) and Frp/Model/Ports.lean (ports, via the C09 theorems).
  Termination paths covered by theorems: explicit close, end of session, registration failing
  part-way (conflict at the i-th claim), for every table content and every history.

  The second half (`namespace Conc`, model Frp/Model/RegSteps.lean) splits a registration into its
  sections and interleaves the sessions: name taken concurrently, the quota counter, every schedule.
-/
namespace Frp
namespace C10
open Release

/-- invariant of reachable states: one holder per key, every holder is a live proxy, one session per name -/
structure Inv (s : RState) : Prop where
  keysNodup  : (s.held.map (·.1)).Nodup
  holderLive : ∀ e ∈ s.held, s.isLive e.2 = true
  namesNodup : (s.owner.map (·.1)).Nodup

theorem inv_init : Inv RState.init := ⟨List.nodup_nil, fun _ he => (nomatch he), List.nodup_nil⟩

/-! ### `claim` and `releaseAll` -/

theorem isLive_eq_false {s : RState} {name : Str} :
    s.isLive name = false ↔ ∀ e ∈ s.owner, e.1 ≠ name := by
  simp only [RState.isLive, List.any_eq_false, decide_eq_true_eq, ne_eq]

/-- a proxy that is not live holds nothing, so giving back what it has just claimed restores the table -/
theorem releaseAll_claimed {s : RState} (h : Inv s) {name : Str} (hl : s.isLive name = false)
    {new : List (Key × Str)} (hnew : ∀ e ∈ new, e.2 = name) : releaseAll (new ++ s.held) name = s.held :=
  (RegSteps.filter_snd_ne_append hnew).trans <| RegSteps.filter_snd_ne_self fun e he hn => by
    have := h.holderLive e he
    rw [hn, hl] at this; cases this

/-! ### `register` -/

theorem register_cases {s : RState} (h : Inv s) (sid : Nat) (name : Str) (keys : List Key) :
    (s.isLive name = true ∧ s.register sid name keys = (s, .exists_)) ∨
    (s.isLive name = false ∧ ∃ k, s.register sid name keys = (s, .conflict k)) ∨
    (s.isLive name = false ∧ ∃ new,
      s.register sid name keys = ({ held := new ++ s.held, owner := (name, sid) :: s.owner }, .ok) ∧
      (∀ e ∈ new, e.2 = name) ∧ ((new ++ s.held).map (·.1)).Nodup) := by
  unfold RState.register
  by_cases hl : s.isLive name = true
  · exact .inl ⟨hl, if_pos hl⟩
  · have hl' := Bool.eq_false_iff.mpr hl
    rw [if_neg hl]
    obtain ⟨new, h1, h2, h3⟩ :=
      RegSteps.claim_shape_of (claim · name) name (fun _ => rfl) (fun _ _ _ => rfl) s.held keys
    cases hc : claim s.held name keys with
    | mk held' r =>
      rw [hc] at h1 h3
      subst h1
      cases r with
      | some k => exact .inr (.inl ⟨hl', k, by rw [releaseAll_claimed h hl' h2]⟩)
      | none => exact .inr (.inr ⟨hl', new, rfl, h2, h3 h.keysNodup⟩)

theorem register_snd_sid (s : RState) (sid sid' : Nat) (name : Str) (keys : List Key) :
    (s.register sid name keys).2 = (s.register sid' name keys).2 := by
  unfold RState.register
  split
  · rfl
  · split <;> rfl

/-- **a registration that fails part-way leaves nothing behind**: whichever claim conflicts (second
    domain taken, route duplicated, …), the state afterwards is exactly the state before -/
theorem register_conflict_restores {s : RState} (h : Inv s) (sid : Nat) (name : Str) (keys : List Key)
    (k : Key) (hr : (s.register sid name keys).2 = .conflict k) :
    (s.register sid name keys).1 = s := by
  rcases register_cases h sid name keys with ⟨_, e⟩ | ⟨_, _, e⟩ | ⟨_, _, e, _⟩
  · rw [e]
  · rw [e]
  · rw [e] at hr; cases hr

/-- a registration under a live name is refused and changes nothing -/
theorem register_exists_unchanged (s : RState) (sid : Nat) (name : Str) (keys : List Key)
    (hl : s.isLive name = true) : s.register sid name keys = (s, .exists_) := by
  unfold RState.register; rw [if_pos hl]

theorem isLive_cons (s : RState) (name : Str) (sid : Nat) (n : Str) :
    RState.isLive { s with owner := (name, sid) :: s.owner } n = (decide (name = n) || s.isLive n) := by
  simp [RState.isLive]

theorem inv_register {s : RState} (h : Inv s) (sid : Nat) (name : Str) (keys : List Key) :
    Inv (s.register sid name keys).1 := by
  rcases register_cases h sid name keys with ⟨_, e⟩ | ⟨_, _, e⟩ | ⟨hl, new, e, h2, h3⟩
  · rw [e]; exact h
  · rw [e]; exact h
  · rw [e]
    refine ⟨h3, fun e he => ?_, List.nodup_cons.mpr ⟨fun hm => ?_, h.namesNodup⟩⟩
    · show RState.isLive { s with owner := (name, sid) :: s.owner } e.2 = true
      rw [isLive_cons]
      rcases List.mem_append.mp he with he | he
      · simp [h2 e he]
      · simp [h.holderLive e he]
    · obtain ⟨o, ho, hn⟩ := List.mem_map.mp hm
      exact isLive_eq_false.mp hl o ho hn

/-- **explicit close releases everything the proxy held and nothing else** -/
theorem close_spec (s : RState) (sid : Nat) (name : Str)
    (ho : s.owner.any (fun e => e.1 = name ∧ e.2 = sid) = true) :
    (s.close sid name).held = s.held.filter (fun e => e.2 ≠ name) ∧
    (s.close sid name).owner = s.owner.filter (fun e => e.1 ≠ name) := by
  unfold RState.close
  rw [if_pos ho]
  exact ⟨rfl, rfl⟩

/-- after the close no key is held by that proxy; every other holder keeps exactly its keys -/
theorem close_releases (s : RState) (sid : Nat) (name : Str)
    (ho : s.owner.any (fun e => e.1 = name ∧ e.2 = sid) = true) (k : Key) (n : Str) :
    (k, n) ∈ (s.close sid name).held ↔ (k, n) ∈ s.held ∧ n ≠ name := by
  rw [(close_spec s sid name ho).1]
  simp [List.mem_filter]

/-- **a close request affects only proxies of the session that sent it** -/
theorem close_foreign_noop (s : RState) (sid : Nat) (name : Str)
    (ho : s.owner.any (fun e => e.1 = name ∧ e.2 = sid) = false) : s.close sid name = s := by
  unfold RState.close
  rw [if_neg (by rw [ho]; simp)]

theorem close_of_owner {s : RState} {sid : Nat} {name : Str} (ho : (name, sid) ∈ s.owner) :
    s.close sid name =
      { held := s.held.filter (fun e => e.2 ≠ name), owner := s.owner.filter (fun e => e.1 ≠ name) } := by
  unfold RState.close
  rw [if_pos (List.any_eq_true.mpr ⟨_, ho, by simp⟩)]
  rfl

theorem inv_close {s : RState} (h : Inv s) (sid : Nat) (name : Str) : Inv (s.close sid name) := by
  unfold RState.close
  split
  · refine ⟨RegSteps.nodup_map_filter h.keysNodup _, fun e he => ?_, RegSteps.nodup_map_filter h.namesNodup _⟩
    -- the owner entry that makes a remaining holder live is not the one removed
    have hm := List.mem_filter.mp he
    have := h.holderLive e hm.1
    simp only [RState.isLive, List.any_eq_true, decide_eq_true_eq] at this ⊢
    obtain ⟨o, ho1, ho2⟩ := this
    exact ⟨o, List.mem_filter.mpr ⟨ho1, by rw [ho2]; exact hm.2⟩, ho2⟩
  · exact h

/-- **register then close is the identity**: tables return to exactly their previous content (no
    growth), hence the identical registration submitted afterwards — on the same or on any other
    session — succeeds again -/
theorem register_close_roundtrip {s : RState} (h : Inv s) (sid : Nat) (name : Str) (keys : List Key)
    (hr : (s.register sid name keys).2 = .ok) :
    (s.register sid name keys).1.close sid name = s := by
  rcases register_cases h sid name keys with ⟨_, e⟩ | ⟨_, _, e⟩ | ⟨hl, new, e, h2, _⟩
  · rw [e] at hr; cases hr
  · rw [e] at hr; cases hr
  have hown : ((name, sid) :: s.owner).filter (fun e => e.1 ≠ name) = s.owner := by
    rw [List.filter_cons, if_neg (by simp)]
    exact List.filter_eq_self.mpr fun o ho => by simpa using isLive_eq_false.mp hl o ho
  have hheld : (new ++ s.held).filter (fun e => e.2 ≠ name) = s.held := releaseAll_claimed h hl h2
  rw [e, close_of_owner List.mem_cons_self, hheld, hown]

theorem reregister_after_close {s : RState} (h : Inv s) (sid sid' : Nat) (name : Str) (keys : List Key)
    (hr : (s.register sid name keys).2 = .ok) :
    (((s.register sid name keys).1.close sid name).register sid' name keys).2 = .ok := by
  rw [register_close_roundtrip h sid name keys hr, register_snd_sid s sid' sid, hr]

/-- the same after a failed registration: an identical retry behaves exactly like the first try
    (so once the conflicting owner has gone it succeeds) -/
theorem retry_after_failure {s : RState} (h : Inv s) (sid : Nat) (name : Str) (keys : List Key) (k : Key)
    (hr : (s.register sid name keys).2 = .conflict k) :
    (s.register sid name keys).1.register sid name keys = s.register sid name keys := by
  rw [register_conflict_restores h sid name keys k hr]

/-! ### session end -/

theorem closeAll_spec (sid : Nat) (names : List Str) (s : RState) (hnd : names.Nodup)
    (hown : ∀ n ∈ names, (n, sid) ∈ s.owner) :
    names.foldl (fun st n => st.close sid n) s =
      { held := names.foldl (fun l n => l.filter (fun e => e.2 ≠ n)) s.held,
        owner := names.foldl (fun l n => l.filter (fun e => e.1 ≠ n)) s.owner } := by
  induction names generalizing s with
  | nil => rfl
  | cons n ns ih =>
    have ⟨hn, hns⟩ := List.nodup_cons.mp hnd
    have e := close_of_owner (hown n List.mem_cons_self)
    rw [List.foldl_cons, ih _ hns, e]
    · rfl
    · intro m hm
      rw [e]
      exact List.mem_filter.mpr ⟨hown m (List.mem_cons_of_mem _ hm), by simpa using fun e : m = n => hn (e ▸ hm)⟩

theorem owner_unique {l : List (Str × Nat)} (hnd : (l.map (·.1)).Nodup) {a : Str} {b c : Nat}
    (h1 : (a, b) ∈ l) (h2 : (a, c) ∈ l) : b = c :=
  congrArg Prod.snd (eq_of_nodup_map (f := (·.1)) hnd h1 h2 rfl)

theorem mem_namesOf {s : RState} (sid : Nat) (n : Str) : n ∈ s.namesOf sid ↔ (n, sid) ∈ s.owner := by
  unfold RState.namesOf
  simp only [List.mem_map, List.mem_filter, decide_eq_true_eq]
  constructor
  · rintro ⟨⟨a, b⟩, ⟨he, rfl⟩, rfl⟩; exact he
  · intro hm; exact ⟨(n, sid), ⟨hm, rfl⟩, rfl⟩

/-- **end of a session** (disconnect, replacement, heartbeat timeout — all run `Control.worker`):
    every key held by a proxy of that session is released, the session owns no name any more, and
    every other session's proxies keep exactly their keys -/
theorem sessionEnd_spec {s : RState} (h : Inv s) (sid : Nat) :
    (s.sessionEnd sid).held = s.held.filter (fun e => (e.2, sid) ∉ s.owner) ∧
    (s.sessionEnd sid).owner = s.owner.filter (fun e => e.2 ≠ sid) ∧
    Inv (s.sessionEnd sid) := by
  unfold RState.sessionEnd
  have e := closeAll_spec sid (s.namesOf sid) s (RegSteps.nodup_map_filter h.namesNodup _)
    fun n hn => (mem_namesOf sid n).mp hn
  refine ⟨?_, ?_, foldl_invariant (P := Inv) h fun _ n _ hi => inv_close hi sid n⟩
  all_goals
    rw [e]
    refine RegSteps.foldl_filter_eq_filter _ _ _ _ fun ⟨a, b⟩ he => ?_
    simp only [decide_eq_true_eq, mem_namesOf]
  · exact ⟨fun hh n hn en => hh (en.symm ▸ hn), fun hh hm => hh _ hm rfl⟩
  · -- names are distinct, so the session's names are exactly those entered under its number
    exact ⟨fun hh n hn en => hh (owner_unique h.namesNodup (en ▸ he) hn), fun hh es => hh a (es ▸ he) rfl⟩

/-- after the session ended none of its former names is live: the identical registrations can be
    submitted on a new session -/
theorem sessionEnd_frees_names {s : RState} (h : Inv s) (sid : Nat) (n : Str) (hn : (n, sid) ∈ s.owner) :
    (s.sessionEnd sid).isLive n = false := by
  rw [isLive_eq_false, (sessionEnd_spec h sid).2.1]
  intro e he en
  obtain ⟨he, hs⟩ := List.mem_filter.mp he
  exact (by simpa using hs : e.2 ≠ sid) (owner_unique h.namesNodup (en ▸ he) hn)

/-! ### every reachable state -/

inductive Op
  | register (sid : Nat) (name : Str) (keys : List Key)
  | close (sid : Nat) (name : Str)
  | sessionEnd (sid : Nat)

def apply (s : RState) : Op → RState
  | .register sid name keys => (s.register sid name keys).1
  | .close sid name => s.close sid name
  | .sessionEnd sid => s.sessionEnd sid

theorem inv_reachable (ops : List Op) : Inv (ops.foldl apply RState.init) := by
  refine foldl_invariant (P := Inv) inv_init fun s op _ h => ?_
  cases op with
  | register sid name keys => exact inv_register h sid name keys
  | close sid name => exact inv_close h sid name
  | sessionEnd sid => exact (sessionEnd_spec h sid).2.2

/-! ### ports (from C09): closing frees the port at once; a failed registration keeps all accounting -/

def port_released_on_close := @C09.close_frees_port
def port_kept_on_failure := @C09.register_err_unchanged

def s (x : String) : Str := Str.ofString x
def kA : Key := ⟨.http, s "a.example.com|/|"⟩
def kB : Key := ⟨.http, s "b.example.com|/|"⟩

/-- second domain conflicts: the first one is given back -/
example : let s1 := (RState.init.register 1 (s "p") [kB]).1
          (s1.register 2 (s "q") [kA, kB]).2 = .conflict kB ∧ (s1.register 2 (s "q") [kA, kB]).1.held = s1.held := by
  decide +kernel
example : ((RState.init.register 1 (s "p") [kA, kB]).1.sessionEnd 1).held = [] := by decide +kernel


/-! ## Concurrent registrations (Frp/Model/RegSteps.lean)

  The theorems above treat `RegisterProxy` as one indivisible step.  Here the registrations of several
  sessions are interleaved section by section (quota+Exist | Run | Add), so that every failure step of
  the property's quantifier is reachable — in particular "name taken concurrently" (`Res.inuse`) — and
  the session's quota counter is part of the state.  All statements are for every schedule: the
  invariant is proved by induction over arbitrary op lists of all sessions. -/
namespace Conc
open RegSteps

/-- structural invariant: one holder per key, every holder is an owned proxy or a registration that is
    past `Run`; the name table and the sessions' own tables describe the same proxies; at most one
    registration in flight per session, never for a proxy the session already owns -/
structure SInv (s : CState) : Prop where
  keysNodup    : (s.held.map (·.1)).Nodup
  holderKnown  : ∀ e ∈ s.held, (∃ o ∈ s.own, o.sid = e.2.sid ∧ o.name = e.2.name) ∨
                   (∃ f ∈ s.flights, f.sid = e.2.sid ∧ f.name = e.2.name ∧ f.pc = .ran)
  namesNodup   : (s.names.map (·.1)).Nodup
  namesOwned   : ∀ e ∈ s.names, ∃ o ∈ s.own, o.sid = e.2 ∧ o.name = e.1
  ownNamed     : ∀ o ∈ s.own, (o.name, o.sid) ∈ s.names
  ownNodup     : (s.own.map (·.name)).Nodup
  flightsNodup : (s.flights.map (·.sid)).Nodup
  flightFresh  : ∀ f ∈ s.flights, ∀ o ∈ s.own, ¬ (o.sid = f.sid ∧ o.name = f.name)

/-- **quota accounting**: every session's counter is exactly what it is charged for — the ports of the
    proxies it owns plus the charge of its registration in flight (nothing when unlimited) -/
def Accounted (s : CState) : Prop :=
  ∀ x, s.quotaOf x = s.amt (ownSum s.own x + flightSum s.flights x)

structure Inv (s : CState) : Prop where
  struct : SInv s
  quota  : Accounted s

theorem sinv_congr {s t : CState} (h : SInv s) (h1 : t.held = s.held) (h2 : t.names = s.names)
    (h3 : t.own = s.own) (h4 : t.flights = s.flights) : SInv t := by
  obtain ⟨k, hk, n, no, on, ond, fn, ff⟩ := h
  exact ⟨by rw [h1]; exact k, by rw [h1, h3, h4]; exact hk, by rw [h2]; exact n, by rw [h2, h3]; exact no,
    by rw [h2, h3]; exact on, by rw [h3]; exact ond, by rw [h4]; exact fn, by rw [h3, h4]; exact ff⟩

theorem inv_init (m : Nat) : Inv (CState.init m) :=
  ⟨⟨List.nodup_nil, fun _ h => (nomatch h), List.nodup_nil, fun _ h => (nomatch h), fun _ h => (nomatch h),
    List.nodup_nil, List.nodup_nil, fun _ h => (nomatch h)⟩, fun _ => (amt_zero _).symm⟩

theorem find_flight {s : CState} {sid : Nat} {f : Flight}
    (h : s.flights.find? (fun f => f.sid = sid) = some f) : f ∈ s.flights ∧ f.sid = sid :=
  ⟨List.mem_of_find?_eq_some h, by simpa using List.find?_some h⟩

theorem nameTaken_eq_false {s : CState} {name : Str} :
    s.nameTaken name = false ↔ ∀ e ∈ s.names, e.1 ≠ name := by
  simp only [CState.nameTaken, List.any_eq_false, decide_eq_true_eq, ne_eq]

theorem not_busy_iff {s : CState} {sid : Nat} : s.busy sid = false ↔ ∀ f ∈ s.flights, f.sid ≠ sid := by
  simp only [CState.busy, List.any_eq_false, decide_eq_true_eq, ne_eq]

theorem mem_filter_sid_ne {l : List Flight} {sid : Nat} {g : Flight} :
    g ∈ l.filter (fun g => g.sid ≠ sid) ↔ g ∈ l ∧ g.sid ≠ sid := by
  simp [List.mem_filter]

/-! ### the cases of `begin` and `step` -/

/-- What `begin` answers: the three refusals, in the order of the definition, or the flight parked at `checked`. -/
inductive BeginCase (s : CState) (sid : Nat) (name : Str) (keys : List Key) (n : Nat) : Prop
  | busy (hb : s.busy sid = true) (e : s.begin sid name keys n = (s, .busy))
  | quota (hb : s.busy sid = false) (hq : s.maxPorts > 0 ∧ s.quotaOf sid + n > s.maxPorts)
      (e : s.begin sid name keys n = (s, .quota))
  | taken (hb : s.busy sid = false) (hq : ¬ (s.maxPorts > 0 ∧ s.quotaOf sid + n > s.maxPorts))
      (ht : s.nameTaken name = true) (e : s.begin sid name keys n = ((s.charge sid n).refund sid n, .exists_))
  | parked (hb : s.busy sid = false) (hq : ¬ (s.maxPorts > 0 ∧ s.quotaOf sid + n > s.maxPorts))
      (ht : s.nameTaken name = false)
      (e : s.begin sid name keys n =
        ({ s.charge sid n with
            flights := { sid := sid, name := name, keys := keys, n := n, pc := .checked } :: (s.charge sid n).flights },
         .parked .checked))

theorem begin_cases (s : CState) (sid : Nat) (name : Str) (keys : List Key) (n : Nat) :
    BeginCase s sid name keys n := by
  have ht : (s.charge sid n).nameTaken name = s.nameTaken name := by
    simp only [CState.nameTaken, charge_frame]
  by_cases hb : s.busy sid = true
  · exact .busy hb (by unfold CState.begin; rw [if_pos hb])
  have hb' : s.busy sid = false := Bool.eq_false_iff.mpr hb
  by_cases hq : s.maxPorts > 0 ∧ s.quotaOf sid + n > s.maxPorts
  · exact .quota hb' hq (by unfold CState.begin; rw [if_neg hb, if_pos hq])
  by_cases hn : s.nameTaken name = true
  · exact .taken hb' hq hn (by unfold CState.begin; simp only [if_neg hb, if_neg hq, ht, if_pos hn])
  · exact .parked hb' hq (Bool.eq_false_iff.mpr hn)
      (by unfold CState.begin; simp only [if_neg hb, if_neg hq, ht, if_neg hn])

/-- what a registration of `who` gives back on failure is what it held before `Run`: `Run`'s own rollback
    and the deferred `pxy.Close()` leave the same table -/
theorem releaseAll_claim (held : List (Key × Inst)) (who : Inst) (ks : List Key) :
    releaseAll (claim held who ks).1 who = releaseAll held who := by
  obtain ⟨new, h1, h2, _⟩ := RegSteps.claim_shape held who ks
  rw [h1]
  exact filter_snd_ne_append h2

/-- What `step` does, section by section.  Both failures — `Run` hits a taken key, `Add` finds the name taken —
    leave the same state: everything of the object given back, the flight gone, the charge refunded. -/
inductive StepCase (s : CState) (sid : Nat) : Prop
  | noflight (hf : s.flights.find? (fun f => f.sid = sid) = none) (e : s.step sid = (s, .noflight))
  | failed (f : Flight) (r : Res) (hf : s.flights.find? (fun f => f.sid = sid) = some f)
      (why : (f.pc = .checked ∧ ∃ k, (claim s.held ⟨sid, f.name⟩ f.keys).2 = some k ∧ r = .conflict k) ∨
        (f.pc = .ran ∧ s.nameTaken f.name = true ∧ r = .inuse))
      (e : s.step sid =
        ((({ s with held := releaseAll s.held ⟨sid, f.name⟩ } : CState).dropFlight sid).refund sid f.n, r))
  | ran (f : Flight) (hf : s.flights.find? (fun f => f.sid = sid) = some f) (hpc : f.pc = .checked)
      (hc : (claim s.held ⟨sid, f.name⟩ f.keys).2 = none)
      (e : s.step sid = ({ s with held := (claim s.held ⟨sid, f.name⟩ f.keys).1,
                                  flights := { f with pc := .ran } :: s.flights.filter (fun g => g.sid ≠ sid) },
        .parked .ran))
  | added (f : Flight) (hf : s.flights.find? (fun f => f.sid = sid) = some f) (hpc : f.pc = .ran)
      (ht : s.nameTaken f.name = false)
      (e : s.step sid = (({ s with names := (f.name, sid) :: s.names,
                                   own := { sid := sid, name := f.name, n := f.n } :: s.own } : CState).dropFlight sid,
        .ok))

theorem step_cases (s : CState) (sid : Nat) : StepCase s sid := by
  cases hf : s.flights.find? (fun f => f.sid = sid) with
  | none => exact .noflight hf (by unfold CState.step; rw [hf])
  | some f =>
    cases hpc : f.pc with
    | checked =>
      have hrel := releaseAll_claim s.held ⟨sid, f.name⟩ f.keys
      cases hc : claim s.held ⟨sid, f.name⟩ f.keys with
      | mk held' r =>
        rw [hc] at hrel
        cases r with
        | some k =>
          exact .failed f _ hf (.inl ⟨hpc, k, congrArg Prod.snd hc, rfl⟩)
            (by unfold CState.step; simp only [hf, hpc, hc, hrel])
        | none => exact .ran f hf hpc (congrArg Prod.snd hc) (by unfold CState.step; simp only [hf, hpc, hc])
    | ran =>
      by_cases ht : s.nameTaken f.name = true
      · exact .failed f _ hf (.inr ⟨hpc, ht, rfl⟩) (by unfold CState.step; simp only [hf, hpc, ht, if_true])
      · exact .added f hf hpc (Bool.eq_false_iff.mpr ht) (by unfold CState.step; simp only [hf, hpc, ht]; rfl)

/-! ### the structural invariant, step by step

  `SInv` does not mention the quota table: `charge` and `refund` keep it (`sinv_charge`, `sinv_refund`), and
  each lemma below is about the update of the other four tables alone. -/

theorem sinv_charge {s : CState} (h : SInv s) (a b : Nat) : SInv (s.charge a b) :=
  sinv_congr h (by simp) (by simp) (by simp) (by simp)

theorem sinv_refund {s : CState} (h : SInv s) (a b : Nat) : SInv (s.refund a b) :=
  sinv_congr h (by simp) (by simp) (by simp) (by simp)

theorem inst_eq_iff (i : Inst) (sid : Nat) (name : Str) : i = ⟨sid, name⟩ ↔ i.sid = sid ∧ i.name = name := by
  cases i; simp

theorem sinv_add_flight {s : CState} (h : SInv s) (nf : Flight) (hb : ∀ g ∈ s.flights, g.sid ≠ nf.sid)
    (hn : ∀ e ∈ s.names, e.1 ≠ nf.name) : SInv { s with flights := nf :: s.flights } := by
  refine ⟨h.keysNodup, fun e he => ?_, h.namesNodup, h.namesOwned, h.ownNamed, h.ownNodup, ?_, ?_⟩
  · rcases h.holderKnown e he with ho | ⟨f, hf, hh⟩
    · exact .inl ho
    · exact .inr ⟨f, List.mem_cons_of_mem _ hf, hh⟩
  · refine List.nodup_cons.mpr ⟨fun hm => ?_, h.flightsNodup⟩
    obtain ⟨g, hg, e⟩ := List.mem_map.mp hm
    exact hb g hg e
  · -- the new flight: its name was absent from the name table, hence from every own table
    exact List.forall_mem_cons.mpr ⟨fun o ho hh => hn _ (h.ownNamed o ho) hh.2, h.flightFresh⟩

/-- who holds an entry, seen from the flight `f`: an owned proxy, `f` itself (then it is past `Run`), or
    the flight of another session -/
theorem holder_cases {s : CState} (h : SInv s) {f : Flight} (hf : f ∈ s.flights) {e : Key × Inst}
    (he : e ∈ s.held) :
    (∃ o ∈ s.own, o.sid = e.2.sid ∧ o.name = e.2.name) ∨ (e.2 = ⟨f.sid, f.name⟩ ∧ f.pc = .ran) ∨
    (∃ g ∈ s.flights.filter (fun g => g.sid ≠ f.sid), g.sid = e.2.sid ∧ g.name = e.2.name ∧ g.pc = .ran) := by
  rcases h.holderKnown e he with ho | ⟨g, hg, a, b, c⟩
  · exact .inl ho
  · by_cases e1 : g.sid = f.sid
    · rw [eq_of_nodup_map (f := (·.sid)) h.flightsNodup hg hf e1] at a b c
      exact .inr (.inl ⟨(inst_eq_iff _ _ _).mpr ⟨a.symm, b.symm⟩, c⟩)
    · exact .inr (.inr ⟨g, mem_filter_sid_ne.mpr ⟨hg, e1⟩, a, b, c⟩)

/-- `Run` (whether or not all keys could be claimed, as long as what was claimed is kept) -/
theorem sinv_run {s : CState} (h : SInv s) {f : Flight} (hf : f ∈ s.flights) (hpc : f.pc = .checked) :
    SInv { s with held := (claim s.held ⟨f.sid, f.name⟩ f.keys).1,
                  flights := { f with pc := .ran } :: s.flights.filter (fun g => g.sid ≠ f.sid) } := by
  obtain ⟨new, c1, c2, c3⟩ := RegSteps.claim_shape s.held ⟨f.sid, f.name⟩ f.keys
  refine ⟨c3 h.keysNodup, fun e he => ?_, h.namesNodup, h.namesOwned, h.ownNamed, h.ownNodup, ?_, ?_⟩
  · have he : e ∈ new ++ s.held := c1 ▸ he
    rcases List.mem_append.mp he with he | he
    · exact .inr ⟨{ f with pc := .ran }, List.mem_cons_self, by rw [c2 e he], by rw [c2 e he], rfl⟩
    · rcases holder_cases h hf he with ho | ⟨_, hp⟩ | ⟨g, hg, hh⟩
      · exact .inl ho
      · rw [hpc] at hp; cases hp
      · exact .inr ⟨g, List.mem_cons_of_mem _ hg, hh⟩
  · refine List.nodup_cons.mpr ⟨fun hm => ?_, nodup_map_filter h.flightsNodup _⟩
    obtain ⟨g, hg, e⟩ := List.mem_map.mp hm
    exact (mem_filter_sid_ne.mp hg).2 e
  · exact List.forall_mem_cons.mpr ⟨h.flightFresh f hf, fun g hg => h.flightFresh g (mem_filter_sid_ne.mp hg).1⟩

/-- a registration that has not passed `Run` holds nothing -/
theorem checked_holds_nothing {s : CState} (h : SInv s) {f : Flight} (hf : f ∈ s.flights)
    (hpc : f.pc = .checked) : ∀ e ∈ s.held, e.2 ≠ ⟨f.sid, f.name⟩ := by
  intro e he hh
  rcases holder_cases h hf he with ⟨o, ho, h1, h2⟩ | ⟨_, hp⟩ | ⟨g, hg, h1, _⟩
  · rw [hh] at h1 h2; exact h.flightFresh f hf o ho ⟨h1, h2⟩
  · rw [hpc] at hp; cases hp
  · rw [hh] at h1; exact (mem_filter_sid_ne.mp hg).2 h1

/-- a failed registration: the flight is gone and the held table lost (at most) entries of that object -/
theorem sinv_fail {s : CState} (h : SInv s) {f : Flight} (hf : f ∈ s.flights) :
    SInv (({ s with held := releaseAll s.held ⟨f.sid, f.name⟩ } : CState).dropFlight f.sid) := by
  refine ⟨nodup_map_filter h.keysNodup _, fun e he => ?_, h.namesNodup, h.namesOwned, h.ownNamed, h.ownNodup,
    nodup_map_filter h.flightsNodup _, fun g hg => h.flightFresh g (mem_filter_sid_ne.mp hg).1⟩
  have hm := List.mem_filter.mp he
  rcases holder_cases h hf hm.1 with ho | ⟨a, _⟩ | hr
  · exact .inl ho
  · exact absurd a (of_decide_eq_true hm.2)
  · exact .inr hr

theorem sinv_ok {s : CState} (h : SInv s) {f : Flight} (hf : f ∈ s.flights)
    (hn : s.nameTaken f.name = false) :
    SInv (({ s with names := (f.name, f.sid) :: s.names,
                    own := { sid := f.sid, name := f.name, n := f.n } :: s.own } : CState).dropFlight f.sid) := by
  have hfree : f.name ∉ s.names.map (·.1) := fun hm => by
    obtain ⟨e, he, en⟩ := List.mem_map.mp hm
    exact nameTaken_eq_false.mp hn e he en
  refine ⟨h.keysNodup, fun e he => ?_, List.nodup_cons.mpr ⟨hfree, h.namesNodup⟩, ?_, ?_, ?_,
    nodup_map_filter h.flightsNodup _, fun g hg => ?_⟩
  · rcases holder_cases h hf he with ⟨o, ho, hh⟩ | ⟨a, _⟩ | hr
    · exact .inl ⟨o, List.mem_cons_of_mem _ ho, hh⟩
    · exact .inl ⟨_, List.mem_cons_self, by rw [a], by rw [a]⟩
    · exact .inr hr
  · refine List.forall_mem_cons.mpr ⟨⟨_, List.mem_cons_self, rfl, rfl⟩, fun e he => ?_⟩
    obtain ⟨o, ho, hh⟩ := h.namesOwned e he
    exact ⟨o, List.mem_cons_of_mem _ ho, hh⟩
  · exact List.forall_mem_cons.mpr ⟨List.mem_cons_self, fun o ho => List.mem_cons_of_mem _ (h.ownNamed o ho)⟩
  · refine List.nodup_cons.mpr ⟨fun hm => ?_, h.ownNodup⟩
    obtain ⟨o, ho, e1⟩ := List.mem_map.mp hm
    exact hfree (List.mem_map.mpr ⟨(o.name, o.sid), h.ownNamed o ho, e1⟩)
  · have hg' := mem_filter_sid_ne.mp hg
    exact List.forall_mem_cons.mpr ⟨fun hh => hg'.2 hh.1.symm, h.flightFresh g hg'.1⟩

theorem sinv_drop {s : CState} (h : SInv s) (sid : Nat) (name : Str)
    (hown : ∃ o ∈ s.own, o.sid = sid ∧ o.name = name) : SInv (s.dropProxy sid name) := by
  obtain ⟨o0, ho0, hs0, hn0⟩ := hown
  unfold CState.dropProxy
  refine ⟨nodup_map_filter h.keysNodup _, ?_, nodup_map_filter h.namesNodup _, ?_, ?_,
    nodup_map_filter h.ownNodup _, h.flightsNodup, ?_⟩
  · intro e he
    have hm := List.mem_filter.mp he
    rcases h.holderKnown e hm.1 with ⟨o, ho, a, b⟩ | hk
    · refine .inl ⟨o, List.mem_filter.mpr ⟨ho, decide_eq_true fun hh => ?_⟩, a, b⟩
      exact of_decide_eq_true hm.2 ((inst_eq_iff e.2 sid name).mpr ⟨a ▸ hh.1, b ▸ hh.2⟩)
    · exact .inr hk
  · intro e he
    have hm := List.mem_filter.mp he
    obtain ⟨o, ho, a, b⟩ := h.namesOwned e hm.1
    exact ⟨o, List.mem_filter.mpr ⟨ho, decide_eq_true fun hh => of_decide_eq_true hm.2 (b ▸ hh.2)⟩, a, b⟩
  · intro o ho
    have hm := List.mem_filter.mp ho
    refine List.mem_filter.mpr ⟨h.ownNamed o hm.1, decide_eq_true fun hh => ?_⟩
    -- names are distinct in the own tables: an entry called `name` is the one being dropped
    have : o = o0 := eq_of_nodup_map (f := (·.name)) h.ownNodup hm.1 ho0 (hh.trans hn0.symm)
    exact of_decide_eq_true hm.2 ⟨this ▸ hs0, hh⟩
  · intro f hf o ho hh
    exact h.flightFresh f hf o (List.mem_filter.mp ho).1 hh

/-! ### quota accounting, step by step -/

theorem Accounted.of_sums {s t : CState} (hm : t.maxPorts = s.maxPorts)
    (h : ∀ x, t.quotaOf x = s.amt (ownSum t.own x + flightSum t.flights x)) : Accounted t := by
  intro x; rw [amt_eq s t hm]; exact h x

/-- the charge of a registration refused by `Exist` and its deferred rollback cancel -/
theorem charge_refund_quotaOf (s : CState) (sid n x : Nat) :
    ((s.charge sid n).refund sid n).quotaOf x = s.quotaOf x := by
  rw [quotaOf_refund, amt_eq s _ (by simp), quotaOf_charge, quotaOf_charge]
  by_cases e : x = sid
  · subst e; simp only [if_true]; exact Nat.add_sub_cancel ..
  · simp only [if_neg e]

theorem inv_begin {s : CState} (h : Inv s) (sid : Nat) (name : Str) (keys : List Key) (n : Nat) :
    Inv (s.begin sid name keys n).1 := by
  cases begin_cases s sid name keys n with
  | busy _ e => rw [e]; exact h
  | quota _ _ e => rw [e]; exact h
  | taken _ _ _ e =>
    rw [e]
    refine ⟨sinv_refund (sinv_charge h.struct _ _) _ _, Accounted.of_sums (s := s) (by simp) fun x => ?_⟩
    rw [charge_refund_quotaOf]
    simp only [refund_frame, charge_frame]
    exact h.quota x
  | parked hb _ ht e =>
    rw [e]
    refine ⟨sinv_add_flight (sinv_charge h.struct _ _) _ (by simpa using not_busy_iff.mp hb)
      (by simpa using nameTaken_eq_false.mp ht), Accounted.of_sums (s := s) (by simp) fun x => ?_⟩
    show (s.charge sid n).quotaOf x = _
    rw [quotaOf_charge]
    simp only [charge_frame, flightSum_cons]
    have hx := h.quota x
    by_cases e1 : x = sid
    · subst e1
      rw [if_pos rfl, if_pos rfl, hx, ← amt_add, Nat.add_assoc, Nat.add_comm (flightSum s.flights x) n]
    · rw [if_neg e1, if_neg fun e' => e1 e'.symm, Nat.zero_add]
      exact hx

theorem inv_step {s : CState} (h : Inv s) (sid : Nat) : Inv (s.step sid).1 := by
  have hx := h.quota
  have hfs := flightSum_of_mem s.flights h.struct.flightsNodup
  cases step_cases s sid with
  | noflight _ e => rw [e]; exact h
  | failed f r hf _ e =>
    -- `Run` or `Add` fails: the session's counter loses the charge of the flight with the flight
    obtain ⟨hfm, hsid⟩ := find_flight hf
    subst hsid
    rw [e]
    refine ⟨sinv_refund (sinv_fail h.struct hfm) _ _,
      Accounted.of_sums (s := s) (by simp [CState.dropFlight]) fun x => ?_⟩
    rw [quotaOf_refund]
    simp only [refund_frame, CState.dropFlight]
    show (if x = f.sid then s.quotaOf f.sid - s.amt f.n else s.quotaOf x) = _
    by_cases e1 : x = f.sid
    · subst e1
      rw [if_pos rfl, hx, flightSum_filter_self, hfs f hfm, amt_add, Nat.add_sub_cancel, Nat.add_zero]
    · rw [if_neg e1, flightSum_filter_other _ _ _ e1]; exact hx x
  | ran f hf hpc _ e =>
    -- `Run` succeeds: the same flight, one gate further
    obtain ⟨hfm, hsid⟩ := find_flight hf
    subst hsid
    rw [e]
    refine ⟨sinv_run h.struct hfm hpc, Accounted.of_sums (s := s) rfl fun x => ?_⟩
    show s.quotaOf x = s.amt (ownSum s.own x +
      flightSum ({ f with pc := .ran } :: s.flights.filter (fun g => g.sid ≠ f.sid)) x)
    rw [flightSum_cons, hx]
    by_cases e1 : x = f.sid
    · subst e1
      rw [flightSum_filter_self, hfs f hfm, if_pos rfl, Nat.add_zero]
    · rw [flightSum_filter_other _ _ _ e1, if_neg fun e' => e1 e'.symm, Nat.zero_add]
  | added f hf _ ht e =>
    -- `Add` succeeds: the charge moves from the flight to the own table
    obtain ⟨hfm, hsid⟩ := find_flight hf
    subst hsid
    rw [e]
    refine ⟨sinv_ok h.struct hfm ht, Accounted.of_sums (s := s) rfl fun x => ?_⟩
    show s.quotaOf x = s.amt (ownSum ({ sid := f.sid, name := f.name, n := f.n } :: s.own) x +
      flightSum (s.flights.filter (fun g => g.sid ≠ f.sid)) x)
    rw [ownSum_cons, hx]
    by_cases e1 : x = f.sid
    · subst e1
      rw [flightSum_filter_self, hfs f hfm, if_pos rfl, Nat.add_zero, Nat.add_comm]
    · rw [flightSum_filter_other _ _ _ e1, if_neg fun e' => e1 e'.symm, Nat.zero_add]

/-! ### close and session end -/

theorem close_cases (s : CState) (sid : Nat) (name : Str) :
    (s.busy sid = true ∧ s.close sid name = (s, .busy)) ∨
    (s.busy sid = false ∧ s.own.find? (fun o => o.sid = sid ∧ o.name = name) = none ∧
      s.close sid name = (s, .done)) ∨
    (∃ o, s.busy sid = false ∧ o ∈ s.own ∧ o.sid = sid ∧ o.name = name ∧
      s.close sid name = ((s.refund sid o.n).dropProxy sid name, .done)) := by
  unfold CState.close
  by_cases hb : s.busy sid = true
  · exact .inl ⟨hb, if_pos hb⟩
  · have hb' : s.busy sid = false := Bool.eq_false_iff.mpr hb
    rw [if_neg hb]
    cases hf : s.own.find? (fun o => o.sid = sid ∧ o.name = name) with
    | none => exact .inr (.inl ⟨hb', rfl, rfl⟩)
    | some o =>
      have hp := List.find?_some hf
      simp only [decide_eq_true_eq] at hp
      exact .inr (.inr ⟨o, hb', List.mem_of_find?_eq_some hf, hp.1, hp.2, rfl⟩)

theorem inv_close {s : CState} (h : Inv s) (sid : Nat) (name : Str) : Inv (s.close sid name).1 := by
  rcases close_cases s sid name with ⟨_, e⟩ | ⟨_, _, e⟩ | ⟨o, hb, ho, hs, hn, e⟩
  · rw [e]; exact h
  · rw [e]; exact h
  · rw [e]
    refine ⟨sinv_drop (sinv_refund h.struct sid o.n) sid name ⟨o, by simpa using ho, hs, hn⟩,
      Accounted.of_sums (s := s) (by simp [CState.dropProxy]) fun x => ?_⟩
    show (s.refund sid o.n).quotaOf x = s.amt (ownSum ((s.refund sid o.n).own.filter
      (fun p => ¬ (p.sid = sid ∧ p.name = name))) x + flightSum (s.refund sid o.n).flights x)
    rw [quotaOf_refund]
    simp only [refund_frame]
    subst hs; subst hn
    by_cases e1 : x = o.sid
    · subst e1
      have := ownSum_drop_self s.own h.struct.ownNodup o ho
      rw [if_pos rfl, h.quota o.sid, ← this, Nat.add_right_comm, amt_add, Nat.add_sub_cancel]
    · rw [if_neg e1, h.quota x, ownSum_filter]
      intro p _ ep
      exact decide_eq_true fun hp => e1 (ep ▸ hp.1)

/-- `Control.worker`'s loop over `ctl.proxies` -/
def dropAll (s : CState) (sid : Nat) (ns : List Str) : CState :=
  ns.foldl (fun st n => st.dropProxy sid n) s

theorem dropAll_eq (s : CState) (sid : Nat) (ns : List Str) :
    dropAll s sid ns =
      { s with held := ns.foldl (fun l n => l.filter (fun e => e.2 ≠ (⟨sid, n⟩ : Inst))) s.held
               names := ns.foldl (fun l n => l.filter (fun e => e.1 ≠ n)) s.names
               own := ns.foldl (fun l n => l.filter (fun o => ¬ (o.sid = sid ∧ o.name = n))) s.own } := by
  induction ns generalizing s with
  | nil => rfl
  | cons n ns ih => exact ih (s.dropProxy sid n)

theorem sinv_dropAll (sid : Nat) (ns : List Str) (s : CState) (h : SInv s) (hnd : ns.Nodup)
    (hown : ∀ n ∈ ns, ∃ o ∈ s.own, o.sid = sid ∧ o.name = n) : SInv (dropAll s sid ns) := by
  induction ns generalizing s with
  | nil => exact h
  | cons n ns ih =>
    have ⟨hn, hns⟩ := List.nodup_cons.mp hnd
    refine ih (s.dropProxy sid n) (sinv_drop h sid n (hown n List.mem_cons_self)) hns fun m hm => ?_
    obtain ⟨o, ho, a, b⟩ := hown m (List.mem_cons_of_mem _ hm)
    exact ⟨o, List.mem_filter.mpr ⟨ho, decide_eq_true fun hh => hn (hh.2 ▸ b ▸ hm)⟩, a, b⟩

theorem sessionEnd_cases (s : CState) (sid : Nat) :
    (s.busy sid = true ∧ s.sessionEnd sid = (s, .busy)) ∨
    (s.busy sid = false ∧ s.sessionEnd sid =
      ({ dropAll s sid (s.namesOf sid) with quota := (dropAll s sid (s.namesOf sid)).quota.filter (fun e => e.1 ≠ sid) },
       .done)) := by
  unfold CState.sessionEnd
  by_cases hb : s.busy sid = true
  · exact .inl ⟨hb, if_pos hb⟩
  · exact .inr ⟨Bool.eq_false_iff.mpr hb, if_neg hb⟩

theorem mem_namesOf (s : CState) (sid : Nat) (n : Str) :
    n ∈ s.namesOf sid ↔ ∃ o ∈ s.own, o.sid = sid ∧ o.name = n := by
  unfold CState.namesOf
  simp only [List.mem_map, List.mem_filter, decide_eq_true_eq, and_assoc]

theorem dropAll_namesOf {s : CState} (hs : SInv s) (sid : Nat) (hb : s.busy sid = false) :
    dropAll s sid (s.namesOf sid) =
      { s with held := s.held.filter (fun e => e.2.sid ≠ sid)
               names := s.names.filter (fun e => e.2 ≠ sid)
               own := s.own.filter (fun o => o.sid ≠ sid) } := by
  have hown := foldl_filter_eq_filter (fun n (o : Own) => decide ¬ (o.sid = sid ∧ o.name = n))
    (fun o => o.sid ≠ sid) (s.namesOf sid) s.own fun o ho => by
      simp only [decide_eq_true_eq, mem_namesOf]
      exact ⟨fun hh n _ hn => hh hn.1, fun hh a => hh o.name ⟨o, ho, a, rfl⟩ ⟨a, rfl⟩⟩
  have hnames := foldl_filter_eq_filter (fun n (e : Str × Nat) => decide (e.1 ≠ n))
    (fun e => e.2 ≠ sid) (s.namesOf sid) s.names fun e he => by
      simp only [decide_eq_true_eq, mem_namesOf]
      obtain ⟨o, ho, a, b⟩ := hs.namesOwned e he
      refine ⟨fun hh n ⟨o', ho', a', b'⟩ en => hh ?_, fun hh c => hh e.1 ⟨o, ho, a.trans c, b⟩ rfl⟩
      -- names are distinct in the own tables, so the entry's owner is the session
      rw [← a, ← eq_of_nodup_map (f := (·.name)) hs.ownNodup ho' ho (by rw [b', b, en]), a']
  have hheld := foldl_filter_eq_filter (fun n (e : Key × Inst) => decide (e.2 ≠ ⟨sid, n⟩))
    (fun e => e.2.sid ≠ sid) (s.namesOf sid) s.held fun e he => by
      simp only [decide_eq_true_eq, mem_namesOf]
      refine ⟨fun hh n _ en => hh (congrArg Inst.sid en), fun hh a => ?_⟩
      -- the session is idle, so what it holds is held by one of its own proxies
      rcases hs.holderKnown e he with ⟨o, ho, a1, b1⟩ | ⟨f, hf, a1, _⟩
      · exact hh e.2.name ⟨o, ho, a1.trans a, b1⟩ ((inst_eq_iff _ _ _).mpr ⟨a, rfl⟩)
      · exact not_busy_iff.mp hb f hf (a1.trans a)
  rw [dropAll_eq, hown, hnames, hheld]

/-- **end of a session** (its registration handler is idle): exactly the session's own proxies are
    dropped — every key they held, their names — nothing of other sessions, and the counter starts
    from 0 again for a later session -/
theorem sessionEnd_spec {s : CState} (h : Inv s) (sid : Nat) (hb : s.busy sid = false) :
    (s.sessionEnd sid).1.own = s.own.filter (fun o => o.sid ≠ sid) ∧
    (s.sessionEnd sid).1.names = s.names.filter (fun e => e.2 ≠ sid) ∧
    (s.sessionEnd sid).1.held = s.held.filter (fun e => e.2.sid ≠ sid) ∧
    (s.sessionEnd sid).1.flights = s.flights ∧
    (∀ x, (s.sessionEnd sid).1.quotaOf x = if x = sid then 0 else s.quotaOf x) ∧
    Inv (s.sessionEnd sid).1 := by
  rcases sessionEnd_cases s sid with ⟨hb', _⟩ | ⟨_, e⟩
  · rw [hb] at hb'; cases hb'
  have hs : SInv (dropAll s sid (s.namesOf sid)) :=
    sinv_dropAll sid (s.namesOf sid) s h.struct (nodup_map_filter h.struct.ownNodup _)
      fun n hn => (mem_namesOf s sid n).mp hn
  rw [e]
  rw [dropAll_namesOf h.struct sid hb] at hs ⊢
  have hq : ∀ x, CState.quotaOf { s with quota := s.quota.filter (fun e => e.1 ≠ sid) } x =
      if x = sid then 0 else s.quotaOf x := by
    intro x
    unfold CState.quotaOf
    simp only [lookup_filter_fst_ne]
    split <;> rfl
  refine ⟨rfl, rfl, rfl, rfl, hq, sinv_congr hs rfl rfl rfl rfl, Accounted.of_sums (s := s) rfl fun x => ?_⟩
  refine (hq x).trans ?_
  show _ = s.amt (ownSum (s.own.filter (fun o => o.sid ≠ sid)) x + flightSum s.flights x)
  by_cases e1 : x = sid
  · subst e1
    rw [if_pos rfl, flightSum_none _ _ (not_busy_iff.mp hb),
      ownSum_none _ _ fun o ho => by simpa using (List.mem_filter.mp ho).2, amt_zero]
  · rw [if_neg e1, h.quota x, ownSum_filter]
    intro o _ eo
    simpa [eo] using e1

theorem inv_sessionEnd {s : CState} (h : Inv s) (sid : Nat) : Inv (s.sessionEnd sid).1 := by
  rcases sessionEnd_cases s sid with ⟨_, e⟩ | ⟨hb, _⟩
  · rw [e]; exact h
  · exact (sessionEnd_spec h sid hb).2.2.2.2.2


theorem sessionEnd_own {s : CState} (h : Inv s) (sid : Nat) (hb : s.busy sid = false) :
    (s.sessionEnd sid).1.own = s.own.filter (fun o => o.sid ≠ sid) :=
  (sessionEnd_spec h sid hb).1

/-! ### flights across the operations -/

/-- a section of session `sid`'s registration leaves the flights of the other sessions alone -/
theorem step_flights_other (s : CState) (sid : Nat) (f : Flight) (hf : f.sid ≠ sid) :
    f ∈ (s.step sid).1.flights ↔ f ∈ s.flights := by
  have filt : f ∈ s.flights.filter (fun g => g.sid ≠ sid) ↔ f ∈ s.flights :=
    mem_filter_sid_ne.trans (and_iff_left hf)
  cases step_cases s sid with
  | noflight _ e => rw [e]
  | failed g r _ _ e => rw [e]; simpa [CState.dropFlight] using filt
  | ran g hg _ _ e =>
    rw [e]
    have : f ≠ { g with pc := .ran } := fun e' => hf (e' ▸ (find_flight hg).2)
    simpa [this] using filt
  | added g _ _ _ e => rw [e]; simpa [CState.dropFlight] using filt

theorem close_flights (s : CState) (sid : Nat) (name : Str) : (s.close sid name).1.flights = s.flights := by
  rcases close_cases s sid name with ⟨_, e⟩ | ⟨_, _, e⟩ | ⟨o, _, _, _, _, e⟩
  · rw [e]
  · rw [e]
  · rw [e]; simp [CState.dropProxy]

theorem sessionEnd_flights {s : CState} (h : Inv s) (sid : Nat) : (s.sessionEnd sid).1.flights = s.flights := by
  rcases sessionEnd_cases s sid with ⟨_, e⟩ | ⟨hb, _⟩
  · rw [e]
  · exact (sessionEnd_spec h sid hb).2.2.2.1


inductive Op
  | begin (sid : Nat) (name : Str) (keys : List Key) (n : Nat)
  | step (sid : Nat)
  | close (sid : Nat) (name : Str)
  | sessionEnd (sid : Nat)

def apply (s : CState) : Op → CState
  | .begin sid name keys n => (s.begin sid name keys n).1
  | .step sid => (s.step sid).1
  | .close sid name => (s.close sid name).1
  | .sessionEnd sid => (s.sessionEnd sid).1

/-- **every schedule**: whatever the sessions do and however the sections of their concurrent
    registrations are interleaved, the tables stay consistent and every quota counter is exactly the
    charge of what its session owns or is registering -/
theorem inv_reachable (m : Nat) (ops : List Op) : Inv (ops.foldl apply (CState.init m)) := by
  refine foldl_invariant (P := Inv) (inv_init m) fun s op _ h => ?_
  cases op with
  | begin sid name keys n => exact inv_begin h sid name keys n
  | step sid => exact inv_step h sid
  | close sid name => exact inv_close h sid name
  | sessionEnd sid => exact inv_sessionEnd h sid

/-- a session that is not inside `RegisterProxy` is charged for exactly the proxies it owns -/
theorem quota_exact_idle {s : CState} (h : Inv s) (sid : Nat) (hb : s.busy sid = false) :
    s.quotaOf sid = s.amt (ownSum s.own sid) := by
  rw [h.quota sid, flightSum_none _ _ (not_busy_iff.mp hb), Nat.add_zero]

/-- a registration refused at once (session busy, quota, name exists) changes nothing -/
theorem begin_refused_unchanged (s : CState) (sid : Nat) (name : Str) (keys : List Key) (n : Nat)
    (hr : (s.begin sid name keys n).2 ≠ .parked .checked) :
    (s.begin sid name keys n).1.held = s.held ∧ (s.begin sid name keys n).1.names = s.names ∧
    (s.begin sid name keys n).1.own = s.own ∧ (s.begin sid name keys n).1.flights = s.flights ∧
    ∀ x, (s.begin sid name keys n).1.quotaOf x = s.quotaOf x := by
  cases begin_cases s sid name keys n with
  | busy _ e => rw [e]; exact ⟨rfl, rfl, rfl, rfl, fun _ => rfl⟩
  | quota _ _ e => rw [e]; exact ⟨rfl, rfl, rfl, rfl, fun _ => rfl⟩
  | taken _ _ _ e => rw [e]; exact ⟨by simp, by simp, by simp, by simp, charge_refund_quotaOf s sid n⟩
  | parked _ _ _ e => rw [e] at hr; exact absurd rfl hr

/-- **a registration that fails part-way leaves nothing behind** — at `Run` (conflict at any claim) or
    at `Add` (**name taken concurrently** by another session's registration that passed `Exist` at the
    same time): the object holds no key any more, every other holder keeps exactly its keys, name table
    and own tables are untouched, and the session's quota counter is back to the charge of what it owns.
    No other session's counter moves. -/
theorem step_failure_releases {s : CState} (h : Inv s) (sid : Nat)
    (hr : (s.step sid).2 = .inuse ∨ ∃ k, (s.step sid).2 = .conflict k) :
    ∃ f ∈ s.flights, f.sid = sid ∧
      (s.step sid).1.held = s.held.filter (fun e => e.2 ≠ ⟨sid, f.name⟩) ∧
      (s.step sid).1.names = s.names ∧ (s.step sid).1.own = s.own ∧
      (s.step sid).1.flights = s.flights.filter (fun g => g.sid ≠ sid) ∧
      (s.step sid).1.quotaOf sid = s.amt (ownSum s.own sid) ∧
      ∀ x, x ≠ sid → (s.step sid).1.quotaOf x = s.quotaOf x := by
  have hq := (inv_step h sid).quota sid
  cases step_cases s sid with
  | noflight _ e => rw [e] at hr; rcases hr with hr | ⟨_, hr⟩ <;> cases hr
  | ran _ _ _ _ e => rw [e] at hr; rcases hr with hr | ⟨_, hr⟩ <;> cases hr
  | added _ _ _ _ e => rw [e] at hr; rcases hr with hr | ⟨_, hr⟩ <;> cases hr
  | failed f r hf _ e =>
    obtain ⟨hfm, hsid⟩ := find_flight hf
    rw [e] at hq ⊢
    refine ⟨f, hfm, hsid, by simp only [refund_frame, CState.dropFlight]; rfl, by simp [CState.dropFlight],
      by simp [CState.dropFlight], by simp [CState.dropFlight], ?_, fun x hx => ?_⟩
    · -- the invariant after the step, read at `sid`: the flight is gone, what is left is what it owns
      rw [hq]
      simp only [refund_frame, CState.dropFlight, flightSum_filter_self, Nat.add_zero]
      exact amt_eq s _ (by simp) _
    · rw [quotaOf_refund, if_neg hx]; rfl

/-- when `Run` fails the held table is EXACTLY what it was (the object held nothing before `Run`) -/
theorem run_conflict_restores {s : CState} (h : Inv s) (sid : Nat) (k : Key)
    (hr : (s.step sid).2 = .conflict k) : (s.step sid).1.held = s.held := by
  cases step_cases s sid with
  | noflight _ e => rw [e] at hr; cases hr
  | ran _ _ _ _ e => rw [e] at hr; cases hr
  | added _ _ _ _ e => rw [e] at hr; cases hr
  | failed f r hf why e =>
    obtain ⟨hfm, hsid⟩ := find_flight hf
    rw [e] at hr ⊢
    rcases why with ⟨hpc, _⟩ | ⟨_, _, er⟩
    · simp only [refund_frame, CState.dropFlight]
      exact filter_snd_ne_self (hsid ▸ checked_holds_nothing h.struct hfm hpc)
    · rw [er] at hr; cases hr

/-- **explicit close by the owner** (handler idle): exactly the proxy's keys, its name and its own-table
    entry go; its ports are given back to the session's counter -/
theorem close_spec {s : CState} (h : Inv s) (sid : Nat) (name : Str) (hb : s.busy sid = false)
    (ho : ∃ o ∈ s.own, o.sid = sid ∧ o.name = name) :
    (s.close sid name).1.held = s.held.filter (fun e => e.2 ≠ ⟨sid, name⟩) ∧
    (s.close sid name).1.names = s.names.filter (fun e => e.1 ≠ name) ∧
    (s.close sid name).1.own = s.own.filter (fun o => ¬ (o.sid = sid ∧ o.name = name)) ∧
    (s.close sid name).1.quotaOf sid = s.amt (ownSum (s.close sid name).1.own sid) ∧
    (s.close sid name).1.nameTaken name = false := by
  have hq := quota_exact_idle (inv_close h sid name) sid
  rcases close_cases s sid name with ⟨hb', _⟩ | ⟨_, hn, _⟩ | ⟨o, _, _, _, _, e⟩
  · rw [hb] at hb'; cases hb'
  · obtain ⟨o, hom, a, b⟩ := ho
    have := List.find?_eq_none.mp hn o hom
    simp [a, b] at this
  · rw [e] at hq ⊢
    refine ⟨by simp [CState.dropProxy, RegSteps.releaseAll], by simp [CState.dropProxy],
      by simp [CState.dropProxy], ?_, nameTaken_eq_false.mpr fun e' he' => ?_⟩
    · rw [hq (by simpa [CState.busy, CState.dropProxy] using hb)]
      exact amt_eq s _ (by simp [CState.dropProxy]) _
    · simpa using (List.mem_filter.mp he').2

theorem find?_flight_head (f : Flight) (fl : List Flight) : (f :: fl).find? (fun g => g.sid = f.sid) = some f :=
  List.find?_cons_of_pos (by simp)

theorem step_run_head {s : CState} {f : Flight} {fl : List Flight} (hfl : s.flights = f :: fl)
    (hpc : f.pc = .checked) (hc : (claim s.held ⟨f.sid, f.name⟩ f.keys).2 = none) :
    s.step f.sid = ({ s with held := (claim s.held ⟨f.sid, f.name⟩ f.keys).1,
                             flights := { f with pc := .ran } :: s.flights.filter (fun g => g.sid ≠ f.sid) },
      .parked .ran) := by
  have hfind := hfl ▸ find?_flight_head f fl
  cases step_cases s f.sid with
  | noflight hf _ => rw [hfind] at hf; cases hf
  | failed g r hf why _ =>
    rw [hfind] at hf; cases hf
    rcases why with ⟨_, k, hk, _⟩ | ⟨hg, _⟩
    · rw [hc] at hk; cases hk
    · rw [hpc] at hg; cases hg
  | ran g hf _ _ e =>
    rw [hfind] at hf; cases hf
    exact e
  | added g hf hg _ _ =>
    rw [hfind] at hf; cases hf
    rw [hpc] at hg; cases hg

theorem step_add_head {s : CState} {f : Flight} {fl : List Flight} (hfl : s.flights = f :: fl)
    (hpc : f.pc = .ran) (hn : s.nameTaken f.name = false) : (s.step f.sid).2 = .ok := by
  have hfind := hfl ▸ find?_flight_head f fl
  cases step_cases s f.sid with
  | noflight hf _ => rw [hfind] at hf; cases hf
  | failed g r hf why _ =>
    rw [hfind] at hf; cases hf
    rcases why with ⟨hg, _⟩ | ⟨_, ht, _⟩
    · rw [hpc] at hg; cases hg
    · rw [hn] at ht; cases ht
  | ran g hf hg _ _ =>
    rw [hfind] at hf; cases hf
    rw [hpc] at hg; cases hg
  | added g hf _ _ e =>
    rw [hfind] at hf; cases hf
    rw [e]

/-- a registration parked before `Run` whose keys can all be claimed and whose name stays absent passes
    `Run` and `Add` (`Run` leaves the name table alone) -/
theorem steps_succeed {s : CState} {f : Flight} {fl : List Flight} (hfl : s.flights = f :: fl)
    (hpc : f.pc = .checked) (hc : (claim s.held ⟨f.sid, f.name⟩ f.keys).2 = none)
    (hn : s.nameTaken f.name = false) :
    (s.step f.sid).2 = .parked .ran ∧ ((s.step f.sid).1.step f.sid).2 = .ok := by
  rw [step_run_head hfl hpc hc]
  exact ⟨rfl, step_add_head (f := { f with pc := .ran }) rfl rfl hn⟩

/-- **the identical registration submitted afterwards succeeds**: in any reachable state where the
    session is idle, the name and the keys are free (e.g. after the owner's close, `close_spec`) and the
    ports fit under the limit on top of what the session really owns, the registration goes through all
    its sections — it can never be refused for ports charged to a registration that failed earlier -/
theorem retry_succeeds {s : CState} (h : Inv s) (sid : Nat) (name : Str) (keys : List Key) (n : Nat)
    (hb : s.busy sid = false) (hn : s.nameTaken name = false) (hnd : keys.Nodup)
    (hfree : ∀ k ∈ keys, k ∉ s.held.map (·.1))
    (hfit : s.maxPorts = 0 ∨ ownSum s.own sid + n ≤ s.maxPorts) :
    (s.begin sid name keys n).2 = .parked .checked ∧
    ((s.begin sid name keys n).1.step sid).2 = .parked .ran ∧
    (((s.begin sid name keys n).1.step sid).1.step sid).2 = .ok := by
  have hq := quota_exact_idle h sid hb
  cases begin_cases s sid name keys n with
  | busy hb' _ => rw [hb] at hb'; cases hb'
  | quota _ hq' _ =>
    -- the counter is what the session owns, and that plus `n` fits
    rw [hq] at hq'
    unfold CState.amt at hq'
    rcases hfit with h0 | h0
    · omega
    · rw [if_pos hq'.1] at hq'; omega
  | taken _ _ ht _ => rw [hn] at ht; cases ht
  | parked _ _ _ e =>
    rw [e]
    refine ⟨rfl, steps_succeed (f := { sid := sid, name := name, keys := keys, n := n, pc := .checked }) rfl rfl ?_ ?_⟩
    · simp only [charge_frame]
      exact claim_free s.held ⟨sid, name⟩ keys hnd hfree
    · simpa [CState.nameTaken] using hn

/-- **nothing is left anywhere** once every registration has finished and every proxy was closed or its
    session ended: all tables are empty and all quota counters are 0 — whatever happened before -/
theorem quiescent_clean {s : CState} (h : Inv s) (hf : s.flights = []) (ho : s.own = []) :
    s.held = [] ∧ s.names = [] ∧ ∀ x, s.quotaOf x = 0 := by
  refine ⟨List.eq_nil_iff_forall_not_mem.mpr fun e he => ?_, List.eq_nil_iff_forall_not_mem.mpr fun e he => ?_,
    fun x => by rw [h.quota x, hf, ho]; exact amt_zero s⟩
  · rcases h.struct.holderKnown e he with ⟨o, hom, _⟩ | ⟨f, hfm, _⟩
    · rw [ho] at hom; cases hom
    · rw [hf] at hfm; cases hfm
  · obtain ⟨o, hom, _⟩ := h.struct.namesOwned e he
    rw [ho] at hom; cases hom

/-! ### the executable predicate used by the driver (engine "regrace") -/

/-- every session's counter recomputed from what it owns or is registering -/
def accountedQuota (s : CState) : List (Nat × Nat) :=
  (s.own.map (·.sid) ++ s.flights.map (·.sid)).map
    (fun x => (x, s.amt (ownSum s.own x + flightSum s.flights x)))

/-- the state a record of owned proxies / registrations in flight accounts for: same tables, quota
    counters recomputed -/
def accounted (s : CState) : CState := { s with quota := accountedQuota s }

def quotaRefusalJustified (s : CState) (sid n : Nat) : Bool :=
  decide (s.maxPorts > 0 ∧ s.quotaOf sid + n > s.maxPorts)

def keysFree (s : CState) (keys : List Key) : Bool :=
  decide keys.Nodup && keys.all (fun k => (s.held.lookup k).isNone)

theorem lookup_map_self (l : List Nat) (g : Nat → Nat) (x : Nat) :
    (l.map (fun y => (y, g y))).lookup x = if x ∈ l then some (g x) else none := by
  induction l with
  | nil => rfl
  | cons y ys ih =>
    rw [List.map_cons, List.lookup_cons]
    by_cases e : x = y
    · subst e; simp
    · have hb : (x == y) = false := by simpa using e
      rw [hb, ih]
      simp [e]

theorem accounted_quotaOf (s : CState) (x : Nat) :
    (accounted s).quotaOf x = s.amt (ownSum s.own x + flightSum s.flights x) := by
  unfold accounted accountedQuota CState.quotaOf
  dsimp only
  rw [lookup_map_self]
  split
  · rfl
  · -- a session absent from both tables is charged nothing
    rename_i hx
    simp only [List.mem_append, List.mem_map, not_or, not_exists, not_and] at hx
    rw [ownSum_none _ _ hx.1, flightSum_none _ _ hx.2, amt_zero]; rfl

/-- soundness of the predicate: on every reachable state of the model the accounted state and the
    state agree on every table and every counter, so `rrView (accounted s) = rrView s` -/
theorem accounted_sound {s : CState} (h : Inv s) :
    (accounted s).held = s.held ∧ (accounted s).names = s.names ∧ (accounted s).own = s.own ∧
    (accounted s).flights = s.flights ∧ ∀ x, (accounted s).quotaOf x = s.quotaOf x :=
  ⟨rfl, rfl, rfl, rfl, fun x => by rw [accounted_quotaOf, h.quota x]⟩

/-! non-vacuity: the name race of two sessions, the loser is refunded and can register again -/
def pA : Key := ⟨.tcp, s "1"⟩
def pB : Key := ⟨.tcp, s "2"⟩
def race : List Op :=
  [.begin 1 (s "p") [pA] 1, .begin 2 (s "p") [pB] 1, .step 1, .step 2, .step 1]

example : ((race.foldl apply (CState.init 1)).step 2).2 = .inuse := by decide +kernel
example : (((race.foldl apply (CState.init 1)).step 2).1.quotaOf 2) = 0 := by decide +kernel
example : (((race.foldl apply (CState.init 1)).step 2).1.held.map (·.1)) = [pA] := by decide +kernel
example : let s1 := (((race.foldl apply (CState.init 1)).step 2).1.close 1 (s "p")).1
          (s1.begin 2 (s "p") [pB] 1).2 = .parked .checked := by decide +kernel

end Conc

end C10
end Frp
