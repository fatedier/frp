import Frp.Model.Layers
import Frp.Model.Limit
import Frp.Model.CloseGraph
import Frp.Model.Tunnel
import Frp.Lemmas.Limit
import Frp.Lemmas.Layers
import Frp.Model.Deadline
import Frp.Model.QuicStream
import Frp.Model.CodecPool1
import Frp.Gen.ConnFacts
import Frp.Lemmas.Reload
import Frp.Props.C06
/-
  C01 — TCP-class tunnels are byte-transparent, never cross-wired, propagate close, respect the
  bandwidth bound.  (partial: AES-CFB / snappy being lawful layers, the transports and "eventually
  delivered" under real scheduling are assumed and sampled by the `stack` / `e2e` engines.)

  Clauses → theorems
   (1) both ends build mirrored stacks ............ mirror_proxy, mirror_order, mirror_visitor, limiter_position
   (2) a stack of lawful layers is lawful ......... stack_transparent, stack_prefix, stack_complete,
       and the two DIFFERENT stacks of the two ends are compatible in both directions
       .............................................. tunnel_down_prefix/complete, tunnel_up_prefix/complete;
       each end's stack through the transforming layers both share: server_Eout, server_Dout, client_Dout,
       client_Eout_flatten
   (3) limit.Writer / Reader ...................... writer_chunks, writer_chunk_bounds, writer_tokens,
       writer_requests_admissible, reader_le;
       against the limiter's admission check (`WaitN(n)` fails for n > burst on a finite limiter) and a
       sink that can fail ........................... writer_wait_never_refused, writer_finite_complete,
       writer_short_count, writer_requests_cover, writer_calls_concat, reader_drain;
       the io.Reader / io.Writer CONTRACT for every wrapper (limit.Reader / Writer, StatsConn, pass-through), ALL sources
       (scripts of (n, err) pairs: data together with EOF / another error, (0, nil), any segmentation) and all
       contract-abiding sinks ....................... reader_pair_unchanged, reader_any_source, reader_any_prefix,
       reader_read_bounds, reader_eof_with_data, stats_count_all, writer_any_sink, writer_calls_any_sink,
       writer_lax_sink_witness (outside the contract); charging: reader_charged (every byte, those that come with an
       error included), reader_tail_charged, reader_code_charges (tie: regenerated from reader.go),
       reader_charged_old_witness (sensitivity: reader.go before c863bec)
   (4) token bucket ............................... bucket_bound, bucket_window_bound
   (5) close propagation .......................... client_close, server_close_fixed, server_close_partial,
       server_close_witness (DEFECT of the pinned tree, DESIGN §7 #2), http_close_*, closeNotify_witness (DEFECT #17),
       closeNotify_fixed, join_returns, join_stuck_witness
   (6) no cross-wiring ............................ no_crosswire, dispatch_unknown
   (7) proxy-protocol header ...................... pp_header_src, pp_header_iff, pp_header_dst
   (8) sniffed bytes replayed ..................... https_replays_all, tcpmux_passthrough_replays_all,
       tcpmux_strips_consumed, tcpmux_early_data_witness (observation)
   (9) the vhost sniff phase leaves no deadline on a connection it hands on
       .............................................. dl_clear_both, dl_read_only_clear_leaves_write, handle_clears_deadlines,
       handle_closes_or_clears, handle_code_clears (tie: regenerated from vhost.go), dlHoldsOn_sound
   (10) closing a QUIC work connection only closes the send side, never cancels what was written
       .............................................. quic_noCancel_delivers, quic_close_delivers, quic_cancelWrite_loses,
       quic_close_code (tie: regenerated from conn.go)
   (11) a pooled snappy codec is never held by two live connections
       .............................................. pool_no_sharing, pool_live_not_pooled, pool_double_put_witness,
       pool_recycle_once_code (tie: regenerated from every caller of WithCompressionFromPool)
   (12) closing one vhost proxy never re-routes another's connections (over C06's Router model)
       .............................................. survivor_keeps_route, survivor_example
   (13) frpc is re-configured while it runs (Manager.UpdateAll): after ANY history of reloads a new connection of proxy p
       is bridged to the backend (and gets the header version) of the LAST loaded configuration of p
       .............................................. reload_table, reload_inv, reload_bridges_last, reload_swap,
       reload_inplace_witness (sensitivity), reload_code_recreates (tie: regenerated from client/proxy)
   (14) the StartWorkConn message of a user connection is a function of THAT connection's addresses, whatever other
       user connections of the proxy are in flight, in every interleaving
       .............................................. startmsg_own, startmsg_header_own, startmsg_shared_witness (sensitivity),
       startmsg_code_locals (tie: regenerated from server/proxy/proxy.go), reloadHoldsOn / ppcHoldsOn (driver predicates)
-/
namespace Frp
namespace C01
open Layers Limit CloseGraph Tunnel

/-! ## (1) mirror -/

theorem transforming_append (a b : List Kind) : transforming (a ++ b) = transforming a ++ transforming b :=
  List.filter_append ..

theorem transforming_opt (b : Bool) (k : Kind) : transforming (opt b k) = if k = .limit then [] else opt b k := by
  cases b <;> cases k <;> rfl

theorem transforming_client (o : Opts) : transforming (clientStack o) = opt o.enc .enc ++ opt o.comp .comp := by
  simp [clientStack, transforming_append, transforming_opt]

/-- the byte-transforming layers of frps' stack: encryption next to the wire, compression above it -/
theorem mirror_order (o : Opts) : transforming (serverStack o) = opt o.enc .enc ++ opt o.comp .comp := by
  simp [serverStack, transforming_append, transforming_opt]

/-- for every option combination the byte-transforming layers of frps' and frpc's stacks are the same list in the same
    order -/
theorem mirror_proxy (o : Opts) : transforming (serverStack o) = transforming (clientStack o) :=
  (mirror_order o).trans (transforming_client o).symm

/-- visitor leg: the visitor's stack and `visitor.Manager.NewConn`'s stack agree (the flags travel
    in NewVisitorConn) -/
theorem mirror_visitor (e c : Bool) : visitorStack e c = visitorServerStack e c := rfl

/-- the limiter sits on top of the server's stack iff the server enforces, and next to the wire in
    the client's stack iff the client enforces -/
theorem limiter_position (o : Opts) :
    serverStack o = transforming (serverStack o) ++ opt o.limSrv .limit ∧
    clientStack o = opt o.limCli .limit ++ transforming (clientStack o) := by
  rw [mirror_order, transforming_client]
  exact ⟨rfl, List.append_assoc _ _ _⟩

/-! ## (2) transparency -/

/-- a stack of lawful layers is a lawful layer -/
theorem stack_transparent (st : List Layer) (h : ∀ l ∈ st, Lawful l) : Lawful (stackLayer st) :=
  stack_lawful st h

/-- the reader sees a prefix of what the writer wrote — any chunking of any prefix of the wire -/
theorem stack_prefix (st : List Layer) (h : ∀ l ∈ st, Lawful l) (ps cs : List C01Bytes)
    (hw : cs.flatten <+: ((stackLayer st).Eout ps).flatten) : (stackLayer st).Dout cs <+: ps.flatten :=
  transparent_prefix (stack_lawful st h) ps cs hw

/-- the reader sees all of what the writer wrote once everything written arrived -/
theorem stack_complete (st : List Layer) (h : ∀ l ∈ st, Lawful l) (ps cs : List C01Bytes)
    (hw : cs.flatten = ((stackLayer st).Eout ps).flatten) : (stackLayer st).Dout cs = ps.flatten :=
  transparent_complete (stack_lawful st h) ps cs hw

/-- the stack frps builds / the stack frpc builds, as layers (`burst` = the limiter's burst) -/
def serverLayer (encL compL : Layer) (burst : Nat) (o : Opts) : Layer :=
  stackLayer (instantiate encL compL burst (serverStack o))
def clientLayer (encL compL : Layer) (burst : Nat) (o : Opts) : Layer :=
  stackLayer (instantiate encL compL burst (clientStack o))

theorem limiter_Eout_flatten (burst : Nat) (hb : 0 < burst) (ps : List C01Bytes) :
    ((limiterLayer burst).Eout ps).flatten = ps.flatten :=
  rechunk_encRun _ (Limit.chunks_flatten burst hb) ps _

theorem limiter_Dchunks (burst : Nat) (cs : List C01Bytes) : (limiterLayer burst).Dchunks cs = cs :=
  rechunk_decChunks _ cs _

/-- the reader behind `R` sees what was written into `W`: a prefix of it for any chunking of any prefix of the wire, all
    of it once everything arrived -/
def Compatible (W R : Layer) : Prop :=
  ∀ ps cs : List C01Bytes, (cs.flatten <+: (W.Eout ps).flatten → R.Dout cs <+: ps.flatten) ∧
    (cs.flatten = (W.Eout ps).flatten → R.Dout cs = ps.flatten)

theorem Compatible.of_lawful {L : Layer} (h : Lawful L) : Compatible L L :=
  fun ps cs => ⟨transparent_prefix h ps cs, transparent_complete h ps cs⟩

theorem Compatible.under {W R L : Layer} (hL : Lawful L) (h : Compatible W R) : Compatible (comp W L) (comp R L) := by
  intro ps cs
  rw [comp_Eout, comp_Dout]
  exact ⟨fun hw => (h ps _).1 (transparent_prefix hL _ cs hw), fun hw => (h ps _).2 (transparent_complete hL _ cs hw)⟩

/-- a limiter under the writing stack only re-chunks what goes to the wire -/
theorem Compatible.limiter_left {W R : Layer} (burst : Nat) (hb : 0 < burst) (h : Compatible W R) :
    Compatible (comp W (limiterLayer burst)) R := by
  intro ps cs
  rw [comp_Eout, limiter_Eout_flatten burst hb]
  exact h ps cs

/-- a limiter under the reading stack hands on what arrives -/
theorem Compatible.limiter_right {W R : Layer} (burst : Nat) (h : Compatible W R) :
    Compatible W (comp R (limiterLayer burst)) := by
  intro ps cs
  rw [comp_Dout, limiter_Dchunks]
  exact h ps cs

/-- ANY two stacks with the same byte-transforming layers in the same order, limiters anywhere in either, are
    compatible.  Peel the layers next to the wire: a limiter on either side is skipped, a transforming layer is the
    same on both sides and decodes what it encoded -/
theorem compatible_of_transforming {encL compL : Layer} (he : Lawful encL) (hc : Lawful compL) (burst : Nat)
    (hb : 0 < burst) : ∀ A B : List Kind, transforming A = transforming B →
      Compatible (stackLayer (instantiate encL compL burst A)) (stackLayer (instantiate encL compL burst B))
  | [], [], _ => .of_lawful id_lawful
  | A, .limit :: B, h => (compatible_of_transforming he hc burst hb A B h).limiter_right burst
  | .limit :: A, B, h => (compatible_of_transforming he hc burst hb A B h).limiter_left burst hb
  | .enc :: A, .enc :: B, h => (compatible_of_transforming he hc burst hb A B (List.cons.inj h).2).under he
  | .comp :: A, .comp :: B, h => (compatible_of_transforming he hc burst hb A B (List.cons.inj h).2).under hc
  | [], .enc :: _, h | [], .comp :: _, h | .enc :: _, [], h | .comp :: _, [], h => nomatch h
  | .enc :: _, .comp :: _, h | .comp :: _, .enc :: _, h => nomatch (List.cons.inj h).1
termination_by A B => A.length + B.length
decreasing_by all_goals (simp only [List.length_cons]; omega)

theorem tunnel_down {encL compL : Layer} (he : Lawful encL) (hc : Lawful compL) (burst : Nat) (hb : 0 < burst) (o : Opts) :
    Compatible (serverLayer encL compL burst o) (clientLayer encL compL burst o) :=
  compatible_of_transforming he hc burst hb _ _ (mirror_proxy o)

theorem tunnel_up {encL compL : Layer} (he : Lawful encL) (hc : Lawful compL) (burst : Nat) (hb : 0 < burst) (o : Opts) :
    Compatible (clientLayer encL compL burst o) (serverLayer encL compL burst o) :=
  compatible_of_transforming he hc burst hb _ _ (mirror_proxy o).symm

/-- user → backend: whatever prefix of frps' encoded stream reaches frpc, in whatever chunking,
    frpc's (different) stack decodes it to a prefix of what frps' stack was given — for every option
    combination, any lawful cipher / compression layers, any burst > 0 -/
theorem tunnel_down_prefix {encL compL : Layer} (he : Lawful encL) (hc : Lawful compL) (burst : Nat)
    (hb : 0 < burst) (o : Opts) (ps cs : List C01Bytes)
    (hw : cs.flatten <+: ((serverLayer encL compL burst o).Eout ps).flatten) :
    (clientLayer encL compL burst o).Dout cs <+: ps.flatten := (tunnel_down he hc burst hb o ps cs).1 hw

theorem tunnel_down_complete {encL compL : Layer} (he : Lawful encL) (hc : Lawful compL) (burst : Nat)
    (hb : 0 < burst) (o : Opts) (ps cs : List C01Bytes)
    (hw : cs.flatten = ((serverLayer encL compL burst o).Eout ps).flatten) :
    (clientLayer encL compL burst o).Dout cs = ps.flatten := (tunnel_down he hc burst hb o ps cs).2 hw

/-- backend → user -/
theorem tunnel_up_prefix {encL compL : Layer} (he : Lawful encL) (hc : Lawful compL) (burst : Nat)
    (hb : 0 < burst) (o : Opts) (ps cs : List C01Bytes)
    (hw : cs.flatten <+: ((clientLayer encL compL burst o).Eout ps).flatten) :
    (serverLayer encL compL burst o).Dout cs <+: ps.flatten := (tunnel_up he hc burst hb o ps cs).1 hw

theorem tunnel_up_complete {encL compL : Layer} (he : Lawful encL) (hc : Lawful compL) (burst : Nat)
    (hb : 0 < burst) (o : Opts) (ps cs : List C01Bytes)
    (hw : cs.flatten = ((clientLayer encL compL burst o).Eout ps).flatten) :
    (serverLayer encL compL burst o).Dout cs = ps.flatten := (tunnel_up he hc burst hb o ps cs).2 hw

/-- non-vacuity: a cipher-shaped layer (16-byte header, bytewise bijection) and a second one as
    "compression" are lawful, so the hypotheses of the tunnel theorems are satisfiable -/
def toyEnc : Layer := headerMap (List.replicate 16 7) (fun x => x + 1) (fun x => x - 1)
def toyComp : Layer := headerMap [0xff, 6, 0, 0] (fun x => x + 3) (fun x => x - 3)
theorem toyEnc_lawful : Lawful toyEnc := headerMap_lawful _ _ _ (fun x => by omega)
theorem toyComp_lawful : Lawful toyComp := headerMap_lawful _ _ _ (fun x => by omega)

example : (clientLayer toyEnc toyComp 3 ⟨true, true, true, false⟩).Dout
    ((serverLayer toyEnc toyComp 3 ⟨true, true, true, false⟩).Eout [[1, 2, 3, 4, 5], [], [6]]) = [1, 2, 3, 4, 5, 6] := by
  decide +kernel
example : ((serverLayer toyEnc toyComp 3 ⟨true, true, true, false⟩).Eout [[1, 2, 3, 4, 5]]).flatten.length = 16 + 4 + 5 := by
  decide +kernel

/-! ### what the driver checks on an end-to-end transfer of the real code -/

/-- what an end-to-end transfer observed -/
structure Obs where
  sent : C01Bytes                -- what the writer wrote (small cases: the bytes; large: empty + flags)
  got : C01Bytes                 -- what the reader read
  complete : Bool             -- writer closed after writing everything, reader read until EOF
  eofSeen : Bool              -- reader saw end-of-stream within the bound
  deriving DecidableEq, Repr

/-- prefix always; equality and EOF after a close -/
def xferHoldsOn (o : Obs) : Bool :=
  o.got.isPrefixOf o.sent && (!o.complete || (o.got == o.sent && o.eofSeen))

theorem xferHoldsOn_sound (o : Obs) :
    xferHoldsOn o = true ↔ (o.got <+: o.sent ∧ (o.complete = true → o.got = o.sent ∧ o.eofSeen = true)) := by
  simp only [xferHoldsOn, Bool.and_eq_true, List.isPrefixOf_iff_prefix, Bool.or_eq_true,
    Bool.not_eq_true', beq_iff_eq]
  cases o.complete <;> simp

/-! ### each end's stack through the transforming layers both share: frps puts its limiter on top of them, frpc next to
     the wire -/

theorem id_Eout (ps : List C01Bytes) : idLayer.Eout ps = ps := id_encRun ps _
theorem id_Dchunks (cs : List C01Bytes) : idLayer.Dchunks cs = cs := id_decChunks cs _

/-- the top layer of a stack encodes first -/
theorem stack_snoc_Eout (u : Layer) : ∀ (T : List Layer) (ps : List C01Bytes),
    (stackLayer (T ++ [u])).Eout ps = (stackLayer T).Eout (u.Eout ps)
  | [], ps => by
    show (comp idLayer u).Eout ps = idLayer.Eout (u.Eout ps)
    rw [comp_Eout, id_Eout, id_Eout]
  | l :: rest, ps => by
    show (comp (stackLayer (rest ++ [u])) l).Eout ps = (comp (stackLayer rest) l).Eout (u.Eout ps)
    rw [comp_Eout, comp_Eout, stack_snoc_Eout u rest]

/-- the top layer of a stack decodes last -/
theorem stack_snoc_Dchunks (u : Layer) : ∀ (T : List Layer) (cs : List C01Bytes),
    (stackLayer (T ++ [u])).Dchunks cs = u.Dchunks ((stackLayer T).Dchunks cs)
  | [], cs => by
    show (comp idLayer u).Dchunks cs = u.Dchunks (idLayer.Dchunks cs)
    rw [comp_Dchunks, id_Dchunks, id_Dchunks]
  | l :: rest, cs => by
    show (comp (stackLayer (rest ++ [u])) l).Dchunks cs = u.Dchunks ((comp (stackLayer rest) l).Dchunks cs)
    rw [comp_Dchunks, comp_Dchunks, stack_snoc_Dchunks u rest]

theorem instantiate_append (encL compL : Layer) (b : Nat) : ∀ (a c : List Kind),
    instantiate encL compL b (a ++ c) = instantiate encL compL b a ++ instantiate encL compL b c := by
  intro a
  induction a with
  | nil => intro c; rfl
  | cons k r ih => intro c; cases k <;> simp [instantiate, ih]

/-- the transforming layers both ends share, as one layer -/
def coreLayer (encL compL : Layer) (o : Opts) : Layer :=
  stackLayer (instantiate encL compL 0 (opt o.enc .enc ++ opt o.comp .comp))

theorem instantiate_core (encL compL : Layer) (b : Nat) (e c : Bool) :
    instantiate encL compL b (opt e .enc ++ opt c .comp) = instantiate encL compL 0 (opt e .enc ++ opt c .comp) := by
  cases e <;> cases c <;> rfl

theorem core_lawful {encL compL : Layer} (he : Lawful encL) (hc : Lawful compL) (o : Opts) :
    Lawful (coreLayer encL compL o) := by
  refine stack_lawful _ fun l hl => ?_
  have : l = encL ∨ l = compL := by
    cases o with | mk e c ls lc => cases e <;> cases c <;> simp [opt, instantiate] at hl <;> simp [hl]
  rcases this with rfl | rfl <;> assumption

/-- what frps' stack puts on the wire is the shared core applied to writes with the same content -/
theorem server_Eout (encL compL : Layer) (burst : Nat) (hb : 0 < burst) (o : Opts) (ps : List C01Bytes) :
    ∃ ps', ps'.flatten = ps.flatten ∧ (serverLayer encL compL burst o).Eout ps = (coreLayer encL compL o).Eout ps' := by
  unfold serverLayer coreLayer serverStack
  rw [instantiate_append, instantiate_core]
  cases o.limSrv
  · exact ⟨ps, rfl, by rw [show instantiate encL compL burst (opt false .limit) = [] from rfl, List.append_nil]⟩
  · exact ⟨_, limiter_Eout_flatten burst hb ps, stack_snoc_Eout _ _ ps⟩

theorem server_Dout (encL compL : Layer) (burst : Nat) (o : Opts) (cs : List C01Bytes) :
    (serverLayer encL compL burst o).Dout cs = (coreLayer encL compL o).Dout cs := by
  unfold serverLayer coreLayer serverStack
  rw [instantiate_append, instantiate_core]
  cases o.limSrv
  · rw [show instantiate encL compL burst (opt false .limit) = [] from rfl, List.append_nil]
  · exact congrArg List.flatten ((stack_snoc_Dchunks _ _ cs).trans (limiter_Dchunks burst _))

theorem client_split (encL compL : Layer) (burst : Nat) (o : Opts) :
    instantiate encL compL burst (clientStack o) =
      (if o.limCli then [limiterLayer burst] else []) ++ instantiate encL compL 0 (opt o.enc .enc ++ opt o.comp .comp) := by
  unfold clientStack
  rw [List.append_assoc, instantiate_append, instantiate_core]
  cases o.limCli <;> rfl

theorem client_Dout (encL compL : Layer) (burst : Nat) (o : Opts) (cs : List C01Bytes) :
    (clientLayer encL compL burst o).Dout cs = (coreLayer encL compL o).Dout cs := by
  unfold clientLayer coreLayer
  rw [client_split]
  cases o.limCli
  · rfl
  · exact (comp_Dout _ _ cs).trans (congrArg _ (limiter_Dchunks burst cs))

theorem client_Eout_flatten (encL compL : Layer) (burst : Nat) (hb : 0 < burst) (o : Opts) (ps : List C01Bytes) :
    ((clientLayer encL compL burst o).Eout ps).flatten = ((coreLayer encL compL o).Eout ps).flatten := by
  unfold clientLayer coreLayer
  rw [client_split]
  cases o.limCli
  · rfl
  · exact (congrArg List.flatten (comp_Eout _ _ ps)).trans (limiter_Eout_flatten burst hb _)

/-! ## (3) limit.Writer / limit.Reader -/

/-- the chunks `Writer.Write(p)` writes concatenate to `p`: nothing dropped, duplicated, reordered -/
theorem writer_chunks (b : Nat) (hb : 0 < b) (p : C01Bytes) : (chunks b p).flatten = p := chunks_flatten b hb p

/-- every chunk is non-empty and at most one burst -/
theorem writer_chunk_bounds (b : Nat) (hb : 0 < b) (p : C01Bytes) :
    ∀ c ∈ chunks b p, 0 < c.length ∧ c.length ≤ b := by
  rw [chunks_eq_offered]
  exact (write_spec false b hb p.length p).bounds

/-- tokens requested = bytes written = `len(p)` = the `n` returned -/
theorem writer_tokens (b : Nat) (hb : 0 < b) (p : C01Bytes) :
    ((writerTrace b p).map (·.1)).sum = p.length ∧ writerN b p = p.length := by
  refine ⟨?_, writerN_eq b hb p⟩
  rw [writerTrace, List.map_map]
  exact writerN_eq b hb p

/-- every `WaitN` request of the writer is admissible (`n ≤ burst`, else WaitN fails) -/
theorem writer_requests_admissible (b : Nat) (hb : 0 < b) (p : C01Bytes) :
    ∀ x ∈ writerTrace b p, x.1 ≤ b ∧ x.1 = x.2.length :=
  List.forall_mem_map.mpr fun c hc => ⟨(writer_chunk_bounds b hb p c hc).2, rfl⟩

/-- `Reader.Read`: never asks for more than one burst; charges exactly the bytes returned -/
theorem reader_le (b plen got : Nat) (h : got ≤ readerAsk b plen) :
    got ≤ min plen b ∧ readerCharge got false = got := by
  simp only [readerAsk] at h
  refine ⟨?_, rfl⟩
  split at h <;> omega

/-! ### what the driver checks on the chunks of a recorded `Write` -/


/-- a recorded `limit.Writer.Write(p)`: the chunks the sink received -/
def writerHoldsOn (b : Nat) (p : C01Bytes) (got : List C01Bytes) : Bool :=
  got.flatten == p && got.all fun c => decide (0 < c.length) && decide (c.length ≤ b)

theorem holdsOn_sound (b : Nat) (p : C01Bytes) (got : List C01Bytes) :
    writerHoldsOn b p got = true ↔ (got.flatten = p ∧ ∀ c ∈ got, 0 < c.length ∧ c.length ≤ b) := by
  simp [writerHoldsOn, List.all_eq_true]

/-- the model's own output satisfies the predicate (the theorem the predicate stands for) -/
theorem model_holdsOn (b : Nat) (hb : 0 < b) (p : C01Bytes) : writerHoldsOn b p (chunks b p) = true :=
  (holdsOn_sound b p _).mpr ⟨writer_chunks b hb p, writer_chunk_bounds b hb p⟩

/-! ### (3b) the same loops with the limiter's admission check and a sink / source that is not ideal

  `Limit.write` mirrors `Writer.Write` INCLUDING `WaitN`'s refusal of `n > burst` (finite limiters, the
  only kind frp builds) and the error / short count of the writer below; `Limit.readAll` drains a
  stream through `Reader.Read` with buffers of any size. -/

/-- no `WaitN` of the writer is ever refused: for every payload, sink capacity and limiter, `Write`
    never returns the limiter's error -/
theorem writer_wait_never_refused (inf : Bool) (b : Nat) (hb : 0 < b) (room : Nat) (p : C01Bytes) :
    (write inf b room p).err ≠ .wait := (write_spec inf b hb room p).noWait

/-- a sink with room for `p`: `Write` returns `(len(p), nil)`, the sink is offered exactly `chunks b p`
    and each `WaitN` asks for its chunk's length -/
theorem writer_finite_complete (inf : Bool) (b : Nat) (hb : 0 < b) (room : Nat) (p : C01Bytes) (h : p.length ≤ room) :
    write inf b room p =
      { n := p.length, err := .none, reqs := (chunks b p).map List.length, offered := chunks b p,
        room := room - p.length } := by
  have s := write_spec inf b hb room p
  have ho : (write inf b room p).offered = chunks b p := writeAux_offered inf b p.length room p h
  rw [← ho, ← s.reqs, ← s.ok_iff.mpr h, ← s.n_eq.trans (Nat.min_eq_right h), ← s.room_eq]

/-- a sink that fails after `room` bytes: the count returned is what the sink took, the error is nil
    exactly when everything fitted, and the bytes the sink took are the first `n` bytes of `p` -/
theorem writer_short_count (inf : Bool) (b : Nat) (hb : 0 < b) (room : Nat) (p : C01Bytes) :
    (write inf b room p).n = min room p.length ∧
    ((write inf b room p).err = .none ↔ p.length ≤ room) ∧
    (write inf b room p).accepted = p.take (write inf b room p).n ∧
    (write inf b room p).room = room - (write inf b room p).n :=
  ⟨(write_spec inf b hb room p).n_eq, (write_spec inf b hb room p).ok_iff, write_accepted inf b hb room p,
    (write_spec inf b hb room p).room_eq⟩

/-- tokens: every `WaitN` asks for exactly the bytes of the chunk it precedes, 1..burst of them -/
theorem writer_requests_cover (inf : Bool) (b : Nat) (hb : 0 < b) (room : Nat) (p : C01Bytes) :
    (write inf b room p).reqs = (write inf b room p).offered.map List.length ∧
    ∀ r ∈ (write inf b room p).reqs, 0 < r ∧ r ≤ b := by
  have s := write_spec inf b hb room p
  exact ⟨s.reqs, s.reqs ▸ List.forall_mem_map.mpr s.bounds⟩

/-- a payload split over any number of `Write` calls: every call succeeds in full and the sink receives
    the concatenation -/
theorem writer_calls_concat (inf : Bool) (b : Nat) (hb : 0 < b) :
    ∀ (ps : List C01Bytes) (room : Nat), ps.flatten.length ≤ room →
      ((writeMany inf b room ps).map WOut.accepted).flatten = ps.flatten ∧
      (writeMany inf b room ps).map (fun o => (o.n, o.err)) = ps.map (fun p => (p.length, WErr.none)) := by
  intro ps
  induction ps with
  | nil => intro room _; exact ⟨rfl, rfl⟩
  | cons p ps ih =>
    intro room h
    simp only [List.flatten_cons, List.length_append] at h
    have hp : p.length ≤ room := by omega
    have hw := writer_finite_complete inf b hb room p hp
    have hacc := write_accepted inf b hb room p
    obtain ⟨i1, i2⟩ := ih (room - p.length) (by omega)
    simp only [writeMany, List.map_cons, List.flatten_cons, hacc]
    rw [hw]
    simp only [List.take_length]
    exact ⟨by rw [i1], by rw [i2]⟩

/-- draining a stream through `Reader.Read` with buffers of ANY size (larger than the burst included)
    over a source that hands out at most `per` bytes per call: the reads concatenate to the stream, each
    is at most `min(len(p), burst)` bytes, `WaitN` is asked for exactly the bytes returned and is never
    refused, and the drain ends with end-of-stream -/
theorem reader_drain (inf : Bool) (b plen per : Nat) (hb : 0 < b) (hp : 0 < plen) (hper : 0 < per) (src : C01Bytes) :
    ((readAll inf b plen per (src.length + 1) src).map (·.got)).flatten = src ∧
    (∀ r ∈ readAll inf b plen per (src.length + 1) src, ROutOk b plen r) ∧
    (∃ pre, readAll inf b plen per (src.length + 1) src = pre ++ [{ got := [], req := none, err := .eof }] ∧
      ∀ r ∈ pre, r.err = .none) :=
  readAll_spec inf b plen per hb hp hper (src.length + 1) src (Nat.lt_succ_self _)

example : write false 3 100 [1, 2, 3, 4, 5, 6, 7, 8] =
    { n := 8, err := .none, reqs := [3, 3, 2], offered := [[1, 2, 3], [4, 5, 6], [7, 8]], room := 92 } := by decide +kernel
example : write false 3 4 [1, 2, 3, 4, 5, 6, 7, 8] =
    { n := 4, err := .sink, reqs := [3, 3], offered := [[1, 2, 3], [4, 5, 6]], room := 0 } := by decide +kernel
example : (readAll false 3 8 2 6 [1, 2, 3, 4, 5]).map (·.got) = [[1, 2], [3, 4], [5], []] := by decide +kernel
/-- the check `WaitN` performs is not vacuous: a request of burst + 1 is refused by a finite limiter -/
example : waitOk false 3 4 = false ∧ waitOk true 3 4 = true := by decide +kernel

/-! ### what the driver checks on recorded `Write`s and drains of the real limiter; the model's own runs satisfy them -/

/-- one recorded `limit.Writer.Write` on the real code: `len(p)`, the count and whether `err == nil`, the sizes of
    the writes the sink saw, and (when the harness could observe them) the tokens each `WaitN` took -/
structure WObs where
  len : Nat
  n : Nat
  ok : Bool
  offered : List Nat
  reqs : Option (List Nat)
  deriving DecidableEq, Repr

/-- tokens cover bytes: the i-th `WaitN` took at least the size of the i-th write it admitted -/
def tokensCover : List Nat → List Nat → Bool
  | _, [] => true
  | [], _ :: _ => false
  | r :: rs, c :: cs => decide (c ≤ r) && tokensCover rs cs

/-- what C01 demands of one `Write` over a sink with `room` bytes left: if `p` fits it is written in full
    without error; if not, an error is reported and the count does not exceed what the sink took; the limiter
    was asked for at least the bytes that went through -/
def wObsOk (room : Nat) (o : WObs) : Bool :=
  (if o.len ≤ room then o.ok && o.n == o.len && o.offered.sum == o.len else !o.ok && decide (o.n ≤ room)) &&
  (match o.reqs with
   | some rs => tokensCover rs o.offered
   | none => true)

/-- successive calls on one writer (the sink's room shrinks by what it took) -/
def wlimHoldsOn : Nat → List WObs → Bool
  | _, [] => true
  | room, o :: rest => wObsOk room o && wlimHoldsOn (room - o.n) rest

def WObs.ofModel (p : C01Bytes) (o : WOut) : WObs :=
  { len := p.length, n := o.n, ok := o.err == .none, offered := o.offered.map List.length, reqs := some o.reqs }

theorem tokensCover_self : ∀ (l : List Nat), tokensCover l l = true
  | [] => rfl
  | a :: l => by simp [tokensCover, tokensCover_self l]

/-- the model's own `Write` satisfies the predicate, for every burst, sink capacity and payload -/
theorem wlim_model_holdsOn (inf : Bool) (b : Nat) (hb : 0 < b) (room : Nat) (p : C01Bytes) :
    wObsOk room (WObs.ofModel p (write inf b room p)) = true := by
  have hc := writer_requests_cover inf b hb room p
  by_cases h : p.length ≤ room
  · have hw := writer_finite_complete inf b hb room p h
    have hn := writerN_eq b hb p
    simp only [writerN] at hn
    simp [wObsOk, WObs.ofModel, hw, h, hn, tokensCover_self]
  · have hs := writer_short_count inf b hb room p
    have hne : ((write inf b room p).err == WErr.none) = false := by
      cases he : (write inf b room p).err with
      | none => exact absurd (hs.2.1.mp he) h
      | wait => rfl
      | sink => rfl
    have hle : (write inf b room p).n ≤ room := by rw [hs.1]; exact Nat.min_le_left _ _
    simp [wObsOk, WObs.ofModel, h, hne, hle, hc.1, tokensCover_self]


theorem sum_map_length {α : Type} (f : α → C01Bytes) (l : List α) :
    (l.map fun x => (f x).length).sum = (l.map f).flatten.length := by
  rw [List.length_flatten, List.map_map]; rfl

/-- one recorded drain through the real `limit.Reader`: bytes per `Read`, tokens per `Read` when observed -/
def rlimHoldsOn (b plen srcLen : Nat) (ns : List Nat) (reqs : Option (List Nat)) (eof cat : Bool) : Bool :=
  eof && cat && ns.sum == srcLen && ns.all (fun n => decide (n ≤ min plen b)) &&
  (match reqs with
   | some rs => tokensCover rs ns
   | none => true)

theorem tokensCover_map {α : Type} (f g : α → Nat) : ∀ (l : List α), (∀ x ∈ l, g x ≤ f x) →
    tokensCover (l.map f) (l.map g) = true
  | [], _ => rfl
  | a :: l, h => by
    simp only [List.map_cons, tokensCover, Bool.and_eq_true, decide_eq_true_eq]
    exact ⟨h a (List.mem_cons_self ..), tokensCover_map f g l (fun x hx => h x (List.mem_cons_of_mem _ hx))⟩

/-- the model's own drain satisfies the predicate, for every burst, buffer size, segment size and stream -/
theorem rlim_model_holdsOn (inf : Bool) (b plen per : Nat) (hb : 0 < b) (hp : 0 < plen) (hper : 0 < per) (src : C01Bytes) :
    rlimHoldsOn b plen src.length ((readAll inf b plen per (src.length + 1) src).map (·.got.length))
      (some ((readAll inf b plen per (src.length + 1) src).map (·.req.getD 0)))
      ((readAll inf b plen per (src.length + 1) src).getLast?.map (·.err) == some RErr.eof) true = true := by
  obtain ⟨h1, h2, pre, h3, _⟩ := reader_drain inf b plen per hb hp hper src
  generalize readAll inf b plen per (src.length + 1) src = rs at h1 h2 h3
  have hsum : (rs.map (·.got.length)).sum = src.length := by rw [sum_map_length ROut.got, h1]
  have hall : ∀ n ∈ rs.map (·.got.length), n ≤ min plen b := List.forall_mem_map.mpr fun r hr => (h2 r hr).2.1
  have hcov : tokensCover (rs.map (·.req.getD 0)) (rs.map (·.got.length)) = true := by
    apply tokensCover_map
    intro r hr
    obtain ⟨hw, _, hn, he⟩ := h2 r hr
    cases hr' : r.err with
    | none => rw [(hn hr').1]; exact Nat.le_refl _
    | eof => rw [(he hr').1]; exact Nat.zero_le _
    | wait => exact absurd hr' hw
  have hlast : (rs.getLast?.map (·.err) == some RErr.eof) = true := by
    rw [h3]; simp
  simp only [rlimHoldsOn, hlast, hsum, hcov, Bool.true_and, Bool.and_true, beq_self_eq_true, List.all_eq_true,
    decide_eq_true_eq]
  exact hall

/-! ### (3c) the io.Reader / io.Writer contract: every wrapper, every source, every sink

  `Limit.readW` mirrors `Read` of limit.Reader, StatsConn and the pass-through wrappers (CloseNotifyConn, ContextConn,
  WrapReadWriteCloserConn, golib io.ReadWriteCloser) on the `(n, err)` PAIR the reader below returned; a source is a
  script of such pairs (`Limit.Seg`): `(n > 0, EOF)` — how a quic stream ends —, `(n > 0, other error)`, `(0, nil)`,
  one byte at a time, more than the buffer holds. -/

/-- any stack of wrappers hands the caller the `(n, err)` pair of the source unchanged (read with the smallest of the
    buffer and the bursts): no byte that came with an error is dropped, no error is swallowed or invented -/
theorem reader_pair_unchanged (ws : List RW) (k : Nat) (src : List Seg) (hb : burstsPos ws = true) :
    (readW ws k src).1.got = (srcRead (effK ws k) src).1.1 ∧
    (readW ws k src).1.err = PErr.ofS (srcRead (effK ws k) src).1.2 ∧
    (readW ws k src).2 = (srcRead (effK ws k) src).2 := by
  rw [readW_eq ws k src hb]; exact ⟨rfl, rfl, rfl⟩

/-- FOR ALL SOURCES: an `io.Copy`-like caller reading through any wrapper stack with any non-empty buffer gets, read by
    read, exactly the bytes the source delivers up to and INCLUDING those that come with its final error, and then that
    error; every read is at most the buffer and every burst; no `WaitN` is refused; a read without error asks each
    limiter for exactly its bytes -/
theorem reader_any_source (ws : List RW) (plen : Nat) (hb : burstsPos ws = true) (hp : 0 < plen) (src : List Seg) :
    ((drainW ws plen (srcFuel src) src).map (·.got)).flatten = delivered src ∧
    (∀ r ∈ drainW ws plen (srcFuel src) src, RResOk ws plen r) ∧
    (∃ pre last, drainW ws plen (srcFuel src) src = pre ++ [last] ∧ (∀ r ∈ pre, r.err = .none) ∧
      last.err = PErr.ofS (finalErr src) ∧ last.err ≠ .none) := by
  obtain ⟨h1, h2, pre, last, h3, h4, h5⟩ := drainW_spec ws plen hb hp (srcFuel src) src (Nat.le_refl _)
  refine ⟨h1, h2, pre, last, h3, h4, h5, ?_⟩
  rw [h5]
  exact fun h => finalErr_ne_none src (PErr.ofS_eq_none.mp h)

/-- a caller that stops a drain at any point has read a prefix of what the source delivers -/
theorem reader_any_prefix (ws : List RW) (plen : Nat) (hb : burstsPos ws = true) (hp : 0 < plen) (fuel : Nat)
    (src : List Seg) : ((drainW ws plen fuel src).map (·.got)).flatten <+: delivered src := by
  induction fuel generalizing src with
  | zero => exact List.nil_prefix
  | succ f ih =>
    rw [drainW_succ ws plen f src hb]
    rcases hx : srcRead (effK ws plen) src with ⟨⟨d, e⟩, rest⟩
    have hstep := srcRead_step (effK_pos ws plen hb hp) hx
    dsimp only
    by_cases he : e = .none
    · rw [if_pos he, (hstep.1 he).1, List.map_cons, List.flatten_cons]
      exact (List.prefix_append_right_inj d).mpr (ih rest)
    · rw [if_neg he, (hstep.2 he).1]
      show d ++ [] <+: d
      rw [List.append_nil]
      exact List.prefix_rfl

/-- every read of a drain stays within the buffer and within the burst of every limiter of the stack -/
theorem reader_read_bounds (ws : List RW) (plen : Nat) (hb : burstsPos ws = true) (hp : 0 < plen) (src : List Seg)
    (r : RRes) (hr : r ∈ drainW ws plen (srcFuel src) src) :
    r.got.length ≤ plen ∧ ∀ inf b, RW.limit inf b ∈ ws → r.got.length ≤ b :=
  have h := ((reader_any_source ws plen hb hp src).2.1 r hr).2.1
  ⟨Nat.le_trans h (effK_le ws plen), fun inf b hm => Nat.le_trans h (effK_le_burst ws plen inf b hm)⟩

/-- the way a quic stream ends — the last bytes TOGETHER WITH end-of-stream — through limit.Reader under any other
    wrappers: the caller gets every byte, then EOF (and a tcp / yamux end, `(n, nil)` then `(0, EOF)`, alike) -/
theorem reader_eof_with_data (ws : List RW) (plen : Nat) (hb : burstsPos ws = true) (hp : 0 < plen) (pre d : C01Bytes) :
    ((drainW ws plen (srcFuel [⟨pre, .none⟩, ⟨d, .eof⟩]) [⟨pre, .none⟩, ⟨d, .eof⟩]).map (·.got)).flatten = pre ++ d ∧
    ((drainW ws plen (srcFuel [⟨pre, .none⟩, ⟨d, .none⟩, ⟨[], .eof⟩]) [⟨pre, .none⟩, ⟨d, .none⟩, ⟨[], .eof⟩]).map
      (·.got)).flatten = pre ++ d := by
  refine ⟨(reader_any_source ws plen hb hp _).1.trans ?_, (reader_any_source ws plen hb hp _).1.trans ?_⟩
  · simp [delivered]
  · simp [delivered]

/-- `StatsConn.totalRead` after a drain = the number of bytes the source delivered (those of the failing read included) -/
theorem stats_count_all (ws : List RW) (plen : Nat) (hb : burstsPos ws = true) (hp : 0 < plen) (src : List Seg) :
    statsCount (drainW ws plen (srcFuel src) src) = (delivered src).length := by
  rw [statsCount, sum_map_length RRes.got, (reader_any_source ws plen hb hp src).1]

/-- reader.go (since c863bec): the bytes that come with an error are handed on AND charged — `WaitN(n)` runs inside the
    error branch when `n > 0`; a bare `(0, err)` asks for nothing -/
theorem reader_tail_charged (inf : Bool) (b plen : Nat) (d : C01Bytes) (hd : d.length ≤ readerAsk b plen) (hb : 0 < b) :
    (readW [.limit inf b] plen [⟨d, .eof⟩]).1 =
      { got := d, err := .eof, reqs := if d.length = 0 then [] else [d.length] } := by
  have hsrc : srcRead (readerAsk b plen) [⟨d, .eof⟩] = ((d, .eof), [⟨[], .eof⟩]) := by simp [srcRead, hd]
  rw [readW_eq _ _ _ (by simp [burstsPos, hb])]
  simp only [effK, hsrc, nLim, reqsOf, PErr.ofS]
  by_cases h0 : d.length = 0 <;> simp [h0]

/-- FOR ALL contract-abiding SINKS (full counts, short counts with an error, full counts with an error, at any call):
    `Write` through any wrapper stack returns exactly the number of bytes the sink took — the sum of the counts the sink
    returned —, never more than `len(p)`, `len(p)` whenever it returns nil; the bytes the sink took are the first `n`
    bytes of `p`; no `WaitN` is refused -/
theorem writer_any_sink (ws : List RW) (hb : limPos ws = true) (ss : List SinkResp) (hs : sinkOk ss = true) (p : C01Bytes) :
    (writeW ws ss p).1.n = (writeW ws ss p).1.took.sum ∧ (writeW ws ss p).1.n ≤ p.length ∧
    (writeW ws ss p).1.accepted = p.take (writeW ws ss p).1.n ∧
    ((writeW ws ss p).1.err = .none → (writeW ws ss p).1.n = p.length) ∧ (writeW ws ss p).1.err ≠ .wait :=
  have s := writeW_spec ws hb ss p hs
  ⟨s.n_eq, s.n_le, s.acc, s.ok_full, s.noWait⟩

/-- a stream written in any pieces through any wrapper stack into any contract-abiding sink by a caller that stops at
    the first error: the sink holds exactly the first `Σ n` bytes of the stream -/
theorem writer_calls_any_sink (ws : List RW) (hb : limPos ws = true) (ps : List C01Bytes) (ss : List SinkResp)
    (hs : sinkOk ss = true) :
    ((writeManyW ws ss ps).map WRes.accepted).flatten = ps.flatten.take ((writeManyW ws ss ps).map (·.n)).sum := by
  induction ps generalizing ss with
  | nil => rfl
  | cons p ps ih =>
    have s := writeW_spec ws hb ss p hs
    simp only [writeManyW]
    split
    · rename_i he
      rw [List.map_cons, List.map_cons, List.flatten_cons, List.flatten_cons, List.sum_cons, ih _ s.rest_ok, s.acc,
        s.ok_full he, List.take_length, List.take_append, Nat.add_sub_cancel_left,
        List.take_of_length_le (Nat.le_add_right _ _)]
    · simp only [List.map_cons, List.map_nil, List.flatten_cons, List.flatten_nil, List.append_nil, List.sum_cons,
        List.sum_nil, Nat.add_zero, s.acc]
      exact (List.take_append_of_le_length s.n_le).symm

/-- outside the contract (a sink that returns a short count and a nil error) `Writer.Write` goes on with `p[end:]`: the
    sink ends up with a stream that has a hole, `Write` reports `(n < len(p), nil)` — every sink frp puts below a
    limit.Writer (net.Conn, the cipher writer, the snappy writer) abides by the contract -/
theorem writer_lax_sink_witness :
    (writeS false 4 [⟨1, false, true⟩] [1, 2, 3, 4, 5, 6]).1.accepted = [1, 5, 6] ∧
    (writeS false 4 [⟨1, false, true⟩] [1, 2, 3, 4, 5, 6]).1.n = 3 ∧
    (writeS false 4 [⟨1, false, true⟩] [1, 2, 3, 4, 5, 6]).1.err = .none := by decide +kernel

example : (drainW [.stats, .limit false 3, .pass] 8 20 [⟨[1, 2, 3, 4], .none⟩, ⟨[], .none⟩, ⟨[5, 6], .eof⟩]).map
    (fun r => (r.got, r.err, r.reqs)) =
    [([1, 2, 3], .none, [3]), ([4], .none, [1]), ([], .none, [0]), ([5, 6], .eof, [2])] := by decide +kernel
example : (writeS false 3 [⟨3, false, false⟩, ⟨1, false, false⟩] [1, 2, 3, 4, 5, 6, 7]).1 =
    { n := 4, err := .sink, reqs := [3, 3], offered := [[1, 2, 3], [4, 5, 6]], took := [3, 1] } := by decide +kernel

/-! ### what the driver checks on real wrapper stacks over scripted sources and sinks; the model's own runs satisfy them -/

/-- one recorded drain of a REAL wrapper stack over a scripted source: the bytes of every `Read` (the failing one
    included), the tokens each took when the harness could observe them, the error that ended the drain (`none` = it
    did not end), whether the bytes read are the bytes the source delivered, `StatsConn`'s count.  `cap` = the smallest
    of the buffer and the bursts -/
def rsrcHoldsOn (cap : Nat) (src : List Seg) (ns : List Nat) (toks : Option (List Nat)) (endE : Option PErr)
    (cat : Bool) (cnt : Option Nat) : Bool :=
  cat && ns.sum == (delivered src).length && ns.all (fun n => decide (n ≤ cap)) &&
  (if finalErr src = .eof then endE == some .eof else endE.isSome && endE != some .none) &&
  (match toks with
   | some ts => tokensCover ts.dropLast ns.dropLast
   | none => true) &&
  (match cnt with
   | some c => c == ns.sum
   | none => true)

/-- the model's own drain satisfies the predicate, for every wrapper stack, buffer and source (tokens are observed
    when the stack has a limiter) -/
theorem rsrc_model_holdsOn (ws : List RW) (plen : Nat) (hb : burstsPos ws = true) (hp : 0 < plen) (src : List Seg) :
    rsrcHoldsOn (effK ws plen) src ((drainW ws plen (srcFuel src) src).map (·.got.length))
      (if nLim ws = 0 then none else some ((drainW ws plen (srcFuel src) src).map (·.reqs.sum)))
      ((drainW ws plen (srcFuel src) src).getLast?.map (·.err)) true
      (some (statsCount (drainW ws plen (srcFuel src) src))) = true := by
  have hcnt := stats_count_all ws plen hb hp src
  obtain ⟨_, h2, pre, last, h3, _, h5, _⟩ := reader_any_source ws plen hb hp src
  generalize drainW ws plen (srcFuel src) src = rs at h2 h3 hcnt
  rw [statsCount] at hcnt
  have hall : ((rs.map (·.got.length)).all fun n => decide (n ≤ effK ws plen)) = true := by
    simp only [List.all_eq_true, decide_eq_true_eq]
    exact List.forall_mem_map.mpr fun r hr => (h2 r hr).2.1
  have hlast : rs.getLast?.map (·.err) = some (PErr.ofS (finalErr src)) := by rw [h3]; simp [h5]
  have hend : (if finalErr src = .eof then rs.getLast?.map (·.err) == some PErr.eof
      else (rs.getLast?.map (·.err)).isSome && rs.getLast?.map (·.err) != some PErr.none) = true := by
    rw [hlast]
    cases hf : finalErr src with
    | none => exact absurd hf (finalErr_ne_none src)
    | eof => rfl
    | other => rfl
  have hcov : (match (if nLim ws = 0 then none else some (rs.map (·.reqs.sum))) with
      | some ts => tokensCover ts.dropLast (rs.map (·.got.length)).dropLast
      | none => true) = true := by
    cases hn : nLim ws with
    | zero => simp
    | succ m =>
      simp only [Nat.succ_ne_zero, if_false]
      rw [← List.map_dropLast, ← List.map_dropLast]
      apply tokensCover_map
      intro r hr
      rw [(h2 r ((List.dropLast_sublist rs).subset hr)).2.2.2, hn]
      exact Nat.le_mul_of_pos_left _ (Nat.succ_pos m)
  simp only [rsrcHoldsOn, statsCount, hcnt, hend, hcov, hall, beq_self_eq_true, Bool.and_self]

/-- every byte handed to the caller was charged: the tokens of each `Read` — the failing one included — cover its bytes
    (the bandwidth clause: what a limiter lets through without asking is not bounded by the bucket) -/
def rsrcChargedOn (ns : List Nat) (toks : Option (List Nat)) : Bool :=
  match toks with
  | some ts => tokensCover ts ns
  | none => true

/-- FOR ALL SOURCES every byte handed to the caller is charged to every limiter of the stack — those that come together
    with an error included (fix c863bec) -/
theorem reader_charged (ws : List RW) (plen : Nat) (hb : burstsPos ws = true) (hp : 0 < plen) (src : List Seg)
    (hl : 0 < nLim ws) :
    rsrcChargedOn ((drainW ws plen (srcFuel src) src).map (·.got.length))
      (some ((drainW ws plen (srcFuel src) src).map (·.reqs.sum))) = true := by
  have h2 := (reader_any_source ws plen hb hp src).2.1
  generalize drainW ws plen (srcFuel src) src = rs at h2
  simp only [rsrcChargedOn]
  apply tokensCover_map
  intro r hr
  rw [(h2 r hr).2.2.2]
  exact Nat.le_mul_of_pos_left _ hl

/-- sensitivity: reader.go as it was BEFORE c863bec (`Limit.readWOld`: `if err != nil { return }` ahead of `WaitN`) fails
    the predicate over a source that ends `(n > 0, EOF)` — a quic stream: its last bytes passed the limiter for free -/
theorem reader_charged_old_witness :
    rsrcChargedOn ((drainWOld [.limit false 8] 8 (srcFuel [⟨[1, 2], .eof⟩]) [⟨[1, 2], .eof⟩]).map (·.got.length))
      (some ((drainWOld [.limit false 8] 8 (srcFuel [⟨[1, 2], .eof⟩]) [⟨[1, 2], .eof⟩]).map (·.reqs.sum))) = false ∧
    readerChargeOld 2 true = 0 ∧ readerCharge 2 true = 2 := by
  decide +kernel

/-- the tie to reader.go (regenerated on every run): every `return` of `Reader.Read` after the read below is dominated
    by a `WaitN` call (one guarded by `n > 0` counts: it runs whenever there are bytes) -/
theorem reader_code_charges :
    Gen.ConnFacts.readerReturnsCharged.all (fun r => r.2) = true ∧ Gen.ConnFacts.readerReturnsCharged ≠ [] := by
  decide +kernel


/-- one recorded `Write` of a REAL wrapper stack over a scripted sink: `len(p)`, the returned count, whether
    `err == nil`, the sizes the sink was offered, the counts the sink returned, whether the sink returned an error
    during this call, the tokens each `WaitN` took when observed -/
structure WSObs where
  len : Nat
  n : Nat
  ok : Bool
  offered : List Nat
  took : List Nat
  sinkErr : Bool
  reqs : Option (List Nat)
  deriving DecidableEq, Repr

/-- what C01 demands of one `Write` over a contract-abiding sink: the count is what the sink took (not less: the caller
    would send those bytes again; not more: they would be lost), at most `len(p)`, `len(p)` when no error is returned;
    an error of the sink is reported; the limiter was asked for at least the bytes that went through -/
def wsObsOk (o : WSObs) : Bool :=
  o.n == o.took.sum && decide (o.n ≤ o.len) && (!o.ok || o.n == o.len) && (!o.sinkErr || !o.ok) &&
  (match o.reqs with
   | some rs => tokensCover rs o.offered
   | none => true)

/-- a run of `Write` calls that stops at the first error; `cat` = the sink holds exactly the first `Σ n` bytes -/
def wsnkHoldsOn (obs : List WSObs) (cat : Bool) : Bool := cat && obs.all wsObsOk

def WSObs.ofModel (ws : List RW) (p : C01Bytes) (o : WRes) : WSObs :=
  { len := p.length, n := o.n, ok := o.err == .none, offered := o.offered.map List.length, took := o.took,
    sinkErr := o.err == .sink, reqs := if (limOf ws).isSome then some o.reqs else none }

/-- the model's own `Write` satisfies the predicate, for every wrapper stack, contract-abiding sink and payload -/
theorem wsnk_model_holdsOn (ws : List RW) (hb : limPos ws = true) (ss : List SinkResp) (hs : sinkOk ss = true)
    (p : C01Bytes) : wsObsOk (WSObs.ofModel ws p (writeW ws ss p).1) = true := by
  obtain ⟨h1, h2, _, h4, _⟩ := writer_any_sink ws hb ss hs p
  have hreq : (limOf ws).isSome = true → (writeW ws ss p).1.reqs = (writeW ws ss p).1.offered.map List.length := by
    intro hl
    obtain ⟨ib, hl⟩ := Option.isSome_iff_exists.mp hl
    simp only [writeW, hl, writeS, writeSAux_reqs]
  generalize (writeW ws ss p).1 = o at h1 h2 h4 hreq
  have htok : (match (if (limOf ws).isSome then some o.reqs else none) with
      | some rs => tokensCover rs (o.offered.map List.length)
      | none => true) = true := by
    cases hl : (limOf ws).isSome
    · rfl
    · simp only [if_true, hreq hl, tokensCover_self]
  refine Bool.and_eq_true_iff.mpr ⟨?_, htok⟩
  cases he : o.err with
  | none => simpa [WSObs.ofModel, he, ← h1, h2] using h4 he
  | wait => simp [WSObs.ofModel, he, ← h1, h2]
  | sink => simp [WSObs.ofModel, he, ← h1, h2]

/-! ## (4) token bucket -/

/-- any run of grants of a valid history, from any bucket state, sums to at most burst + rate·span -/
theorem bucket_bound (r B : Nat) (mid : List (Nat × Nat)) (L t : Nat) (h : valid r B L t mid = true) :
    sumN mid ≤ B + r * span mid := by
  cases mid with
  | nil => exact Nat.zero_le _
  | cons e rest =>
    obtain ⟨g, n⟩ := e
    simp only [valid, Bool.and_eq_true, decide_eq_true_eq] at h
    have hb := segment_bound r B rest _ _ h.2.2
    simp only [sumN, span]
    omega

/-- for ALL histories of a limiter (all connections and both directions share it): the grants inside
    any window (a contiguous run `mid` of the history) are bounded by one burst plus rate × duration -/
theorem bucket_window_bound (r B : Nat) (pre mid post : List (Nat × Nat))
    (h : valid r B B 0 (pre ++ mid ++ post) = true) : sumN mid ≤ B + r * span mid := by
  rw [List.append_assoc] at h
  obtain ⟨L', t', h'⟩ := valid_of_append_right r B pre (mid ++ post) B 0 h
  exact bucket_bound r B mid L' t' (valid_of_append_left r B mid post L' t' h')

example : valid 2 10 10 0 [(0, 10), (3, 6), (5, 4), (100, 10)] = true := by decide +kernel
example : valid 2 10 10 0 [(0, 10), (3, 7)] = false := by decide +kernel

/-! ## (5) close propagation -/

/-- first close succeeds, a second close changes nothing: then every number ≥ 1 of closes gives the same count -/
def closeCheck (g : Graph) : Option Nat :=
  match close g fuel0 g.top {} with
  | some st1 => if close g fuel0 g.top st1 = some st1 then some st1.count else none
  | none => none

theorem closeTop_idem (g : Graph) (st : St) (h : close g fuel0 g.top st = some st) :
    ∀ k, closeTop g k st = some st := by
  intro k
  induction k with
  | zero => rfl
  | succ k ih => simp only [closeTop, h, Option.bind_some, ih]

theorem closeCount_of_check (g : Graph) (n : Nat) (hc : closeCheck g = some n) :
    ∀ k, 1 ≤ k → closeCount g k = some n := by
  intro k hk
  obtain ⟨k, rfl⟩ : ∃ j, k = j + 1 := ⟨k - 1, by omega⟩
  unfold closeCheck at hc
  split at hc
  · rename_i st1 h1
    split at hc
    · rename_i h2
      simp only [closeCount, closeTop, h1, Option.bind_some, closeTop_idem g st1 h2 k, Option.map_some]
      exact hc
    · cases hc
  · cases hc

/-- a bare transport (no wrapper at all): every `Close()` call reaches it -/
theorem closeTop_bare (g : Graph) (h : ∀ st : St, close g fuel0 g.top st = some { st with count := st.count + 1 }) :
    ∀ k (st : St), closeTop g k st = some { st with count := st.count + k } := by
  intro k
  induction k with
  | zero => intro st; rfl
  | succ k ih =>
    intro st
    simp only [closeTop, h, Option.bind_some, ih]
    congr 2
    omega

theorem closeCount_bare (g : Graph) (h : ∀ st : St, close g fuel0 g.top st = some { st with count := st.count + 1 })
    (k : Nat) : closeCount g k = some k := by
  simp only [closeCount, closeTop_bare g h k {}, Option.map_some, Nat.zero_add]

/-- frpc's stack, every option combination, any number k ≥ 1 of `Close()` calls on the top: the work
    connection is closed — exactly once as soon as one wrapper exists -/
theorem client_close (o : Opts) (k : Nat) (hk : 1 ≤ k) :
    closeCount (clientGraph o) k = some (if (clientStack o).isEmpty then k else 1) := by
  cases o with | mk e c ls lc =>
  -- the server-side option is not consulted
  show closeCount (clientGraph ⟨e, c, false, lc⟩) k = _
  cases e <;> cases c <;> cases lc
  · exact closeCount_bare _ (fun _ => rfl) k
  all_goals exact closeCount_of_check _ 1 (by decide +kernel) k hk

/-- both settings of the switch in one statement -/
theorem server_close_switch (fixed : Bool) (o : Opts) (k : Nat) (hk : 1 ≤ k) :
    closeCount (serverGraph o fixed) k =
      some (if !fixed && o.limSrv then 0 else if (serverStack o).isEmpty then k else 1) := by
  cases o with | mk e c ls lc =>
  cases ls
  · -- no limiter wrapper: the switch is not consulted (nor, ever, the client-side option)
    show closeCount (serverGraph ⟨e, c, false, false⟩ true) k = _
    simp only [Bool.and_false, Bool.false_eq_true, if_false]
    cases e <;> cases c
    · exact closeCount_bare _ (fun _ => rfl) k
    all_goals exact closeCount_of_check _ 1 (by decide +kernel) k hk
  · show closeCount (serverGraph ⟨e, c, true, false⟩ fixed) k = _
    cases fixed
    · cases e <;> cases c <;> exact closeCount_of_check _ 0 (by decide +kernel) k hk
    · cases e <;> cases c <;> exact closeCount_of_check _ 1 (by decide +kernel) k hk

/-- frps' stack with the REPAIRED limiter closure: same statement -/
theorem server_close_fixed (o : Opts) (k : Nat) (hk : 1 ≤ k) :
    closeCount (serverGraph o true) k = some (if (serverStack o).isEmpty then k else 1) :=
  server_close_switch true o k hk

/-- frps' stack on the pinned tree (c9fd674): the statement holds whenever the server does not enforce a bandwidth limit -/
theorem server_close_partial (o : Opts) (k : Nat) (hk : 1 ≤ k) (hl : o.limSrv = false) :
    closeCount (serverGraph o false) k = some (if (serverStack o).isEmpty then k else 1) := by
  simpa [hl] using server_close_switch false o k hk

/-- the full statement for the limiter closure of the pinned tree (c9fd674) — FALSE (see the witness) -/
def ServerCloseFull : Prop :=
  ∀ (o : Opts) (k : Nat), 1 ≤ k → closeCount (serverGraph o false) k = some (if (serverStack o).isEmpty then k else 1)

/-- DEFECT of the pinned tree (DESIGN §7 #2, repaired by c51d483): with a server-side bandwidth limit, closing the top of frps' stack never
    reaches the work connection — for every combination of the other options and any number of closes:
    the limiter's closeFn `local.Close()` reads the variable that by then holds the limiter wrapper itself -/
theorem server_close_witness (o : Opts) (k : Nat) (hk : 1 ≤ k) (hl : o.limSrv = true) :
    closeCount (serverGraph o false) k = some 0 := by
  simpa [hl] using server_close_switch false o k hk

theorem server_close_full_fails : ¬ ServerCloseFull := by
  intro h
  have h1 := h ⟨false, false, true, false⟩ 1 (Nat.le_refl _)
  rw [server_close_witness ⟨false, false, true, false⟩ 1 (Nat.le_refl _) rfl] at h1
  exact absurd h1 (by decide +kernel)

/-- the model the driver uses follows the switch `CloseGraph.limiterCloseIsFixed` -/
theorem server_close_current (o : Opts) (k : Nat) (hk : 1 ≤ k) :
    closeCount (serverGraph o) k =
      some (if !limiterCloseIsFixed && o.limSrv then 0 else if (serverStack o).isEmpty then k else 1) :=
  server_close_switch limiterCloseIsFixed o k hk

/-- http `GetRealConn` (same closure, below WrapReadWriteCloserToConn and StatsConn whose guard makes
    the top idempotent), both settings of the switch -/
theorem http_close_switch (fixed : Bool) (o : Opts) (k : Nat) (hk : 1 ≤ k) :
    closeCount (httpRealConnGraph o fixed) k = some (if !fixed && o.limSrv then 0 else 1) := by
  cases o with | mk e c ls lc =>
  cases ls
  · show closeCount (httpRealConnGraph ⟨e, c, false, false⟩ true) k = _
    simp only [Bool.and_false, Bool.false_eq_true, if_false]
    cases e <;> cases c <;> exact closeCount_of_check _ 1 (by decide +kernel) k hk
  · show closeCount (httpRealConnGraph ⟨e, c, true, false⟩ fixed) k = _
    cases fixed
    · cases e <;> cases c <;> exact closeCount_of_check _ 0 (by decide +kernel) k hk
    · cases e <;> cases c <;> exact closeCount_of_check _ 1 (by decide +kernel) k hk

/-- http `GetRealConn` with the repaired closure: exactly once -/
theorem http_close_fixed (o : Opts) (k : Nat) (hk : 1 ≤ k) : closeCount (httpRealConnGraph o true) k = some 1 :=
  http_close_switch true o k hk

/-- http `GetRealConn` with the closure of the pinned tree: never with a server-side limit, else once -/
theorem http_close_current (o : Opts) (k : Nat) (hk : 1 ≤ k) :
    closeCount (httpRealConnGraph o false) k = some (if o.limSrv then 0 else 1) :=
  http_close_switch false o k hk

/-- visitor leg, both ends -/
theorem visitor_close (e c : Bool) (k : Nat) (hk : 1 ≤ k) :
    closeCount (visitorGraph e c) k = some (if (visitorStack e c).isEmpty then k else 1) := by
  cases e <;> cases c
  · exact closeCount_bare _ (fun _ => rfl) k
  all_goals exact closeCount_of_check _ 1 (by decide +kernel) k hk

theorem visitor_server_close (e c : Bool) (k : Nat) (hk : 1 ≤ k) :
    closeCount (visitorServerGraph e c) k = some (if (visitorServerStack e c).isEmpty then k else 1) := by
  cases e <;> cases c
  · exact closeCount_bare _ (fun _ => rfl) k
  all_goals exact closeCount_of_check _ 1 (by decide +kernel) k hk

/-- DEFECT of the pinned tree (DESIGN §7 #17, repaired by aff3430): `CloseNotifyConn.Close` never closes the embedded
    connection -/
theorem closeNotify_witness (k : Nat) (hk : 1 ≤ k) : closeCount (closeNotifyGraph false) k = some 0 :=
  closeCount_of_check _ 0 (by decide +kernel) k hk

/-- repaired (`cc.Conn.Close()`): exactly once -/
theorem closeNotify_fixed (k : Nat) (hk : 1 ≤ k) : closeCount (closeNotifyGraph true) k = some 1 :=
  closeCount_of_check _ 1 (by decide +kernel) k hk

/-- StatsConn: exactly once; WrapReadWriteCloserConn alone: every call is passed on -/
theorem stats_close (k : Nat) (hk : 1 ≤ k) : closeCount statsGraph k = some 1 :=
  closeCount_of_check _ 1 (by decide +kernel) k hk

theorem rwcConn_close (k : Nat) : closeCount rwcConnGraph k = some k := closeCount_bare _ (fun _ => rfl) k

/-- all copiers done and both transports closed -/
def JState.allDone (s : JState) : Bool := s.c1done && s.c2done && s.aClosed && s.bClosed

theorem jstep_done (s : JState) (h : s.c1done = true ∧ s.c2done = true) (e : JEv) : jstep true true s e = s := by
  cases e <;> simp [jstep, h.1, h.2]

theorem jrun_done (s : JState) (h : s.c1done = true ∧ s.c2done = true) : ∀ es : List JEv, jrun true true s es = s
  | [] => rfl
  | e :: es => by rw [jrun, jstep_done s h e]; exact jrun_done s h es

/-- golib `Join`, both endpoints closable: after ANY non-empty sequence of end-of-stream events — the
    end of either direction — both copiers have returned and both transports are closed (so each peer
    sees EOF), and `Close()` was called exactly twice on each endpoint (hence the close-once guards) -/
theorem join_returns (evs : List JEv) (hne : evs ≠ []) :
    let s := jrun true true {} evs
    s.returned = true ∧ s.aClosed = true ∧ s.bClosed = true ∧ s.aCloseCalls = 2 ∧ s.bCloseCalls = 2 := by
  cases evs with
  | nil => exact absurd rfl hne
  | cons e rest =>
    -- the first event ends both copiers (closing one endpoint wakes the other copier); nothing happens after that
    have h1 : (jstep true true {} e).c1done = true ∧ (jstep true true {} e).c2done = true := by cases e <;> decide
    have hs : jrun true true {} (e :: rest) = jstep true true {} e := jrun_done _ h1 rest
    simp only [hs]
    cases e <;> decide

theorem jstep_eofB_stuck (s : JState) (h : s.c1done = false ∧ s.aClosed = false) :
    (jstep false true s .eofB).c1done = false ∧ (jstep false true s .eofB).aClosed = false := by
  simp only [jstep]
  split
  · exact h
  · simp [JState.settle, JState.finish, h.1, h.2]

/-- DEFECT #2 of the pinned tree seen from `Join` in handleUserTCPConnection (A = `local`, whose close does not reach the
    work connection; B = the user connection): however often the user side ends, `Join` does not
    return and the work connection stays open — the backend never learns that the user left -/
theorem join_stuck_witness (n : Nat) :
    let s := jrun false true {} (List.replicate n .eofB)
    s.returned = false ∧ s.aClosed = false := by
  have hinv : ∀ (n : Nat) (s : JState), s.c1done = false ∧ s.aClosed = false →
      (jrun false true s (List.replicate n .eofB)).c1done = false ∧
      (jrun false true s (List.replicate n .eofB)).aClosed = false := by
    intro n
    induction n with
    | zero => exact fun s h => h
    | succ n ih => exact fun s h => ih _ (jstep_eofB_stuck s h)
  have := hinv n {} ⟨rfl, rfl⟩
  simp only [JState.returned, this.1, this.2, Bool.false_and, and_self]

/-! ## (6) no cross-wiring -/

theorem find_endpoint (es : List Entry) (x : Entry) (hx : x ∈ es)
    (hu : ∀ y ∈ es, y.endpoint = x.endpoint → y = x) : es.find? (·.endpoint = x.endpoint) = some x := by
  induction es with
  | nil => cases hx
  | cons a r ih =>
    simp only [List.find?_cons]
    by_cases ha : a.endpoint = x.endpoint
    · have := hu a List.mem_cons_self ha
      simp [this]
    · simp only [ha, decide_false]
      rcases List.mem_cons.mp hx with h | h
      · exact absurd (h ▸ rfl) ha
      · exact ih h (fun y hy => hu y (List.mem_cons_of_mem _ hy))

theorem find_name (es : List Entry) (x : Entry) (hx : x ∈ es) (hd : namesDistinct es = true) :
    es.find? (·.name = x.name) = some x := by
  induction es with
  | nil => cases hx
  | cons a r ih =>
    simp only [namesDistinct, Bool.and_eq_true, List.all_eq_true] at hd
    simp only [List.find?_cons]
    rcases List.mem_cons.mp hx with h | h
    · subst h; simp
    · have hne : a.name ≠ x.name := by
        intro he
        have := hd.1 x h
        simp [he] at this
      simp only [hne, decide_false]
      exact ih h hd.2

/-- for ALL proxy tables with distinct names (Manager.Add refuses a used name) and distinct
    endpoints: a connection to proxy x's public endpoint is bridged to x's backend and no other -/
theorem no_crosswire (es : List Entry) (x : Entry) (hx : x ∈ es) (hd : namesDistinct es = true)
    (hu : ∀ y ∈ es, y.endpoint = x.endpoint → y = x) : bridged es x.endpoint = some x.backend := by
  unfold bridged proxyOfEndpoint
  rw [find_endpoint es x hx hu]
  show dispatch es x.name = _
  rw [dispatch, find_name es x hx hd]; rfl

/-- a StartWorkConn naming no proxy of this client dials nothing (the work connection is closed) -/
theorem dispatch_unknown (es : List Entry) (n : Str) (h : ∀ y ∈ es, y.name ≠ n) : dispatch es n = none := by
  simp only [dispatch, Option.map_eq_none_iff, List.find?_eq_none]
  intro y hy
  simp [h y hy]

example : bridged [⟨[1], 10, 100⟩, ⟨[2], 11, 101⟩, ⟨[1, 2], 12, 102⟩] 11 = some 101 := by decide +kernel

/-! ## (7) proxy-protocol header -/

/-- the header's source is the user's address as frps saw it -/
theorem pp_header_src (ver name : Str) (src : Addr) (dst : Option Addr)
    (hv : ver ≠ []) (hh : src.host ≠ []) (hp : src.port ≠ 0) :
    (ppHeader ver (startMsg name (some src) dst)).map (·.src) = some src := by
  simp [ppHeader, startMsg, hv, hh, hp]

/-- a header is written iff a version is configured and frps supplied a source -/
theorem pp_header_iff (ver : Str) (m : StartWorkConn) :
    (ppHeader ver m).isSome = (decide (ver ≠ []) && decide (m.srcAddr ≠ []) && decide (m.srcPort ≠ 0)) := by
  rw [← Bool.decide_and, ← Bool.decide_and, ppHeader]
  split <;> rename_i h
  · exact (decide_eq_true ⟨⟨h.1, h.2.1⟩, h.2.2⟩).symm
  · exact (decide_eq_false fun h' => h ⟨h'.1.1, h'.1.2, h'.2⟩).symm

/-- destination: what frps saw as local address of the user connection, 127.0.0.1 when absent -/
theorem pp_header_dst (ver name : Str) (src : Addr) (dst : Option Addr)
    (hv : ver ≠ []) (hh : src.host ≠ []) (hp : src.port ≠ 0) :
    (ppHeader ver (startMsg name (some src) dst)).map (·.dst) =
      some (match dst with
            | some d => if d.host = [] then { host := loopbackStr, port := d.port } else d
            | none => { host := loopbackStr, port := 0 }) := by
  cases dst with
  | none => simp [ppHeader, startMsg, hv, hh, hp]
  | some d =>
    by_cases hd : d.host = [] <;> simp [ppHeader, startMsg, hv, hh, hp, hd]

/-! ## (8) sniffed bytes are replayed -/

theorem https_replays_all (stream : C01Bytes) (k : Nat) : handedOn .https stream k = stream :=
  List.take_append_drop k stream

theorem tcpmux_passthrough_replays_all (stream : C01Bytes) (k : Nat) : handedOn (.tcpmux true) stream k = stream :=
  List.take_append_drop k stream

/-- tcpmux without passthrough hands on the raw connection: exactly the consumed bytes are gone; when
    the sniffer consumed exactly the CONNECT request the backend sees everything after it -/
theorem tcpmux_strips_consumed (req rest : C01Bytes) : handedOn (.tcpmux false) (req ++ rest) req.length = rest :=
  List.drop_left

/-- observation: bytes that arrive together with the CONNECT request (before the 200 reply) sit in the
    sniffer's bufio.Reader and are lost, since the raw connection — not the SharedConn — is handed on -/
theorem tcpmux_early_data_witness :
    ∃ (req rest : C01Bytes) (k : Nat), req.length < k ∧ handedOn (.tcpmux false) (req ++ rest) k ≠ rest :=
  ⟨[67], [1, 2, 3], 3, by decide, by decide⟩

/-! ## (9) the sniff phase leaves no deadline behind -/
section deadline
open Deadline

/-- whatever happened before, `SetDeadline(time.Time{})` leaves neither deadline armed -/
theorem dl_clear_both (cs : List Call) : (run (cs ++ [.both false])).cleared = true := by
  simp [run, List.foldl_append, St.apply, St.cleared]

/-- lifting ONLY the read deadline after `SetDeadline(t)` leaves the write deadline armed, whatever happened before -/
theorem dl_read_only_clear_leaves_write (cs : List Call) :
    run (cs ++ [.both true, .rd false]) = { rd := false, wd := true } := by
  simp [run, List.foldl_append, St.apply]

/-- `(*Muxer).handle`: a connection that is handed to the proxy's listener carries no deadline -/
theorem handle_clears_deadlines : (run (handleCalls .handedOn)).cleared = true := by decide +kernel

/-- every way `handle` can end: the connection is closed, or it is handed on with both deadlines cleared -/
theorem handle_closes_or_clears (o : Outcome) :
    handleCloses o = true ∨ (handleCloses o = false ∧ (run (handleCalls o)).cleared = true) := by
  cases o <;> decide

/-- the deadline calls of the REAL `handle` (regenerated from vhost.go on every run): all on the straight-line path
    to the hand-off, and exactly the model's -/
def handleCodeCalls : Option (List Call) :=
  Gen.ConnFacts.muxerHandleDeadlines.mapM fun d => if d.2.2.2 = 0 then Call.ofSrc d.2.1 d.2.2.1 else none

theorem handle_code_clears :
    handleCodeCalls = some (handleCalls .handedOn) ∧ Gen.ConnFacts.muxerHandleHandOff.length = 1 := by
  decide +kernel

/-- the predicate evaluated on the calls the real socket saw up to the hand-off -/
def dlHoldsOn (calls : List Call) : Bool := (run calls).cleared

theorem dlHoldsOn_sound (calls : List Call) :
    dlHoldsOn calls = true ↔ (run calls).rd = false ∧ (run calls).wd = false := by
  simp [dlHoldsOn, St.cleared]

end deadline

/-! ## (10) closing a QUIC work connection never cancels what was written -/
section quic
open QuicStream

theorem call_noCancel (s : Stream) (k : Nat) {c : Call} (h : s.resetAt = none) (hc : c ≠ .cancelWrite) :
    (s.call k c).resetAt = none ∧ (s.call k c).written = s.written ∧ (s.call k c).fin = (s.fin || .close == c) := by
  cases c with
  | cancelRead => exact ⟨h, rfl, (Bool.or_false _).symm⟩
  | close => simp [Stream.call, h]
  | cancelWrite => exact absurd rfl hc

theorem runCalls_cons (s : Stream) (c : Call) (cs : List Call) (ks : List Nat) :
    runCalls s (c :: cs) ks = runCalls (s.call (ks.headD 0) c) cs ks.tail := by
  cases ks <;> rfl

theorem quic_noCancel_run : ∀ (prog : List Call) (s : Stream) (ks : List Nat), s.resetAt = none → .cancelWrite ∉ prog →
    (runCalls s prog ks).resetAt = none ∧ (runCalls s prog ks).written = s.written ∧
    (runCalls s prog ks).fin = (s.fin || prog.contains .close)
  | [], s, _, h, _ => ⟨h, rfl, (Bool.or_false _).symm⟩
  | c :: cs, s, ks, h, hn => by
    obtain ⟨h1, h2, h3⟩ := call_noCancel s (ks.headD 0) h fun e => hn (e ▸ List.mem_cons_self)
    obtain ⟨i1, i2, i3⟩ := quic_noCancel_run cs _ ks.tail h1 fun e => hn (List.mem_cons_of_mem _ e)
    rw [runCalls_cons]
    exact ⟨i1, i2.trans h2, by rw [i3, h3, List.contains_cons, Bool.or_assoc]⟩

/-- ANY close program that closes the send side and never calls CancelWrite — at whatever moments its calls run, however
    little the peer has read by then — delivers everything that was written, then a clean end-of-stream -/
theorem quic_noCancel_delivers (prog : List Call) (w : List Nat) (ks : List Nat)
    (hn : .cancelWrite ∉ prog) (hc : .close ∈ prog) :
    (runCalls { written := w } prog ks).peerGets = (w, true) := by
  obtain ⟨h1, h2, h3⟩ := quic_noCancel_run prog { written := w } ks rfl hn
  simp only [Stream.peerGets, h1, h2, h3]
  simp [hc]

/-- `(*wrapQuicStream).Close`, the calls it makes -/
theorem quic_close_delivers (w : List Nat) (ks : List Nat) :
    (runCalls { written := w } wrapperClose ks).peerGets = (w, true) :=
  quic_noCancel_delivers _ w ks (by decide +kernel) (by decide +kernel)

/-- a CancelWrite that runs after the close, at a moment when the peer's application has consumed only `k` of the bytes
    (a timer, a slow or paused reader): the peer gets `k` bytes and no clean end — the tail is lost -/
theorem quic_cancelWrite_loses (w : List Nat) (k k1 k2 : Nat) (hk : k < w.length) :
    (runCalls { written := w } (wrapperClose ++ [.cancelWrite]) [k1, k2, k]).peerGets = (w.take k, false) := by
  have : ¬ w.length ≤ k := by omega
  simp [runCalls, wrapperClose, Stream.call, Stream.peerGets, this, Nat.min_eq_left (Nat.le_of_lt hk)]

/-- the calls of the REAL wrapper's Close (regenerated from conn.go on every run): exactly the model's, none deferred
    to a timer / goroutine -/
theorem quic_close_code :
    Gen.ConnFacts.quicCloseCalls.mapM (fun c => if c.2 then none else Call.ofSrc c.1) = some wrapperClose := by
  decide +kernel

/-- the predicate on an observed close: the stream calls seen, what the peer got -/
def quicHoldsOn (calls : List Call) (sent got : Nat) (eof eq : Bool) : Bool :=
  !calls.contains .cancelWrite && calls.contains .close && got == sent && eof && eq

end quic

/-! ## (11) a pooled codec is never held by two live connections -/
section pool
open CodecPool1

/-- no object is in two places (pool slots, live connections) at once, and `next` is beyond all of them -/
def CodecInv (s : CodecPool1.St) : Prop :=
  (s.pool ++ s.live).Nodup ∧ ∀ o ∈ s.pool ++ s.live, o < s.next

theorem perm_cons_eraseIdx {α : Type} : ∀ (l : List α) (i : Nat) (o : α), l[i]? = some o → l.Perm (o :: l.eraseIdx i)
  | x :: xs, 0, o, h => by cases h; exact .refl _
  | x :: xs, i + 1, o, h => ((perm_cons_eraseIdx xs i o h).cons x).trans (.swap o x _)

/-- the invariant speaks of the objects held, not of where they are held -/
theorem CodecInv.of_perm {s t : CodecPool1.St} (h : CodecInv s) (hp : (t.pool ++ t.live).Perm (s.pool ++ s.live))
    (hn : t.next = s.next) : CodecInv t :=
  ⟨hp.symm.nodup h.1, fun o ho => hn ▸ h.2 o (hp.mem_iff.mp ho)⟩

theorem codecInv_start (s : CodecPool1.St) (pick : Nat) (h : CodecInv s) : CodecInv (step s (.start pick)) := by
  simp only [step]
  split
  · rename_i o ho
    -- a pooled object moves to the new connection
    exact h.of_perm (List.perm_middle.trans ((perm_cons_eraseIdx _ _ o ho).append_right s.live).symm) rfl
  · -- pool.New: an object nobody has
    have hnd : (s.next :: (s.pool ++ s.live)).Nodup := List.nodup_cons.mpr ⟨fun hm => Nat.lt_irrefl _ (h.2 _ hm), h.1⟩
    refine ⟨List.perm_middle.symm.nodup hnd, fun o ho => ?_⟩
    rcases List.mem_cons.mp (List.perm_middle.mem_iff.mp ho) with rfl | ho
    · exact Nat.lt_succ_self _
    · exact Nat.lt_succ_of_lt (h.2 o ho)

theorem codecInv_finish (s : CodecPool1.St) (idx r : Nat) (hr : r ≤ 1) (h : CodecInv s) :
    CodecInv (step s (.finish idx r)) := by
  simp only [step]
  split
  · rename_i o ho
    obtain rfl | rfl : r = 0 ∨ r = 1 := by omega
    · -- never recycled: the object is dropped
      have hs : (s.pool ++ s.live.eraseIdx idx).Sublist (s.pool ++ s.live) :=
        (List.Sublist.refl _).append (List.eraseIdx_sublist _ _)
      exact ⟨h.1.sublist hs, fun x hx => h.2 x (hs.subset hx)⟩
    · -- recycled once: it goes back to the pool
      refine h.of_perm ?_ rfl
      show (s.pool ++ [o] ++ s.live.eraseIdx idx).Perm _
      rw [List.append_assoc]
      exact (perm_cons_eraseIdx _ _ o ho).symm.append_left s.pool
  · exact h

theorem codecInv_run : ∀ (ops : List Op) (s : CodecPool1.St), CodecInv s → onceOnly ops = true → CodecInv (ops.foldl step s)
  | [], _, hs, _ => hs
  | .start p :: ops, s, hs, ho => codecInv_run ops _ (codecInv_start s p hs) ho
  | .finish i r :: ops, s, hs, ho => by
    simp only [onceOnly, Bool.and_eq_true, decide_eq_true_eq] at ho
    exact codecInv_run ops _ (codecInv_finish s i r ho.1 hs) ho.2

/-- for ALL histories of compressed connections starting and ending, with ANY choice the pool makes on Get: if every
    handler runs its recycle function at most once, no two live connections ever hold the same codec object -/
theorem pool_no_sharing (ops : List Op) (h : onceOnly ops = true) : (run ops).live.Nodup :=
  (List.nodup_append.mp (codecInv_run ops {} ⟨List.nodup_nil, nofun⟩ h).1).2.1

/-- under the same condition no live connection's codec sits in the pool waiting to be handed to the next connection -/
theorem pool_live_not_pooled (ops : List Op) (h : onceOnly ops = true) : ∀ o ∈ (run ops).live, o ∉ (run ops).pool :=
  fun o ho hp => (List.nodup_append.mp (codecInv_run ops {} ⟨List.nodup_nil, nofun⟩ h).1).2.2 o hp o ho rfl

/-- recycling TWICE: one connection finishes, the next two get the same object -/
theorem pool_double_put_witness : (run [.start 0, .finish 0 2, .start 0, .start 0]).live = [0, 0] := by decide +kernel

/-- the REAL handlers (regenerated from every caller of WithCompressionFromPool on every run): on no path through any
    of them does the recycle function run more than once -/
theorem pool_recycle_once_code : Gen.ConnFacts.poolRecycleMax.all (fun f => decide (f.2 ≤ 1)) = true ∧
    Gen.ConnFacts.poolRecycleMax.length ≥ 4 := by
  decide +kernel

end pool

/-! ## (12) closing one vhost proxy never re-routes the connections of another -/
section survivor
open Str Router

/-- a (domain, location, user) triple other than the survivor's bucket -/
def otherBucket (host user : Str) (d : Str × Str × Str) : Prop := ¬ (toLower host = toLower d.1 ∧ user = d.2.2)

/-- `Routers.Del` of routes in OTHER buckets (another domain, or the same domain under another routeByHTTPUser) — any
    number of them, in any order — leaves the lookup of a host/user that has its own route literally unchanged: the
    muxer still hands the connection to the same listener (so to the same proxy and backend), never to a wildcard
    proxy that also covers the host -/
theorem survivor_keeps_route (dels : List (Str × Str × Str)) : ∀ (R : Routers) (host path user : Str) (r : Route),
    Router.get R host path user = some r → (∀ d ∈ dels, otherBucket host user d) →
    Router.getVhost (dels.foldl (fun R d => Router.del R d.1 d.2.1 d.2.2) R) host path user = some r := by
  intro R host path user r h ho
  have hget : Router.get (dels.foldl (fun R d => Router.del R d.1 d.2.1 d.2.2) R) host path user = some r :=
    foldl_invariant (P := fun R => Router.get R host path user = some r) h fun R d hd hR => by
      rwa [C06.del_get_other R d.1 d.2.1 d.2.2 host path user (ho d hd)]
  simp [Router.getVhost, Router.levels, Router.findRouter, hget]

/-- the smallest table with two users on one domain and a wildcard: after alice's route is deleted bob's connections
    still reach bob (1), alice's fall to the wildcard (2) -/
theorem survivor_example :
    let a := Str.ofString "a.life.test"
    let R := (add (add (add Router.empty a [] (Str.ofString "alice") 0).1 a [] (Str.ofString "bob") 1).1
      (Str.ofString "*.life.test") [] [] 2).1
    (Router.getVhost (Router.del R a [] (Str.ofString "alice")) a [] (Str.ofString "bob")).map (·.payload) = some 1 ∧
    (Router.getVhost (Router.del R a [] (Str.ofString "alice")) a [] (Str.ofString "alice")).map (·.payload) = some 2 := by
  decide +kernel

end survivor
/-! ## (13) a running frpc is re-configured -/
section reload
open Reload

/-- UpdateAll(cs) on any table whose wrappers read what they report: the table IS the configured map (lo.KeyBy: the last
    entry of a name), every proxy made by NewWrapper from what is configured now -/
theorem reload_table (T : Table) (cs : List Cfg) (h : Inv T) (n : Nat) :
    lookup (updateAll T cs) n = (keyBy cs n).map Wrapper.new := by
  have hg := updateAll_good T cs h
  unfold lookup
  cases hf : (updateAll T cs).find? (fun p => p.1 = n) with
  | some q =>
    -- the entry found is good, and its name is `n`
    have hq : q.1 = n := by simpa using List.find?_some hf
    rw [← hq, hg q (List.mem_of_find?_eq_some hf)]; rfl
  | none =>
    -- no entry of that name: had `cs` configured one, loop 2 would have added it
    cases hk : keyBy cs n with
    | none => rfl
    | some d =>
      obtain ⟨hd, rfl⟩ := keyBy_some cs n d hk
      obtain ⟨p, hp, hn⟩ := (hasKey_iff _ _).mp (addLoop_cover cs cs _ d hd)
      exact absurd (decide_eq_true hn) (List.find?_eq_none.mp hf p hp)

/-- every table reached by a history of reloads has wrappers that read what they report -/
theorem reload_inv (hs : List (List Cfg)) (T : Table) (h : Inv T) : Inv (runHist T hs) :=
  foldl_invariant h fun T cs _ => updateAll_inv T cs

/-- after ANY history of reloads (any earlier configurations, names configured twice, proxies that came and went), a
    new work connection of proxy n goes to the backend — dialled or through the plugin —, with the header version, of the
    LAST loaded configuration of n; to nothing if that does not configure n -/
theorem reload_bridges_last (hs : List (List Cfg)) (cs : List Cfg) (n : Nat) :
    dialled (runHist [] (hs ++ [cs])) n = (keyBy cs n).map fun c => (c.backend, c.via, c.ppv) := by
  have hinv : Inv (runHist [] hs) := reload_inv hs [] (fun _ hp => by cases hp)
  have : runHist [] (hs ++ [cs]) = updateAll (runHist [] hs) cs := by simp [runHist, List.foldl_append]
  rw [this]
  simp only [dialled, reload_table _ cs hinv n, Option.map_map]
  cases keyBy cs n <;> rfl

/-- two proxies swap their backends (nothing frps sees changes): each is bridged to its NEW backend -/
theorem reload_swap (hs : List (List Cfg)) (a b : Cfg) (hn : a.name ≠ b.name) :
    let cs := [{ a with backend := b.backend }, { b with backend := a.backend }]
    dialled (runHist [] (hs ++ [[a, b], cs])) a.name = some (b.backend, a.via, a.ppv) ∧
    dialled (runHist [] (hs ++ [[a, b], cs])) b.name = some (a.backend, b.via, b.ppv) := by
  intro cs
  have e : hs ++ [[a, b], cs] = (hs ++ [[a, b]]) ++ [cs] := by simp
  rw [e, reload_bridges_last, reload_bridges_last]
  have hn' : ¬ b.name = a.name := fun h => hn h.symm
  simp [cs, keyBy, hn']

example : dialled (runHist [] [[⟨0, 7, 0, 2, 1⟩, ⟨1, 8, 0, 0, 1⟩], [⟨0, 8, 0, 2, 1⟩, ⟨1, 7, 0, 0, 1⟩, ⟨0, 9, 1, 1, 1⟩]]) 0 = some (9, 1, 1) := by
  decide +kernel

/-- SENSITIVITY: were a change that frps does not see taken over "in place" (`pw.Cfg = cfg`, the proxy keeps running),
    the proxy would go on dialling the OLD backend -/
theorem reload_inplace_witness :
    dialled (updateAllWith keepInPlace (updateAllWith keepInPlace [] [⟨0, 7, 0, 0, 1⟩]) [⟨0, 8, 0, 0, 1⟩]) 0 = some (7, 0, 0) ∧
    dialled (updateAll (updateAll [] [⟨0, 7, 0, 0, 1⟩]) [⟨0, 8, 0, 0, 1⟩]) 0 = some (8, 0, 0) := by
  decide +kernel

/-- the REAL UpdateAll (regenerated from client/proxy on every run): a running proxy is deleted-and-stopped exactly when it
    is no longer configured or its configuration is not DeepEqual to the new one, loop 1 does nothing else with a running
    wrapper, loop 2 makes a NewWrapper for what is missing — and no code of the package writes a wrapper's / a running
    proxy's configuration after NewWrapper -/
theorem reload_code_recreates :
    Gen.ConnFacts.updateAllDelConds = [["!ok || !reflect.DeepEqual(pxy.Cfg, cfg)"]] ∧
    Gen.ConnFacts.updateAllTouches = ["Stop"] ∧
    (Gen.ConnFacts.updateAllDelBody.contains "delete(pm.proxies, name)" && Gen.ConnFacts.updateAllDelBody.contains "pxy.Stop()") = true ∧
    (Gen.ConnFacts.updateAllAddCalls.contains "NewWrapper" && Gen.ConnFacts.updateAllAddCalls.contains "pxy.Start") = true ∧
    Gen.ConnFacts.clientCfgWriters = ["client/proxy/proxy_wrapper.go:NewWrapper:pw.pxy"] := by
  decide +kernel

/-- the predicate on what the users of one step observed: `obs n` = (backend, via, header version, the header named this
    very user / there was none) of the answer to a NEW connection to proxy n, `none` = no answer -/
def reloadHoldsOn (cs : List Cfg) (names : List Nat) (obs : Nat → Option (Nat × Nat × Nat × Bool)) : Bool :=
  names.all fun n =>
    match keyBy cs n with
    | none => true
    | some c => obs n == some (c.backend, c.via, c.ppv, true)

end reload

/-! ## (14) the StartWorkConn message of one user connection among others in flight -/
section workmsg
open WorkMsg

/-- for EVERY interleaving of the fill / send moments of any number of user connections of one proxy: a message written
    for connection i was built from connection i's own addresses -/
theorem startmsg_own (name : Str) (cs : List Conn) (evs : List Ev) :
    ∀ p ∈ (run false name cs evs).sent, ∃ c, cs[p.1]? = some c ∧ p.2 = startMsg name c.src c.dst :=
  (foldl_invariant (P := Ok name cs) ⟨fun _ hp => (by cases hp), fun _ hp => (by cases hp)⟩ fun s e _ => step_false_ok name cs s e).2

/-- the proxy-protocol header frpc builds from a connection's StartWorkConn carries that very user's source address -/
theorem startmsg_header_own (ver name : Str) (cs : List Conn) (evs : List Ev) (i : Nat) (m : StartWorkConn) (c : Conn) (a : Addr)
    (hm : (i, m) ∈ (run false name cs evs).sent) (hc : cs[i]? = some c) (ha : c.src = some a)
    (hv : ver ≠ []) (hh : a.host ≠ []) (hp : a.port ≠ 0) : (ppHeader ver m).map (·.src) = some a := by
  obtain ⟨c', hc', rfl⟩ := startmsg_own name cs evs (i, m) hm
  cases hc.symm.trans hc'
  rw [ha]
  exact pp_header_src ver name a c.dst hv hh hp

/-- SENSITIVITY: were the message a field of the proxy that every call fills in, a second user arriving between fill and
    send would put ITS address into the first user's message -/
theorem startmsg_shared_witness :
    let cs : List Conn := [⟨some ⟨[49], 1001⟩, none⟩, ⟨some ⟨[49], 1002⟩, none⟩]
    ((run true [112] cs [.fill 0, .fill 1, .send 0]).sent.map fun p => (p.1, p.2.srcPort)) = [(0, 1002)] ∧
    ((run false [112] cs [.fill 0, .fill 1, .send 0]).sent.map fun p => (p.1, p.2.srcPort)) = [(0, 1001)] := by
  decide +kernel

/-- the REAL GetWorkConnFromPool (regenerated from server/proxy/proxy.go on every run): the message is a literal built at
    the msg.WriteMsg call, its four address fields from parameters / locals of the call only, and neither the function nor
    a BaseProxy method it calls writes a field of the proxy or takes the address of one -/
theorem startmsg_code_locals :
    Gen.ConnFacts.startMsgShape = "literal" ∧
    (["SrcAddr", "SrcPort", "DstAddr", "DstPort"].all fun k => Gen.ConnFacts.startMsgFields.any fun f => f.1 == k && f.2.2) = true ∧
    Gen.ConnFacts.startMsgRecvWrites = [] := by
  decide +kernel

/-- the predicate on what k simultaneous users of one proxy observed: `obs i` = (backend, via, header version, the index of the
    user whose address the header's source is, destination = the endpoint dialled, own line answered) -/
def ppcHoldsOn (backend via ppv : Nat) (obs : List (Option (Nat × Nat × Nat × Option Nat × Bool × Bool))) : Bool :=
  (List.range obs.length).all fun i => obs[i]? == some (some (backend, via, ppv, some i, true, true))

end workmsg

end C01
end Frp
