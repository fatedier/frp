import Frp.Props.C19
import Frp.Gen.C19Facts
/-
  C19, Part D — the worker's two decisions as the SOURCE has them, and the schedule in which `Stop()`
  overtakes a worker that has already left its select.

  `Wrapper.wantsStart` (the condition under which one iteration of `checkWorker` hands NewProxy to
  the handler) and the withdrawal test of the unhealthy branch are hand-written in
  Frp/Model/Wrapper.lean.  translate/gen_c19facts.go EVALUATES the two conditions of the real
  `checkWorker` — through whatever helper method, switch or if chain they are written with — for
  every phase constant and both values of the two deadline tests, on every run
  (Frp/Gen/C19Facts.lean).  The theorems below say that the model's functions are exactly those
  tables; all theorems of Part W / Part K about `wantsStart` (in particular
  `conc_no_newProxy_after_stop`: in EVERY interleaving of wake-up, Lock(), Stop, SetRunningStatus and
  monitor callbacks nothing but CloseProxy follows once Stop has written `closed`) are therefore
  theorems about the decision the code takes.  A source in which some other phase registers — e.g.
  a `switch` whose default branch also covers `closed` — regenerates a different table and
  `wantsStart_eq_source` / `source_register_phases` no longer compile.
-/
namespace Frp
namespace C19
open Wrapper WrapperConc

/-- index of a phase in the `ProxyPhase…` const block of proxy_wrapper.go -/
def phaseIdx : Phase → Nat
  | .new => 0 | .waitStart => 1 | .startErr => 2 | .running => 3 | .checkFailed => 4 | .closed => 5

theorem source_phase_order :
    Gen.C19Facts.phaseNames = ["ProxyPhaseNew", "ProxyPhaseWaitStart", "ProxyPhaseStartErr", "ProxyPhaseRunning",
      "ProxyPhaseCheckFailed", "ProxyPhaseClosed"] ∧
    Gen.C19Facts.phaseTexts = ["new", "wait start", "start error", "running", "check failed", "closed"] := by
  decide +kernel

/-- the registration condition of the source, read off the regenerated table -/
def srcRegisterDue (p : Nat) (waitExpired errExpired : Bool) : Bool :=
  Gen.C19Facts.registerDue.any (fun r => r.1 == p && r.2.1 == waitExpired && r.2.2.1 == errExpired && r.2.2.2)

def srcWithdrawDue (p : Nat) : Bool := Gen.C19Facts.withdrawDue.any (fun r => r.1 == p && r.2)

/-- the set of phases in which `checkWorker` sends NewProxy, as the source has it: new and check
    failed always, wait start exactly past its deadline, start error exactly past its back-off;
    never running, never CLOSED -/
theorem source_register_phases (we ee : Bool) :
    srcRegisterDue 0 we ee = true ∧ srcRegisterDue 4 we ee = true ∧
    srcRegisterDue 1 we ee = we ∧ srcRegisterDue 2 we ee = ee ∧
    srcRegisterDue 3 we ee = false ∧ srcRegisterDue 5 we ee = false := by
  cases we <;> cases ee <;> decide

/-- the model's decision IS the source's: for every wrapper state and every clock value -/
theorem wantsStart_eq_source (w : W) (now : Nat) :
    wantsStart w now = srcRegisterDue (phaseIdx w.phase)
      (decide (w.lastSend + waitResponseTimeout < now)) (decide (w.lastErr + startErrTimeout < now)) := by
  unfold wantsStart
  generalize decide (w.lastSend + waitResponseTimeout < now) = we, decide (w.lastErr + startErrTimeout < now) = ee
  obtain ⟨h0, h4, h1, h2, h3, h5⟩ := source_register_phases we ee
  cases w.phase <;> simp only [phaseIdx, h0, h1, h2, h3, h4, h5] <;> cases we <;> cases ee <;> rfl

/-- the unhealthy branch withdraws exactly from running / wait start -/
theorem withdraw_eq_source (w : W) :
    decide (w.phase = .running ∨ w.phase = .waitStart) = srcWithdrawDue (phaseIdx w.phase) := by
  cases hp : w.phase <;> decide

/-- the two guarded blocks write `wait start` / `check failed`, and both sit between Lock() and Unlock() -/
theorem source_worker_writes :
    Gen.C19Facts.registerWrites = phaseIdx .waitStart ∧ Gen.C19Facts.withdrawWrites = phaseIdx .checkFailed ∧
    Gen.C19Facts.registerLocked = true ∧ Gen.C19Facts.withdrawLocked = true := by decide

/-- a stopped wrapper's worker iteration is silent — stated on the SOURCE's table: whatever the clock -/
theorem closed_tick_silent (w : W) (now : Nat) (h : w.phase = .closed) :
    (step w (.tick now)).2.1 = [] ∧ (step w (.tick now)).1.phase = .closed := by
  have hs : wantsStart w now = false := by
    rw [wantsStart_eq_source, h]
    exact (source_register_phases _ _).2.2.2.2.2
  simp only [step, hs]
  split <;> simp [h]

/-! ### Stop() overtakes a worker that has left its select

    The worker's wake-up (`wWake`: the status-check timer fired or a health notification was taken,
    `time.Now()` and the load of `pw.health` done) and its `Lock()` (`wLock`) are separate steps of
    `WrapperConc`; `Stop` may take the mutex in between.  The worker then runs its critical section
    on a closed wrapper. -/

def wakeStopSchedule : List Label :=
  [.wWake 0, .stopLock, .hold, .hold, .hold, .wLock, .hold, .hold, .wExit]

theorem wake_stop_schedule_wire :
    (exec (WrapperConc.init (mk ⟨1, 0, false, false⟩ 1)) wakeStopSchedule).wire = [.closeProxy] ∧
    (exec (WrapperConc.init (mk ⟨1, 0, false, false⟩ 1)) wakeStopSchedule).lin = [.stop, .tick 0] ∧
    (exec (WrapperConc.init (mk ⟨1, 0, false, false⟩ 1)) wakeStopSchedule).w.phase = .closed ∧
    (exec (WrapperConc.init (mk ⟨1, 0, false, false⟩ 1)) wakeStopSchedule).wpc = .exited := by decide

/-- the same for EVERY wrapper state, every moment of the wake-up and whatever else happens in
    between and afterwards: if the worker is between its wake-up and its Lock() when the wrapper is
    closed, the rest of the run appends nothing but CloseProxy and the phase stays closed
    (instance of `conc_no_newProxy_after_stop`, spelled out for the woken worker) -/
theorem conc_woken_worker_after_stop (w0 : W) (ls ls' : List Label) (now h : Nat)
    (_hw : (exec (WrapperConc.init w0) ls).wpc = .loaded now h)
    (hc : (exec (WrapperConc.init w0) ls).w.phase = .closed) :
    (exec (WrapperConc.init w0) (ls ++ ls')).w.phase = .closed ∧
    ∃ extra, (exec (WrapperConc.init w0) (ls ++ ls')).wire = (exec (WrapperConc.init w0) ls).wire ++ extra ∧
      Msg.newProxy ∉ extra :=
  conc_no_newProxy_after_stop w0 ls ls' hc

/-! ### the executable predicate of op `wake` (engine client) -/

/-- on the wire of ONE proxy name: after the last CloseProxy at most `allow` NewProxy follow
    (`allow` = 1 when the name is configured again — the new wrapper registers once —, 0 when the
    name is gone) -/
def noNewAfterLastClose (q : List Msg) (allow : Nat) : Bool :=
  decide (((q.reverse.takeWhile (· != .closeProxy)).filter (· == .newProxy)).length ≤ allow)

theorem takeWhile_append_of_mem {α} (p : α → Bool) : ∀ (a b : List α), (∃ x ∈ a, p x = false) →
    (a ++ b).takeWhile p = a.takeWhile p := by
  intro a
  induction a with
  | nil => intro b h; obtain ⟨x, hx, _⟩ := h; cases hx
  | cons y ys ih =>
    intro b h
    simp only [List.cons_append, List.takeWhile]
    cases hy : p y with
    | false => rfl
    | true =>
      simp only
      congr 1
      apply ih
      obtain ⟨x, hx, hpx⟩ := h
      cases hx with
      | head => rw [hy] at hpx; cases hpx
      | tail _ hm => exact ⟨x, hm, hpx⟩

/-- what `conc_no_newProxy_after_stop` gives for a stopped wrapper — the wire is some prefix followed
    by a tail without NewProxy that contains Stop's CloseProxy — passes the predicate with allowance 0 -/
theorem noNewAfterLastClose_of_tail (pre extra : List Msg) (h1 : Msg.newProxy ∉ extra)
    (h2 : Msg.closeProxy ∈ extra) : noNewAfterLastClose (pre ++ extra) 0 = true := by
  unfold noNewAfterLastClose
  rw [List.reverse_append, takeWhile_append_of_mem]
  · have : (extra.reverse.takeWhile (· != Msg.closeProxy)).filter (· == Msg.newProxy) = [] := by
      apply List.filter_eq_nil_iff.mpr
      intro x hx
      have hx' : x ∈ extra := List.mem_reverse.mp ((List.takeWhile_prefix _).subset hx)
      intro he
      have : x = Msg.newProxy := by simpa using he
      subst this
      exact h1 hx'
    simp [this]
  · exact ⟨.closeProxy, List.mem_reverse.mpr h2, by simp⟩

/-- non-vacuity: a registration after the CloseProxy of a name that is gone fails it -/
example : noNewAfterLastClose [.newProxy, .closeProxy, .newProxy] 0 = false := by decide
example : noNewAfterLastClose [.newProxy, .closeProxy, .closeProxy] 0 = true := by decide
example : noNewAfterLastClose [.closeProxy, .newProxy, .newProxy] 1 = false := by decide

end C19
end Frp
