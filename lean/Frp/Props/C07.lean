import Frp.Model.HttpAuth
import Frp.Model.WebAuth
import Frp.Lemmas.Base64
/-
  C07 — Password-protected endpoints serve only requests carrying the exact credentials.

  Models: Frp/Model/HttpAuth.lean (vhost http proxies, tcpmux, the http_proxy plugin) and, in section
  `Web`, Frp/Model/WebAuth.lean (static_file, dashboard, admin API, socks5: from the `Authorization`
  header bytes, decoded with Frp/Lemmas/Base64.lean, to the handler).  Statements hold for EVERY route
  table, every request.
-/
namespace Frp
namespace C07
open Str Router HttpAuth

/-- the request presents exactly the credentials configured for route `id`
    (or the route is not protected) -/
def CredsOK (T : Table) (id : Nat) (auth : Option (Str × Str)) : Prop :=
  let c := T.credsOf id
  (c.user = [] ∧ c.pass = []) ∨ auth = some (c.user, c.pass)

instance (T : Table) (id : Nat) (auth : Option (Str × Str)) : Decidable (CredsOK T id auth) := by
  unfold CredsOK; infer_instance

theorem checkAuth_true {T : Table} {domain loc ru user pass : Str} {r : Route}
    (hr : getVhost T.R domain loc ru = some r) (hc : checkAuth T domain loc ru user pass = true) :
    ((T.credsOf r.payload).user = [] ∧ (T.credsOf r.payload).pass = []) ∨
    ((T.credsOf r.payload).user = user ∧ (T.credsOf r.payload).pass = pass) := by
  unfold checkAuth at hc
  rw [hr] at hc
  simpa using hc

/-- `ServeHTTP` with the pair of `BasicAuth` taken apart -/
theorem serve_eq (T : Table) (q : Req) :
    serve T q =
      if !checkAuth T (canon q.host) q.path (routeUser q)
          (match q.auth with | some p => p.1 | none => []) (match q.auth with | some p => p.2 | none => [])
      then .unauthorized else forwardOf T q := by
  unfold serve
  cases q.auth <;> rfl

/-- **same route**: the route whose credentials were checked is the route forwarded to -/
theorem serve_same_route (T : Table) (q : Req) (id : Nat) (h : serve T q = .forward id) :
    ∃ r, getVhost T.R (canon q.host) q.path (routeUser q) = some r ∧ r.payload = id ∧
      checkAuth T (canon q.host) q.path (routeUser q)
        (match q.auth with | some p => p.1 | none => []) (match q.auth with | some p => p.2 | none => []) = true := by
  rw [serve_eq] at h
  generalize checkAuth T (canon q.host) q.path (routeUser q) _ _ = ok at h ⊢
  cases ok
  · cases h
  · unfold forwardOf at h
    cases hr : getVhost T.R (canon q.host) q.path (routeUser q) with
    | none => rw [hr] at h; cases h
    | some r => rw [hr] at h; exact ⟨r, rfl, by injection h, rfl⟩

/-- **http proxies**: whatever the route table and the request (origin-form or absolute-form, any
    combination of Authorization / Proxy-Authorization), a request is forwarded to a route only if
    it presents exactly that route's user name and password. -/
theorem serve_sound (T : Table) (q : Req) (id : Nat) (h : serve T q = .forward id) :
    CredsOK T id q.auth := by
  obtain ⟨r, hr, rfl, hc⟩ := serve_same_route T q id h
  rcases checkAuth_true hr hc with hp | ⟨hu, hp⟩
  · exact Or.inl hp
  · -- without an `Authorization` header the pair compared is ("", "")
    cases hq : q.auth with
    | none => rw [hq] at hu hp; exact Or.inl ⟨hu, hp⟩
    | some p => rw [hq] at hu hp; exact Or.inr (by rw [hu, hp])

/-- requests that fail the check reach no backend: the answer is the 401 challenge -/
theorem serve_unauthorized (T : Table) (q : Req)
    (h : checkAuth T (canon q.host) q.path (routeUser q)
        (match q.auth with | some p => p.1 | none => []) (match q.auth with | some p => p.2 | none => []) = false) :
    serve T q = .unauthorized := by
  rw [serve_eq, h]
  rfl

/-! ### the pinned tree (c9fd674) violated the property: witness -/

def s (x : String) : Str := Str.ofString x

/-- one user-routed, password-protected route -/
def wTable : Table :=
  { R := (add Router.empty (s "h.example.com") (s "/") (s "alice") 1).1
    creds := [(1, ⟨s "alice", s "secret"⟩)] }

/-- absolute-form request, no Authorization, Proxy-Authorization naming the route's user -/
def wReq : Req :=
  { host := s "h.example.com", urlHost := s "h.example.com", path := s "/", auth := none,
    pauth := some (s "alice", s "anything") }

/-- the old `ServeHTTP` forwards the witness request to the protected route without its password -/
theorem serveOld_witness : serveOld wTable wReq = .forward 1 ∧ ¬ CredsOK wTable 1 wReq.auth := by
  decide +kernel

/-- the repaired `ServeHTTP` answers the same request with the challenge -/
theorem serve_witness_fixed : serve wTable wReq = .unauthorized := by decide +kernel

-- non-vacuity: the protected route is reached with the right credentials, not with others
example : serve wTable { wReq with auth := some (s "alice", s "secret") } = .forward 1 := by decide +kernel
example : serve wTable { wReq with auth := some (s "alice", s "wrong") } = .unauthorized := by decide +kernel

/-! ### tcpmux, middleware, http_proxy plugin -/

/-- what `.accept n` means: `n` is the listener the one lookup found, and if that listener has a user
    name the CONNECT carried exactly its pair (without `Proxy-Authorization` the pair compared is
    ("", ""), which a listener with a user name never matches) -/
theorem muxHandle_accept {T : Table} {q : ConnectReq} {n : Nat} (h : muxHandle T q = .accept n) :
    (∃ r, getVhost T.R (toLower q.host) [] (match q.pauth with | some x => x.1 | none => []) = some r ∧
      r.payload = n) ∧
    ((T.credsOf n).user ≠ [] → q.pauth = some ((T.credsOf n).user, (T.credsOf n).pass)) := by
  unfold muxHandle at h
  split at h
  rename_i u p hup
  have hu : (match q.pauth with | some x => x.1 | none => []) = u := by
    cases hq : q.pauth <;> rw [hq] at hup <;> cases hup <;> rfl
  rw [hu]
  split at h
  · cases h
  · rename_i r hr
    simp only at h
    split at h
    · split at h
      · rename_i hc
        injection h with h
        subst h
        refine ⟨⟨r, hr, rfl⟩, fun hprot => ?_⟩
        cases hq : q.pauth with
        | none => rw [hq] at hup; cases hup; exact absurd hc.1 hprot
        | some x => rw [hq] at hup; subst hup; rw [hc.1, hc.2]
      · cases h
    · rename_i hne
      injection h with h
      subst h
      exact ⟨⟨r, hr, rfl⟩, fun hprot => absurd hprot hne⟩

/-- **tcpmux**: a CONNECT is handed to a listener configured with a user name only if the request
    carries exactly its user name and password -/
theorem muxHandle_sound (T : Table) (q : ConnectReq) (id : Nat) (h : muxHandle T q = .accept id)
    (hprot : (T.credsOf id).user ≠ []) :
    q.pauth = some ((T.credsOf id).user, (T.credsOf id).pass) :=
  (muxHandle_accept h).2 hprot

/-- **middleware** (dashboard, admin API, static_file): next handler runs iff unprotected or the
    exact credentials are presented -/
theorem middleware_iff (cfg : Creds) (auth : Option (Str × Str)) :
    middleware cfg auth = true ↔
      (cfg.user = [] ∧ cfg.pass = []) ∨ auth = some (cfg.user, cfg.pass) := by
  unfold middleware
  cases auth with
  | none => simp
  | some p => obtain ⟨u, pw⟩ := p; simp

/-- **http_proxy plugin** -/
theorem pluginAuth_iff (cfg : Creds) (pair : Option (Str × Str)) :
    pluginAuth cfg pair = true ↔
      (cfg.user = [] ∧ cfg.pass = []) ∨ pair = some (cfg.user, cfg.pass) :=
  middleware_iff cfg pair

/-! ### the request on the wire: percent-decoding only, same path for check and forwarding -/

/-- **http proxies, wire level**: for every route table and every request target as sent
    (percent-encoded, with dot segments, empty segments, …) the backend of route `id` is reached only
    with exactly that route's credentials.  A target that does not decode reaches no handler. -/
theorem serveWire_sound (T : Table) (w : WireReq) (id : Nat) (h : serveWire T w = some (.forward id)) :
    CredsOK T id w.auth := by
  obtain ⟨q, hp, hs⟩ := Option.map_eq_some_iff.mp h
  obtain ⟨t, _, rfl⟩ := Option.map_eq_some_iff.mp hp
  exact serve_sound T _ id hs

theorem getVhost_get {R : Routers} {host path user : Str} {r : Route}
    (h : getVhost R host path user = some r) : ∃ d u, Router.get R d path u = some r := by
  obtain ⟨d, _, hd⟩ := List.exists_of_findSome?_eq_some h
  unfold findRouter at hd
  split at hd
  · rename_i r' hr'
    cases hd
    exact ⟨_, _, hr'⟩
  · exact ⟨_, _, hd⟩

theorem getVhost_prefix {R : Routers} {host path user : Str} {r : Route}
    (h : getVhost R host path user = some r) : hasPrefix path r.location = true := by
  obtain ⟨d, u, hu⟩ := getVhost_get h
  exact List.find?_some (p := fun (x : Route) => hasPrefix path x.location) hu

/-- **no path normalisation between check and forwarding**: the route a request is forwarded to is
    selected by `req.URL.Path` exactly as received (its location is a prefix of that path), and it is
    the route `CheckAuth` looked at (`serve_same_route`).  A dot segment, an empty segment or an
    encoded separator in the target therefore cannot steer the request to a location whose
    credentials were not checked. -/
theorem serve_forward_prefix (T : Table) (q : Req) (id : Nat) (h : serve T q = .forward id) :
    ∃ r, getVhost T.R (canon q.host) q.path (routeUser q) = some r ∧ r.payload = id ∧
      hasPrefix q.path r.location = true := by
  obtain ⟨r, hr, hid, _⟩ := serve_same_route T q id h
  exact ⟨r, hr, hid, getVhost_prefix hr⟩

/-- examples: a target without `%` decodes to itself (there `serveWire_sound` says what `serve_sound`
    says), escapes are decoded and nothing else is touched, a dangling or non-hex escape is rejected -/
example : unescapePath (s "/b/../a//x") = some (s "/b/../a//x") := by decide +kernel
example : unescapePath (s "/b/%2e%2E/a%2fx") = some (s "/b/../a/x") := by decide +kernel
example : unescapePath (s "/a%2") = none := by decide +kernel
example : unescapePath (s "/a%zz") = none := by decide +kernel

/-- an open "/" route and a protected "/a" route on one host -/
def pTable : Table :=
  { R := (add (add Router.empty (s "h.example.com") (s "/") [] 1).1 (s "h.example.com") (s "/a") [] 2).1
    creds := [(2, ⟨s "alice", s "secret"⟩)] }

def pReq (t : String) (a : Option (Str × Str)) : WireReq :=
  { host := s "h.example.com", proxied := false, target := s t, auth := a, pauth := none }

/-- non-vacuity: targets that a path cleaner would map below "/a" are served by the open route, the
    protected one answers the challenge without, and forwards with, its credentials -/
example : serveWire pTable (pReq "/b/../a/x" none) = some (.forward 1) := by decide +kernel
example : serveWire pTable (pReq "//a/x" none) = some (.forward 1) := by decide +kernel
example : serveWire pTable (pReq "/%61/x" none) = some .unauthorized := by decide +kernel
example : serveWire pTable (pReq "/a/../b" none) = some .unauthorized := by decide +kernel
example : serveWire pTable (pReq "/a/../b" (some (s "alice", s "secret"))) = some (.forward 2) := by decide +kernel
example : serveWire pTable (pReq "/a/%" none) = none := by decide +kernel

/-! ### http_proxy plugin: the dispatch of a whole work connection -/

/-- the request presents exactly the plugin's credentials (or the plugin is not protected) -/
def PlCredsOK (cfg : Creds) (pair : Option (Str × Str)) : Prop :=
  (cfg.user = [] ∧ cfg.pass = []) ∨ pair = some (cfg.user, cfg.pass)

instance (cfg : Creds) (pair : Option (Str × Str)) : Decidable (PlCredsOK cfg pair) := by
  unfold PlCredsOK; infer_instance

/-- **ServeHTTP**: neither `ConnectHandler` nor `HTTPHandler` runs unless `Auth` accepted, whatever
    the method -/
theorem pluginServeHTTP_reaches (cfg : Creds) (q : PlReq) (h : (pluginServeHTTP cfg q).reaches = true) :
    PlCredsOK cfg q.pair := by
  unfold pluginServeHTTP at h
  split at h
  · cases h
  · rename_i ha
    exact (pluginAuth_iff cfg q.pair).mp (by simpa using ha)

/-- **handleConnectReq**: the target is dialled only if `Auth` accepted -/
theorem pluginHandleConnect_reaches (cfg : Creds) (q : PlReq) (h : (pluginHandleConnect cfg q).reaches = true) :
    PlCredsOK cfg q.pair := by
  unfold pluginHandleConnect at h
  split at h
  · cases h
  · rename_i ha
    exact (pluginAuth_iff cfg q.pair).mp (by simpa using ha)

theorem pluginServeConn_sound (cfg : Creds) (qs : List PlReq) :
    ∀ p ∈ List.zip qs (pluginServeConn cfg qs), p.2.reaches = true → PlCredsOK cfg p.1.pair := by
  induction qs with
  | nil => intro p hp; simp [pluginServeConn] at hp
  | cons q rest ih =>
    intro p hp hr
    simp only [pluginServeConn, List.zip_cons_cons, List.mem_cons] at hp
    rcases hp with rfl | hp
    · exact pluginServeHTTP_reaches cfg q hr
    · split at hp
      · simp at hp
      · exact ih p hp hr

/-- **Handle, whole connection**: for every sequence of requests on one work connection (CONNECT
    first, CONNECT after other requests, any casing of the method, any credentials on each request)
    the i-th request reaches a target only if that very request carries exactly the configured
    user name and password — credentials of an earlier request of the connection do not count. -/
theorem pluginHandle_sound (cfg : Creds) (qs : List PlReq) :
    ∀ p ∈ List.zip qs (pluginHandle cfg qs), p.2.reaches = true → PlCredsOK cfg p.1.pair := by
  cases qs with
  | nil => intro p hp; simp [pluginHandle] at hp
  | cons q rest =>
    intro p hp hr
    by_cases hs : sniffConnect q.method = true
    · simp only [pluginHandle, hs, if_true, List.zip_cons_cons, List.mem_cons] at hp
      rcases hp with rfl | hp
      · exact pluginHandleConnect_reaches cfg q hr
      · simp at hp
    · simp only [pluginHandle, hs] at hp
      exact pluginServeConn_sound cfg (q :: rest) p hp hr

/-- requests without the exact credentials are answered with the challenge (connection kept) or are
    refused and the connection closed; nothing else -/
theorem pluginHandle_refuses (cfg : Creds) (qs : List PlReq) :
    ∀ p ∈ List.zip qs (pluginHandle cfg qs), ¬ PlCredsOK cfg p.1.pair →
      p.2 = .challenge ∨ p.2 = .refuseClose := by
  intro p hp hn
  have h := pluginHandle_sound cfg qs p hp
  cases hp2 : p.2 with
  | challenge => exact Or.inl rfl
  | refuseClose => exact Or.inr rfl
  | tunnel => rw [hp2] at h; exact absurd (h rfl) hn
  | fetch => rw [hp2] at h; exact absurd (h rfl) hn

/-- a CONNECT that opens the work connection without the credentials: 407 and the connection is
    closed (no further request of that connection is read) -/
theorem pluginHandle_first_connect_refused (cfg : Creds) (q : PlReq) (rest : List PlReq)
    (hs : sniffConnect q.method = true) (hn : ¬ PlCredsOK cfg q.pair) :
    pluginHandle cfg (q :: rest) = [.refuseClose] := by
  have ha : pluginAuth cfg q.pair = false := by
    cases h : pluginAuth cfg q.pair with
    | false => rfl
    | true => exact absurd ((pluginAuth_iff cfg q.pair).mp h) hn
  simp [pluginHandle, hs, pluginHandleConnect, ha]

def plCfg : Creds := ⟨s "u", s "p"⟩
def plGood : Option (Str × Str) := some (s "u", s "p")

/-- non-vacuity: the sequences of the kind "plain request, then CONNECT" -/
example : pluginHandle plCfg [⟨s "GET", none⟩, ⟨s "CONNECT", none⟩] = [.challenge, .challenge] := by decide +kernel
example : pluginHandle plCfg [⟨s "GET", plGood⟩, ⟨s "CONNECT", none⟩, ⟨s "CONNECT", plGood⟩, ⟨s "GET", plGood⟩] =
    [.fetch, .challenge, .tunnel] := by decide +kernel
example : pluginHandle plCfg [⟨s "connect", none⟩, ⟨s "GET", plGood⟩] = [.refuseClose] := by decide +kernel
example : pluginHandle plCfg [⟨s "OPTIONS", plGood⟩, ⟨s "connect", plGood⟩] = [.fetch, .fetch] := by decide +kernel
example : pluginHandle plCfg [⟨s "CONNECT", plGood⟩] = [.tunnel] := by decide +kernel

/-! ### executable predicate for implementation traces -/

/-- what the implementation answered for request `q` respects the property -/
def holdsOn (T : Table) (q : Req) (r : Resp) : Bool :=
  match r with
  | .forward id => decide (CredsOK T id q.auth)
  | _ => true

theorem holdsOn_sound (T : Table) (q : Req) (r : Resp) :
    holdsOn T q r = true ↔ (∀ id, r = .forward id → CredsOK T id q.auth) := by
  cases r <;> simp [holdsOn]

theorem model_holdsOn (T : Table) (q : Req) : holdsOn T q (serve T q) = true :=
  (holdsOn_sound T q _).mpr (fun id h => serve_sound T q id h)

/-- wire-level predicate: `none` = the server answered 400 itself -/
def holdsOnWire (T : Table) (w : WireReq) (r : Option Resp) : Bool :=
  match r with
  | some (.forward id) => decide (CredsOK T id w.auth)
  | _ => true

theorem holdsOnWire_sound (T : Table) (w : WireReq) (r : Option Resp) :
    holdsOnWire T w r = true ↔ (∀ id, r = some (.forward id) → CredsOK T id w.auth) := by
  rcases r with _ | _ | _ | _ <;> simp [holdsOnWire]

theorem model_holdsOnWire (T : Table) (w : WireReq) : holdsOnWire T w (serveWire T w) = true :=
  (holdsOnWire_sound T w _).mpr (fun id h => serveWire_sound T w id h)

/-- http_proxy plugin, one work connection: `reached[i]` = the target saw the i-th request (its
    tunnel or its forwarded request), as observed at the target -/
def plHoldsOn (cfg : Creds) : List PlReq → List Bool → Bool
  | q :: qs, r :: rs => (!r || decide (PlCredsOK cfg q.pair)) && plHoldsOn cfg qs rs
  | _, _ => true

theorem plHoldsOn_sound (cfg : Creds) (qs : List PlReq) (rs : List Bool) :
    plHoldsOn cfg qs rs = true ↔ (∀ p ∈ List.zip qs rs, p.2 = true → PlCredsOK cfg p.1.pair) := by
  induction qs generalizing rs with
  | nil => simp [plHoldsOn]
  | cons q qs ih =>
    cases rs with
    | nil => simp [plHoldsOn]
    | cons r rs =>
      simp only [plHoldsOn, Bool.and_eq_true, List.zip_cons_cons, List.mem_cons, ih rs, forall_eq_or_imp]
      cases r <;> simp

theorem model_plHoldsOn (cfg : Creds) (qs : List PlReq) :
    plHoldsOn cfg qs ((pluginHandle cfg qs).map PlAct.reaches) = true := by
  rw [plHoldsOn_sound]
  intro p hp hr
  rw [List.zip_map_right] at hp
  obtain ⟨p', hp', rfl⟩ := List.mem_map.mp hp
  exact pluginHandle_sound cfg qs p' hp' hr


/-! ### web endpoints (static_file plugin, frps dashboard, frpc admin API): from the header bytes to the handler -/

section Web
open WebAuth

/-- the `Authorization` value carries exactly the configured credentials: the scheme "Basic" in any
    letter case, one space, and a base64 text that DECODES to `user ":" password` -/
def Carries (cfg : Creds) (hdr : Option Str) : Prop :=
  match hdr with
  | none => False
  | some a => 6 ≤ a.length ∧ equalFold (a.take 6) basicPrefix = true ∧
      Base64.decode (a.drop 6) = some (cfg.user ++ colon :: cfg.pass)

instance (cfg : Creds) (hdr : Option Str) : Decidable (Carries cfg hdr) := by
  unfold Carries; split <;> infer_instance

/-- the endpoint is not protected, or the request carries exactly its credentials -/
def CredsExact (cfg : Creds) (hdr : Option Str) : Prop :=
  (cfg.user = [] ∧ cfg.pass = []) ∨ Carries cfg hdr

instance (cfg : Creds) (hdr : Option Str) : Decidable (CredsExact cfg hdr) := by
  unfold CredsExact; infer_instance

theorem cutColon_some {c u p : Str} (h : cutColon c = some (u, p)) : c = u ++ colon :: p ∧ colon ∉ u := by
  induction c generalizing u p with
  | nil => simp [cutColon] at h
  | cons x r ih =>
    unfold cutColon at h
    split at h
    · rename_i hx
      simp only [Option.some.injEq, Prod.mk.injEq] at h
      obtain ⟨rfl, rfl⟩ := h
      exact ⟨by simp [hx], by simp⟩
    · rename_i hx
      obtain ⟨⟨u', p'⟩, hr, hy⟩ := Option.map_eq_some_iff.mp h
      cases hy
      obtain ⟨h1, h2⟩ := ih hr
      exact ⟨by rw [h1]; rfl, by simp [h2, Ne.symm hx]⟩

theorem cutColon_append {u p : Str} (hu : colon ∉ u) : cutColon (u ++ colon :: p) = some (u, p) := by
  induction u with
  | nil => simp [cutColon]
  | cons x r ih =>
    have hx : x ≠ colon := fun e => hu (by simp [e])
    have hr : colon ∉ r := fun e => hu (by simp [e])
    simp only [List.cons_append, cutColon, hx, if_false, ih hr, Option.map_some]

/-- what `Request.BasicAuth` returns is what the header's base64 text decodes to -/
theorem basicAuth_some {hdr : Option Str} {u p : Str} (h : basicAuth hdr = some (u, p)) :
    Carries ⟨u, p⟩ hdr ∧ colon ∉ u := by
  unfold basicAuth at h
  cases hdr with
  | none => simp at h
  | some a =>
    simp only at h
    split at h
    · cases h
    · unfold parseBasicAuth at h
      split at h
      · cases h
      · rename_i hc
        simp only [Bool.or_eq_true, decide_eq_true_eq, Bool.not_eq_true', not_or, Nat.not_lt,
          Bool.not_eq_false] at hc
        split at h
        · cases h
        · rename_i c hd
          obtain ⟨h1, h2⟩ := cutColon_some h
          exact ⟨⟨hc.1, hc.2, by rw [hd, h1]⟩, h2⟩

/-- **middleware, from the header bytes**: `next` runs only if the endpoint is unprotected or the
    header's payload decodes to exactly `user:password` — a payload that merely resembles the expected
    base64 text (letter case, a changed sextet) decodes to other bytes and is refused. -/
theorem middlewareHdr_sound (cfg : Creds) (hdr : Option Str) (h : middlewareHdr cfg hdr = true) :
    CredsExact cfg hdr := by
  unfold middlewareHdr at h
  rcases (middleware_iff cfg _).mp h with hu | hb
  · exact Or.inl hu
  · exact Or.inr (basicAuth_some hb).1

/-- conversely a request carrying the exact credentials is let through (a user name containing ':'
    cannot be presented at all: `strings.Cut` splits at the first colon) -/
theorem middlewareHdr_complete (cfg : Creds) (hdr : Option Str) (hc : colon ∉ cfg.user)
    (h : Carries cfg hdr) : middlewareHdr cfg hdr = true := by
  unfold middlewareHdr
  apply (middleware_iff cfg _).mpr
  right
  unfold Carries at h
  cases hdr with
  | none => exact absurd h (by simp)
  | some a =>
    simp only at h
    obtain ⟨hl, hf, hd⟩ := h
    have hne : a ≠ [] := by intro e; rw [e] at hl; simp at hl
    have hl' : ¬ a.length < 6 := by omega
    simp only [basicAuth, hne, if_false, parseBasicAuth, hl', hf, decide_false, Bool.not_true,
      Bool.or_self, Bool.false_eq_true, hd, cutColon_append hc]

/-- the header a well-behaved client sends — "Basic " + base64(user ":" password) — is accepted -/
theorem middlewareHdr_encoded (cfg : Creds) (hb : Base64.bytes (cfg.user ++ colon :: cfg.pass))
    (hc : colon ∉ cfg.user) :
    middlewareHdr cfg (some (basicPrefix ++ Base64.encode (cfg.user ++ colon :: cfg.pass))) = true := by
  apply middlewareHdr_complete cfg _ hc
  unfold Carries
  simp only
  have h6 : basicPrefix.length = 6 := rfl
  refine ⟨by simp [h6], ?_, ?_⟩
  · rw [← h6, List.take_left]; decide
  · rw [← h6, List.drop_left]; exact Base64.decode_encode _ hb

/-- two headers that are both accepted by a protected endpoint decode to the same bytes -/
theorem middlewareHdr_same_payload (cfg : Creds) (a b : Str) (hp : ¬ (cfg.user = [] ∧ cfg.pass = []))
    (ha : middlewareHdr cfg (some a) = true) (hb : middlewareHdr cfg (some b) = true) :
    Base64.decode (a.drop 6) = Base64.decode (b.drop 6) := by
  rcases middlewareHdr_sound cfg _ ha with h | h
  · exact absurd h hp
  · rcases middlewareHdr_sound cfg _ hb with h' | h'
    · exact absurd h' hp
    · unfold Carries at h h'
      simp only at h h'
      rw [h.2.2, h'.2.2]

theorem routeMatch_some {r : WebAuth.Route} {m p : Str} {e e' : Bool} {h : Nat}
    (hr : routeMatch r m p e = (some h, e')) : h = r.h := by
  unfold routeMatch at hr
  split at hr
  · cases hr
  · split at hr
    · injection hr with hr _
      injection hr with hr
      exact hr.symm
    · cases hr

theorem routesMatch_mem {rs : List WebAuth.Route} {m p : Str} {e e' : Bool} {h : Nat}
    (hm : routesMatch rs m p e = (some h, e')) : h ∈ rs.map (·.h) := by
  induction rs generalizing e with
  | nil => cases hm
  | cons r rs ih =>
    unfold routesMatch at hm
    split at hm
    · rename_i h0 e0 hr
      injection hm with hm _
      injection hm with hm
      rw [← hm, routeMatch_some hr]
      exact List.mem_cons_self
    · exact List.mem_cons_of_mem _ (ih hm)

/-- a handler found by the router is wrapped by a sub-router's auth middleware or is one of the handlers
    registered outside every auth middleware -/
theorem nodesMatch_guarded {ns : List Node} {m p : Str} {e e' : Bool} {h : Nat} {g : Bool}
    (hm : nodesMatch ns m p e = (some (h, g), e')) : g = true ∨ h ∈ openOfNodes ns := by
  induction ns generalizing e with
  | nil => cases hm
  | cons n ns ih =>
    cases n with
    | route r =>
      unfold nodesMatch at hm
      split at hm
      · rename_i h0 e0 hr
        simp only [Prod.mk.injEq, Option.some.injEq] at hm
        obtain ⟨⟨rfl, rfl⟩, _⟩ := hm
        exact Or.inr (by simp [openOfNodes, routeMatch_some hr])
      · exact (ih hm).imp_right fun ho => by simp [openOfNodes, ho]
    | sub mw rs =>
      unfold nodesMatch at hm
      split at hm
      · rename_i h0 e0 hr
        simp only [Prod.mk.injEq, Option.some.injEq] at hm
        obtain ⟨⟨rfl, rfl⟩, _⟩ := hm
        cases mw with
        | true => exact Or.inl rfl
        | false => exact Or.inr (by simp [openOfNodes, routesMatch_mem hr])
      · exact (ih hm).imp_right fun ho => by simp [openOfNodes, ho]

/-- **router + middleware + handlers**: for every router of the modelled shape, every method (any
    token, any casing), every path and every Authorization value, the handler of a route runs only if it is
    one of the handlers registered outside the auth middleware or the request carries exactly the
    configured credentials.  Everything the router answers by itself (clean-path redirect, 404, 405) runs
    no handler. -/
theorem webServe_sound (R : Router) (cfg : Creds) (q : WebAuth.Req) (h : Nat)
    (hs : WebAuth.serve R cfg q = .handler h) (hg : h ∉ openHandlers R) : CredsExact cfg q.hdr := by
  unfold WebAuth.serve at hs
  split at hs
  · cases hs
  · split at hs
    · rename_i h0 g e hm
      split at hs
      · cases hs
      · rename_i hc
        simp only [Out.handler.injEq] at hs
        subst hs
        -- the handler sits behind a middleware, the sub-router's or the router's own
        have hgm : (g || R.mw) = true := by
          rcases nodesMatch_guarded hm with rfl | ho
          · rfl
          · cases hR : R.mw
            · exact absurd (by simp [openHandlers, hR, ho]) hg
            · exact Bool.or_true g
        apply middlewareHdr_sound
        simpa [hgm] using hc
    · cases hs
    · cases hs

theorem webServe_handler (R : Router) (cfg : Creds) (q : WebAuth.Req) (h : Nat)
    (hs : WebAuth.serve R cfg q = .handler h) : CredsExact cfg q.hdr ∨ h ∈ openHandlers R :=
  if ho : h ∈ openHandlers R then Or.inr ho else Or.inl (webServe_sound R cfg q h hs ho)

/-- a request without the exact credentials gets the 401 challenge or one of the router's own answers
    (or reaches a handler registered outside the middleware); no other handler runs -/
theorem webServe_refuses (R : Router) (cfg : Creds) (q : WebAuth.Req) (hn : ¬ CredsExact cfg q.hdr) :
    WebAuth.serve R cfg q = .unauthorized ∨ WebAuth.serve R cfg q = .redirect ∨
    WebAuth.serve R cfg q = .notFound ∨ WebAuth.serve R cfg q = .notAllowed ∨
    ∃ h, WebAuth.serve R cfg q = .handler h ∧ h ∈ openHandlers R := by
  cases hs : WebAuth.serve R cfg q with
  | unauthorized => exact Or.inl rfl
  | redirect => exact Or.inr (Or.inl rfl)
  | notFound => exact Or.inr (Or.inr (Or.inl rfl))
  | notAllowed => exact Or.inr (Or.inr (Or.inr (Or.inl rfl)))
  | handler h =>
    exact Or.inr (Or.inr (Or.inr (Or.inr ⟨h, rfl, (webServe_handler R cfg q h hs).resolve_left hn⟩)))

/-- **static_file plugin**: whatever the strip prefix, the method, the path and the Authorization value,
    the file handler (gzip → StripPrefix → FileServer) runs only for requests carrying exactly
    httpUser / httpPassword -/
theorem staticFile_sound (strip : Str) (cfg : Creds) (q : WebAuth.Req) (h : Nat)
    (hs : WebAuth.serve (sfRouter strip) cfg q = .handler h) : CredsExact cfg q.hdr :=
  webServe_sound _ cfg q h hs (by simp [openHandlers, sfRouter])

/-- the same for the request as written on the wire: any number of Authorization lines, any blanks around
    their values (`Header.Get`: first line, trimmed) -/
theorem staticFile_wire_sound (strip : Str) (cfg : Creds) (m p : Str) (lines : List Str) (h : Nat)
    (hs : WebAuth.serve (sfRouter strip) cfg ⟨m, p, headerGet lines⟩ = .handler h) :
    CredsExact cfg (headerGet lines) :=
  staticFile_sound strip cfg ⟨m, p, headerGet lines⟩ h hs

/-- only GET reaches the file handler; every other method token (HEAD, get, POST, …) is answered 405 by
    the router itself on a clean path under the prefix -/
theorem staticFile_method (strip : Str) (cfg : Creds) (q : WebAuth.Req) (h : Nat)
    (hs : WebAuth.serve (sfRouter strip) cfg q = .handler h) : q.method = mGET := by
  unfold WebAuth.serve at hs
  split at hs
  · cases hs
  · cases hm : matchSegs [Seg.lit (sfPrefix strip)] q.path true with
    | false => simp [sfRouter, nodesMatch, routeMatch, hm] at hs
    | true =>
      by_cases hg : q.method = mGET
      · exact hg
      · simp [sfRouter, nodesMatch, routeMatch, hm, hg] at hs

/-- **frps dashboard**: everything except `/healthz` (handler 0, registered on the outer router on
    purpose) is behind the middleware, for both settings of enablePrometheus -/
theorem dashboard_sound (prom : Bool) (cfg : Creds) (q : WebAuth.Req) (h : Nat)
    (hs : WebAuth.serve (dashRouter prom) cfg q = .handler h) (h0 : h ≠ 0) : CredsExact cfg q.hdr := by
  apply webServe_sound _ cfg q h hs
  cases prom <;> simp [openHandlers, dashRouter, openOfNodes, h0]

/-- **frpc admin API** -/
theorem admin_sound (cfg : Creds) (q : WebAuth.Req) (h : Nat)
    (hs : WebAuth.serve adminRouter cfg q = .handler h) (h0 : h ≠ 0) : CredsExact cfg q.hdr := by
  apply webServe_sound _ cfg q h hs
  simp [openHandlers, adminRouter, openOfNodes, h0]

def wCfg : Creds := ⟨s "admin", s "s3cret"⟩
def wq (m p : String) (a : Option String) : WebAuth.Req := ⟨s m, s p, a.map s⟩

/-- non-vacuity: exact header in any scheme casing is served; a letter-case variant of the payload, another
    password, a missing pad, a doubled space, a bare scheme are challenged; HEAD / lower-case get / POST get
    405, an unclean path the redirect, both without looking at credentials -/
example : WebAuth.serve (sfRouter []) wCfg (wq "GET" "/secret.txt" (some "Basic YWRtaW46czNjcmV0")) = .handler 1 := by decide +kernel
example : WebAuth.serve (sfRouter []) wCfg (wq "GET" "/secret.txt" (some "bASIC YWRtaW46czNjcmV0")) = .handler 1 := by decide +kernel
example : WebAuth.serve (sfRouter []) wCfg (wq "GET" "/secret.txt" (some "Basic YWRtaW46czNJcmV0")) = .unauthorized := by decide +kernel
example : WebAuth.serve (sfRouter []) wCfg (wq "GET" "/secret.txt" (some "basic ywrtaw46cznjcmv0")) = .unauthorized := by decide +kernel
example : WebAuth.serve (sfRouter []) wCfg (wq "GET" "/secret.txt" (some "Basic  YWRtaW46czNjcmV0")) = .unauthorized := by decide +kernel
example : WebAuth.serve (sfRouter []) wCfg (wq "GET" "/secret.txt" (some "Basic YWRtaW46czNjcmU=")) = .unauthorized := by decide +kernel
example : WebAuth.serve (sfRouter []) wCfg (wq "GET" "/secret.txt" (some "Basic")) = .unauthorized := by decide +kernel
example : WebAuth.serve (sfRouter []) wCfg (wq "GET" "/secret.txt" none) = .unauthorized := by decide +kernel
example : WebAuth.serve (sfRouter []) wCfg (wq "HEAD" "/secret.txt" none) = .notAllowed := by decide +kernel
example : WebAuth.serve (sfRouter []) wCfg (wq "get" "/secret.txt" (some "Basic YWRtaW46czNjcmV0")) = .notAllowed := by decide +kernel
example : WebAuth.serve (sfRouter []) wCfg (wq "GET" "/a/../secret.txt" none) = .redirect := by decide +kernel
example : WebAuth.serve (sfRouter (s "pub")) wCfg (wq "GET" "/secret.txt" (some "Basic YWRtaW46czNjcmV0")) = .notFound := by decide +kernel
example : WebAuth.serve (dashRouter false) wCfg (wq "GET" "/api/proxy/tcp" (some "Basic YWRtaW46czNjcmV0")) = .handler 12 := by decide +kernel
example : WebAuth.serve (dashRouter false) wCfg (wq "GET" "/api/proxy/tcp" (some "Basic YwRtaW46czNjcmV0")) = .unauthorized := by decide +kernel
example : WebAuth.serve (dashRouter false) wCfg (wq "POST" "/api/serverinfo" none) = .notAllowed := by decide +kernel
example : WebAuth.serve (dashRouter false) wCfg (wq "PUT" "/healthz" none) = .handler 0 := by decide +kernel
example : WebAuth.serve adminRouter wCfg (wq "PUT" "/api/config" none) = .unauthorized := by decide +kernel
example : WebAuth.serve adminRouter wCfg (wq "DELETE" "/api/config" none) = .notAllowed := by decide +kernel
example : headerGet [s " \t Basic YQ== ", s "Basic Yg=="] = some (s "Basic YQ==") := by decide +kernel

/-- executable predicate on an implementation answer: `reached` = a route handler ran for the request
    (anything but the router's own 301 / 404 / 405 and the middleware's 401) -/
def webHoldsOn (R : Router) (cfg : Creds) (q : WebAuth.Req) (reached : Bool) : Bool :=
  !reached || decide (CredsExact cfg q.hdr) ||
    (match WebAuth.serve R cfg q with
     | .handler h => (openHandlers R).contains h
     | _ => false)

theorem webHoldsOn_sound (R : Router) (cfg : Creds) (q : WebAuth.Req) (reached : Bool) :
    webHoldsOn R cfg q reached = true ↔
      (reached = true → CredsExact cfg q.hdr ∨ ∃ h, WebAuth.serve R cfg q = .handler h ∧ h ∈ openHandlers R) := by
  unfold webHoldsOn
  cases reached <;> cases WebAuth.serve R cfg q <;> simp

def Out.isHandler : Out → Bool
  | .handler _ => true
  | _ => false

theorem model_webHoldsOn (R : Router) (cfg : Creds) (q : WebAuth.Req) :
    webHoldsOn R cfg q (Out.isHandler (WebAuth.serve R cfg q)) = true := by
  rw [webHoldsOn_sound]
  intro hr
  cases hs : WebAuth.serve R cfg q with
  | handler h => exact (webServe_handler R cfg q h hs).imp_right fun ho => ⟨h, rfl, ho⟩
  | _ => rw [hs] at hr; cases hr

/-- predicate for a bare middleware call -/
def mwHoldsOn (cfg : Creds) (hdr : Option Str) (next : Bool) : Bool := !next || decide (CredsExact cfg hdr)

theorem mwHoldsOn_sound (cfg : Creds) (hdr : Option Str) (next : Bool) :
    mwHoldsOn cfg hdr next = true ↔ (next = true → CredsExact cfg hdr) := by
  cases next <;> simp [mwHoldsOn]

theorem model_mwHoldsOn (cfg : Creds) (hdr : Option Str) : mwHoldsOn cfg hdr (middlewareHdr cfg hdr) = true :=
  (mwHoldsOn_sound cfg hdr _).mpr (middlewareHdr_sound cfg hdr)

/-- **socks5 plugin**: with a user name or a password configured the target is dialled only after a
    user/password sub-negotiation carrying exactly both; offering "no authentication" does not help -/
theorem socks5_sound (cfg : Creds) (q : S5Req) (h : socks5 cfg q = .connected) :
    (cfg.user = [] ∧ cfg.pass = []) ∨ (q.user = cfg.user ∧ q.pass = cfg.pass ∧ q.methods.contains 2 = true) := by
  cases hp : s5Protected cfg
  · exact Or.inl (by simpa [s5Protected] using hp)
  · -- method 2 is the one selected; every branch but the last but one refuses
    unfold socks5 at h
    simp only [hp, ↓reduceIte, Nat.reduceEqDiff] at h
    split at h
    · cases h
    split at h
    · cases h
    rename_i hm
    split at h
    · cases h
    split at h
    · rename_i hc
      exact Or.inr ⟨hc.1, hc.2, by simpa using hm⟩
    · cases h

/-- everything else is refused before any request is read -/
theorem socks5_refuses (cfg : Creds) (q : S5Req) (hp : ¬ (cfg.user = [] ∧ cfg.pass = []))
    (hn : ¬ (q.user = cfg.user ∧ q.pass = cfg.pass)) : socks5 cfg q ≠ .connected := by
  intro h
  rcases socks5_sound cfg q h with h1 | h2
  · exact hp h1
  · exact hn ⟨h2.1, h2.2.1⟩

example : socks5 wCfg ⟨5, [0, 2], 1, s "admin", s "s3cret"⟩ = .connected := by decide +kernel
example : socks5 wCfg ⟨5, [0], 1, s "admin", s "s3cret"⟩ = .noAcceptable := by decide +kernel
example : socks5 wCfg ⟨5, [2], 1, s "admin", s "S3cret"⟩ = .authFailed := by decide +kernel
example : socks5 ⟨[], s "p"⟩ ⟨5, [0, 2], 1, [], []⟩ = .authFailed := by decide +kernel
example : socks5 ⟨[], []⟩ ⟨5, [0], 0, [], []⟩ = .connected := by decide +kernel

def s5HoldsOn (cfg : Creds) (q : S5Req) (reached : Bool) : Bool :=
  !reached || decide ((cfg.user = [] ∧ cfg.pass = []) ∨ (q.user = cfg.user ∧ q.pass = cfg.pass))

theorem s5HoldsOn_sound (cfg : Creds) (q : S5Req) (reached : Bool) :
    s5HoldsOn cfg q reached = true ↔
      (reached = true → (cfg.user = [] ∧ cfg.pass = []) ∨ (q.user = cfg.user ∧ q.pass = cfg.pass)) := by
  cases reached <;> simp [s5HoldsOn]

theorem model_s5HoldsOn (cfg : Creds) (q : S5Req) :
    s5HoldsOn cfg q (decide (socks5 cfg q = .connected)) = true := by
  rw [s5HoldsOn_sound]
  intro h
  rcases socks5_sound cfg q (of_decide_eq_true h) with h1 | h2
  · exact Or.inl h1
  · exact Or.inr ⟨h2.1, h2.2.1⟩

end Web

end C07
end Frp
