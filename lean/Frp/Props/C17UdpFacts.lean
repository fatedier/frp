import Frp.Props.C17Udp
import Frp.Gen.UdpAddr
/-
  C17, udp message addresses: the SHAPE of the Go code the model of Model/UdpPacket.lean mirrors, as facts regenerated
  from the sources on every run (translate generator UdpAddr: GOROOT/src/net/udpsock.go, net/ip.go, pkg/proto/udp/udp.go,
  every non-test .go file of the repository).  A field of net.UDPAddr the model does not carry, a codec method on it, a
  constructor that does anything but store its arguments, a new caller or a struct literal elsewhere breaks an
  obligation here.  (Separate from Props/C17Udp.lean so that the driver, which imports that file, builds whatever the
  regenerated facts say.)
-/
namespace Frp
namespace C17
open MsgObj UdpPacket

/-- net.UDPAddr has exactly the fields of the model's `Addr`, in that order, without tags -/
theorem addr_fields_eq_source : Gen.UdpAddr.fields = addrFields := rfl

/-- every field of the struct is a member of the JSON object the model writes for an address, under its own name,
    and there is no other member -/
theorem addr_members_cover (a : Addr) :
    a.members.map (·.1) = Gen.UdpAddr.fields.map (fun f => Str.ofString f.1) := by
  rw [addr_fields_eq_source]
  simp [Addr.members, Addr.values, addrFields]

/-- … and that object is the one the object level of the message model writes (Model/MsgObj.lean `udpToJ`) -/
theorem addr_members_eq_obj (a : Addr) : J.obj a.members = udpToJ a.toUDP := by
  have h1 : Str.ofString "IP" = kIP := by decide +kernel
  have h2 : Str.ofString "Port" = kPort := by decide +kernel
  have h3 : Str.ofString "Zone" = kZone := by decide +kernel
  simp [Addr.members, Addr.values, addrFields, udpToJ, Addr.toUDP, h1, h2, h3]

/-- package net declares no codec method on UDPAddr: encoding/json encodes the struct member by member -/
theorem addr_no_custom_codec :
    ∀ m ∈ ["MarshalJSON", "UnmarshalJSON", "MarshalText", "UnmarshalText", "MarshalBinary", "UnmarshalBinary"],
      m ∉ Gen.UdpAddr.methods := by decide +kernel

/-- `type IP []byte`, IPv4len = 4, IPv6len = 16 -/
theorem ip_shape : Gen.UdpAddr.ipUnderlying = "[]byte" ∧ Gen.UdpAddr.ipv4len = "4" ∧ Gen.UdpAddr.ipv6len = "16" :=
  ⟨rfl, rfl, rfl⟩

/-- `NewUDPPacket` is the one statement the model mirrors: the content is the base64 text of `buf`, the two address
    fields are the two parameters themselves -/
theorem ctor_shape :
    Gen.UdpAddr.ctorParams = ["buf []byte", "laddr *net.UDPAddr", "raddr *net.UDPAddr"] ∧
    Gen.UdpAddr.ctorStmts = 1 ∧
    Gen.UdpAddr.ctorFields = [("Content", "base64.StdEncoding.EncodeToString(buf)"), ("LocalAddr", "laddr"), ("RemoteAddr", "raddr")] ∧
    Gen.UdpAddr.getContentExpr = "base64.StdEncoding.DecodeString(m.Content)" := ⟨rfl, rfl, rfl, rfl⟩

/-- every udp message of the repository is built by the constructor (no struct literal elsewhere), by the two
    forwarders, each passing no local address and the address it holds (`userPacket` / `fwdReply`) -/
theorem ctor_callers :
    Gen.UdpAddr.packetLiterals = [] ∧
    Gen.UdpAddr.ctorCalls = [("pkg/proto/udp/udp.go", "ForwardUserConn", "buf[:n], nil, remoteAddr"),
                             ("pkg/proto/udp/udp.go", "Forwarder", "buf[:n], nil, raddr")] := ⟨rfl, rfl⟩

end C17
end Frp
