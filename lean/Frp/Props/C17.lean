import Frp.Model.Frame
import Frp.Lemmas.Frame
import Frp.Model.MsgObj
import Frp.Lemmas.MsgObj
import Frp.Lemmas.ConfStr
import Frp.Gen.MsgSchema
import Frp.Props.C17Golden
/-
  C17 — Control-protocol codec: lossless, bounded, total, and wire-stable.

  Framing (golib msg/json readMsg / Pack, used by pkg/msg/ctl.go): theorems for ALL byte strings,
  all type bytes, all bodies, all maxima `max < 2^63` (frp: 10240).
  Registry and wire names (pkg/msg/msg.go): theorems by evaluation of the table REGENERATED from the
  source on every run (`Frp.Gen.MsgSchema`) against the hand-pinned golden table.
  JSON text (encoding/json: which bodies parse, how values print) is trusted, not modelled.
-/
namespace Frp
namespace C17
open Frame

/-! ## 1. big-endian length -/

/-- the 8-byte length field decodes to the number that was written (all of uint64) -/
theorem be64_roundtrip (n : Nat) (h : n < 18446744073709551616) :
    (be64 n).length = 8 ∧ IsBytes (be64 n) ∧ unbe64 (be64 n) = n :=
  ⟨be64_length n, be64_isBytes n, unbe64_be64 n h⟩

/-- every 8-byte header is the `be64` image of its own value, and that value is below 2^64 -/
theorem be64_surj (hdr : Str) (hl : hdr.length = 8) (hb : IsBytes hdr) :
    unbe64 hdr < 18446744073709551616 ∧ be64 (unbe64 hdr) = hdr :=
  ⟨unbe64_lt hdr hl hb, be64_unbe64 hdr hl hb⟩

/-! ## 2. round trip; the decoder never reads past the frame -/

/-- `decode (encode t b ++ rest) = ok (t, b, rest)`: lossless, consumes exactly the frame
    (9 + |b| bytes), leaves `rest` untouched, allocates exactly |b| for the body. -/
theorem decode_encode (max : Nat) (known : Nat → Bool) (t : Nat) (body rest : Str)
    (hk : known t = true) (hlen : body.length ≤ max) (hmax : max < 9223372036854775808) :
    decodeFull max known (encode t body ++ rest)
      = ⟨.ok t body rest, 9 + body.length, body.length⟩ := by
  have h : ¬ (body ++ rest).length < body.length := by rw [List.length_append]; omega
  simp only [encode, List.cons_append, List.append_assoc]
  rw [decodeFull_fit (body ++ rest) hk hlen hmax, if_neg h, List.take_left' rfl, List.drop_left' rfl]

/-- the result alone, without the two counters -/
theorem decode_encode_res (max : Nat) (known : Nat → Bool) (t : Nat) (body rest : Str)
    (hk : known t = true) (hlen : body.length ≤ max) (hmax : max < 9223372036854775808) :
    decode max known (encode t body ++ rest) = .ok t body rest := by
  rw [decode, decode_encode max known t body rest hk hlen hmax]

/-- what follows the frame cannot influence what is decoded or how much is consumed -/
theorem decode_ignores_rest (max : Nat) (known : Nat → Bool) (t : Nat) (body r1 r2 : Str)
    (hk : known t = true) (hlen : body.length ≤ max) (hmax : max < 9223372036854775808) :
    (decodeFull max known (encode t body ++ r1)).consumed = (decodeFull max known (encode t body ++ r2)).consumed
    ∧ (decodeFull max known (encode t body ++ r1)).consumed = (encode t body).length := by
  rw [decode_encode max known t body r1 hk hlen hmax, decode_encode max known t body r2 hk hlen hmax,
    encode_length]
  exact ⟨rfl, rfl⟩

/-! ## 3. each kind of bad input is an error -/

/-- unknown type byte ⇒ ErrMsgType after one byte, nothing allocated for a body -/
theorem decode_unknown_type (max : Nat) (known : Nat → Bool) (t : Nat) (r : Str) (hk : known t = false) :
    decodeFull max known (t :: r) = ⟨.err .msgType, 1, 0⟩ := by
  simp only [decodeFull, hk, Bool.not_false, if_true]

/-- a length with the top bit set (negative as int64) ⇒ ErrMsgLength, nothing allocated -/
theorem decode_negative (max : Nat) (known : Nat → Bool) (t b0 : Nat) (tl r : Str)
    (hk : known t = true) (hl : tl.length = 7) (hb : IsBytes (b0 :: tl)) (htop : 128 ≤ b0) :
    decodeFull max known (t :: ((b0 :: tl) ++ r)) = ⟨.err .negLen, 9, 0⟩ := by
  have h8 : (b0 :: tl).length = 8 := by rw [List.length_cons, hl]
  have hneg := toInt64_neg _ ((top_bit_unbe64 b0 tl hl hb).mp htop) (unbe64_lt _ h8 hb)
  have h2 : ¬ (toInt64 (unbe64 (b0 :: tl)) > (max : Int)) := by omega
  simp only [decodeFull_header max r hk h8, h2, if_false, hneg, if_true]

/-- a declared length above the maximum ⇒ ErrMaxMsgLength after the 9 header bytes, and the body
    buffer is never allocated, however large the declared length -/
theorem decode_oversize (max : Nat) (known : Nat → Bool) (t n : Nat) (r : Str)
    (hk : known t = true) (hn : max < n) (hn2 : n < 9223372036854775808) :
    decodeFull max known (t :: (be64 n ++ r)) = ⟨.err .maxLen, 9, 0⟩ := by
  have hgt : (n : Int) > (max : Int) := by omega
  simp only [decodeFull_header max r hk (be64_length n), unbe64_be64 n (by omega), toInt64_small n hn2,
    hgt, if_true]

/-- every proper prefix of a valid frame is an error (EOF / unexpected EOF), never a message -/
theorem decode_truncated (max : Nat) (known : Nat → Bool) (t : Nat) (body : Str) (k : Nat)
    (hk : known t = true) (hlen : body.length ≤ max) (hmax : max < 9223372036854775808)
    (hb : IsBytes (encode t body)) (hkl : k < (encode t body).length) :
    ∃ e, decode max known ((encode t body).take k) = .err e ∧ (e = .eof ∨ e = .unexpectedEOF) := by
  rw [encode_length] at hkl
  match k with
  | 0 => exact ⟨.eof, rfl, Or.inl rfl⟩
  | k + 1 =>
    rw [encode, List.take_succ_cons, decode]
    by_cases h8 : k < 8
    · -- the prefix ends inside the length field
      rw [decodeFull_short max hk (by rw [List.length_take, length_be64_append]; omega)]
      exact ⟨_, rfl, by split <;> simp⟩
    · -- the length field is whole and true, the body is short
      have hcut : (be64 body.length ++ body).take k = be64 body.length ++ body.take (k - 8) := by
        rw [List.take_append, be64_length, List.take_of_length_le (by rw [be64_length]; omega)]
      rw [hcut, decodeFull_fit _ hk hlen hmax, if_pos (by rw [List.length_take]; omega)]
      exact ⟨_, rfl, by split <;> simp⟩

/-! ## 4. totality and bounds, for every input -/

/-- the decoder accepts EXACTLY the encodings of registered types with a body within the bound:
    `ok (t, body, rest)` iff the input is `encode t body ++ rest`, `t` registered, `|body| ≤ max`. -/
theorem decode_ok_iff (max : Nat) (known : Nat → Bool) (inp : Str) (t : Nat) (body rest : Str)
    (hb : IsBytes inp) (hmax : max < 9223372036854775808) :
    decode max known inp = .ok t body rest
      ↔ (known t = true ∧ body.length ≤ max ∧ inp = encode t body ++ rest) := by
  constructor
  · intro h
    match inp with
    | [] => cases h
    | t0 :: r1 =>
      have hk : known t0 = true := by
        cases hk : known t0 with
        | true => rfl
        | false => rw [decode, decode_unknown_type max known t0 r1 hk] at h; cases h
      have h8 : ¬ r1.length < 8 := fun h8 => by rw [decode, decodeFull_short max hk h8] at h; cases h
      obtain ⟨hdr, r2, rfl, hhl⟩ := exists_header h8
      have hhb : IsBytes hdr := fun b hm => hb b (List.mem_cons_of_mem _ (List.mem_append_left _ hm))
      have hlt := unbe64_lt hdr hhl hhb
      rw [decode, decodeFull_header max r2 hk hhl] at h
      simp only at h
      by_cases hgt : toInt64 (unbe64 hdr) > (max : Int)
      · rw [if_pos hgt] at h; cases h
      by_cases hneg : toInt64 (unbe64 hdr) < 0
      · rw [if_neg hgt, if_pos hneg] at h; cases h
      -- the int64 is non-negative, so it is the unsigned value itself
      have hu : unbe64 hdr < 9223372036854775808 :=
        Nat.lt_of_not_le fun hge => hneg (toInt64_neg _ hge hlt)
      rw [if_neg hgt, if_neg hneg, toInt64_small _ hu, Int.toNat_natCast] at h
      rw [toInt64_small _ hu] at hgt
      by_cases hshort : r2.length < unbe64 hdr
      · rw [if_pos hshort] at h; cases h
      rw [if_neg hshort] at h
      simp only [Res.ok.injEq] at h
      obtain ⟨rfl, rfl, rfl⟩ := h
      have hbl : (r2.take (unbe64 hdr)).length = unbe64 hdr := by rw [List.length_take]; omega
      refine ⟨hk, by omega, ?_⟩
      rw [encode, hbl, be64_unbe64 hdr hhl hhb, List.cons_append, List.append_assoc, List.take_append_drop]
  · rintro ⟨hk, hlen, rfl⟩
    exact decode_encode_res max known t body rest hk hlen hmax

/-- bounded, total: every input gives a result (the function is total by construction); the body
    allocation is at most `max` and no more than the input is consumed. -/
theorem decode_bounded (max : Nat) (known : Nat → Bool) (inp : Str) :
    (decodeFull max known inp).bodyAlloc ≤ max ∧ (decodeFull max known inp).consumed ≤ inp.length := by
  match inp with
  | [] => exact ⟨Nat.zero_le _, Nat.le_refl _⟩
  | t0 :: r1 =>
    cases hk : known t0 with
    | false =>
      rw [decode_unknown_type max known t0 r1 hk]
      exact ⟨Nat.zero_le _, Nat.le_add_left _ _⟩
    | true =>
      by_cases h8 : r1.length < 8
      · rw [decodeFull_short max hk h8]
        simp only [List.length_cons]; omega
      · obtain ⟨hdr, r2, rfl, hhl⟩ := exists_header h8
        rw [decodeFull_header max r2 hk hhl]
        simp only [List.length_cons, List.length_append, hhl]
        split
        · simp only; omega
        split
        · simp only; omega
        split
        · simp only; omega
        · simp only; omega

/-- an `ok` result has a registered type, a body within `max`, consumed exactly `9 + |body|` bytes and
    allocated `|body|`, and the input really is that frame followed by `rest` -/
theorem decode_ok_sound (max : Nat) (known : Nat → Bool) (inp : Str) (t : Nat) (body rest : Str)
    (hb : IsBytes inp) (hmax : max < 9223372036854775808)
    (h : (decodeFull max known inp).res = .ok t body rest) :
    known t = true ∧ body.length ≤ max ∧ inp = encode t body ++ rest
      ∧ (decodeFull max known inp).consumed = 9 + body.length
      ∧ (decodeFull max known inp).bodyAlloc = body.length := by
  have h' := (decode_ok_iff max known inp t body rest hb hmax).mp h
  obtain ⟨hk, hl, rfl⟩ := h'
  rw [decode_encode max known t body rest hk hl hmax]
  exact ⟨hk, hl, rfl, rfl, rfl⟩

/-- the input starts with a frame (registered type, body within the bound) having a property `Q` that
    entails both, iff `decodeFull` returns a frame with `Q`: by `decode_ok_iff` that frame is the only one -/
theorem frame_iff (max : Nat) (known : Nat → Bool) (inp : Str) (hb : IsBytes inp) (hmax : max < 9223372036854775808)
    (Q : Nat → Str → Prop) (hQ : ∀ t b, Q t b → known t = true ∧ b.length ≤ max) :
    (∃ t b r, inp = encode t b ++ r ∧ Q t b)
      ↔ match (decodeFull max known inp).res with
        | .ok t b _ => Q t b
        | .err _ => False := by
  constructor
  · rintro ⟨t, b, r, rfl, hq⟩
    rw [decode_encode max known t b r (hQ t b hq).1 (hQ t b hq).2 hmax]
    exact hq
  · intro h
    split at h
    · rename_i t b r hres
      exact ⟨t, b, r, (decode_ok_sound max known inp t b r hb hmax hres).2.2.1, h⟩
    · exact h.elim

/-! ## 5. the registry and the wire names (regenerated table vs golden table) -/

open Frp.Gen

/-- byte → struct (golib `typeMap`) as `RegisterMsg` fills it from `msgTypeMap` -/
def structOf (t : Nat) : Option String := MsgSchema.registry.lookup t

/-- struct → byte (golib `typeByteMap`) -/
def byteOf (s : String) : Option Nat := (MsgSchema.registry.find? (fun p => p.2 == s)).map (·.1)

/-- `_, ok := typeMap[typeByte]` -/
def known (t : Nat) : Bool := (structOf t).isSome

def jsonNames (fs : List MsgSchema.Field) : List String := fs.map (fun f => f.2.1)

theorem registry_size : MsgSchema.registry.length = 18 := by decide +kernel

/-- type bytes are pairwise distinct and are bytes (Go rejects a map literal with duplicate constant
    keys, so `msgTypeMap` could not be written otherwise) -/
theorem registry_bytes_nodup :
    (MsgSchema.registry.map (·.1)).Nodup ∧ ∀ p ∈ MsgSchema.registry, p.1 < 256 := by decide +kernel

/-- struct names are pairwise distinct: no struct registered under two bytes (else `typeByteMap`
    would keep only one of them and `Pack` would pick an arbitrary one) -/
theorem registry_structs_nodup : (MsgSchema.registry.map (·.2)).Nodup := by decide +kernel

/-- bijection: both lookups invert each other on the registry -/
theorem registry_bijection :
    (∀ p ∈ MsgSchema.registry, structOf p.1 = some p.2 ∧ byteOf p.2 = some p.1)
    ∧ (∀ t s, structOf t = some s → byteOf s = some t)
    ∧ (∀ t s, byteOf s = some t → structOf t = some s) := by
  have h1 : ∀ p ∈ MsgSchema.registry, structOf p.1 = some p.2 ∧ byteOf p.2 = some p.1 := by decide +kernel
  refine ⟨h1, ?_, ?_⟩
  · exact fun t s h => (h1 (t, s) (lookup_mem h)).2
  · intro t s h
    unfold byteOf at h
    simp only [Option.map_eq_some_iff] at h
    obtain ⟨p, hp, rfl⟩ := h
    have hm := List.mem_of_find?_eq_some hp
    have hs := List.find?_some hp
    simp only [beq_iff_eq] at hs
    subst hs
    exact (h1 p hm).1

/-- wire stability: today's type bytes, struct names, JSON field names, Go field types and
    omitempty flags are those of the released protocol -/
theorem schema_eq_golden :
    MsgSchema.registry = Golden.registry ∧ MsgSchema.structs = Golden.structs := ⟨rfl, rfl⟩

/-! ## 6. message level: what `ReadMsg` returns; the executable predicate -/

/-- the implementation's observable result for one input, as the harness reports it -/
inductive Outcome
  | msg (structName : String)     -- err == nil, msg is *T
  | nilMsg                        -- err == nil, msg == nil
  | err (cls : String)            -- err != nil: "eof" | "ueof" | "type" | "max" | "neg" | "json"
  | panic
  deriving DecidableEq, Repr

structure Obs where
  out : Outcome
  consumed : Nat
  bodyReq : Nat          -- largest buffer the reader was asked to fill after the 9 header bytes
  deriving DecidableEq, Repr

/-- The property on one observed run of the decoder on input `inp`:
    * no panic; the body buffer never exceeds `max`; nothing beyond the input is consumed;
    * a returned message is the registered struct of the frame's type byte, the input starts with a
      well-formed frame `encode t body` with `|body| ≤ max`, and exactly that frame was consumed;
    * "no error, no message" is not an allowed outcome;
    * a framing error is returned only when the input does NOT start with a well-formed frame of a
      registered type (good frames are not rejected), a JSON error only when it does (and then
      exactly the frame was consumed). -/
def Spec (max : Nat) (inp : Str) (o : Obs) : Prop :=
  o.bodyReq ≤ max ∧ o.consumed ≤ inp.length ∧
  match o.out with
  | .panic => False
  | .nilMsg => False
  | .msg s => ∃ t body rest, inp = encode t body ++ rest ∧ structOf t = some s ∧ body.length ≤ max
                ∧ o.consumed = 9 + body.length
  | .err cls =>
      if cls = "json" then
        ∃ t body rest, inp = encode t body ++ rest ∧ known t = true ∧ body.length ≤ max
                ∧ o.consumed = 9 + body.length
      else ¬ ∃ t body rest, inp = encode t body ++ rest ∧ known t = true ∧ body.length ≤ max

/-- executable version, run by the driver on the implementation's own results -/
def holdsOn (max : Nat) (inp : Str) (o : Obs) : Bool :=
  decide (o.bodyReq ≤ max) && decide (o.consumed ≤ inp.length) &&
  match o.out, (decodeFull max known inp) with
  | .panic, _ => false
  | .nilMsg, _ => false
  | .msg s, ⟨.ok t _ _, c, _⟩ => structOf t == some s && o.consumed == c
  | .msg _, ⟨.err _, _, _⟩ => false
  | .err cls, ⟨.ok _ _ _, c, _⟩ => cls == "json" && o.consumed == c
  | .err cls, ⟨.err _, _, _⟩ => cls != "json"

theorem holdsOn_sound (max : Nat) (inp : Str) (o : Obs) (hb : IsBytes inp)
    (hmax : max < 9223372036854775808) : holdsOn max inp o = true ↔ Spec max inp o := by
  have hF := frame_iff max known inp hb hmax
  -- what an ok result of `decodeFull` consumed and allocated
  have hok : ∀ t b r c a, decodeFull max known inp = ⟨.ok t b r, c, a⟩ →
      known t = true ∧ b.length ≤ max ∧ c = 9 + b.length := by
    intro t b r c a hd
    have := decode_ok_sound max known inp t b r hb hmax (by rw [hd])
    rw [hd] at this
    exact ⟨this.1, this.2.1, this.2.2.2.1⟩
  unfold holdsOn Spec
  cases o.out with
  | panic => simp
  | nilMsg => simp
  | msg s =>
    simp only
    rw [hF (fun t b => structOf t = some s ∧ b.length ≤ max ∧ o.consumed = 9 + b.length)
      (fun t b h => ⟨by simp [known, h.1], h.2.1⟩)]
    cases hd : decodeFull max known inp with | mk res c a =>
    cases res with
    | err e => simp
    | ok t body rest =>
      obtain ⟨-, hl, rfl⟩ := hok t body rest c a hd
      simp [hl, and_assoc]
  | err cls =>
    simp only
    rw [hF (fun t b => known t = true ∧ b.length ≤ max ∧ o.consumed = 9 + b.length) (fun t b h => ⟨h.1, h.2.1⟩),
      hF (fun t b => known t = true ∧ b.length ≤ max) (fun t b h => h)]
    cases hd : decodeFull max known inp with | mk res c a =>
    cases res with
    | err e => by_cases hj : cls = "json" <;> simp [hj]
    | ok t body rest =>
      obtain ⟨hk, hl, rfl⟩ := hok t body rest c a hd
      by_cases hj : cls = "json" <;> simp [hj, hl, hk, and_assoc]
/-- observable form of a model result -/
def obsOf (r : Msg × Nat × Nat) : Obs :=
  { out := match r.1 with
      | .msg s => .msg s
      | .nilMsg => .nilMsg
      | .errJson => .err "json"
      | .errFrame .eof => .err "eof"
      | .errFrame .unexpectedEOF => .err "ueof"
      | .errFrame .msgType => .err "type"
      | .errFrame .maxLen => .err "max"
      | .errFrame .negLen => .err "neg",
    consumed := r.2.1, bodyReq := r.2.2 }

/-- the model's observable result of frp's `msg.ReadMsg` (pkg/msg/ctl.go, current code) for an
    input, given encoding/json's verdict on the body -/
def modelObs (max : Nat) (jsonOk : Bool) (inp : Str) : Obs :=
  obsOf (readMsg max known structOf jsonOk inp)

/-- the same for the vendored golib `MsgCtl.ReadMsg` alone (= frp's `msg.ReadMsg` before the repair
    of finding C17-null-body) -/
def modelObsGolib (max : Nat) (jsonOk : Bool) (inp : Str) : Obs :=
  obsOf (readMsgGolib max known structOf jsonOk inp)

/-- the body of a frame, if the input starts with a well-formed one -/
def bodyOf (max : Nat) (inp : Str) : Option Str :=
  match (decodeFull max known inp).res with
  | .ok _ b _ => some b
  | .err _ => none

/-! ### the decoder before the repair (finding C17-null-body) -/

def GolibHoldsFull : Prop :=
  ∀ (jsonOk : Bool) (inp : Str), IsBytes inp → Spec maxLen inp (modelObsGolib maxLen jsonOk inp)

/-- A well-formed frame of a registered type whose body is the JSON literal `null` makes golib's
    `ReadMsg` return `(nil, nil)` — neither a registered message nor an error.
    Witness: `o` + length 4 + `null`. -/
def nullFrame : Str := encode 111 [110, 117, 108, 108]

theorem model_null_witness : ¬ Spec maxLen nullFrame (modelObsGolib maxLen true nullFrame) := by
  rw [← holdsOn_sound maxLen nullFrame _ (by decide +kernel) (by decide)]
  decide +kernel

theorem golibHoldsFull_false : ¬ GolibHoldsFull := by
  intro h
  exact model_null_witness (h true nullFrame (by decide +kernel))

/-- golib's `ReadMsg` alone satisfies the property on every input whose frame body is not the
    literal `null` (or whose body encoding/json rejects). -/
theorem golib_holdsOn_partial (jsonOk : Bool) (inp : Str) (hb : IsBytes inp)
    (hnn : ∀ b, bodyOf maxLen inp = some b → jsonOk = true → isNullLit b = false) :
    Spec maxLen inp (modelObsGolib maxLen jsonOk inp) := by
  have hmax : maxLen < 9223372036854775808 := by decide
  rw [← holdsOn_sound maxLen inp _ hb hmax]
  have hbnd := decode_bounded maxLen known inp
  unfold holdsOn modelObsGolib obsOf readMsgGolib
  unfold bodyOf at hnn
  cases hd : decodeFull maxLen known inp with | mk res c a =>
  rw [hd] at hbnd hnn
  simp only at hbnd hnn
  cases res with
  | err e => cases e <;> simp [hbnd.1, hbnd.2]
  | ok t body rest =>
    have hk := (decode_ok_sound maxLen known inp t body rest hb hmax (by rw [hd])).1
    obtain ⟨s, hs⟩ := Option.isSome_iff_exists.mp hk
    cases hj : jsonOk with
    | false => simp [hbnd.1, hbnd.2]
    | true => simp [hnn body rfl hj, hs, hbnd.1, hbnd.2]

/-! ### the current decoder (pkg/msg/ctl.go `ReadMsg` with the nil check) -/

/-- on everything but a `null` body the repaired `ReadMsg` is golib's -/
theorem modelObs_eq_golib (jsonOk : Bool) (inp : Str)
    (h : (readMsgGolib maxLen known structOf jsonOk inp).1 ≠ .nilMsg) :
    modelObs maxLen jsonOk inp = modelObsGolib maxLen jsonOk inp := by
  unfold modelObs modelObsGolib readMsg
  generalize readMsgGolib maxLen known structOf jsonOk inp = r at h ⊢
  obtain ⟨m, c, a⟩ := r
  cases m <;> simp_all

/-- "no message and no error" is never returned -/
theorem readMsg_never_nil (max : Nat) (jsonOk : Bool) (inp : Str) :
    (readMsg max known structOf jsonOk inp).1 ≠ .nilMsg := by
  unfold readMsg
  generalize readMsgGolib max known structOf jsonOk inp = r
  obtain ⟨m, c, a⟩ := r
  cases m <;> simp

/-- the nil check amounts to golib's `ReadMsg` under a verdict that counts the literal `null` as a body
    encoding/json rejects -/
theorem readMsg_eq_golib (max : Nat) (jsonOk : Bool) (inp : Str) :
    readMsg max known structOf jsonOk inp
      = readMsgGolib max known structOf (jsonOk && !((bodyOf max inp).any isNullLit)) inp := by
  unfold readMsg readMsgGolib bodyOf
  cases decodeFull max known inp with | mk res c a =>
  cases res with
  | err e => rfl
  | ok t b r =>
    simp only [Option.any_some]
    cases jsonOk <;> cases isNullLit b <;> cases structOf t <;> rfl

/-- FULL statement, current code: for every byte string and either verdict of encoding/json on the
    body, what `msg.ReadMsg` returns satisfies the property — an ok result is the registered
    message of a well-formed frame within the bound, consumed exactly; otherwise an error of the
    right kind; never nil, never more than `max` allocated, nothing past the input consumed. -/
theorem modelHoldsFull (jsonOk : Bool) (inp : Str) (hb : IsBytes inp) :
    Spec maxLen inp (modelObs maxLen jsonOk inp) := by
  rw [modelObs, readMsg_eq_golib]
  refine golib_holdsOn_partial _ inp hb fun b hbody hj => ?_
  rw [hbody, Option.any_some, Bool.and_eq_true, Bool.not_eq_true'] at hj
  exact hj.2

/-- the former witness is now an error that consumes exactly the frame -/
theorem null_is_error : modelObs maxLen true nullFrame = ⟨.err "json", 13, 4⟩ := by decide +kernel

/-! ## 7. JSON object level: `fromObj (toObj m) = normalize m`, driven by the regenerated table -/

open MsgObj

def structNames : List String := MsgSchema.structs.map (·.1)

/-- Go field type (as printed by the translator) ↦ kind -/
def kindOf (ty : String) : Kind :=
  if ty = "string" then .str
  else if ty = "bool" then .bool
  else if ty = "int" ∨ ty = "int64" ∨ ty = "uint16" then .int
  else if ty = "[]string" then .strs
  else if ty = "map[string]string" then .smap
  else if ty = "*net.UDPAddr" then .udp
  else if structNames.contains ty then .sub ty
  else match ty.toList with
    | '[' :: ']' :: rest => if structNames.contains (String.ofList rest) then .subs (String.ofList rest) else .unknown
    | _ => .unknown

/-- value range of a Go integer type (strconv.ParseInt / ParseUint + reflect OverflowInt / OverflowUint in
    encoding/json `literalStore`); `int` is taken as 64 bit, as it is wherever the check runs -/
def loOf (ty : String) : Int := if ty = "uint16" then 0 else -9223372036854775808
def hiOf (ty : String) : Int := if ty = "uint16" then 65535 else 9223372036854775807

/-- the regenerated table as a schema keyed by JSON name (what encoding/json uses) -/
def schema : Schema :=
  ⟨MsgSchema.structs.map (fun r => (r.1, r.2.map (fun f =>
    { goName := f.1, json := Str.ofString f.2.1, omitE := f.2.2.2, kind := kindOf f.2.2.1,
      lo := loOf f.2.2.1, hi := hiOf f.2.2.1 })))⟩

/-- the same table keyed by Go field name (used by the driver to read the harness's reflection dump
    of a Go value; not part of any theorem) -/
def schemaGo : Schema :=
  ⟨MsgSchema.structs.map (fun r => (r.1, r.2.map (fun f =>
    { goName := f.1, json := Str.ofString f.1, omitE := f.2.2.2, kind := kindOf f.2.2.1,
      lo := loOf f.2.2.1, hi := hiOf f.2.2.1 })))⟩

def hasSub (f : FieldS) : Option String :=
  match f.kind with
  | .sub n => some n
  | .subs n => some n
  | _ => none

def lvl0 (n : String) : Bool := (schema.fieldsOf n).all (fun f => (hasSub f).isNone)
def lvl1 (n : String) : Bool := (schema.fieldsOf n).all (fun f => match hasSub f with | some m => lvl0 m | none => true)
def lvl2 (n : String) : Bool := (schema.fieldsOf n).all (fun f => match hasSub f with | some m => lvl1 m | none => true)

/-- What holds of the field rows of the regenerated table by evaluation, as one statement: per struct the
    JSON names are pairwise distinct; per field the Go type is one the object model knows, the JSON name
    is lower-case ASCII, digits and `_`, and an integer field has the range of int / int64 or of uint16. -/
theorem schema_rows_checked : ∀ r ∈ schema.rows, (names r.2).Nodup ∧ ∀ f ∈ r.2, f.kind ≠ .unknown
    ∧ f.json.all (fun b => (decide (97 ≤ b) && decide (b ≤ 122)) || (decide (48 ≤ b) && decide (b ≤ 57)) || b == 95) = true
    ∧ (f.kind = .int →
        (f.lo = -9223372036854775808 ∧ f.hi = 9223372036854775807) ∨ (f.lo = 0 ∧ f.hi = 65535)) := by
  simp only [schema, Str.ofString_eq]
  decide +kernel

/-- every Go type in the regenerated table is one the object model knows -/
theorem schema_kinds_known : ∀ r ∈ schema.rows, ∀ f ∈ r.2, f.kind ≠ .unknown :=
  fun r hr f hf => ((schema_rows_checked r hr).2 f hf).1

/-- every JSON member name of the protocol consists of lower-case ASCII letters, digits and `_`: a member
    whose name has no upper-case letter can match a field only exactly (the driver's value comparison
    relies on it; `Dispatcher.findField` itself implements the folded lookup) -/
theorem schema_names_lowercase :
    ∀ r ∈ schema.rows, ∀ f ∈ r.2,
      f.json.all (fun b => (decide (97 ≤ b) && decide (b ≤ 122)) || (decide (48 ≤ b) && decide (b ≤ 57)) || b == 95) = true :=
  fun r hr f hf => ((schema_rows_checked r hr).2 f hf).2.1

/-- the integer ranges in the table are those of int / int64 / uint16 -/
theorem schema_int_ranges :
    ∀ r ∈ schema.rows, ∀ f ∈ r.2, f.kind = .int →
      (f.lo = -9223372036854775808 ∧ f.hi = 9223372036854775807) ∨ (f.lo = 0 ∧ f.hi = 65535) :=
  fun r hr f hf => ((schema_rows_checked r hr).2 f hf).2.2

theorem schema_names_nodup : schema.NamesNodup :=
  Schema.namesNodup_of_rows schema fun r hr => (schema_rows_checked r hr).1

/-- every registered struct has a schema row set; JSON names inside one struct are pairwise
    distinct (encoding/json silently drops BOTH fields on a duplicate name); struct names are pairwise
    distinct -/
theorem schema_wellformed :
    (∀ p ∈ MsgSchema.registry, (MsgSchema.structs.lookup p.2).isSome)
    ∧ (∀ s ∈ MsgSchema.structs, (jsonNames s.2).Nodup)
    ∧ (MsgSchema.structs.map (·.1)).Nodup := by
  refine ⟨by decide +kernel, fun s hs => ?_, by decide +kernel⟩
  -- the names of the row of `s` in `schema` are the images of its JSON names under `Str.ofString`
  have h : ((jsonNames s.2).map Str.ofString).Nodup := by
    have hm : (s.1, _) ∈ schema.rows := List.mem_map_of_mem hs
    have := (schema_rows_checked _ hm).1
    rw [names, List.map_map] at this
    rw [jsonNames, List.map_map]
    exact this
  exact List.Pairwise.of_map Str.ofString (fun a b hne e => hne (congrArg _ e)) h

/-- struct nesting of every registered message fits the three levels of the model -/
theorem schema_depth_ok : ∀ p ∈ MsgSchema.registry, lvl2 p.2 = true := by decide +kernel

/-- Lossless at the object level, for every message value of every struct of the table: decoding
    the object a value is written as gives the value back, up to `norm2` — which only identifies an
    empty slice / map with nil under `omitempty` (at every nesting level) and nothing else. -/
theorem fromObj_toObj (n : String) (m : Struct2) (ht : typed2 schema n m = true) :
    fromObj2 schema n (toObj2 schema n m) = norm2 schema n m :=
  roundtrip2 schema schema_names_nodup n m ht

/-- values without empty-but-non-nil collections come back exactly -/
theorem fromObj_toObj_exact (n : String) (m : Struct2) (ht : typed2 schema n m = true)
    (hn : norm2 schema n m = m) : fromObj2 schema n (toObj2 schema n m) = m := by
  rw [fromObj_toObj n m ht, hn]

/-! ## non-vacuity -/

example : known 111 = true ∧ structOf 111 = some "Login" ∧ byteOf "Login" = some 111 := by decide +kernel
example : known 0 = false ∧ known 122 = false := by decide +kernel
-- a Ping `{}` frame followed by two stray bytes decodes to the frame and leaves the two bytes
example : decodeFull maxLen known (encode 104 [123, 125] ++ [1, 2]) = ⟨.ok 104 [123, 125] [1, 2], 11, 2⟩ := by
  decide +kernel
example : encode 104 [123, 125] = [104, 0, 0, 0, 0, 0, 0, 0, 2, 123, 125] := by decide +kernel
-- negative length (top bit set), oversize (10241), truncated body, unknown type
example : decodeFull maxLen known [104, 255, 0, 0, 0, 0, 0, 0, 0, 1] = ⟨.err .negLen, 9, 0⟩ := by decide +kernel
example : decodeFull maxLen known ([104] ++ be64 10241 ++ [1]) = ⟨.err .maxLen, 9, 0⟩ := by decide +kernel
example : decodeFull maxLen known ([104] ++ be64 3 ++ [1]) = ⟨.err .unexpectedEOF, 10, 3⟩ := by decide +kernel
example : decodeFull maxLen known [122, 0] = ⟨.err .msgType, 1, 0⟩ := by decide +kernel
-- the predicate is met by an ordinary frame and is not
-- trivially true: it rejects a run that consumed one byte too many
example : holdsOn maxLen (encode 104 [123, 125]) ⟨.msg "Ping", 11, 2⟩ = true := by decide +kernel
example : holdsOn maxLen (encode 104 [123, 125] ++ [7]) ⟨.msg "Ping", 12, 2⟩ = false := by decide +kernel
example : holdsOn maxLen (encode 104 [123, 125]) ⟨.msg "Pong", 11, 2⟩ = false := by decide +kernel
example : holdsOn maxLen (encode 104 [123, 125]) ⟨.err "max", 9, 0⟩ = false := by decide +kernel

-- object level: a NatHoleResp with a nested behaviour holding two port ranges (three levels), an
-- empty-but-non-nil slice that is normalised to nil, and an untouched nil one
def sampleResp : Struct2 :=
  [ .strs (some []), .strs none,
    .sub [ .subs (some [[.int 1, .int 2], [.int 0, .int 65535]]), .int 0, .int 3, .int 0, .str [114], .int 0, .int 0, .int 7 ],
    .str [], .str [117, 100, 112], .str [115], .str [116] ]
example : typed2 schema "NatHoleResp" sampleResp = true := by decide +kernel
example : norm2 schema "NatHoleResp" sampleResp ≠ sampleResp := by decide +kernel
example : (schema.fieldsOf "NatHoleResp").map (·.goName)
    = ["AssistedAddrs", "CandidateAddrs", "DetectBehavior", "Error", "Protocol", "Sid", "TransactionID"] := by decide +kernel

end C17
end Frp
