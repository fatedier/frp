import Frp.Model.Pool
import Frp.Model.SendPath
import Frp.Lemmas.Pool
/-
  C11 — Work connections: one user each, right proxy, bounded pool, never orphaned.

  Theorems over the small-step models `Frp.Pool` (one session's work-connection pool, its user
  handlers, its teardown) and `Frp.Handoff` (vhost muxer hand-off), for ALL label sequences
  (`Pool.Reach`, `Handoff.Reach`), for both the pinned code and the proposed repairs (`Fix`).
-/
namespace Frp
namespace C11
open Pool

/-! ## executable predicates evaluated by the driver on the implementation's own results -/

def dropS (s : String) (n : Nat) : String := String.ofList (s.toList.drop n)

/-- the number of advance requests the property allows: max 0 (min client server) -/
def advanceSpec (client serverMax : Int) : Nat := (max 0 (min client serverMax)).toNat

/-- `login` answered `ok:<n>` with n = the allowed number of advance requests -/
def loginOk (client serverMax : Int) (impl : String) : Bool :=
  impl == s!"ok:{advanceSpec client serverMax}"

/-- an offered work connection: never limbo; never pooled beyond the capacity; a connection handed
    straight to a waiting user is announced with the right proxy name, source and destination address
    and carries that user's payload.  `full` = the pool was at capacity before the offer. -/
def offerOk (_s : St) (_c : Nat) (full : Bool) (impl : String) : Bool :=
  if impl = "L" ∨ impl = "O" then false
  else if impl = "X:open" then false
  else if impl = "P" then !full
  else if impl.startsWith "S:" then
    match impl.splitOn ":" with
    | [_, _, flags] => flags == "nstd" && !full
    | _ => false
  else true

/-- a user connection: bridged to a work connection that was pooled (never one already in use or
    closed), announced correctly; or waiting; or closed by frps (`C:<n>`: promptly, after its handler
    consumed n pooled connections that turned out dead) — never stuck, never left open on a dead one -/
def userOk (s : St) (_u : Nat) (impl : String) : Bool :=
  if impl.startsWith "B:" then
    match impl.splitOn ":" with
    | [_, wid, flags] =>
      flags == "nstd" &&
      (match (dropS wid 1).toNat? with
       | some c => s.w.get c == some .pooled
       | none => false)
    | _ => false
  else impl == "W" || impl.startsWith "C:" || impl == "refused"

/-- after a session end: no held work connection and no waiting user is still open -/
def censusOk (impl : String) : Bool :=
  match impl.splitOn ";" with
  | [w, u] =>
    (match (dropS w 2).splitOn "/", (dropS u 2).splitOn "/" with
     | [_, wo], [_, uo] => wo == "0" && uo == "0"
     | _, _ => false)
  | _ => false

/-- Accept returned one of the connections routed to this listener -/
def acceptOk (routed : List Nat) (impl : String) : Bool :=
  match impl.splitOn ":" with
  | ["got", cid] => match (dropS cid 1).toNat? with
    | some c => routed.contains c
    | none => false
  | _ => false

/-- closing a listener leaves no routed connection open -/
def closeListenerOk (impl : String) : Bool :=
  match impl.splitOn ";limbo=" with
  | [_, l] => l == ""
  | _ => false

/-- a census after an accept loop has ended / been released: no connection is still open without an owner -/
def openNoneOk (impl : String) : Bool :=
  match impl.splitOn "open=" with
  | [_, l] => l == ""
  | _ => true      -- not a census (the op did not apply): nothing to judge

/-- one Accept of an InternalListener's loop: a connection, or the end of the loop with nothing left
    queued; never blocked while something is queued or the listener is closed -/
def vlAcceptOk (impl : String) : Bool :=
  if impl.startsWith "exit:" then impl == "exit:" else impl != "block"

/-- a visitor connection that NewConn accepted while the accept loop was free: bridged under the right
    proxy name, or closed -/
def visitorOk (impl : String) : Bool := impl != "stuck" && impl != "nostall" && impl != "B:N"

/-- census after the end of a session, `w=<closed>/<open>;u=<closed>/<open>;b=<bridged>`, over ALL its user
    connections and its un-started work connections: no user connection is open without a peer, no work
    connection is parked -/
def censusUsersOk (impl : String) : Bool :=
  match impl.splitOn ";" with
  | [w, u, b] =>
    (match (dropS w 2).splitOn "/", (dropS u 2).splitOn "/" with
     | [_, wo], [_, uo] => w.startsWith "w=" && u.startsWith "u=" && b.startsWith "b=" && wo == "0" && uo == "0"
     | _, _ => false)
  | _ => false

/-- `P:<n>` after offers: the pool never holds more than its capacity -/
def sendPooledOk (cap : Nat) (impl : String) : Bool :=
  match (dropS impl 2).toNat? with
  | some n => impl.startsWith "P:" && n ≤ cap
  | none => false

/-- `S:<k>` handlers parked in Send: only behind a client that does not read (how many park is the model's
    prediction, compared as a result) -/
def sendParkedOk (_cap : Nat) (stalled : Bool) (impl : String) : Bool :=
  stalled || impl == "S:0"

/-- the client reads again: the queue drains and every parked handler has left Send -/
def sendResumedOk (impl : String) : Bool := impl.startsWith "S:0;" && !(impl.endsWith "nosync")

/-- the executable form used by the driver: with `ureq` user-driven requests so far, a session may have
    been sent at most `advanceSpec + ureq` ReqWorkConn -/
def reqsOk (client serverMax : Int) (ureq : Nat) (impl : String) : Bool :=
  match ((impl.splitOn ":").getLast?.getD "").toNat? with
  | some n => decide (n ≤ advanceSpec client serverMax + ureq)
  | none => false

/-- frps survived the inner ops -/
def childOk (impl : String) : Bool := !(impl.endsWith "crash") && !(impl.endsWith "hang")


/-! ## NewControl / Start arithmetic -/

theorem newPoolCount_eq_min (c m : Int) : newPoolCount c m = min c m := by
  unfold newPoolCount
  split <;> omega

theorem clampPoolCount_true (pc : Int) : clampPoolCount true pc = max 0 pc := by
  unfold clampPoolCount
  simp only [true_and]
  split <;> omega

/-- the number of ReqWorkConn sent in advance is exactly max 0 (min client server) -/
theorem advance_eq_spec (c m : Int) : advance (newPoolCount c m) = advanceSpec c m := by
  rw [newPoolCount_eq_min]
  unfold advance advanceSpec
  generalize min c m = x
  omega

/-- the number of ReqWorkConn sent in advance never exceeds either bound -/
theorem advance_le (c m : Int) : (advance (newPoolCount c m) : Int) ≤ max 0 c ∧
    (advance (newPoolCount c m) : Int) ≤ max 0 m := by
  rw [newPoolCount_eq_min]
  unfold advance
  omega

/-- the pool capacity is poolCount + 10 whenever NewControl returns -/
theorem cap_eq (c m : Int) (h : newControlPanics (newPoolCount c m) = false) :
    (capOf (newPoolCount c m) : Int) = min c m + 10 := by
  rw [newPoolCount_eq_min] at h ⊢
  rw [newControlPanics, decide_eq_false_iff_not] at h
  unfold capOf
  omega

/-- §7/4: NewControl panics (in a goroutine without recover: frps dies) iff min(client, server) < -10 -/
theorem newControl_panics_iff (c m : Int) : newControlPanics (newPoolCount c m) = true ↔ min c m < -10 := by
  rw [newPoolCount_eq_min, newControlPanics, decide_eq_true_iff]
  omega

theorem newControl_panic_witness : newControlPanics (newPoolCount (-11) 5) = true := by decide

/-- with the proposed clamp NewControl never panics -/
theorem clamp_no_panic (c m : Int) : newControlPanics (clampPoolCount true (newPoolCount c m)) = false := by
  rw [clampPoolCount_true, newControlPanics, decide_eq_false_iff_not]
  omega

/-- with the proposed clamp every retry loop runs at least once -/
theorem clamp_tries_pos (pc : Int) : 0 < tries (clampPoolCount true pc) := by
  rw [clampPoolCount_true]
  unfold tries
  omega

theorem clamp_advance (c m : Int) : advance (clampPoolCount true (newPoolCount c m)) = advanceSpec c m := by
  rw [clampPoolCount_true, newPoolCount_eq_min]
  rfl

/-! ## all label sequences: the invariant's consequences -/

theorem reach_params {fx : Fix} {pc : Int} {T : Nat} {s : St} (h : Reach fx pc T s) : s.pc = pc ∧ s.T = T := by
  induction h with
  | init => exact ⟨rfl, rfl⟩
  | step _ hs ih => cases (step_spec hs).2 <;> exact ih

theorem reach_run {fx : Fix} {pc : Int} {T : Nat} {s s' : St} (h : Reach fx pc T s) (ls : List Label)
    (hr : run fx s ls = some s') : Reach fx pc T s' := by
  induction ls generalizing s with
  | nil => cases hr; exact h
  | cons l ls ih =>
    simp only [run] at hr
    split at hr
    · cases hr
    · next hs => exact ih (h.step hs) hr

/-- the pool never holds more than poolCount + 10 connections -/
theorem pool_le_cap {fx : Fix} {pc : Int} {T : Nat} {s : St} (h : Reach fx pc T s) :
    s.pool.length ≤ capOf pc := by
  obtain ⟨rfl, rfl⟩ := reach_params h
  exact (inv_reach h).le_cap

/-- the queue and the per-connection states agree; no connection sits in the pool twice -/
theorem pooled_iff_in_pool {fx : Fix} {pc : Int} {T : Nat} {s : St} (h : Reach fx pc T s) (c : Nat) :
    s.w.get c = some .pooled ↔ c ∈ s.pool := ((inv_reach h).queue.mem_iff c).symm

theorem pool_nodup {fx : Fix} {pc : Int} {T : Nat} {s : St} (h : Reach fx pc T s) : s.pool.Nodup :=
  (inv_reach h).queue.nodup

/-- a user handler that is bridged to (or about to start) c is THE handler c is taken by:
    c is not in the pool, not closed, not in limbo, and no other handler has it -/
theorem bridged_exclusive {fx : Fix} {pc : Int} {T : Nat} {s : St} (h : Reach fx pc T s) (u c : Nat)
    (hb : s.u.get u = some (.bridged c)) :
    s.w.get c = some (.taken u) ∧ c ∉ s.pool ∧
    ∀ u', ((∃ k, s.u.get u' = some (.holding k c)) ∨ s.u.get u' = some (.bridged c)) → u' = u := by
  have inv := inv_reach h
  have hw := (inv.taken_iff c u).2 (by rw [hb]; rfl)
  refine ⟨hw, ?_, ?_⟩
  · intro hm; have := (inv.queue.mem_iff c).1 hm; rw [hw] at this; cases this
  · intro u' hu'
    have := (inv.taken_iff c u').2 ((conn_eq_some_iff _ c).2 hu')
    rw [hw] at this; cases this; rfl

/-- one work connection per user: a handler never holds two -/
theorem one_workconn_per_user {fx : Fix} {pc : Int} {T : Nat} {s : St} (h : Reach fx pc T s) (u c c' : Nat)
    (h1 : s.w.get c = some (.taken u)) (h2 : s.w.get c' = some (.taken u)) : c = c' := by
  have a := ((inv_reach h).taken_iff c u).1 h1
  rw [((inv_reach h).taken_iff c' u).1 h2] at a
  exact (Option.some.inj a).symm

/-- a taken connection is consumed by exactly the handler recorded for it (never handed out twice) -/
theorem taken_has_handler {fx : Fix} {pc : Int} {T : Nat} {s : St} (h : Reach fx pc T s) (u c : Nat)
    (h1 : s.w.get c = some (.taken u)) :
    (∃ k, s.u.get u = some (.holding k c)) ∨ s.u.get u = some (.bridged c) :=
  (conn_eq_some_iff _ c).1 (((inv_reach h).taken_iff c u).1 h1)

/-- surplus offers are refused and closed (every state, not only reachable ones) -/
theorem surplus_refused (fx : Fix) (s : St) (c : Nat) (hp : s.panicked = false)
    (hw : s.w.get c = some .lookedUp) (hc : s.poolClosed = false) (hfull : s.cap ≤ s.pool.length) :
    step fx s (.send c) = some ({ s with w := s.w.set c .closed }, .refused) := by
  simp [step, hp, hw, hc, Nat.not_lt.2 hfull]

/-- an offer below capacity is pooled at the tail -/
theorem offer_pooled (fx : Fix) (s : St) (c : Nat) (hp : s.panicked = false)
    (hw : s.w.get c = some .lookedUp) (hc : s.poolClosed = false) (hroom : s.pool.length < s.cap) :
    step fx s (.send c) = some ({ s with pool := s.pool ++ [c], w := s.w.set c .pooled }, .pooled) := by
  simp only [step, hp, hw, hc]
  simp [hroom]

/-- a work connection arriving for a session that has left the manager is closed -/
theorem ended_session_offer_closed (fx : Fix) (s : St) (c : Nat) (a : Bool) (hp : s.panicked = false)
    (hw : s.w.get c = some .dialled) (hm : s.inManager = false) :
    step fx s (.lookup c a) = some ({ s with w := s.w.set c .closed }, .closed) := by
  simp [step, hp, hw, hm]

/-- the drain closes every pooled connection -/
theorem drain_closes_all (fx : Fix) (s s' : St) (r : Res) (hs : step fx s .drain = some (s', r)) :
    ∀ c, c ∈ s.pool → s'.w.get c = some .closed := by
  cases (step_spec hs).2
  intro c hc
  show (s.pool.foldl (fun t c => t.set c W.closed) s.w).get c = some .closed
  rw [foldl_set_get, if_pos hc]

/-- after the drain nothing is pooled any more, whatever arrives later -/
theorem after_drain_none_pooled {fx : Fix} {pc : Int} {T : Nat} {s : St} (h : Reach fx pc T s)
    (hd : s.drained = true) (c : Nat) : s.w.get c ≠ some .pooled := by
  have inv := inv_reach h
  intro hp
  have := (inv.queue.mem_iff c).2 hp
  rw [(inv.drained_empty hd).1] at this; cases this

/-- a waiting handler has waited at most UserConnTimeout ticks -/
theorem wait_bounded {fx : Fix} {pc : Int} {T : Nat} {s : St} (h : Reach fx pc T s) (u k t : Nat)
    (hw : s.u.get u = some (.waiting k t)) : t ≤ T := by
  obtain ⟨rfl, rfl⟩ := reach_params h
  exact ((inv_reach h).handlers u _ hw).1

/-- the clock cannot pass a due timeout -/
theorem due_timeout_blocks_clock (fx : Fix) (s : St) (u k t : Nat)
    (hw : s.u.get u = some (.waiting k t)) (hd : s.T ≤ t) : step fx s .tick = none := by
  have : tickOk s = false := by
    unfold tickOk
    apply Tbl.allCur_false hw
    simp; omega
  simp [step, this]

/-- a due timeout closes the user connection -/
theorem due_timeout_closes (fx : Fix) (s : St) (u k t : Nat) (hp : s.panicked = false)
    (hw : s.u.get u = some (.waiting k t)) (hd : s.T ≤ t) :
    step fx s (.timeout u) = some ({ s with u := s.u.set u .closed }, .closed) := by
  simp [step, hp, hw, hd]

/-- the retry loop of GetWorkConnFromPool runs at most poolCount + 1 rounds: every live handler's
    round index is below `tries`; with `wait_bounded` the total wait is ≤ (poolCount+1)·UserConnTimeout -/
theorem retries_bounded {fx : Fix} {pc : Int} {T : Nat} {s : St} (h : Reach fx pc T s) (u k : Nat)
    (hu : s.u.get u = some (.accepted k) ∨ (∃ t, s.u.get u = some (.waiting k t)) ∨
          (∃ c, s.u.get u = some (.holding k c))) : k < tries pc := by
  obtain ⟨rfl, rfl⟩ := reach_params h
  rcases hu with hu | ⟨t, hu⟩ | ⟨c, hu⟩
  · exact (inv_reach h).handlers u _ hu
  · exact ((inv_reach h).handlers u _ hu).2
  · exact (inv_reach h).handlers u _ hu

/-- no handler is ever stuck: unless it is bridged or closed, one of its own labels is enabled,
    or it is waiting with its timer still running -/
theorem handler_never_stuck (fx : Fix) (s : St) (u : Nat) (x : U) (hp : s.panicked = false)
    (hx : s.u.get u = some x) :
    (∃ c, x = .bridged c) ∨ x = .closed ∨ (∃ k t, x = .waiting k t ∧ t < s.T) ∨
    (∃ l, (l = .take u ∨ l = .request u true ∨ l = .startMsg u true ∨ l = .timeout u) ∧
          (step fx s l).isSome = true) := by
  cases x with
  | bridged c => exact .inl ⟨c, rfl⟩
  | closed => exact .inr (.inl rfl)
  | waiting k t =>
    by_cases ht : t < s.T
    · exact .inr (.inr (.inl ⟨k, t, rfl, ht⟩))
    · exact .inr (.inr (.inr ⟨.timeout u, by simp, by simp [step, hp, hx, Nat.le_of_not_lt ht]⟩))
  | holding k c => exact .inr (.inr (.inr ⟨.startMsg u true, by simp, by simp [step, hp, hx]⟩))
  | accepted k =>
    cases hpool : s.pool with
    | cons c rest => exact .inr (.inr (.inr ⟨.take u, by simp, by simp [step, hp, hx, recvFor, hpool]⟩))
    | nil =>
      cases hc : s.poolClosed with
      | true => exact .inr (.inr (.inr ⟨.take u, by simp, by simp [step, hp, hx, recvFor, hpool, hc]⟩))
      | false => exact .inr (.inr (.inr ⟨.request u true, by simp, by simp [step, hp, hx, hpool, hc]⟩))

/-! ## a pooled connection that turned out dead -/

/-- A handler that received a pooled connection whose peer has gone.  BOTH outcomes of the StartWorkConn
    write are enabled (the write into a half-closed yamux stream, or into a session whose death has not
    been noticed yet, still succeeds), and neither leaves the user connection open on the dead one:
    a failed write closes the work connection and the handler goes to the next round or closes the user;
    a "successful" write bridges, the end of Join is enabled at once and closes both ends. -/
theorem dead_conn_never_orphans (fx : Fix) (s : St) (u k c : Nat) (hp : s.panicked = false)
    (hu : s.u.get u = some (.holding k c)) :
    (∃ s1 r, step fx s (.startMsg u false) = some (s1, r) ∧ s1.w.get c = some .closed ∧
       ((r = .retry ∧ s1.u.get u = some (.accepted (k + 1)) ∧ k + 1 < tries s.pc) ∨
        (r = .exhausted ∧ s1.u.get u = some .closed))) ∧
    (∃ s1, step fx s (.startMsg u true) = some (s1, .bridged c) ∧ s1.u.get u = some (.bridged c) ∧
       ∃ s2, step fx s1 (.joinEnd u) = some (s2, .closed) ∧ s2.u.get u = some .closed ∧
             s2.w.get c = some .closed) := by
  constructor
  · by_cases hk : k + 1 < tries s.pc
    · exact ⟨{ s with w := s.w.set c .closed, u := s.u.set u (.accepted (k + 1)) }, .retry,
        by simp [step, hp, hu, hk], Tbl.get_set_self .., .inl ⟨rfl, Tbl.get_set_self .., hk⟩⟩
    · exact ⟨{ s with w := s.w.set c .closed, u := s.u.set u .closed }, .exhausted,
        by simp [step, hp, hu, hk], Tbl.get_set_self .., .inr ⟨rfl, Tbl.get_set_self ..⟩⟩
  · refine ⟨{ s with u := s.u.set u (.bridged c) }, by simp [step, hp, hu], Tbl.get_set_self .., ?_⟩
    exact ⟨{ s with u := (s.u.set u (.bridged c)).set u .closed, w := s.w.set c .closed },
      by simp [step, hp, Tbl.get_set], Tbl.get_set_self .., Tbl.get_set_self ..⟩

/-- whichever way the write went, the dead connection is consumed by this one handler only: once the
    handler has let go of it, it is closed and nobody can ever be bridged to it again -/
theorem closed_conn_never_bridged {fx : Fix} {pc : Int} {T : Nat} {s : St} (h : Reach fx pc T s) (c : Nat)
    (hc : s.w.get c = some .closed) (u : Nat) : s.u.get u ≠ some (.bridged c) ∧ ∀ k, s.u.get u ≠ some (.holding k c) := by
  have free : (s.u.get u).bind U.conn ≠ some c := fun hu => by
    have := ((inv_reach h).taken_iff c u).2 hu
    rw [hc] at this; cases this
  exact ⟨fun hb => free (by rw [hb]; rfl), fun k hk => free (by rw [hk]; rfl)⟩

/-! ## the advance requests over the whole history of a session -/

theorem advance_history_le {fx : Fix} {pc : Int} {T : Nat} {s : St} (h : Reach fx pc T s) :
    s.adv = advance pc := by
  obtain ⟨rfl, rfl⟩ := reach_params h
  exact (acct_reach h).adv_eq

/-- However many proxies the session registers, closes and registers again, however many user and work
    connections come and go: the requests sent in advance (on behalf of no user connection) are the
    `advance` of `Start()`, i.e. exactly max 0 (min client server) -/
theorem advance_history {fx : Fix} {client serverMax : Int} {T : Nat} {s : St}
    (h : Reach fx (clampPoolCount true (newPoolCount client serverMax)) T s) :
    s.adv = advanceSpec client serverMax :=
  (advance_history_le h).trans (clamp_advance client serverMax)

/-- every ReqWorkConn ever sent is one of the advance ones or was sent by GetWorkConn for a user connection -/
theorem reqs_accounted {fx : Fix} {pc : Int} {T : Nat} {s : St} (h : Reach fx pc T s) :
    s.reqs = advance pc + s.ureq := by
  rw [(acct_reach h).reqs_eq, advance_history_le h]

/-- registering or closing a proxy asks the client for nothing and touches neither pool nor handlers -/
theorem proxy_ops_request_nothing (fx : Fix) (s s' : St) (p : Nat) (r : Res)
    (hs : step fx s (.regProxy p) = some (s', r) ∨ step fx s (.closeProxy p) = some (s', r)) :
    s'.reqs = s.reqs ∧ s'.adv = s.adv ∧ s'.pool = s.pool ∧ s'.u = s.u ∧ s'.w = s.w := by
  rcases hs with hs | hs <;> cases (step_spec hs).2 <;> exact ⟨rfl, rfl, rfl, rfl, rfl⟩

/-! ## `limbo`: a work connection that is neither pooled nor closed (§7/11) -/

/-- no work connection is ever left open outside the pool and outside a handler -/
def NoLimboFull (fx : Fix) : Prop :=
  ∀ (pc : Int) (T : Nat) (s : St) (c : Nat), Reach fx pc T s → s.w.get c ≠ some .limbo

/-- the schedule: a work connection passes the session lookup, the control connection dies and the
    worker closes the pool, then RegisterWorkConn sends -/
def limboTrace : List Label := [.dial 0, .lookup 0 true, .dispDone, .closePool, .send 0]

theorem limbo_witness :
    (run pinned (init 1 1) limboTrace).map (fun s => s.w.get 0) = some (some .limbo) := by decide

/-- FALSE on the pinned tree -/
theorem noLimboFull_pinned_false : ¬ NoLimboFull pinned := by
  intro h
  obtain ⟨s, hr, hw⟩ := Option.map_eq_some_iff.1 limbo_witness
  exact h 1 1 s 0 (reach_run Reach.init limboTrace hr) hw

/-- what IS true on the pinned tree: limbo needs a send that met the closed pool -/
theorem no_limbo_partial {fx : Fix} {pc : Int} {T : Nat} {s : St} (h : Reach fx pc T s)
    (hl : s.lateSend = false) (c : Nat) : s.w.get c ≠ some .limbo := by
  intro hc
  have := ((inv_reach h).limbo_late c hc).1
  rw [hl] at this; cases this

theorem no_limbo_of_fix {fx : Fix} (hf : fx.closeOnClosedPool = true) : NoLimboFull fx := by
  intro pc T s c h hc
  have := ((inv_reach h).limbo_late c hc).2
  rw [hf] at this; cases this

/-- TRUE with the proposed repair (RegisterWorkConn reports the closed pool as an error) -/
theorem noLimboFull_repaired : NoLimboFull repaired := no_limbo_of_fix rfl

/-- with the repair, a late offer is closed -/
theorem late_offer_closed_repaired (s : St) (c : Nat) (hp : s.panicked = false)
    (hw : s.w.get c = some .lookedUp) (hc : s.poolClosed = true) :
    step repaired s (.send c) = some ({ s with w := s.w.set c .closed, lateSend := true }, .refused) := by
  simp [step, hp, hw, hc, repaired]

/-! ## negative poolCount: the retry loop that never runs (§7/4) -/

/-- frps survives every user connection -/
def NoCrashFull (fx : Fix) : Prop :=
  ∀ (client serverMax : Int) (T : Nat) (s : St),
    newControlPanics (clampPoolCount fx.clampPoolCount (newPoolCount client serverMax)) = false →
    Reach fx (clampPoolCount fx.clampPoolCount (newPoolCount client serverMax)) T s → s.panicked = false

/-- Login.PoolCount = -1, one user connection: `defer workConn.Close()` on a nil interface -/
theorem crash_witness : (run pinned (init (-1) 1) [.regProxy 0, .accept 0]).map (·.panicked) = some true := by decide

theorem noCrashFull_pinned_false : ¬ NoCrashFull pinned := by
  intro h
  obtain ⟨s, hr, hw⟩ := Option.map_eq_some_iff.1 crash_witness
  have := h (-1) 5 1 s (by decide) (reach_run (pc := -1) .init _ hr)
  rw [hw] at this; cases this

/-- what IS true on the pinned tree: non-negative poolCount never crashes -/
theorem no_crash_partial {fx : Fix} {pc : Int} {T : Nat} {s : St} (h : Reach fx pc T s) (hpc : 0 ≤ pc) :
    s.panicked = false := by
  cases hp : s.panicked with
  | false => rfl
  | true =>
    obtain ⟨rfl, rfl⟩ := reach_params h
    have := (inv_reach h).panic_tries hp
    unfold tries at this
    omega

theorem no_crash_of_fix {fx : Fix} (hf : fx.clampPoolCount = true) : NoCrashFull fx := by
  intro c m T s _ h
  apply no_crash_partial h
  rw [hf, clampPoolCount_true]
  omega

/-- TRUE with the proposed clamp -/
theorem noCrashFull_repaired : NoCrashFull repaired := no_crash_of_fix rfl

/-! ## vhost hand-off (§7/10, Muxer.handle) -/

/-- no connection routed to a listener is left open when the hand-off fails -/
def HandoffNoLimboFull (fx : Fix) : Prop :=
  ∀ (s : Handoff.St) (c : Nat), Handoff.Reach fx s → s.c.get c ≠ some .limbo

def handoffLimboTrace : List Handoff.Label := [.listen 0, .conn 0, .route 0 0, .closeListener 0, .handoff 0]

theorem handoff_limbo_witness :
    (Handoff.run pinned {} handoffLimboTrace).map (fun s => s.c.get 0) = some (some .limbo) := by decide

theorem handoff_reach_run {fx : Fix} {s s' : Handoff.St} (h : Handoff.Reach fx s) (ls : List Handoff.Label)
    (hr : Handoff.run fx s ls = some s') : Handoff.Reach fx s' := by
  induction ls generalizing s with
  | nil => cases hr; exact h
  | cons l ls ih =>
    simp only [Handoff.run] at hr
    split at hr
    · cases hr
    · next hs => exact ih (h.step hs) hr

theorem handoffNoLimbo_pinned_false : ¬ HandoffNoLimboFull pinned := by
  intro h
  obtain ⟨s, hr, hw⟩ := Option.map_eq_some_iff.1 handoff_limbo_witness
  exact h s 0 (handoff_reach_run Handoff.Reach.init _ hr) hw

theorem handoff_no_limbo_of_fix {fx : Fix} (hf : fx.closeOnFailedHandoff = true) : HandoffNoLimboFull fx := by
  intro s c h
  induction h with
  | init => exact nofun
  | @step s s' l _ hs ih =>
    -- a connection rebound to `v` is in limbo only if `v` is
    have set : ∀ c0 v, v ≠ .limbo → (s.c.set c0 v).get c ≠ some .limbo :=
      fun c0 v hv e => (Tbl.of_get_set_eq e).elim hv ih
    cases l with
    | listen l => rw [Handoff.step, Option.ite_none_left_eq_some] at hs; cases hs.2; exact ih
    | conn c0 => rw [Handoff.step, Option.ite_none_left_eq_some] at hs; cases hs.2; exact set c0 _ nofun
    | route c0 l => rw [Handoff.step, Option.ite_none_right_eq_some] at hs; cases hs.2; exact set c0 _ nofun
    | noRoute c0 => rw [Handoff.step, Option.ite_none_right_eq_some] at hs; cases hs.2; exact set c0 _ nofun
    | closeListener l => rw [Handoff.step, Option.ite_none_right_eq_some] at hs; cases hs.2; exact ih
    | handoff c0 =>
      rw [Handoff.step] at hs
      split at hs
      · next l _ =>
        by_cases hl : s.lsn.get l = some true
        · rw [if_pos hl] at hs; cases hs; exact set c0 _ nofun
        · rw [if_neg hl] at hs; cases hs; exact set c0 _ (by simp [hf])
      · cases hs

/-- TRUE with the proposed repair (close the connection when the send panicked) -/
theorem handoffNoLimbo_repaired : HandoffNoLimboFull repaired := handoff_no_limbo_of_fix rfl

/-- the hand-off of a routed connection always completes, and delivers only to an open listener -/
theorem handoff_outcome (fx : Fix) (s : Handoff.St) (c l : Nat) (hc : s.c.get c = some (.routed l)) :
    ∃ s', Handoff.step fx s (.handoff c) = some s' ∧
      (s'.c.get c = some (.delivered l) ∧ s.lsn.get l = some true ∨
       s'.c.get c = some (if fx.closeOnFailedHandoff then .closed else .limbo) ∧ s.lsn.get l ≠ some true) := by
  by_cases hl : s.lsn.get l = some true
  · exact ⟨{ s with c := s.c.set c (.delivered l) }, by simp [Handoff.step, hc, hl],
      Or.inl ⟨by simp [Tbl.get_set], hl⟩⟩
  · exact ⟨{ s with c := s.c.set c (if fx.closeOnFailedHandoff then .closed else .limbo) },
      by simp [Handoff.step, hc, hl], Or.inr ⟨by simp [Tbl.get_set], hl⟩⟩

/-! ## visitor-listener accept path (InternalListener; stcp / sudp / xtcp proxies) -/

namespace VL

structure Inv (s : VListen.St) : Prop where
  queue : s.c.Tracks .queued s.q
  le_cap : s.q.length ≤ s.cap
  exit_empty : s.loopExit = true → s.q = [] ∧ s.chClosed = true
  unreg_closed : s.registered = false → s.chClosed = true

theorem inv_step {s s' : VListen.St} {l : VListen.Label} {r : VListen.Res} (h : Inv s) (hs : VListen.step s l = some (s', r)) : Inv s' := by
  cases l with
  | put c =>
    rw [VListen.step, Option.ite_none_left_eq_some] at hs
    obtain ⟨hn, hs⟩ := hs
    have hn : s.c.get c ≠ some .queued := fun e => hn (by rw [e]; rfl)
    -- a new connection that is closed on the spot
    have closed : Inv { s with c := s.c.set c .closed } := { h with queue := h.queue.set_other hn nofun }
    by_cases hr : s.registered = false
    · rw [if_pos hr] at hs; cases hs; exact closed
    · rw [if_neg hr] at hs
      by_cases hc : s.chClosed = true
      · rw [if_pos hc] at hs; cases hs; exact closed
      · rw [if_neg hc] at hs
        by_cases hl : s.q.length < s.cap
        · rw [if_pos hl] at hs; cases hs
          exact { h with
            queue := h.queue.push hn
            le_cap := by dsimp only; rw [List.length_append]; exact hl
            exit_empty := fun he => absurd (h.exit_empty he).2 hc }
        · rw [if_neg hl] at hs; cases hs; exact closed
  | accept =>
    rw [VListen.step, Option.ite_none_left_eq_some] at hs
    obtain ⟨hle, hs⟩ := hs
    split at hs
    · next c rest hq =>
      cases hs
      exact { h with
        queue := (hq ▸ h.queue : s.c.Tracks .queued (c :: rest)).pop nofun
        le_cap := Nat.le_trans (by rw [hq]; exact Nat.le_succ _) h.le_cap
        exit_empty := fun he => absurd he hle }
    · next hq =>
      rw [Option.ite_none_right_eq_some] at hs
      cases hs.2
      exact { h with exit_empty := fun _ => ⟨hq, hs.1⟩ }
  | closeL =>
    cases hs
    exact { h with exit_empty := fun he => ⟨(h.exit_empty he).1, rfl⟩, unreg_closed := fun _ => rfl }
  | unregister =>
    rw [VListen.step, Option.ite_none_right_eq_some] at hs
    cases hs.2
    exact { h with unreg_closed := fun _ => hs.1.1 }

theorem inv_reach {cap : Nat} {s : VListen.St} (h : VListen.Reach cap s) : Inv s := by
  induction h with
  | init => exact ⟨⟨List.nodup_nil, fun c => by simp [Tbl.get]⟩, Nat.zero_le _, nofun, nofun⟩
  | step _ hs ih => exact inv_step ih hs

/-- the drain of a closed listener for any queue, duplicates or not; what Accept had returned before stays returned -/
theorem drain_after_close (s : VListen.St) (hc : s.chClosed = true) (hl : s.loopExit = false) :
    ∃ s', VListen.run s (List.replicate (s.q.length + 1) .accept) = some s' ∧ s'.loopExit = true ∧ s'.q = [] ∧
      ∀ c, c ∈ s.q ∨ s.c.get c = some .accepted → s'.c.get c = some .accepted := by
  generalize hq : s.q = q
  induction q generalizing s with
  | nil =>
    refine ⟨{ s with loopExit := true }, ?_, rfl, hq, fun c hm => hm.elim nofun id⟩
    simp [VListen.run, VListen.step, hl, hq, hc]
  | cons a rest ih =>
    obtain ⟨s', hr, he, hq', hall⟩ := ih { s with q := rest, c := s.c.set a .accepted } hc hl rfl
    refine ⟨s', ?_, he, hq', fun c hm => hall c ?_⟩
    · have hs : VListen.step s .accept = some ({ s with q := rest, c := s.c.set a .accepted }, .got a) := by
        simp [VListen.step, hl, hq]
      rw [List.length_cons, List.replicate_succ, VListen.run, hs]
      exact hr
    · dsimp only
      rw [Tbl.get_set]
      by_cases e : c = a
      · exact .inr (if_pos e)
      · rw [if_neg e]
        exact hm.imp_left fun h => (List.mem_cons.1 h).resolve_left e

end VL

/-- NEVER ORPHANED on the visitor-listener path, for all interleavings of put / accept / close /
    unregister: once the accept goroutine has returned, no connection that was ever put is still
    queued — each one was returned by Accept (and is owned by a handler) or has been closed -/
theorem visitor_none_stranded {cap : Nat} {s : VListen.St} (h : VListen.Reach cap s) (he : s.loopExit = true) (c : Nat) :
    s.c.get c = some VListen.V.accepted ∨ s.c.get c = some VListen.V.closed ∨ s.c.get c = none := by
  have inv := VL.inv_reach h
  cases hg : s.c.get c with
  | none => exact Or.inr (Or.inr rfl)
  | some v =>
    cases v with
    | accepted => exact Or.inl rfl
    | closed => exact Or.inr (Or.inl rfl)
    | queued =>
      have := (inv.queue.mem_iff c).2 hg
      rw [(inv.exit_empty he).1] at this; cases this

/-- the queue and the per-connection states agree, without duplicates, within the capacity -/
theorem visitor_queue_sound {cap : Nat} {s : VListen.St} (h : VListen.Reach cap s) :
    s.q.Nodup ∧ s.q.length ≤ s.cap ∧ ∀ c, c ∈ s.q ↔ s.c.get c = some VListen.V.queued :=
  ⟨(VL.inv_reach h).queue.nodup, (VL.inv_reach h).le_cap, (VL.inv_reach h).queue.mem_iff⟩

/-- a connection handed to NewConn is queued (only while the listener is open, registered and below
    capacity) or closed on the spot; PutConn never loses one -/
theorem visitor_put_outcome (s : VListen.St) (c : Nat) (hn : s.c.get c = none) :
    ∃ s' r, VListen.step s (VListen.Label.put c) = some (s', r) ∧
      ((r = VListen.Res.queued ∧ s'.c.get c = some VListen.V.queued ∧ s.chClosed = false ∧ s.registered = true ∧ s.q.length < s.cap) ∨
       ((r = VListen.Res.err ∨ r = VListen.Res.full) ∧ s'.c.get c = some VListen.V.closed)) := by
  by_cases hr : s.registered = false
  · exact ⟨{ s with c := s.c.set c VListen.V.closed }, VListen.Res.err, by simp [VListen.step, hn, hr], .inr ⟨.inl rfl, Tbl.get_set_self ..⟩⟩
  · by_cases hc : s.chClosed = true
    · exact ⟨{ s with c := s.c.set c VListen.V.closed }, VListen.Res.err, by simp [VListen.step, hn, hr, hc], .inr ⟨.inl rfl, Tbl.get_set_self ..⟩⟩
    · by_cases hl : s.q.length < s.cap
      · exact ⟨{ s with q := s.q ++ [c], c := s.c.set c VListen.V.queued }, VListen.Res.queued, by simp [VListen.step, hn, hr, hc, hl],
          .inl ⟨rfl, Tbl.get_set_self .., by simpa using hc, by simpa using hr, hl⟩⟩
      · exact ⟨{ s with c := s.c.set c VListen.V.closed }, VListen.Res.full, by simp [VListen.step, hn, hr, hc, hl],
          .inr ⟨.inr rfl, Tbl.get_set_self ..⟩⟩

/-- after Close the accept loop cannot block and cannot leave early: it returns every queued connection,
    in order, and only then exits -/
theorem visitor_drain_after_close (s : VListen.St) (hc : s.chClosed = true) (hl : s.loopExit = false) :
    ∃ s', VListen.run s (List.replicate (s.q.length + 1) VListen.Label.accept) = some s' ∧ s'.loopExit = true ∧ s'.q = [] ∧
      ∀ c, c ∈ s.q → s.q.Nodup → s'.c.get c = some VListen.V.accepted := by
  obtain ⟨s', hr, he, hq, hall⟩ := VL.drain_after_close s hc hl
  exact ⟨s', hr, he, hq, fun c hm _ => hall c (.inl hm)⟩

/-! ## group-listener accept path (TCPGroup / TCPMuxGroup hand-off) -/

namespace GA

structure Inv (s : GroupAccept.St) : Prop where
  backlog_mem : ∀ c, s.c.get c = some GroupAccept.G.backlog → c ∈ s.backlog
  held_is_hold : ∀ c, s.c.get c = some GroupAccept.G.held → s.hold = some c
  idle : s.members = 0 → s.backlog = [] ∧ s.hold = none

theorem inv_step {s s' : GroupAccept.St} {l : GroupAccept.Label} (h : Inv s)
    (hs : GroupAccept.step s l = some s') : Inv s' := by
  cases l with
  | listen =>
    cases hs
    exact { h with idle := nofun }
  | conn c =>
    rw [GroupAccept.step, Option.ite_none_left_eq_some] at hs
    obtain ⟨_, hs⟩ := hs
    by_cases hm : s.members = 0
    · rw [if_pos hm] at hs; cases hs
      exact { h with
        backlog_mem := Tbl.forall_get_set nofun fun c' _ => h.backlog_mem c'
        held_is_hold := Tbl.forall_get_set nofun fun c' _ => h.held_is_hold c' }
    · rw [if_neg hm] at hs; cases hs
      exact {
        backlog_mem := Tbl.forall_get_set (fun _ => by simp) fun c' _ e => List.mem_append_left _ (h.backlog_mem c' e)
        held_is_hold := Tbl.forall_get_set nofun fun c' _ => h.held_is_hold c'
        idle := fun e => absurd e hm }
  | workerAccept =>
    rw [GroupAccept.step] at hs
    split at hs
    · next c rest hh hb =>
      rw [Option.ite_none_left_eq_some] at hs
      obtain ⟨hm, hs⟩ := hs
      cases hs
      exact {
        backlog_mem := Tbl.forall_get_set nofun fun c' ec e => by
          have := h.backlog_mem c' e
          rw [hb] at this
          exact (List.mem_cons.1 this).resolve_left ec
        held_is_hold := Tbl.forall_get_set (fun _ => rfl) fun c' _ e => by
          have := h.held_is_hold c' e
          rw [hh] at this; cases this
        idle := fun e => absurd e hm }
    · cases hs
  | recv =>
    rw [GroupAccept.step] at hs
    split at hs
    · next c hh =>
      rw [Option.ite_none_left_eq_some] at hs
      obtain ⟨hm, hs⟩ := hs
      cases hs
      exact {
        backlog_mem := Tbl.forall_get_set nofun fun c' _ => h.backlog_mem c'
        held_is_hold := Tbl.forall_get_set nofun fun c' ec e => by
          have := h.held_is_hold c' e
          rw [hh] at this
          exact absurd (Option.some.inj this).symm ec
        idle := fun e => absurd e hm }
    · cases hs
  | leave =>
    rw [GroupAccept.step, Option.ite_none_left_eq_some] at hs
    obtain ⟨hm, hs⟩ := hs
    by_cases h1 : s.members = 1
    · rw [if_pos h1] at hs; cases hs
      -- nothing is left in the backlog or in the worker's hands: both were just closed
      have gone : ∀ x, x ≠ .closed → ∀ c',
          (s.backlog.foldl (fun (t : Tbl GroupAccept.G) c => t.set c .closed)
            (match s.hold with | some c => s.c.set c .closed | none => s.c)).get c' = some x →
          s.c.get c' = some x ∧ c' ∉ s.backlog ∧ s.hold ≠ some c' := by
        intro x hx c' e
        rw [foldl_set_get] at e
        split at e
        · exact absurd (Option.some.inj e) hx.symm
        · next hb =>
          cases hh : s.hold with
          | none => rw [hh] at e; exact ⟨e, hb, nofun⟩
          | some c0 =>
            rw [hh] at e
            dsimp only at e
            rw [Tbl.get_set] at e
            split at e
            · exact absurd (Option.some.inj e) hx.symm
            · next ec => exact ⟨e, hb, fun e' => ec (Option.some.inj e').symm⟩
      exact {
        backlog_mem := fun c' e => have g := gone .backlog nofun c' e; absurd (h.backlog_mem c' g.1) g.2.1
        held_is_hold := fun c' e => have g := gone .held nofun c' e; absurd (h.held_is_hold c' g.1) g.2.2
        idle := fun _ => ⟨rfl, rfl⟩ }
    · rw [if_neg h1] at hs; cases hs
      exact { h with idle := fun e => absurd e (by dsimp only; omega) }

theorem inv_reach {s : GroupAccept.St} (h : GroupAccept.Reach s) : Inv s := by
  induction h with
  | init => exact ⟨nofun, nofun, fun _ => ⟨rfl, rfl⟩⟩
  | step _ hs ih => exact inv_step ih hs

end GA

/-- NEVER ORPHANED on the group-listener path, for all interleavings of joins, user connections, worker
    and member accepts and leaves: when no member is left, every connection that ever reached the group's
    port was delivered to a member (its handler owns it) or has been closed — none sits in a channel or
    in the worker's hands -/
theorem group_none_stranded {s : GroupAccept.St} (h : GroupAccept.Reach s) (hm : s.members = 0) (c : Nat) :
    s.c.get c = some .delivered ∨ s.c.get c = some .closed ∨ s.c.get c = none := by
  have inv := GA.inv_reach h
  cases hg : s.c.get c with
  | none => exact Or.inr (Or.inr rfl)
  | some v =>
    cases v with
    | delivered => exact Or.inl rfl
    | closed => exact Or.inr (Or.inl rfl)
    | backlog => have := inv.backlog_mem c hg; rw [(inv.idle hm).1] at this; cases this
    | held => have := inv.held_is_hold c hg; rw [(inv.idle hm).2] at this; cases this

/-- the unbuffered hand-off holds at most one connection outside the kernel queue at any time -/
theorem group_worker_holds_one {s : GroupAccept.St} (h : GroupAccept.Reach s) (c c' : Nat)
    (h1 : s.c.get c = some .held) (h2 : s.c.get c' = some .held) : c = c' := by
  have inv := GA.inv_reach h
  have a := inv.held_is_hold c h1
  have b := inv.held_is_hold c' h2
  rw [a] at b; simpa using b

/-! ## the control-message send path: a handler parked in `Dispatcher.Send`

  `Frp.Pool`'s label `request u ok` is GetWorkConn's `msgDispatcher.Send(&msg.ReqWorkConn{})`.  `Frp.SendPath`
  splits it: the handler enters `Send` (`call u`), and leaves it through the send arm (`enq u`: Pool's
  `request u true`) or through the `doneCh` arm (`wake u`: Pool's `request u false`).  While the client does
  not read its control connection and the queue is full the handler is parked — for as long as the session
  lives.  The clause proved here: the end of the session (`done`) releases every parked handler, for all
  interleavings of senders, send loop, write, read failure and `conn.Close()`; Pool's `request u false` then
  closes the user connection, `request u true` leads to the closed pool or the timeout. -/

namespace SP

structure Inv (s : SendPath.St) : Prop where
  q_le : s.q.length ≤ s.cap
  eof_done : ∀ u, s.p.get u = some .eof → s.done = true
  exit_done : s.loopExit = true → s.done = true
  exit_idle : s.loopExit = true → s.wr = none

inductive Step (plain : Bool) (s : SendPath.St) : SendPath.Label → SendPath.St → Prop
  | callEof {u} : s.p.get u = none → plain = true → s.done = true →
      Step plain s (.call u) { s with p := s.p.set u .eof }
  | call {u} : s.p.get u = none → ¬ (plain = true ∧ s.done = true) →
      Step plain s (.call u) { s with p := s.p.set u .parked }
  | enq {u} : s.p.get u = some .parked → s.q.length < s.cap →
      Step plain s (.enq u) { s with q := s.q ++ [u], p := s.p.set u .sent }
  | wake {u} : plain = false → s.p.get u = some .parked → s.done = true →
      Step plain s (.wake u) { s with p := s.p.set u .eof }
  | loopRecv {m rest} : s.loopExit = false → s.wr = none → s.q = m :: rest →
      Step plain s .loopRecv { s with wr := some m, q := rest }
  | loopDone : s.loopExit = false → s.wr = none → s.done = true →
      Step plain s .loopDone { s with loopExit := true }
  | written {m} : s.wr = some m → s.connClosed = false →
      Step plain s (.written true) { s with wr := none, wire := s.wire ++ [m] }
  | writeFail {m} : s.wr = some m → s.connClosed = true →
      Step plain s (.written false) { s with wr := none }
  | readFail : s.done = false → Step plain s .readFail { s with done := true }
  | connClose : s.connClosed = false → Step plain s .connClose { s with connClosed := true }

theorem step_spec {plain : Bool} {s s' : SendPath.St} {l : SendPath.Label}
    (hs : SendPath.step plain s l = some s') : Step plain s l s' := by
  cases l with
  | call u =>
    rw [SendPath.step, Option.ite_none_left_eq_some] at hs
    obtain ⟨hn, hs⟩ := hs
    simp at hn
    by_cases hpd : plain = true ∧ s.done = true
    · rw [if_pos hpd] at hs; cases hs; exact .callEof hn hpd.1 hpd.2
    · rw [if_neg hpd] at hs; cases hs; exact .call hn hpd
  | enq u =>
    rw [SendPath.step, Option.ite_none_right_eq_some] at hs
    cases hs.2; exact .enq hs.1.1 hs.1.2
  | wake u =>
    rw [SendPath.step, Option.ite_none_right_eq_some] at hs
    cases hs.2; exact .wake hs.1.1 hs.1.2.1 hs.1.2.2
  | loopRecv =>
    rw [SendPath.step] at hs
    split at hs
    · next m rest he hw hq => cases hs; exact .loopRecv he hw hq
    · cases hs
  | loopDone =>
    rw [SendPath.step, Option.ite_none_right_eq_some] at hs
    cases hs.2; exact .loopDone hs.1.1 hs.1.2.1 hs.1.2.2
  | written ok =>
    rw [SendPath.step] at hs
    split at hs
    · next m hw =>
      cases ok
      · rw [if_neg Bool.false_ne_true, Option.ite_none_right_eq_some] at hs
        cases hs.2; exact .writeFail hw hs.1
      · rw [if_pos rfl, Option.ite_none_left_eq_some] at hs
        cases hs.2; exact .written hw (Bool.eq_false_iff.2 hs.1)
    · cases hs
  | readFail =>
    rw [SendPath.step, Option.ite_none_left_eq_some] at hs
    cases hs.2; exact .readFail (Bool.eq_false_iff.2 hs.1)
  | connClose =>
    rw [SendPath.step, Option.ite_none_left_eq_some] at hs
    cases hs.2; exact .connClose (Bool.eq_false_iff.2 hs.1)

theorem inv_step {plain : Bool} {s s' : SendPath.St} {l : SendPath.Label} (h : Inv s)
    (hs : SendPath.step plain s l = some s') : Inv s' := by
  cases step_spec hs with
  | callEof _ _ hd | wake _ _ hd =>
    exact { h with eof_done := fun u' e => (Tbl.of_get_set_eq e).elim (fun _ => hd) (h.eof_done u') }
  | call => exact { h with eof_done := fun u' e => (Tbl.of_get_set_eq e).elim nofun (h.eof_done u') }
  | enq _ hl =>
    exact { h with
      q_le := by rw [List.length_append]; exact hl
      eof_done := fun u' e => (Tbl.of_get_set_eq e).elim nofun (h.eof_done u') }
  | loopRecv he _ hq =>
    exact { h with
      q_le := Nat.le_trans (by rw [hq]; exact Nat.le_succ _) h.q_le
      exit_idle := fun e => by rw [he] at e; cases e }
  | loopDone _ hw hd => exact { h with exit_done := fun _ => hd, exit_idle := fun _ => hw }
  | written | writeFail => exact { h with exit_idle := fun _ => rfl }
  | readFail => exact { h with eof_done := fun _ _ => rfl, exit_done := fun _ => rfl }
  | connClose => exact { h with }

theorem inv_reach {plain : Bool} {cap : Nat} {s : SendPath.St} (h : SendPath.Reach plain cap s) : Inv s := by
  induction h with
  | init => exact ⟨Nat.zero_le _, nofun, nofun, fun _ => rfl⟩
  | step _ hs ih => exact inv_step ih hs

theorem run_preserves {plain} {P : SendPath.St → Prop} (hP : ∀ {s l s'}, SendPath.step plain s l = some s' → P s → P s')
    {s s'} (ls) (hr : SendPath.run plain s ls = some s') (h : P s) : P s' := by
  induction ls generalizing s with
  | nil => cases hr; exact h
  | cons l ls ih =>
    simp only [SendPath.run] at hr
    split at hr
    · cases hr
    · next hs => exact ih hr (hP hs h)

theorem run_append {plain : Bool} (l1 l2 : List SendPath.Label) (s : SendPath.St) :
    SendPath.run plain s (l1 ++ l2) = (SendPath.run plain s l1).bind fun s1 => SendPath.run plain s1 l2 := by
  induction l1 generalizing s with
  | nil => rfl
  | cons l ls ih =>
    simp only [List.cons_append, SendPath.run]
    cases SendPath.step plain s l with
    | none => rfl
    | some s1 => exact ih s1

/-- The client has stopped reading: the send loop sits in `WriteMsg` with message 0, senders `1‥k` have taken
    `k` of the `n` places of the queue, no later sender has called `Send` yet. -/
structure Filling (n k : Nat) (s : SendPath.St) : Prop where
  cap : s.cap = n
  len : s.q.length = k
  wr : s.wr = some 0
  live : s.done = false ∧ s.connClosed = false ∧ s.loopExit = false
  fresh : ∀ j, k < j → s.p.get j = none

theorem filling_next {n k : Nat} {s : SendPath.St} (h : Filling n k s) (hk : k < n) :
    ∃ s', SendPath.run true s [.call (k + 1), .enq (k + 1)] = some s' ∧ Filling n (k + 1) s' := by
  refine ⟨{ s with q := s.q ++ [k + 1], p := (s.p.set (k + 1) .parked).set (k + 1) .sent }, ?_, ?_⟩
  · simp [SendPath.run, SendPath.step, h.fresh (k + 1) (Nat.lt_succ_self k), h.live.1, Tbl.get_set_self, h.len,
      h.cap, hk]
  · refine ⟨h.cap, by simp [h.len], h.wr, h.live, fun j hj => ?_⟩
    have hne : j ≠ k + 1 := Nat.ne_of_gt hj
    simp only [Tbl.get_set, if_neg hne]
    exact h.fresh j (Nat.lt_of_succ_lt hj)

end SP

/-- the send queue never holds more than its capacity (100) -/
theorem send_queue_bounded {plain : Bool} {cap : Nat} {s : SendPath.St} (h : SendPath.Reach plain cap s) :
    s.q.length ≤ s.cap := (SP.inv_reach h).q_le

/-- `Send` returns io.EOF only once `doneCh` is closed -/
theorem send_eof_only_after_done {plain : Bool} {cap : Nat} {s : SendPath.St} (h : SendPath.Reach plain cap s)
    (u : Nat) (hu : s.p.get u = some .eof) : s.done = true := (SP.inv_reach h).eof_done u hu

/-- `doneCh` closed is the guard of Pool's `request u false`; that label closes the user connection at once
    (GetWorkConn: "control is already closed" ⇒ handleUserTCPConnection returns, deferred `userConn.Close()`) -/
theorem send_eof_closes_user (fx : Fix) (s : St) (u : Nat) (r : St × Res)
    (hs : step fx s (.request u false) = some r) : s.dispDone = true ∧ r.1.u.get u = some .closed := by
  obtain ⟨s', r⟩ := r
  cases (step_spec hs).2 with
  | requestEof _ _ _ hd => exact ⟨hd, Tbl.get_set_self _ u _⟩

/-- a handler inside `Send` is blocked (neither arm ready) exactly when the queue is full and the session lives -/
theorem parked_blocked_iff (s : SendPath.St) (u : Nat) (hu : s.p.get u = some .parked) :
    (SendPath.step false s (.enq u) = none ∧ SendPath.step false s (.wake u) = none) ↔
    (s.cap ≤ s.q.length ∧ s.done = false) := by
  simp only [SendPath.step, hu, true_and]
  constructor
  · intro ⟨h1, h2⟩
    constructor
    · by_cases h : s.q.length < s.cap
      · simp [h] at h1
      · omega
    · cases hd : s.done with
      | false => rfl
      | true => simp [hd] at h2
  · intro ⟨h1, h2⟩
    have : ¬ s.q.length < s.cap := by omega
    simp [this, h2]

/-- once the session has ended (`doneCh` closed) the `doneCh` arm of every parked handler is ready,
    however full the queue is and whatever the send loop and the connection are doing -/
theorem blocked_sender_released_on_end (s : SendPath.St) (u : Nat) (hu : s.p.get u = some .parked)
    (hd : s.done = true) :
    SendPath.step false s (.wake u) = some { s with p := s.p.set u .eof } := by
  simp [SendPath.step, hu, hd]

/-- nothing another goroutine does takes the release away: after any other label the session is still
    ended and the handler is still parked with that arm ready (so under any fair schedule it leaves `Send`) -/
theorem release_persistent {s s' : SendPath.St} {l : SendPath.Label} (u : Nat)
    (hs : SendPath.step false s l = some s') (hu : s.p.get u = some .parked) (hd : s.done = true) :
    s'.done = true ∧ (s'.p.get u = some .parked ∨ l = .enq u ∨ l = .wake u) := by
  -- a step of another goroutine `u'` rebinds `u'` only
  have other : ∀ {u'} (v : SendPath.P), u ≠ u' → (s.p.set u' v).get u = some .parked :=
    fun v hne => by rw [Tbl.get_set, if_neg hne]; exact hu
  cases SP.step_spec hs with
  | callEof hn | call hn => exact ⟨hd, .inl (other _ fun e => by rw [e, hn] at hu; cases hu)⟩
  | @enq u' =>
    by_cases e : u = u'
    · exact ⟨hd, .inr (.inl (e ▸ rfl))⟩
    · exact ⟨hd, .inl (other _ e)⟩
  | @wake u' =>
    by_cases e : u = u'
    · exact ⟨hd, .inr (.inr (e ▸ rfl))⟩
    · exact ⟨hd, .inl (other _ e)⟩
  | readFail => exact ⟨rfl, .inl hu⟩
  | _ => exact ⟨hd, .inl hu⟩

/-- the clause, as a property of a `Send` implementation: in every reachable state of an ended session every
    handler parked in `Send` can leave it by a step of its own -/
def ReleasedOnEnd (plain : Bool) : Prop :=
  ∀ (cap : Nat) (s : SendPath.St) (u : Nat), SendPath.Reach plain cap s → s.done = true →
    s.p.get u = some .parked → ∃ l s', SendPath.step plain s l = some s' ∧ s'.p.get u ≠ some .parked

/-- `ReleasedOnEnd` holds for the `select` of the tree -/
theorem releasedOnEnd_select : ReleasedOnEnd false := by
  intro cap s u _ hd hu
  refine ⟨.wake u, _, blocked_sender_released_on_end s u hu hd, ?_⟩
  simp [Tbl.get_set]

/-- an ended session in which no `doneCh` arm is left to fire has nobody parked in `Send` -/
theorem ended_quiescent_none_parked (s : SendPath.St) (hd : s.done = true)
    (hq : ∀ u, SendPath.step false s (.wake u) = none) (u : Nat) : s.p.get u ≠ some .parked := by
  intro hu
  have := blocked_sender_released_on_end s u hu hd
  rw [hq u] at this; cases this

/-- a handler parked on a full queue whose send loop has returned -/
def Stranded (s : SendPath.St) (u : Nat) : Prop :=
  s.loopExit = true ∧ s.cap ≤ s.q.length ∧ s.p.get u = some .parked

/-- the variant with a plain `d.sendCh <- m` after a non-blocking `doneCh` check: a stranded handler stays
    stranded under every label -/
theorem plainSend_strand_stable {s s' : SendPath.St} {l : SendPath.Label} {u : Nat}
    (hs : SendPath.step true s l = some s') (h : Stranded s u) : Stranded s' u := by
  obtain ⟨he, hq, hu⟩ := h
  cases SP.step_spec hs with
  | callEof hn | call hn =>
    refine ⟨he, hq, ?_⟩
    rw [Tbl.get_set, if_neg fun e => by rw [e, hn] at hu; cases hu]
    exact hu
  | enq _ hl => exact absurd hl (Nat.not_lt.2 hq)
  | wake hp => cases hp
  | loopRecv he' | loopDone he' => rw [he] at he'; cases he'
  | _ => exact ⟨he, hq, hu⟩

/-- no continuation of the run releases a stranded handler (GetWorkConn never returns, the deferred
    `userConn.Close()` never runs: the user connection stays open without a peer) -/
theorem plainSend_stranded_forever {s s' : SendPath.St} {u : Nat} (ls : List SendPath.Label)
    (hr : SendPath.run true s ls = some s') (h : Stranded s u) : Stranded s' u :=
  SP.run_preserves plainSend_strand_stable ls hr h

/-- the schedule (queue of 2 for brevity; `plainSend_strand_witness_100` below is the same with 100): the client
    stops reading (no `written true`), senders 0‥2 fill writer + queue, sender 3 parks, the read fails, the worker
    closes the connection, the pending write fails, the send loop sees `doneCh` and returns -/
def strandTrace : List SendPath.Label :=
  [.call 0, .enq 0, .loopRecv, .call 1, .enq 1, .call 2, .enq 2, .call 3, .readFail, .connClose, .written false, .loopDone]

theorem plainSend_strand_witness :
    (SendPath.run true (SendPath.init 2) strandTrace).map
      (fun s => (s.done, s.loopExit, s.q.length, s.p.get 3)) = some (true, true, 2, some .parked) := by decide

/-- the same schedule for a queue of `n`, with senders 0‥n filling writer + queue and sender n+1 parked -/
def strandTraceN (n : Nat) : List SendPath.Label :=
  [.call 0, .enq 0, .loopRecv] ++ (List.range n).flatMap (fun i => [.call (i + 1), .enq (i + 1)]) ++
  [.call (n + 1), .readFail, .connClose, .written false, .loopDone]

/-- for every queue size `n > 0`: the schedule leaves sender `n + 1` parked on the full queue of an ended session whose
    send loop has returned -/
theorem plainSend_strand_witness_any (n : Nat) (hn : 0 < n) :
    (SendPath.run true (SendPath.init n) (strandTraceN n)).map
      (fun s => (s.done, s.loopExit, s.q.length, s.p.get (n + 1))) = some (true, true, n, some .parked) := by
  -- writer and queue fill up …
  have fill : ∀ m, m ≤ n → ∃ s, SendPath.run true (SendPath.init n)
      ([.call 0, .enq 0, .loopRecv] ++ (List.range m).flatMap (fun i => [.call (i + 1), .enq (i + 1)])) = some s ∧
      SP.Filling n m s := by
    intro m
    induction m with
    | zero =>
      intro _
      refine ⟨{ SendPath.init n with wr := some 0, p := (Tbl.set {} 0 .parked).set 0 .sent }, ?_,
        rfl, rfl, rfl, ⟨rfl, rfl, rfl⟩, fun j hj => ?_⟩
      · simp [SendPath.run, SendPath.step, SendPath.init, Tbl.get_empty, Tbl.get_set_self, hn]
      · simp only [Tbl.get_set, if_neg (Nat.ne_of_gt hj)]; rfl
    | succ m ih =>
      intro hm
      obtain ⟨s, hr, hf⟩ := ih (Nat.le_of_succ_le hm)
      obtain ⟨s', hr', hf'⟩ := SP.filling_next hf hm
      refine ⟨s', ?_, hf'⟩
      rw [List.range_succ, List.flatMap_append, ← List.append_assoc, SP.run_append, hr]
      simpa using hr'
  -- … sender n + 1 parks, the session ends, the send loop returns
  obtain ⟨s, hr, hf⟩ := fill n (Nat.le_refl n)
  have hlt : ¬ s.q.length < s.cap := by rw [hf.len, hf.cap]; exact Nat.lt_irrefl n
  unfold strandTraceN
  rw [SP.run_append, hr]
  simp [SendPath.run, SendPath.step, hf.fresh (n + 1) (Nat.lt_succ_self n), hf.live.1, hf.live.2.1, hf.live.2.2,
    hf.wr, hf.len, Tbl.get_set_self]

theorem plainSend_strand_witness_100 :
    (SendPath.run true (SendPath.init 100) (strandTraceN 100)).map
      (fun s => (s.done, s.loopExit, s.q.length, s.p.get 101)) = some (true, true, 100, some .parked) :=
  plainSend_strand_witness_any 100 (by decide)

/-- `ReleasedOnEnd` is false for the plain send -/
theorem releasedOnEnd_plainSend_false : ¬ ReleasedOnEnd true := by
  intro h
  obtain ⟨s, hr, hw⟩ := Option.map_eq_some_iff.1 plainSend_strand_witness
  simp only [Prod.mk.injEq] at hw
  obtain ⟨hd, he, hq, hu⟩ := hw
  have hcap : s.cap = 2 := by
    have : (SendPath.run true (SendPath.init 2) strandTrace).map (·.cap) = some 2 := by decide
    rw [hr] at this; exact Option.some.inj this
  obtain ⟨l, s', hs, hne⟩ := h 2 s 3 (SP.run_preserves (fun hs h => h.step hs) _ hr .init) hd hu
  exact hne (plainSend_strand_stable hs ⟨he, by omega, hu⟩).2.2

/-! ## non-vacuity -/

example : (GroupAccept.run {} [.listen, .conn 1, .conn 2, .conn 3, .workerAccept, .recv, .workerAccept, .leave]).map
    (fun s => [s.c.get 1, s.c.get 2, s.c.get 3]) = some [some .delivered, some .closed, some .closed] := by decide +kernel


def vlDemo : Option VListen.St :=
  VListen.run {} [.put 1, .put 2, .accept, .put 3, .closeL, .put 4, .unregister, .put 5, .accept, .accept, .accept]
example : vlDemo.map (·.loopExit) = some true := by decide +kernel
example : vlDemo.map (fun s => [s.c.get 1, s.c.get 2, s.c.get 3]) = some [some .accepted, some .accepted, some .accepted] := by decide +kernel
example : vlDemo.map (fun s => [s.c.get 4, s.c.get 5]) = some [some .closed, some .closed] := by decide +kernel
example : VListen.run {} [.put 1, .closeL, .accept, .accept, .accept] = none := by decide +kernel
example : (VListen.run { cap := 1 } [.put 1, .put 2]).map (fun s => [s.c.get 1, s.c.get 2]) =
    some [some .queued, some .closed] := by decide +kernel


/-- a reachable state with a full pool, a bridged pair, a waiting user and a refused surplus offer -/
example : ∃ s, run pinned (init 0 1)
    ([.regProxy 0, .dial 0, .lookup 0 true, .send 0, .accept 7, .take 7, .startMsg 7 true, .accept 8, .request 8 true, .tick] ) = some s ∧
    s.u.get 7 = some (.bridged 0) ∧ s.u.get 8 = some (.waiting 0 1) ∧ s.w.get 0 = some (.taken 7) := by
  refine ⟨_, rfl, ?_, ?_, ?_⟩ <;> decide +kernel

example : (run pinned (init 0 1) [.regProxy 0, .accept 8, .request 8 true, .tick, .tick]) = none := by decide +kernel
example : (run pinned (init 0 1) [.regProxy 0, .accept 8, .request 8 true, .tick, .timeout 8]).map (fun s => s.u.get 8) = some (some .closed) := by decide +kernel
example : (run repaired (init 1 1) limboTrace).map (fun s => s.w.get 0) = some (some .closed) := by decide +kernel
example : (Handoff.run repaired {} handoffLimboTrace).map (fun s => s.c.get 0) = some (some .closed) := by decide +kernel
example : advance (newPoolCount 7 5) = 5 ∧ advance (newPoolCount (-3) 5) = 0 ∧ capOf (newPoolCount (-3) 5) = 7 := by decide +kernel

/-- the schedule of `plainSend_strand_witness` on the tree's `select`: sender 3 is parked on the full queue of the
    ended session and its `doneCh` arm releases it -/
example : (SendPath.run false (SendPath.init 2) (strandTrace ++ [.wake 3])).map (fun s => s.p.get 3) = some (some .eof) := by decide +kernel
example : (SendPath.run false (SendPath.init 2) strandTrace).map (fun s => (SendPath.parkedOf s, s.q, s.wire)) = some ([3], [1, 2], []) := by decide +kernel
/-- a client that reads: everything is written, nobody parks -/
example : (SendPath.run false (SendPath.init 2) [.call 0, .enq 0, .loopRecv, .written true, .call 1, .enq 1, .loopRecv, .written true]).map
    (fun s => (SendPath.parkedOf s, s.wire)) = some ([], [0, 1]) := by decide +kernel

end C11
end Frp
