import Frp.Model.Backoff
import Frp.Model.Watchdog
import Frp.Model.Reconnect
import Frp.Model.Dispatch
import Frp.Model.Liveness
import Frp.Props.C14Heal
import Frp.Props.C14Teardown
import Frp.Props.C14Live
/-
  C14 — Dead peers are detected and tunnels heal themselves (partial: wall-clock behaviour and
  goroutine scheduling are sampled by the `wait` engine, not proved).

  In this file:
  Part A: reconnect back-off (pkg/util/wait/backoff.go as used by client/service.go):
          no tight loop (positive lower bound on every delay), bounded delay (MaxDuration),
          bounded number of fast retries per window, bounded time to the next attempt.
  Part B: heartbeat watchdogs (server/control.go, client/control.go): silence longer than the
          timeout is detected at the first check after it; a fed watchdog never fires; invalid
          pings do not count; a pong with error closes; defaults / disabling.
  Part C: the two nested login loops of client/service.go (pacing of re-logins).
  Part G: which events refresh the liveness clocks (Frp/Model/Liveness.lean): under frp's strict policy
          (only a verified Ping on the server, only a Pong without error on the client — read from the
          source on every run) no other traffic, valid or not, moves the clock: a peer that keeps sending
          NewProxy / CloseProxy / rejected pings, a server that keeps sending ReqWorkConn / NewProxyResp,
          is detected within timeout + checker period; any other policy provably keeps a dead peer alive.
  Part F: the client's dispatcher in front of its watchdog (pkg/msg/handler.go, client/control.go
          registerMsgHandlers / handleReqWorkConn): with ReqWorkConn handled through AsyncHandler the
          read loop is never occupied, the watchdog sees every Pong when it is sent, a server that
          keeps answering is never torn down whatever work connections sit idle; with a plain handler
          one idle work connection starves the watchdog (theorem + witness); tie to the source.
  The last section applies Part J to Part B: a silent server is detected within the WRITTEN timeout plus one
          checker period.
  In the files it imports:
  Parts D, E (Frp/Props/C14Heal.lean): the end of a server session releases everything the session
          registered, for every interleaving, registrations in flight included; a (re-)login registers
          the configuration in force when it succeeds, for every history of reloads and outages.
  Part H (Frp/Props/C14Teardown.lean): the client's teardown (worker → pm.Close → Wrapper.Stop) reaches
          close(doneCh) from every state, whatever phase the check goroutines are in, if the send channel
          cannot fill up; in the pinned tree it does fill up with more than 100 proxies, the repaired code (12f7eaf) drains it.
  Parts I, J (Frp/Props/C14Live.lean): a dead session is torn down with LIVE
          user connections -- the teardown neither waits for nor depends on them; a `Close` that waits for its
          connection handlers keeps a silent peer's session for ever (tie: no `Close` of server/proxy waits);
          `Complete` never changes a written heartbeat setting, so a silent server is detected within the WRITTEN
          timeout plus one checker period (tie: the statements of the two Complete methods, interpreted).
-/
namespace Frp
namespace C14

section PartA
open Backoff

/-! ## Part A — back-off -/

/-- the options make sense: positive base delay, factor 0 (off) or ≥ 1, fast retries (if any) have a
    positive delay.  (`Factor < 1` lets `Duration(float64(d)*Factor)` truncate to 0.) -/
def WF (o : Opts) : Prop :=
  0 < o.duration ∧ (o.facNum = 0 ∨ (0 < o.facDen ∧ o.facDen ≤ o.facNum)) ∧ (o.frCount ≠ 0 → 0 < o.frDelay)

instance (o : Opts) : Decidable (WF o) := by unfold WF; exact inferInstance

/-- the exact positive lower bound of every delay the code hands out -/
def lowB (o : Opts) : Nat :=
  min o.duration
    (min (if o.frCount ≠ 0 then o.frDelay else o.duration)
      (min (emptyOr o.initIfFail second)
        (min second (if o.maxDuration ≠ 0 then o.maxDuration else second))))

/-- the exact upper bound when `MaxDuration > 0` -/
def upB (o : Opts) : Nat :=
  max o.duration (max o.maxDuration (if o.frCount ≠ 0 then jitterHi o.frDelay o.frJitNum o.frJitDen else 0))

theorem lowB_pos (o : Opts) (wf : WF o) : 0 < lowB o := by
  -- a minimum of five quantities, each of them positive
  obtain ⟨h1, _, h3⟩ := wf
  have hs : 0 < second := by decide
  simp only [lowB, Nat.lt_min]
  refine ⟨h1, ?_, ?_, hs, ?_⟩
  · split
    · exact h3 ‹_›
    · exact h1
  · unfold emptyOr; split <;> omega
  · split <;> omega

theorem lowB_le (o : Opts) :
    lowB o ≤ o.duration ∧ lowB o ≤ (if o.frCount ≠ 0 then o.frDelay else o.duration) ∧
      lowB o ≤ emptyOr o.initIfFail second ∧ lowB o ≤ second ∧
      lowB o ≤ (if o.maxDuration ≠ 0 then o.maxDuration else second) := by
  have h : lowB o ≤ lowB o := Nat.le_refl _
  simp only [lowB, Nat.le_min] at h
  exact h

theorem lowB_le_frDelay (o : Opts) (h : o.frCount ≠ 0) : lowB o ≤ o.frDelay := by
  have := (lowB_le o).2.1
  rwa [if_pos h] at this

theorem lowB_le_max (o : Opts) (h : o.maxDuration ≠ 0) : lowB o ≤ o.maxDuration := by
  have := (lowB_le o).2.2.2.2
  rwa [if_pos h] at this

theorem mulFactor_ge (o : Opts) (wf : WF o) (d : Nat) : d ≤ mulFactor o d := by
  unfold mulFactor
  split
  · exact Nat.le_refl d
  · rcases wf.2.1 with h | ⟨hd, hle⟩
    · contradiction
    · exact (Nat.le_div_iff_mul_le hd).2 (Nat.mul_le_mul_left d hle)

theorem mulFactor_mono (o : Opts) {a b : Nat} (h : a ≤ b) : mulFactor o a ≤ mulFactor o b := by
  unfold mulFactor
  split
  · exact h
  · exact Nat.div_le_div_right (Nat.mul_le_mul_right _ h)

theorem cap_mono (o : Opts) {a b : Nat} (h : a ≤ b) : cap o a ≤ cap o b := by
  unfold cap
  split <;> split <;> omega

theorem cap_le_self (o : Opts) (d : Nat) : cap o d ≤ d := by
  unfold cap; split <;> omega

theorem cap_le_max (o : Opts) (h : o.maxDuration ≠ 0) (d : Nat) : cap o d ≤ o.maxDuration := by
  unfold cap; split <;> omega

theorem cap_ge (o : Opts) (L d : Nat) (hL : o.maxDuration ≠ 0 → L ≤ o.maxDuration) (h : L ≤ d) :
    L ≤ cap o d := by
  unfold cap; split
  · rename_i hc; exact hL hc.1
  · exact h

theorem le_emptyOr {L v f : Nat} (hv : v = 0 ∨ L ≤ v) (hf : L ≤ f) : L ≤ emptyOr v f := by
  unfold emptyOr; split <;> omega

theorem slowBase_ge (o : Opts) (consec prev : Nat) (hp : prev = 0 ∨ lowB o ≤ prev) :
    lowB o ≤ slowBase o consec prev := by
  refine le_emptyOr ?_ (lowB_le o).2.2.2.1
  split
  · have h := (lowB_le o).2.2.1
    unfold emptyOr at h ⊢
    split
    · exact hp
    · rw [if_neg ‹_›] at h; exact Or.inr h
  · exact hp

theorem jitterHi_ge (d jn jd : Nat) : d ≤ jitterHi d jn jd := by
  unfold jitterHi; split <;> exact Nat.le_add_right _ _

/-- the condition under which `fastBackoffImpl.Backoff` takes each of its paths -/
theorem branch_spec (o : Opts) (s : St) (now : Nat) (err : Bool) :
    match branch o s now err with
    | .first => s.called = false
    | .fast => o.frCount ≠ 0 ∧ err = true ∧ s.counts + 1 ≤ o.frCount
    | .slowReset => o.frCount < s.counts + 1 ∧ afterCutoff now s.cutoff = true
    | .slowNoReset => o.frCount < s.counts + 1 ∧ afterCutoff now s.cutoff = false
    | .slowPlain => err = true
    | .base => err = false := by
  unfold branch
  by_cases h1 : s.called = false
  · rw [if_pos h1]; exact h1
  rw [if_neg h1]
  by_cases h2 : o.frCount ≠ 0 ∧ err = true
  · rw [if_pos h2]
    by_cases h3 : s.counts + 1 ≤ o.frCount
    · rw [if_pos h3]; exact ⟨h2.1, h2.2, h3⟩
    rw [if_neg h3]
    by_cases h4 : afterCutoff now s.cutoff = true
    · rw [if_pos h4]; exact ⟨by omega, h4⟩
    · rw [if_neg h4]; exact ⟨by omega, Bool.eq_false_iff.2 h4⟩
  rw [if_neg h2]
  by_cases h5 : err = true
  · rw [if_pos h5]; exact h5
  · rw [if_neg h5]; exact Bool.eq_false_iff.2 h5

theorem branch_err_false {o : Opts} {s : St} {now : Nat} :
    branch o s now false = .first ∨ branch o s now false = .base := by
  unfold branch
  split
  · exact Or.inl rfl
  · simp

/-- the three shapes of what a call returns: `Duration`; a fast retry (only with `FastRetryCount > 0`); the
    slow path, which re-arms the window only for a call later than the cutoff -/
theorem step_out (o : Opts) (s : St) (now prev : Nat) (err : Bool) :
    (∃ k, (step o s now prev err).2 = baseOut o k) ∨
    (o.frCount ≠ 0 ∧ (step o s now prev err).2 = fastOut o) ∨
    (∃ r, (r = true → afterCutoff now s.cutoff = true) ∧
      (step o s now prev err).2 = slowOut o (consecOf s err) prev r) := by
  have hb := branch_spec o s now err
  unfold step
  split <;> rename_i h <;> rw [h] at hb
  · exact .inl ⟨_, rfl⟩
  · exact .inr (.inl ⟨hb.1, rfl⟩)
  · exact .inr (.inr ⟨true, fun _ => hb.2, rfl⟩)
  · exact .inr (.inr ⟨false, nofun, rfl⟩)
  · exact .inr (.inr ⟨false, nofun, rfl⟩)
  · exact .inl ⟨_, rfl⟩

/-- interval of one call is non-empty and above the lower bound -/
theorem step_lo_ge (o : Opts) (wf : WF o) (s : St) (now prev : Nat) (err : Bool)
    (hp : prev = 0 ∨ lowB o ≤ prev) : lowB o ≤ (step o s now prev err).2.lo := by
  rcases step_out o s now prev err with ⟨k, h⟩ | ⟨hf, h⟩ | ⟨r, _, h⟩ <;> rw [h]
  · exact (lowB_le o).1
  · exact lowB_le_frDelay o hf
  · exact cap_ge o _ _ (lowB_le_max o) (Nat.le_trans (slowBase_ge o _ prev hp) (mulFactor_ge o wf _))

theorem step_lo_le_hi (o : Opts) (s : St) (now prev : Nat) (err : Bool) :
    (step o s now prev err).2.lo ≤ (step o s now prev err).2.hi := by
  rcases step_out o s now prev err with ⟨k, h⟩ | ⟨_, h⟩ | ⟨r, _, h⟩ <;> rw [h]
  · exact Nat.le_refl _
  · exact jitterHi_ge _ _ _
  · apply cap_mono
    split
    · exact jitterHi_ge _ _ _
    · exact Nat.le_refl _

/-- the slow path (what is returned after an error once the fast retries are used up) never
    exceeds `MaxDuration`, jitter included (the cap is applied after the jitter) -/
theorem slow_le_max (o : Opts) (hm : o.maxDuration ≠ 0) (consec prev : Nat) (r : Bool) :
    (slowOut o consec prev r).hi ≤ o.maxDuration := by
  simp only [slowOut]; exact cap_le_max o hm _

/-- with `MaxDuration > 0` no call returns more than `upB` -/
theorem step_hi_le (o : Opts) (hm : o.maxDuration ≠ 0) (s : St) (now prev : Nat) (err : Bool) :
    (step o s now prev err).2.hi ≤ upB o := by
  rcases step_out o s now prev err with ⟨k, h⟩ | ⟨hf, h⟩ | ⟨r, _, h⟩ <;> rw [h]
  · exact Nat.le_max_left _ _
  · show jitterHi _ _ _ ≤ upB o
    unfold upB; rw [if_pos hf]; omega
  · exact Nat.le_trans (slow_le_max o hm _ prev r) (by unfold upB; omega)

/-- after a success the code returns exactly `Duration` -/
theorem success_delay (o : Opts) (s : St) (now prev : Nat) :
    (step o s now prev false).2.lo = o.duration ∧ (step o s now prev false).2.hi = o.duration := by
  unfold step
  rcases @branch_err_false o s now with h | h <;> rw [h] <;> exact ⟨rfl, rfl⟩

/-- **No tight loop / bounded delay, all histories.**  Along any chained run (any times, any
    success/error sequence, any jitter draws) every delay is ≥ `lowB o` (> 0 by `lowB_pos`) and,
    when `MaxDuration > 0`, ≤ `upB o`. -/
theorem run_delays_bounded (o : Opts) (wf : WF o) :
    ∀ (cs : List Call) (s : St) (prev : Nat), (prev = 0 ∨ lowB o ≤ prev) → runOk o s prev cs = true →
      ∀ c ∈ cs, lowB o ≤ c.d ∧ (o.maxDuration ≠ 0 → c.d ≤ upB o) := by
  intro cs
  induction cs with
  | nil => intro s prev _ _ c hc; cases hc
  | cons a as ih =>
    intro s prev hp hr c hc
    simp only [runOk, Bool.and_eq_true, decide_eq_true_eq] at hr
    obtain ⟨⟨hlo, hhi⟩, hrest⟩ := hr
    have hge : lowB o ≤ a.d := Nat.le_trans (step_lo_ge o wf s a.now prev a.err hp) hlo
    rcases List.mem_cons.1 hc with h | h
    · subst h
      exact ⟨hge, fun hm => Nat.le_trans hhi (step_hi_le o hm s _ _ _)⟩
    · exact ih _ _ (Or.inr hge) hrest c h

/-- the loop as `BackoffUntil` starts it (first `Backoff(0,false)` for the ticker, then delay 0) -/
theorem loop_delays_bounded (o : Opts) (wf : WF o) (t0 : Nat) (cs : List Call)
    (hr : runOk o (loopStart o t0) 0 cs = true) :
    ∀ c ∈ cs, 0 < c.d ∧ lowB o ≤ c.d ∧ (o.maxDuration ≠ 0 → c.d ≤ upB o) := by
  intro c hc
  have h := run_delays_bounded o wf cs _ 0 (Or.inl rfl) hr c hc
  exact ⟨Nat.lt_of_lt_of_le (lowB_pos o wf) h.1, h.1, h.2⟩

/-- **Bounded reconnect delay (model).**  An attempt that ended at `c.now` is followed by the
    next attempt at `c.now + c.d`; if the server is reachable from `τ ≥ c.now` on, the next attempt
    starts no later than `τ + upB o`. -/
theorem next_attempt_within (o : Opts) (wf : WF o) (hm : o.maxDuration ≠ 0) (t0 : Nat) (cs : List Call)
    (hr : runOk o (loopStart o t0) 0 cs = true) (c : Call) (hc : c ∈ cs) (τ : Nat) (hτ : c.now ≤ τ) :
    c.now + c.d ≤ τ + upB o := by
  have := (loop_delays_bounded o wf t0 cs hr c hc).2.2 hm
  omega

/-! ### fast retries per window -/

theorem step_st_prev (o : Opts) (s : St) (now prev err) :
    (step o s now prev err).1 = (step o s now 0 err).1 := by
  unfold step
  split <;> rfl

theorem step_kind_prev (o : Opts) (s : St) (now prev err) :
    (step o s now prev err).2.kind = (step o s now 0 err).2.kind := by
  unfold step
  split <;> rfl

theorem afterCutoff_mono {now limit : Nat} {ct : Option Nat} (h : afterCutoff now ct = true) (hl : now ≤ limit) :
    afterCutoff limit ct = true := by
  cases ct with
  | none => rfl
  | some c => simp only [afterCutoff, decide_eq_true_eq] at h ⊢; omega

/-- how many fast delays a state with these `counts`/`cutoff` can still hand out for calls at times up to `limit`:
    the rest of the running allowance, and a fresh one if the window can still be re-armed by then -/
def budget (o : Opts) (counts : Nat) (cutoff : Option Nat) (limit : Nat) : Nat :=
  (o.frCount - counts) + (if afterCutoff limit cutoff = true then o.frCount else 0)

/-- a call at a time in `[a, a + FastRetryWindow]` pays for its fast delay out of the budget up to the end of that
    interval; a window re-armed by such a call has its cutoff at or after `a + FastRetryWindow` -/
theorem budget_step (o : Opts) (a : Nat) (s : St) (now : Nat) (err : Bool) (h1 : a ≤ now) (h2 : now ≤ a + o.frWindow) :
    (if (step o s now 0 err).2.kind = .fast then 1 else 0)
      + budget o (step o s now 0 err).1.counts (step o s now 0 err).1.cutoff (a + o.frWindow)
      ≤ budget o s.counts s.cutoff (a + o.frWindow) := by
  have hb := branch_spec o s now err
  unfold step
  split <;> rename_i h <;> rw [h] at hb
  · exact Nat.le_of_eq (Nat.zero_add _)
  · simp only [fastOut, if_true, budget]; omega
  · have hnew : afterCutoff (a + o.frWindow) (some (now + o.frWindow)) = false := by
      simp only [afterCutoff, decide_eq_false_iff_not]; omega
    simp only [slowOut, reduceCtorEq, if_false, budget, hnew, afterCutoff_mono hb.2 h2, if_true, Bool.false_eq_true]
    omega
  · simp only [slowOut, reduceCtorEq, if_false, budget]; omega
  · exact Nat.le_of_eq (Nat.zero_add _)
  · exact Nat.le_of_eq (Nat.zero_add _)

theorem fastCount_le_budget (o : Opts) (a : Nat) :
    ∀ (cs : List Call) (s : St), (∀ c ∈ cs, a ≤ c.now ∧ c.now ≤ a + o.frWindow) →
      fastCount o s cs ≤ budget o s.counts s.cutoff (a + o.frWindow) := by
  intro cs
  induction cs with
  | nil => intro s _; exact Nat.zero_le _
  | cons c cs ih =>
    intro s hw
    have hc := hw c List.mem_cons_self
    have := ih (step o s c.now 0 c.err).1 (fun x hx => hw x (List.mem_cons_of_mem _ hx))
    have := budget_step o a s c.now c.err hc.1 hc.2
    simp only [fastCount]
    omega

/-- **Fast retries are rationed (what the code guarantees).**  From *any* state, the calls made
    within any time window of length `FastRetryWindow` contain at most `2·FastRetryCount` fast
    delays (one unfinished allowance plus one fresh one: the window is re-armed only by a call
    later than the previous cutoff). -/
theorem fast_per_window_le (o : Opts) (a : Nat) (s : St) (cs : List Call)
    (hw : ∀ c ∈ cs, a ≤ c.now ∧ c.now ≤ a + o.frWindow) : fastCount o s cs ≤ 2 * o.frCount :=
  Nat.le_trans (fastCount_le_budget o a cs s hw) (by unfold budget; split <;> omega)

/-- after the window has been re-armed at `now`, it is not re-armed again by any call up to `now + FastRetryWindow` -/
theorem no_reset_before_cutoff (o : Opts) (s : St) (ct now prev : Nat) (err : Bool)
    (hc : s.cutoff = some ct) (hn : now ≤ ct) : (step o s now prev err).2.reset = false := by
  rcases step_out o s now prev err with ⟨k, h⟩ | ⟨_, h⟩ | ⟨r, hr, h⟩ <;> rw [h]
  · rfl
  · rfl
  · cases r with
    | false => rfl
    | true =>
      have := hr rfl
      rw [hc] at this; simp only [afterCutoff, decide_eq_true_eq] at this; omega

/-- six consecutive failures, one per second -/
def sixErrors : List Call :=
  [⟨1 * second, true, 0⟩, ⟨2 * second, true, 0⟩, ⟨3 * second, true, 0⟩,
   ⟨4 * second, true, 0⟩, ⟨5 * second, true, 0⟩, ⟨6 * second, true, 0⟩]

/-- The tidier reading "at most `FastRetryCount` fast retries per `FastRetryWindow`" (comment in
    client/service.go: "the first three retries in 1 minute") is NOT what the code does: with the
    real options, six consecutive failures within six seconds get five fast delays. -/
theorem fast_per_window_count_witness :
    ¬ (fastCount outerOpts (loopStart outerOpts 0) sixErrors ≤ outerOpts.frCount) := by decide

/-! ### executable predicates used by the driver on the implementation's own results -/

/-- the smallest delay any *non-fast* call can return along a run -/
def nonFastFloor (o : Opts) : Nat := min o.duration (cap o (mulFactor o (lowB o)))

theorem step_nonfast_lo_ge (o : Opts) (s : St) (now prev : Nat) (err : Bool)
    (hp : prev = 0 ∨ lowB o ≤ prev) (hk : (step o s now prev err).2.kind ≠ .fast) :
    nonFastFloor o ≤ (step o s now prev err).2.lo := by
  rcases step_out o s now prev err with ⟨k, h⟩ | ⟨_, h⟩ | ⟨r, _, h⟩ <;> rw [h] at hk ⊢
  · exact Nat.min_le_left _ _
  · exact absurd rfl hk
  · exact Nat.le_trans (Nat.min_le_right _ _) (cap_mono o (mulFactor_mono o (slowBase_ge o _ prev hp)))

/-- delays observed along a run that are too short to be anything but a fast retry -/
def shortCount (o : Opts) : List Call → Nat
  | [] => 0
  | c :: cs => (if c.d < nonFastFloor o then 1 else 0) + shortCount o cs

theorem short_le_fast (o : Opts) (wf : WF o) :
    ∀ (cs : List Call) (s : St) (prev : Nat), (prev = 0 ∨ lowB o ≤ prev) → runOk o s prev cs = true →
      shortCount o cs ≤ fastCount o s cs := by
  intro cs
  induction cs with
  | nil => intro s prev _ _; simp [shortCount, fastCount]
  | cons a as ih =>
    intro s prev hp hr
    simp only [runOk, Bool.and_eq_true, decide_eq_true_eq] at hr
    obtain ⟨⟨hlo, _⟩, hrest⟩ := hr
    have hge : lowB o ≤ a.d := Nat.le_trans (step_lo_ge o wf s a.now prev a.err hp) hlo
    have ih' := ih (step o s a.now prev a.err).1 a.d (Or.inr hge) hrest
    rw [step_st_prev] at ih'
    simp only [shortCount, fastCount]
    by_cases hk : (step o s a.now prev a.err).2.kind = .fast
    · rw [step_kind_prev] at hk
      rw [if_pos hk]
      split <;> omega
    · have := step_nonfast_lo_ge o s a.now prev a.err hp hk
      have hns : ¬ a.d < nonFastFloor o := by omega
      rw [if_neg hns]
      omega

/-- **What the driver checks on every delay the real manager returns**: positive, ≥ `lowB`, ≤ `upB` when
    capped. -/
def delayHolds (o : Opts) (d : Nat) : Bool :=
  decide (0 < d) && decide (lowB o ≤ d) && (decide (o.maxDuration = 0) || decide (d ≤ upB o))

theorem delayHolds_sound (o : Opts) (d : Nat) :
    delayHolds o d = true ↔ (0 < d ∧ lowB o ≤ d ∧ (o.maxDuration ≠ 0 → d ≤ upB o)) := by
  simp only [delayHolds, Bool.and_eq_true, Bool.or_eq_true, decide_eq_true_eq, and_assoc, ne_eq,
    Decidable.imp_iff_not_or, Decidable.not_not]

/-- the model satisfies the predicate on every delay it allows -/
theorem model_delayHolds (o : Opts) (wf : WF o) (s : St) (now prev : Nat) (err : Bool)
    (hp : prev = 0 ∨ lowB o ≤ prev) (d : Nat)
    (hlo : (step o s now prev err).2.lo ≤ d) (hhi : d ≤ (step o s now prev err).2.hi) :
    delayHolds o d = true := by
  rw [delayHolds_sound]
  have h1 := Nat.le_trans (step_lo_ge o wf s now prev err hp) hlo
  exact ⟨Nat.lt_of_lt_of_le (lowB_pos o wf) h1, h1, fun hm => Nat.le_trans hhi (step_hi_le o hm s now prev err)⟩

/-- the model satisfies the window predicate: short delays within one window never exceed `2·FastRetryCount` -/
theorem model_shortsHold (o : Opts) (wf : WF o) (a : Nat) (s : St) (prev : Nat) (cs : List Call)
    (hp : prev = 0 ∨ lowB o ≤ prev) (hr : runOk o s prev cs = true)
    (hw : ∀ c ∈ cs, a ≤ c.now ∧ c.now ≤ a + o.frWindow) : shortCount o cs ≤ 2 * o.frCount :=
  Nat.le_trans (short_le_fast o wf cs s prev hp hr) (fast_per_window_le o a s cs hw)

/-! ### the concrete loops of client/service.go and client/control.go -/

theorem outerOpts_wf : WF outerOpts := by decide
theorem loginOpts_wf (m : Nat) : WF (loginOpts m) := by
  unfold WF loginOpts second; simp
theorem pingOpts_wf (i : Nat) (hi : 0 < i) : WF (pingOpts i) := by
  unfold WF pingOpts second; simp; omega

theorem outer_bounds : lowB outerOpts = 200 * milli ∧ upB outerOpts = 20 * second := by decide
theorem login_bounds_20 : lowB (loginOpts (20 * second)) = second ∧ upB (loginOpts (20 * second)) = 20 * second := by decide
theorem login_bounds_10 : lowB (loginOpts (10 * second)) = second ∧ upB (loginOpts (10 * second)) = 10 * second := by decide

theorem loop_delays_between (o : Opts) (wf : WF o) (hm : o.maxDuration ≠ 0) {L U : Nat} (hL : lowB o = L)
    (hU : upB o = U) (t0 : Nat) (cs : List Call) (hr : runOk o (loopStart o t0) 0 cs = true) :
    ∀ c ∈ cs, L ≤ c.d ∧ c.d ≤ U := by
  intro c hc
  have h := loop_delays_bounded o wf t0 cs hr c hc
  exact ⟨hL ▸ h.2.1, hU ▸ h.2.2 hm⟩

/-- keepControllerWorking: every wait between two reconnect rounds is in [200 ms, 20 s] -/
theorem outer_loop_delays (t0 : Nat) (cs : List Call) (hr : runOk outerOpts (loopStart outerOpts t0) 0 cs = true) :
    ∀ c ∈ cs, 200 * milli ≤ c.d ∧ c.d ≤ 20 * second :=
  loop_delays_between outerOpts outerOpts_wf (by decide) outer_bounds.1 outer_bounds.2 t0 cs hr

/-- loopLoginUntilSuccess(20 s): every wait between two login attempts is in [1 s, 20 s] -/
theorem login_loop_delays (t0 : Nat) (cs : List Call)
    (hr : runOk (loginOpts (20 * second)) (loopStart (loginOpts (20 * second)) t0) 0 cs = true) :
    ∀ c ∈ cs, second ≤ c.d ∧ c.d ≤ 20 * second :=
  loop_delays_between _ (loginOpts_wf _) (by decide) login_bounds_20.1 login_bounds_20.2 t0 cs hr

/-- the client's ping sender never waits longer than the configured interval between two pings
    (Duration = MaxDuration = interval), whatever SetPing errors occur -/
theorem ping_gap_le_interval (i : Nat) (hi : 0 < i) (t0 : Nat) (cs : List Call)
    (hr : runOk (pingOpts i) (loopStart (pingOpts i) t0) 0 cs = true) :
    ∀ c ∈ cs, 0 < c.d ∧ c.d ≤ i * second := by
  intro c hc
  have h := loop_delays_bounded _ (pingOpts_wf i hi) t0 cs hr c hc
  have hm : (pingOpts i).maxDuration ≠ 0 := by unfold pingOpts second; simp; omega
  have hu : upB (pingOpts i) = i * second := by
    unfold upB pingOpts; simp
  exact ⟨h.1, hu ▸ h.2.2 hm⟩

/-! ### non-vacuity -/

-- a run of frpc's outer loop that meets `runOk`: fast, fast, slow (re-arming the window), fast
example : WF outerOpts ∧
    runOk outerOpts (loopStart outerOpts 0) 0
      [⟨1 * second, true, 250 * milli⟩, ⟨2 * second, true, 200 * milli⟩, ⟨3 * second, true, 440 * milli⟩,
       ⟨4 * second, true, 300 * milli⟩] = true := by decide

-- … and a delay outside the interval is rejected by `runOk` (the predicate is not trivially true)
example : runOk outerOpts (loopStart outerOpts 0) 0 [⟨1 * second, true, 100 * milli⟩] = false := by decide

-- the window hypothesis of `fast_per_window_le` is met by `sixErrors` (a = 1 s), and the bound 2·3 is not vacuous: 5 are used
example : (∀ c ∈ sixErrors, 1 * second ≤ c.now ∧ c.now ≤ 1 * second + outerOpts.frWindow) ∧
    fastCount outerOpts (loopStart outerOpts 0) sixErrors = 5 := by decide

-- an option set outside WF really produces a zero delay (why WF is needed): Factor 3/4, Init 1 ns
example : (step { outerOpts with facNum := 3, facDen := 4, initIfFail := 1, frCount := 0 }
            (loopStart outerOpts 0) 5 0 true).2.hi = 0 := by decide

end PartA

/-! ## Part B — heartbeat watchdogs -/

section PartB
open Watchdog

theorem wstep_closed (c : Cfg) (s : St) (t : Nat) (e : Ev) (h : s.closed.isSome = true) : step c s t e = s := by
  cases e with
  | beat v => cases v <;> simp only [step, h, if_true]
  | check => simp only [step, h, if_true]

/-! what the three events do to an open session -/

theorem wstep_beat_true {c : Cfg} {s : St} {t : Nat} (h0 : s.closed = none) :
    step c s t (.beat true) = { s with last := t } := by
  simp only [step, h0, Option.isSome_none, Bool.false_eq_true, if_false]

theorem wstep_beat_false {c : Cfg} {s : St} {t : Nat} (h0 : s.closed = none) :
    step c s t (.beat false) = if c.closeOnBad = true then { s with closed := some (t, .badPong) } else s := by
  simp only [step, h0, Option.isSome_none, Bool.false_eq_true, if_false]

theorem wstep_check {c : Cfg} {s : St} {t : Nat} (h0 : s.closed = none) :
    step c s t .check =
      if c.enabled = true ∧ t - s.last > c.T then { s with closed := some (t, .timeout) } else s := by
  simp only [step, h0, Option.isSome_none, Bool.false_eq_true, if_false]

theorem run_closed (c : Cfg) : ∀ (es : List (Nat × Ev)) (s : St), s.closed.isSome = true → run c s es = s := by
  intro es
  induction es with
  | nil => intro s _; rfl
  | cons x xs ih =>
    intro s h
    obtain ⟨t, e⟩ := x
    simp only [run]
    rw [wstep_closed c s t e h]
    exact ih s h

/-- **No false positive (soundness of a liveness closure).**  For every event history: if the
    watchdog closed the session at time `t` for liveness reasons, the checker is enabled and strictly
    more than `T` has passed since the last *valid* heartbeat (`last` is only ever written by a valid
    one, see `step`). -/
theorem close_sound (c : Cfg) : ∀ (es : List (Nat × Ev)) (s : St) (t : Nat), s.closed = none →
    (run c s es).closed = some (t, .timeout) → c.enabled = true ∧ (run c s es).last + c.T < t := by
  intro es
  induction es with
  | nil => intro s t h0 h; rw [run, h0] at h; cases h
  | cons x xs ih =>
    intro s t h0 h
    obtain ⟨u, e⟩ := x
    simp only [run] at h ⊢
    cases e with
    | beat v =>
      cases v with
      | true => rw [wstep_beat_true h0] at h ⊢; exact ih _ t h0 h
      | false =>
        rw [wstep_beat_false h0] at h ⊢
        split at h
        · rw [run_closed c xs _ rfl] at h; cases h
        · rw [if_neg ‹_›]; exact ih s t h0 h
    | check =>
      rw [wstep_check h0] at h ⊢
      split at h
      · rename_i hc
        rw [if_pos hc, run_closed c xs _ rfl]
        rw [run_closed c xs _ rfl] at h
        cases h
        exact ⟨hc.1, by show s.last + c.T < t; omega⟩
      · rw [if_neg ‹_›]; exact ih s t h0 h

/-- the peer keeps sending valid heartbeats: no event of the history (in particular no check) is
    later than `I` after the most recent valid heartbeat -/
def fed (I : Nat) : Nat → List (Nat × Ev) → Bool
  | _, [] => true
  | last, (t, .beat true) :: es => decide (t ≤ last + I) && fed I t es
  | last, (t, _) :: es => decide (t ≤ last + I) && fed I last es

def noBad (es : List (Nat × Ev)) : Prop := ∀ x ∈ es, x.2 ≠ .beat false

instance (es : List (Nat × Ev)) : Decidable (noBad es) := by unfold noBad; exact inferInstance

/-- a Pong carrying an error / a rejected ping that the hypotheses of the theorems below allow changes nothing -/
theorem wstep_bad_allowed {c : Cfg} {s : St} {u : Nat} {xs : List (Nat × Ev)} (h0 : s.closed = none)
    (hb : c.closeOnBad = true → noBad ((u, .beat false) :: xs)) : step c s u (.beat false) = s := by
  rw [wstep_beat_false h0, if_neg]
  exact fun h => hb h _ List.mem_cons_self rfl

theorem noBad_tail {c : Cfg} {x : Nat × Ev} {xs : List (Nat × Ev)} (hb : c.closeOnBad = true → noBad (x :: xs)) :
    c.closeOnBad = true → noBad xs :=
  fun h y hy => hb h y (List.mem_cons_of_mem _ hy)

/-- **A fed watchdog never fires.**  Valid heartbeats at any spacing `I ≤ T` (in particular the
    configured interval, see `ping_gap_le_interval`) keep the session open for the whole history,
    whatever else happens (on the server: invalid pings in between are harmless). -/
theorem alive_of_fed (c : Cfg) (I : Nat) (hI : I ≤ c.T) :
    ∀ (es : List (Nat × Ev)) (s : St), s.closed = none → (c.closeOnBad = true → noBad es) →
      fed I s.last es = true → (run c s es).closed = none := by
  intro es
  induction es with
  | nil => intro s h0 _ _; exact h0
  | cons x xs ih =>
    intro s h0 hb hf
    obtain ⟨u, e⟩ := x
    simp only [run]
    cases e with
    | beat v =>
      cases v with
      | true =>
        simp only [fed, Bool.and_eq_true] at hf
        rw [wstep_beat_true h0]; exact ih _ h0 (noBad_tail hb) hf.2
      | false =>
        simp only [fed, Bool.and_eq_true] at hf
        rw [wstep_bad_allowed h0 hb]; exact ih s h0 (noBad_tail hb) hf.2
    | check =>
      simp only [fed, Bool.and_eq_true, decide_eq_true_eq] at hf
      rw [wstep_check h0, if_neg (by omega)]
      exact ih s h0 (noBad_tail hb) hf.2

/-- no valid heartbeat in the history -/
def silent (es : List (Nat × Ev)) : Prop := ∀ x ∈ es, x.2 ≠ .beat true

instance (es : List (Nat × Ev)) : Decidable (silent es) := by unfold silent; exact inferInstance

/-- the checker fires at least every `P` (1 s + scheduling slack): each check is at most `P` after
    the previous one (`pc` = time of the previous check) -/
def checksRegular (P : Nat) : Nat → List (Nat × Ev) → Bool
  | _, [] => true
  | pc, (t, .check) :: es => decide (t ≤ pc + P) && checksRegular P t es
  | pc, (_, .beat _) :: es => checksRegular P pc es

/-- **Silence is detected at the first check after the timeout.**  From an open session whose
    last valid heartbeat was at `s.last`, with the checker enabled and firing at least every `P`, the
    previous check having been in time (`pc ≤ s.last + T`): if the peer stays silent (invalid pings
    allowed on the server) and the history reaches a check later than `s.last + T`, the session is
    closed for liveness at a time in `(last + T, last + T + P]`. -/
theorem detect (c : Cfg) (P : Nat) (hen : c.enabled = true) :
    ∀ (es : List (Nat × Ev)) (s : St) (pc : Nat), s.closed = none → silent es →
      (c.closeOnBad = true → noBad es) → checksRegular P pc es = true → pc ≤ s.last + c.T →
      (∃ x ∈ es, x.2 = .check ∧ s.last + c.T < x.1) →
      ∃ t, (run c s es).closed = some (t, .timeout) ∧ (run c s es).last = s.last ∧
        s.last + c.T < t ∧ t ≤ s.last + c.T + P := by
  intro es
  induction es with
  | nil => intro s pc _ _ _ _ _ hex; obtain ⟨x, hx, _⟩ := hex; cases hx
  | cons x xs ih =>
    intro s pc h0 hsil hb hreg hpc hex
    obtain ⟨u, e⟩ := x
    have hsil' : silent xs := fun y hy => hsil y (List.mem_cons_of_mem _ hy)
    obtain ⟨y, hy, hy2, hy3⟩ := hex
    simp only [run]
    cases e with
    | beat v =>
      -- the late check is further down the history
      have hex' : ∃ x ∈ xs, x.2 = .check ∧ s.last + c.T < x.1 := by
        rcases List.mem_cons.1 hy with h | h
        · subst h; cases hy2
        · exact ⟨y, h, hy2, hy3⟩
      cases v with
      | true => exact absurd rfl (hsil (u, .beat true) List.mem_cons_self)
      | false =>
        rw [wstep_bad_allowed h0 hb]
        exact ih s pc h0 hsil' (noBad_tail hb) hreg hpc hex'
    | check =>
      simp only [checksRegular, Bool.and_eq_true, decide_eq_true_eq] at hreg
      rw [wstep_check h0]
      by_cases hc : u - s.last > c.T
      · rw [if_pos ⟨hen, hc⟩, run_closed c xs _ rfl]
        exact ⟨u, rfl, rfl, by omega, by omega⟩
      · rw [if_neg (fun h => hc h.2)]
        refine ih s u h0 hsil' (noBad_tail hb) hreg.2 (by omega) ?_
        rcases List.mem_cons.1 hy with h | h
        · subst h; simp only at hy3; omega
        · exact ⟨y, h, hy2, hy3⟩

/-- **Invalid pings do not count (server, heartbeat auth scope on).**  A ping that fails the plugin
    chain or `VerifyPing` changes nothing: the history with the invalid pings removed ends in the
    same state. -/
theorem invalid_ping_ignored (c : Cfg) (hc : c.closeOnBad = false) :
    ∀ (es : List (Nat × Ev)) (s : St),
      run c s (es.filter (fun x => decide (x.2 ≠ .beat false))) = run c s es := by
  intro es
  induction es with
  | nil => intro s; rfl
  | cons x xs ih =>
    intro s
    obtain ⟨u, e⟩ := x
    by_cases he : e = .beat false
    · subst he
      have hs : step c s u (.beat false) = s := by
        simp only [Watchdog.step, hc, Bool.false_eq_true, if_false]
        split <;> rfl
      simp only [List.filter, run, hs]
      simpa using ih s
    · have : decide ((u, e).2 ≠ Ev.beat false) = true := by simpa using he
      simp only [List.filter, this, run]
      exact ih _

/-- **Pong with error closes (client).** -/
theorem bad_pong_closes (c : Cfg) (hc : c.closeOnBad = true) (s : St) (h0 : s.closed = none) (t : Nat)
    (es : List (Nat × Ev)) : (run c s ((t, .beat false) :: es)).closed = some (t, .badPong) := by
  rw [run, wstep_beat_false h0, if_pos hc, run_closed c es _ rfl]

/-- **Disabled means disabled.**  Without the checker (timeout ≤ 0, or on the client interval ≤ 0)
    no history ends in a liveness closure. -/
theorem disabled_never_times_out (c : Cfg) (hd : c.enabled = false) (es : List (Nat × Ev)) (s : St)
    (h0 : s.closed = none) (t : Nat) : (run c s es).closed ≠ some (t, .timeout) := by
  intro h
  have := (close_sound c es s t h0 h).1
  rw [hd] at this; cases this

/-- **What the driver checks on every real watchdog scenario**: the session was closed at `c`
    with `last + T < c ≤ last + T + P + slack` (`early` = clock-read tolerance of the harness), or it is
    still open and the allowed detection time has not passed at `horizon`. -/
def detectHolds (T P slack early last : Nat) (closedAt : Option Nat) (horizon : Nat) : Bool :=
  match closedAt with
  | some c => decide (last + T < c + early) && decide (c ≤ last + T + P + slack)
  | none => decide (horizon ≤ last + T + P + slack)

theorem detectHolds_sound (T P slack early last : Nat) (closedAt : Option Nat) (horizon : Nat) :
    detectHolds T P slack early last closedAt horizon = true ↔
      match closedAt with
      | some c => last + T < c + early ∧ c ≤ last + T + P + slack
      | none => horizon ≤ last + T + P + slack := by
  unfold detectHolds
  cases closedAt <;> simp

/-- the model's closure time satisfies the predicate (from `detect`) -/
theorem model_detectHolds (c : Cfg) (P slack early : Nat) (hen : c.enabled = true)
    (es : List (Nat × Ev)) (s : St) (pc : Nat) (h0 : s.closed = none) (hs : silent es)
    (hb : c.closeOnBad = true → noBad es) (hreg : checksRegular P pc es = true) (hpc : pc ≤ s.last + c.T)
    (hex : ∃ x ∈ es, x.2 = .check ∧ s.last + c.T < x.1) (h : Nat) :
    detectHolds c.T P slack early s.last ((run c s es).closed.map (·.1)) h = true := by
  obtain ⟨t, ht, _, h1, h2⟩ := detect c P hen es s pc h0 hs hb hreg hpc hex
  rw [ht, detectHolds_sound]
  simp only [Option.map]
  omega

/-- configuration: what `Complete` + `heartbeatWorker` make of the settings (seconds; 0 = unset) -/
theorem defaults :
    -- tcpMux on (the default): application heartbeats are off on both ends
    (serverCfg (serverComplete true 0) 1000).enabled = false ∧
    (clientCfg (clientComplete true 0 0).1 (clientComplete true 0 0).2 1000).enabled = false ∧
    clientPings (clientComplete true 0 0).1 = false ∧
    -- tcpMux off: 30 s / 90 s
    serverCfg (serverComplete false 0) 1000 = { enabled := true, T := 90000, closeOnBad := false } ∧
    clientCfg (clientComplete false 0 0).1 (clientComplete false 0 0).2 1000
      = { enabled := true, T := 90000, closeOnBad := true } ∧
    clientComplete false 0 0 = (30, 90) ∧
    -- explicit values survive, tcpMux or not
    serverComplete true 7 = 7 ∧ clientComplete true 5 9 = (5, 9) := by decide

/-- any non-positive server timeout disables the server watchdog; any positive one enables it -/
theorem server_enabled_iff (timeoutSec : Int) (u : Nat) : (serverCfg timeoutSec u).enabled = true ↔ 0 < timeoutSec := by
  simp [serverCfg]

theorem client_enabled_iff (i t : Int) (u : Nat) : (clientCfg i t u).enabled = true ↔ (0 < i ∧ 0 < t) := by
  simp [clientCfg]

/-! ### non-vacuity -/

-- `detect`: server, timeout 2 s (ms units), checks every second, an invalid ping in between
example :
    let c := serverCfg 2 1000
    let es : List (Nat × Ev) := [(1000, .check), (1500, .beat false), (2000, .check), (3000, .check), (4000, .check)]
    c.enabled = true ∧ checksRegular 1000 0 es = true ∧ (∃ x ∈ es, x.2 = .check ∧ 0 + c.T < x.1) ∧
      (run c { last := 0 } es).closed = some (3000, .timeout) := by
  refine ⟨by decide, by decide, ⟨(3000, .check), by decide, rfl, by decide⟩, by decide⟩

-- `alive_of_fed`: valid pings every 1.5 s against a 2 s timeout, checked every second for 6 s
example :
    let c := serverCfg 2 1000
    let es : List (Nat × Ev) := [(1000, .check), (1500, .beat true), (2000, .check), (3000, .beat true),
      (3000, .check), (4000, .check), (4500, .beat true), (5000, .check), (6000, .check)]
    fed 2000 0 es = true ∧ (run c { last := 0 } es).closed = none := by decide

-- the same history without the pings is closed: the watchdog is not trivially quiet
example :
    (run (serverCfg 2 1000) { last := 0 } [(1000, .check), (2000, .check), (3000, .check)]).closed
      = some (3000, .timeout) := by decide

-- exactly `timeout` of silence is not yet a timeout (`>` in the Go code)
example : (run (serverCfg 2 1000) { last := 0 } [(2000, .check)]).closed = none := by decide

end PartB

/-! ## Part C — the two nested login loops of client/service.go -/

section PartC
open Backoff Reconnect

def prevOk (L : Nat) (x : Option (Backoff.St × Nat)) : Prop := ∀ m p, x = some (m, p) → p = 0 ∨ L ≤ p

/-- the remembered `previousDuration`s of both loops are 0 or at least the loop's lower bound -/
def RInv (s : Reconnect.St) : Prop := prevOk second s.inner ∧ prevOk (200 * milli) s.outer

theorem innerOpts_facts (s : Reconnect.St) :
    WF (innerOpts s) ∧ lowB (innerOpts s) = second ∧ (innerOpts s).maxDuration ≠ 0 ∧
      upB (innerOpts s) ≤ 20 * second := by
  unfold innerOpts
  cases s.initial <;> decide

theorem prevOk_none (L : Nat) : prevOk L none := nofun

theorem prevOk_some {L d : Nat} {m : Backoff.St} (h : d = 0 ∨ L ≤ d) : prevOk L (some (m, d)) := by
  intro m' p hp; cases hp; exact h

theorem RInv_init : RInv Reconnect.init := ⟨prevOk_none _, prevOk_none _⟩

/-- **Re-login pacing, all histories.**  Whatever happened before (any state satisfying the
    invariant, which `init` does and every step preserves): after a refused login the client waits
    between 1 s and 20 s before the next attempt; after a session that ended it waits between 200 ms
    and 20 s — except the very first time, when `keepControllerWorking` re-logins at once. -/
theorem relogin_wait (s : Reconnect.St) (hinv : RInv s) (now : Nat) (e : Reconnect.Ev) (d : Nat)
    (hlo : (Reconnect.step s now e d).2.lo ≤ d) (hhi : d ≤ (Reconnect.step s now e d).2.hi) :
    RInv (Reconnect.step s now e d).1 ∧ d ≤ 20 * second ∧
      (e = .refused → second ≤ d) ∧
      (e = .sessionEnded → (s.outer = none ∧ d = 0) ∨ 200 * milli ≤ d) := by
  obtain ⟨hin, hout⟩ := hinv
  cases e with
  | refused =>
    obtain ⟨wf, hl, hm, hu⟩ := innerOpts_facts s
    -- the manager of the running login loop and its last delay; a fresh loop starts from delay 0
    have hprev : (s.inner.getD (loopStart (innerOpts s) now, 0)).2 = 0 ∨
        second ≤ (s.inner.getD (loopStart (innerOpts s) now, 0)).2 := by
      cases hi : s.inner with
      | none => exact Or.inl rfl
      | some mp => exact hin mp.1 mp.2 hi
    simp only [Reconnect.step] at hlo hhi ⊢
    generalize s.inner.getD (loopStart (innerOpts s) now, 0) = mp at hlo hhi hprev ⊢
    obtain ⟨m, prev⟩ := mp
    have h1 : second ≤ d := Nat.le_trans (hl ▸ step_lo_ge (innerOpts s) wf m now prev true (hl ▸ hprev)) hlo
    have h2 : d ≤ 20 * second := Nat.le_trans hhi (Nat.le_trans (step_hi_le (innerOpts s) hm m now prev true) hu)
    exact ⟨⟨prevOk_some (Or.inr h1), hout⟩, h2, fun _ => h1, nofun⟩
  | sessionEnded =>
    cases ho : s.outer with
    | none =>
      simp only [Reconnect.step, ho] at hlo hhi ⊢
      have hd : d = 0 := Nat.le_zero.1 hhi
      exact ⟨⟨prevOk_none _, prevOk_some (Or.inl rfl)⟩, by omega, nofun, fun _ => Or.inl ⟨trivial, hd⟩⟩
    | some mp =>
      obtain ⟨m, prev⟩ := mp
      simp only [Reconnect.step, ho] at hlo hhi ⊢
      have hb := outer_bounds
      have h1 : 200 * milli ≤ d :=
        Nat.le_trans (hb.1 ▸ step_lo_ge outerOpts outerOpts_wf m now prev true (hb.1 ▸ hout m prev ho)) hlo
      have h2 : d ≤ 20 * second := Nat.le_trans hhi (hb.2 ▸ step_hi_le outerOpts (by decide) m now prev true)
      exact ⟨⟨prevOk_none _, prevOk_some (Or.inr h1)⟩, h2, nofun, fun _ => Or.inr h1⟩

/-- only the first round of `keepControllerWorking` is immediate: once its loop has started, every
    later session end is followed by a wait of at least 200 ms -/
theorem outer_started_stays (s : Reconnect.St) (now : Nat) (e : Reconnect.Ev) (d : Nat)
    (h : s.outer.isSome = true) : (Reconnect.step s now e d).1.outer.isSome = true := by
  cases e with
  | refused =>
    cases hi : s.inner <;> simp [Reconnect.step, hi, h]
  | sessionEnded =>
    cases ho : s.outer with
    | none => rw [ho] at h; cases h
    | some mp => obtain ⟨m, p⟩ := mp; simp [Reconnect.step, ho]

-- WHICH configuration a successful login (re)sends is Part E (Frp/Props/C14Heal.lean): `healed_run`,
-- `login_sends_all` over the model Frp/Model/Rereg.lean of loginFunc / UpdateAllConfigurer.

-- non-vacuity: first session end → immediate; second → a fast retry in [200 ms, 300 ms]
example :
    let s1 := (Reconnect.step Reconnect.init (5 * second) .sessionEnded 0)
    let s2 := (Reconnect.step (Reconnect.loginOk s1.1) (6 * second) .sessionEnded (250 * milli))
    s1.2.hi = 0 ∧ s2.2.lo = 200 * milli ∧ s2.2.hi = 300 * milli := by decide

-- non-vacuity: refused logins are spaced 2 s … 2.2 s, then 4 s … (doubling), inside the 20 s loop
example :
    let s0 := (Reconnect.step Reconnect.init (5 * second) .sessionEnded 0).1
    let r1 := Reconnect.step s0 (5 * second) .refused (2100 * milli)
    let r2 := Reconnect.step r1.1 (7100 * milli) .refused (4300 * milli)
    r1.2.lo = 2 * second ∧ r1.2.hi = 2200 * milli ∧ r2.2.lo = 4200 * milli ∧ r2.2.hi = 4620 * milli := by decide

end PartC

section PartG
open Watchdog

instance (es : List (Nat × Liveness.Ev)) : Decidable (Liveness.noValidBeat es) := by
  unfold Liveness.noValidBeat; exact inferInstance

/-! ## Part G — which events refresh the liveness clock (server/control.go handlePing & co, client/control.go handlePong & co) -/

theorem lstep_closed (p : Liveness.Policy) (c : Cfg) (s : St) (t : Nat) (e : Liveness.Ev)
    (h : s.closed.isSome = true) : Liveness.step p c s t e = s := by
  cases e with
  | beat v => cases v <;> simp [Liveness.step, h]
  | other k => simp [Liveness.step, h]
  | check => simp [Liveness.step, Watchdog.step, h]

theorem lstep_strict_beat {p : Liveness.Policy} (hp : p.strict = true) {c : Cfg} {s : St} {t : Nat} {v : Bool} :
    Liveness.step p c s t (.beat v) = Watchdog.step c s t (.beat v) := by
  have he : p.early = false := by
    simp only [Liveness.Policy.strict, Bool.and_eq_true, Bool.not_eq_true'] at hp; exact hp.1
  cases v with
  | true => rfl
  | false => simp only [Liveness.step, Watchdog.step, he, Bool.false_eq_true, if_false]

theorem lstep_strict_other {p : Liveness.Policy} (hp : p.strict = true) (c : Cfg) {s : St} {t k : Nat} :
    Liveness.step p c s t (.other k) = s := by
  have ho : p.others = [] := by
    simp only [Liveness.Policy.strict, Bool.and_eq_true, List.isEmpty_iff] at hp; exact hp.2
  simp only [Liveness.step, ho, List.contains_nil, Bool.false_eq_true, if_false]
  split <;> rfl

/-- **Only an accepted heartbeat counts.**  Under the strict policy (frp's, see `code_clock_strict`) the
    watchdog's state after ANY history — valid pings, rejected pings, and any other control messages
    in between — is the state of the bare watchdog on the history with the other traffic removed: no
    NewProxy / CloseProxy / NatHole message (server), no ReqWorkConn / NewProxyResp / NatHoleResp
    (client) ever moves the clock.  All theorems of Part B therefore hold whatever else the peer sends. -/
theorem strict_refines (p : Liveness.Policy) (hp : p.strict = true) (c : Cfg) :
    ∀ (es : List (Nat × Liveness.Ev)) (s : St), Liveness.run p c s es = Watchdog.run c s (Liveness.proj es) := by
  intro es
  induction es with
  | nil => intro s; rfl
  | cons x xs ih =>
    intro s
    obtain ⟨t, e⟩ := x
    cases e with
    | beat v => simp only [Liveness.run, Liveness.proj, Watchdog.run, lstep_strict_beat hp]; exact ih _
    | other k => simp only [Liveness.run, Liveness.proj, lstep_strict_other hp]; exact ih _
    | check => simp only [Liveness.run, Liveness.proj, Watchdog.run, Liveness.step]; exact ih _

theorem proj_silent (es : List (Nat × Liveness.Ev)) (h : Liveness.noValidBeat es) : silent (Liveness.proj es) := by
  induction es with
  | nil => intro x hx; cases hx
  | cons y ys ih =>
    obtain ⟨t, e⟩ := y
    have ih := ih fun x hx => h x (List.mem_cons_of_mem _ hx)
    cases e with
    | other k => exact ih
    | check =>
      intro x hx
      rcases List.mem_cons.1 hx with rfl | hh
      · nofun
      · exact ih x hh
    | beat v =>
      intro x hx
      rcases List.mem_cons.1 hx with rfl | hh
      · intro h2; cases h2
        exact h (t, .beat true) List.mem_cons_self rfl
      · exact ih x hh

/-- **Other traffic does not postpone detection.**  Strict policy, checker enabled and firing at least
    every `P`: if the peer sends no VALID heartbeat — but any number of rejected ones and any other
    messages, at any rate — and the history reaches a check later than `last + T`, the session is closed
    for liveness at a time in `(last + T, last + T + P]` (server: `closeOnBad = false`; on the client a
    Pong carrying an error closes even earlier, hence the `noBad` hypothesis there). -/
theorem busy_peer_detected (p : Liveness.Policy) (hp : p.strict = true) (c : Cfg) (P : Nat) (hen : c.enabled = true)
    (es : List (Nat × Liveness.Ev)) (s : St) (pc : Nat) (h0 : s.closed = none)
    (hs : Liveness.noValidBeat es) (hb : c.closeOnBad = true → noBad (Liveness.proj es))
    (hreg : checksRegular P pc (Liveness.proj es) = true) (hpc : pc ≤ s.last + c.T)
    (hex : ∃ x ∈ Liveness.proj es, x.2 = .check ∧ s.last + c.T < x.1) :
    ∃ t, (Liveness.run p c s es).closed = some (t, .timeout) ∧ (Liveness.run p c s es).last = s.last ∧
      s.last + c.T < t ∧ t ≤ s.last + c.T + P := by
  rw [strict_refines p hp]
  exact detect c P hen _ s pc h0 (proj_silent es hs) hb hreg hpc hex

/-- … and never causes a closure: a peer whose valid heartbeats are at most `I ≤ T` apart stays up
    whatever it sends in between -/
theorem busy_peer_alive (p : Liveness.Policy) (hp : p.strict = true) (c : Cfg) (I : Nat) (hI : I ≤ c.T)
    (es : List (Nat × Liveness.Ev)) (s : St) (h0 : s.closed = none)
    (hb : c.closeOnBad = true → noBad (Liveness.proj es)) (hf : fed I s.last (Liveness.proj es) = true) :
    (Liveness.run p c s es).closed = none := by
  rw [strict_refines p hp]
  exact alive_of_fed c I hI _ s h0 hb hf

theorem lstep_lenient (p : Liveness.Policy) (c : Cfg) (hc : c.closeOnBad = false) (s : St) (t : Nat)
    (e : Liveness.Ev) (h0 : s.closed = none) (he : e ≠ .check) :
    Liveness.step p c s t e = if Liveness.refreshes p e = true then { s with last := t } else s := by
  cases e with
  | beat v => cases v <;> simp [Liveness.step, Liveness.refreshes, h0, hc]
  | other k => simp [Liveness.step, Liveness.refreshes, h0]
  | check => exact absurd rfl he

/-- **Any other policy breaks the clause.**  Whatever the policy counts as a sign of life keeps the
    session open: if every event is at most `I ≤ T` after the most recent REFRESHING one (`fedBy`), no
    history ends in a closure — with `early` the rejected pings of a peer without the key are enough,
    with a kind in `others` a stream of CloseProxy for unknown names / of ReqWorkConn is. -/
theorem lenient_never_closes (p : Liveness.Policy) (c : Cfg) (hc : c.closeOnBad = false) (I : Nat) (hI : I ≤ c.T) :
    ∀ (es : List (Nat × Liveness.Ev)) (s : St), s.closed = none → Liveness.fedBy p I s.last es = true →
      (Liveness.run p c s es).closed = none := by
  intro es
  induction es with
  | nil => intro s h0 _; exact h0
  | cons x xs ih =>
    intro s h0 hf
    obtain ⟨u, e⟩ := x
    simp only [Liveness.fedBy, Bool.and_eq_true, decide_eq_true_eq] at hf
    simp only [Liveness.run]
    by_cases he : e = .check
    · subst he
      have hs : Liveness.step p c s u .check = s := by
        show Watchdog.step c s u .check = s
        rw [wstep_check h0, if_neg (by omega)]
      rw [hs]; exact ih s h0 hf.2
    · rw [lstep_lenient p c hc s u e h0 he]
      by_cases hr : Liveness.refreshes p e = true
      · rw [if_pos hr] at hf ⊢; exact ih _ h0 hf.2
      · rw [if_neg hr] at hf ⊢; exact ih _ h0 hf.2

/-- a peer that lost the key / a server that stopped answering, in numbers (ms, T = 1 s, checks every
    second): one accepted heartbeat at 100, then only rejected pings and CloseProxy (kind 5) -/
def busyDeadPeer : List (Nat × Liveness.Ev) :=
  [(100, .beat true), (600, .other 5), (1000, .check), (1100, .beat false), (1600, .other 5), (2000, .check),
   (2100, .beat false), (2600, .other 5), (3000, .check), (3100, .beat false), (3600, .other 5), (4000, .check)]

/-- **Witness: the policy decides.**  On `busyDeadPeer` the strict policy closes the session at the
    check of t = 2000 (the first one later than 100 + 1000); a policy that lets CloseProxy refresh, or
    one that stores the clock before the ping is verified, still has it open at t = 4000 with the
    clock at 3600 / 3100. -/
theorem lenient_witness :
    let c := serverCfg 1 1000
    Liveness.noValidBeat (busyDeadPeer.drop 1) ∧
    (Liveness.run {} c { last := 0 } busyDeadPeer).closed = some (2000, .timeout) ∧
    Liveness.run { others := [5] } c { last := 0 } busyDeadPeer = { last := 3600, closed := none } ∧
    Liveness.run { early := true } c { last := 0 } busyDeadPeer = { last := 3100, closed := none } := by
  decide

/-! ### tie to the source (translate/gen_sessfacts_clock.go, regenerated on every run) -/

/-- kinds = places in registerMsgHandlers; the heartbeat message itself is not an "other" kind -/
def policyOf (refresh : List (String × Bool)) (beat : String) (early : Bool) : Liveness.Policy :=
  { early := early,
    others := ((List.range refresh.length).zip refresh).filterMap
      (fun x => if x.2.2 && x.2.1 != beat then some x.1 else none) }

/-- the server's policy as the code has it: which handlers of server/control.go may store `lastPing`,
    and whether handlePing stores it before the Ping plugins and VerifyPing have accepted the ping -/
def codeServerPolicy : Liveness.Policy :=
  policyOf Gen.SessFacts.serverClockRefresh "Ping" Gen.SessFacts.serverBeatEarly

/-- the client's: which handlers of client/control.go may store `lastPong`, and whether handlePong
    stores it before its `Error != ""` branch -/
def codeClientPolicy : Liveness.Policy :=
  policyOf Gen.SessFacts.clientClockRefresh "Pong" Gen.SessFacts.clientBeatEarly

/-- the kind of a message type on either side (its place in registerMsgHandlers) -/
def kindIn (refresh : List (String × Bool)) (name : String) : Nat :=
  (refresh.findIdx? (fun x => x.1 == name)).getD refresh.length

/-- in the source at hand: `lastPing` is stored by NewControl and by handlePing only, after
    pluginManager.Ping and VerifyPing and after the rejection branch; `lastPong` by NewControl and by
    handlePong only, after the `Error != ""` branch; no other function of either package stores them -/
theorem code_clock_strict :
    codeServerPolicy.strict = true ∧ codeClientPolicy.strict = true ∧
    Gen.SessFacts.serverBeatRefreshes = true ∧ Gen.SessFacts.clientBeatRefreshes = true ∧
    Gen.SessFacts.serverBeatChecks = ["VerifyPing", "pluginManager.Ping"] ∧
    Gen.SessFacts.clientBeatChecks = ["Error"] ∧
    Gen.SessFacts.serverClockStray = [] ∧ Gen.SessFacts.clientClockStray = [] ∧
    kindIn Gen.SessFacts.clientClockRefresh "ReqWorkConn" = Dispatch.reqKind := by
  decide +kernel

/-- `busy_peer_detected` for the server's policy and watchdog configuration found in the source -/
theorem busy_peer_detected_code (timeoutSec : Int) (u P : Nat) (hen : 0 < timeoutSec)
    (es : List (Nat × Liveness.Ev)) (s : St) (pc : Nat) (h0 : s.closed = none) (hs : Liveness.noValidBeat es)
    (hreg : checksRegular P pc (Liveness.proj es) = true) (hpc : pc ≤ s.last + (serverCfg timeoutSec u).T)
    (hex : ∃ x ∈ Liveness.proj es, x.2 = .check ∧ s.last + (serverCfg timeoutSec u).T < x.1) :
    ∃ t, (Liveness.run codeServerPolicy (serverCfg timeoutSec u) s es).closed = some (t, .timeout) ∧
      s.last + (serverCfg timeoutSec u).T < t ∧ t ≤ s.last + (serverCfg timeoutSec u).T + P := by
  obtain ⟨t, h1, _, h2, h3⟩ :=
    busy_peer_detected codeServerPolicy code_clock_strict.1 (serverCfg timeoutSec u) P
      ((server_enabled_iff timeoutSec u).2 hen) es s pc h0 hs (fun h => by simp [serverCfg] at h) hreg hpc hex
  exact ⟨t, h1, h2, h3⟩

/-! ### non-vacuity -/

-- `busy_peer_detected`: its hypotheses are met by `busyDeadPeer` after the accepted heartbeat
example :
    let c := serverCfg 1 1000
    let es := busyDeadPeer.drop 1
    checksRegular 1000 0 (Liveness.proj es) = true ∧ (0 : Nat) ≤ 100 + c.T ∧
      (∃ x ∈ Liveness.proj es, x.2 = .check ∧ 100 + c.T < x.1) ∧
      (Liveness.run {} c { last := 100 } es).closed = some (2000, .timeout) := by
  refine ⟨by decide, by decide, ⟨(2000, .check), by decide, rfl, by decide⟩, by decide⟩

-- `lenient_never_closes`: `busyDeadPeer` is fed (I = 1000 ≤ T) under the two lenient policies, not under the strict one
example :
    Liveness.fedBy { others := [5] } 1000 0 busyDeadPeer = true ∧
    Liveness.fedBy { early := true } 1000 0 busyDeadPeer = true ∧
    Liveness.fedBy {} 1000 0 busyDeadPeer = false := by decide

end PartG

section PartF
open Dispatch

/-! ## Part F — the dispatcher in front of the client watchdog (pkg/msg/handler.go, client/control.go) -/

theorem wrun_append (c : Watchdog.Cfg) : ∀ (a b : List (Nat × Watchdog.Ev)) (s : Watchdog.St),
    Watchdog.run c s (a ++ b) = Watchdog.run c (Watchdog.run c s a) b := by
  intro a
  induction a with
  | nil => intro b s; rfl
  | cons x xs ih => intro b s; obtain ⟨t, e⟩ := x; simp only [List.cons_append, Watchdog.run]; exact ih b _

theorem drun_append (c : Dispatch.Cfg) : ∀ (a b : List (Nat × Lbl)) (s : Dispatch.St),
    Dispatch.run c s (a ++ b) = Dispatch.run c (Dispatch.run c s a) b := by
  intro a
  induction a with
  | nil => intro b s; rfl
  | cons x xs ih => intro b s; obtain ⟨t, l⟩ := x; simp only [List.cons_append, Dispatch.run]; exact ih b _

theorem run_reads (c : Dispatch.Cfg) (t : Nat) : ∀ (n : Nat) (s : Dispatch.St),
    Dispatch.run c s (List.replicate n (t, Lbl.read)) = reads c t n s := by
  intro n
  induction n with
  | zero => intro s; rfl
  | succ n ih => intro s; simp only [List.replicate, Dispatch.run, reads]; exact ih _

/-- the prompt run is one of the interleavings of the small-step model -/
theorem erun_is_run (c : Dispatch.Cfg) : ∀ (ls : List (Nat × Lbl)) (s : Dispatch.St),
    erun c s ls = Dispatch.run c s (eager c s ls) := by
  intro ls
  induction ls with
  | nil => intro s; rfl
  | cons x xs ih =>
    intro s
    obtain ⟨t, l⟩ := x
    simp only [erun, eager, Dispatch.run]
    rw [drun_append, run_reads]
    exact ih _

theorem dstep_closed {c : Dispatch.Cfg} {s : Dispatch.St} {t : Nat} {l : Lbl} (h : s.wd.closed.isSome = true) :
    Dispatch.step c s t l = s := by
  simp only [Dispatch.step, h, if_true]


theorem dstep_send {c : Dispatch.Cfg} {s : Dispatch.St} {t : Nat} {m : Msg} (h : s.wd.closed.isSome = false) :
    Dispatch.step c s t (.send m) = { s with inbox := s.inbox ++ [m] } := by
  simp only [Dispatch.step, h, Bool.false_eq_true, if_false]

theorem dstep_check {c : Dispatch.Cfg} {s : Dispatch.St} {t : Nat} (h : s.wd.closed.isSome = false) :
    Dispatch.step c s t .check = { s with wd := Watchdog.step c.wd s.wd t .check } := by
  simp only [Dispatch.step, h, Bool.false_eq_true, if_false]

theorem dstep_release {c : Dispatch.Cfg} {s : Dispatch.St} {t w : Nat} (h : s.wd.closed.isSome = false) :
    Dispatch.step c s t (.release w) =
      { s with reader := if s.reader = .waiting w then .idle else s.reader, flying := s.flying.filter (· != w) } := by
  simp only [Dispatch.step, h, Bool.false_eq_true, if_false]

theorem dstep_read_cons {c : Dispatch.Cfg} {s : Dispatch.St} {t : Nat} {m : Msg} {rest : List Msg}
    (h : s.wd.closed.isSome = false) (hr : s.reader = .idle) (hi : s.inbox = m :: rest) :
    Dispatch.step c s t .read = handle c { s with inbox := rest } t m := by
  simp only [Dispatch.step, h, Bool.false_eq_true, if_false, hr, hi]

theorem dstep_read_nil {c : Dispatch.Cfg} {s : Dispatch.St} {t : Nat} (hi : s.inbox = []) :
    Dispatch.step c s t .read = s := by
  cases hr : s.reader <;> simp [Dispatch.step, hr, hi]

theorem dstep_read_waiting {c : Dispatch.Cfg} {s : Dispatch.St} {t w : Nat} (hr : s.reader = .waiting w) :
    Dispatch.step c s t .read = s := by
  simp only [Dispatch.step, hr]
  split <;> rfl

/-- under the strict policy only `handlePong` touches the watchdog -/
theorem handle_wd {c : Dispatch.Cfg} (hp : c.policy.strict = true) (s : Dispatch.St) (t : Nat) (m : Msg) :
    (handle c s t m).wd = match m with
      | .pong v => Watchdog.step c.wd s.wd t (.beat v)
      | _ => s.wd := by
  cases m with
  | pong v => exact lstep_strict_beat hp
  | other k => exact lstep_strict_other hp c.wd
  | reqWork => simp only [handle]; split <;> exact lstep_strict_other hp c.wd

theorem handle_reader {c : Dispatch.Cfg} (ha : c.asyncReq = true) (s : Dispatch.St) (t : Nat) (m : Msg) :
    (handle c s t m).reader = s.reader := by
  cases m with
  | pong v => rfl
  | other k => rfl
  | reqWork => simp only [handle, ha, if_true]

theorem handle_inbox (c : Dispatch.Cfg) (s : Dispatch.St) (t : Nat) (m : Msg) : (handle c s t m).inbox = s.inbox := by
  cases m with
  | pong v => rfl
  | other k => rfl
  | reqWork => simp only [handle]; split <;> rfl

/-! ### every interleaving: the watchdog sees exactly the Pongs that reach `handlePong` -/

theorem wstep_check_last (c : Watchdog.Cfg) (s : Watchdog.St) (t : Nat) :
    (Watchdog.step c s t .check).last = s.last := by
  simp only [Watchdog.step]
  split
  · rfl
  · split <;> rfl

/-- **The watchdog state on any schedule is the bare watchdog run on the delivered heartbeats**
    (strict policy: no other handler stores lastPong). -/
theorem delivered_sound (c : Dispatch.Cfg) (hp : c.policy.strict = true) : ∀ (ls : List (Nat × Lbl)) (s : Dispatch.St),
    (Dispatch.run c s ls).wd = Watchdog.run c.wd s.wd (delivered c s ls) := by
  intro ls
  induction ls with
  | nil => intro s; rfl
  | cons x xs ih =>
    intro s
    obtain ⟨t, l⟩ := x
    simp only [Dispatch.run, delivered]
    rw [wrun_append, ih]
    congr 1
    by_cases hc : s.wd.closed.isSome = true
    · rw [dstep_closed hc, run_closed c.wd _ _ hc]
    · have hc' := Bool.eq_false_iff.2 hc
      cases l with
      | send m => rw [dstep_send hc']; rfl
      | check => rw [dstep_check hc']; rfl
      | release w => rw [dstep_release hc']; rfl
      | read =>
        cases hr : s.reader with
        | waiting w => rw [dstep_read_waiting hr]; rfl
        | idle =>
          cases hi : s.inbox with
          | nil => rw [dstep_read_nil hi]; rfl
          | cons m rest =>
            rw [dstep_read_cons hc' hr hi, handle_wd hp]
            cases m <;> rfl

/-- **No false positive on any schedule, whatever the registration mode.**  If the session was
    closed for liveness at `t`, the checker is on and more than `T` has passed since the last valid
    Pong that reached `handlePong`. -/
theorem close_sound_dispatch (c : Dispatch.Cfg) (hp : c.policy.strict = true) (ls : List (Nat × Lbl))
    (s : Dispatch.St) (t : Nat)
    (h0 : s.wd.closed = none) (h : (Dispatch.run c s ls).wd.closed = some (t, .timeout)) :
    c.wd.enabled = true ∧ (Dispatch.run c s ls).wd.last + c.wd.T < t := by
  rw [delivered_sound c hp] at h ⊢
  exact close_sound c.wd _ s.wd t h0 h

/-! ### the code's registration: the read loop is never occupied -/

theorem async_step_idle (c : Dispatch.Cfg) (ha : c.asyncReq = true) (s : Dispatch.St) (t : Nat) (l : Lbl)
    (h : s.reader = .idle) : (Dispatch.step c s t l).reader = .idle := by
  by_cases hc : s.wd.closed.isSome = true
  · rw [dstep_closed hc]; exact h
  · have hc' := Bool.eq_false_iff.2 hc
    cases l with
    | send m => rw [dstep_send hc']; exact h
    | check => rw [dstep_check hc']; exact h
    | release w => rw [dstep_release hc']; simp only [h]; split <;> rfl
    | read =>
      cases hi : s.inbox with
      | nil => rw [dstep_read_nil hi]; exact h
      | cons m rest =>
        rw [dstep_read_cons hc' h hi, handle_reader ha]; exact h

/-- **With ReqWorkConn registered through `AsyncHandler` the read loop is never inside a handler
    that waits for the peer** — on every schedule, however many work connections sit idle. -/
theorem async_reader_idle (c : Dispatch.Cfg) (ha : c.asyncReq = true) : ∀ (ls : List (Nat × Lbl)) (s : Dispatch.St),
    s.reader = .idle → (Dispatch.run c s ls).reader = .idle := by
  intro ls
  induction ls with
  | nil => intro s h; exact h
  | cons x xs ih => intro s h; obtain ⟨t, l⟩ := x; exact ih _ (async_step_idle c ha s t l h)

/-- … so a `read` always makes progress: the oldest unread message is consumed -/
theorem async_read_progress (c : Dispatch.Cfg) (s : Dispatch.St) (t : Nat) (m : Msg) (rest : List Msg)
    (hr : s.reader = .idle) (h0 : s.wd.closed = none) (hi : s.inbox = m :: rest) :
    (Dispatch.step c s t .read).inbox = rest := by
  rw [dstep_read_cons (by rw [h0]; rfl) hr hi, handle_inbox]

/-- the read loop waits in `ReadMsg` and has nothing unread -/
def Settled (s : Dispatch.St) : Prop := s.reader = .idle ∧ s.inbox = []

theorem proj_cons (t : Nat) (l : Lbl) (ls : List (Nat × Lbl)) : proj ((t, l) :: ls) = proj [(t, l)] ++ proj ls := by
  cases l with
  | send m => cases m <;> rfl
  | read => rfl
  | release w => rfl
  | check => rfl

theorem settle_nil {c : Dispatch.Cfg} {t : Nat} {s : Dispatch.St} (h : s.inbox = []) : settle c t s = s := by
  simp only [settle, h, List.length_nil, reads]

theorem estep_async (c : Dispatch.Cfg) (ha : c.asyncReq = true) (hp : c.policy.strict = true)
    (s : Dispatch.St) (t : Nat) (l : Lbl) (hs : Settled s) :
    Settled (settle c t (Dispatch.step c s t l)) ∧
      (settle c t (Dispatch.step c s t l)).wd = Watchdog.run c.wd s.wd (proj [(t, l)]) := by
  obtain ⟨hr, hi⟩ := hs
  by_cases hc : s.wd.closed.isSome = true
  · rw [dstep_closed hc, settle_nil hi, run_closed c.wd _ _ hc]
    exact ⟨⟨hr, hi⟩, rfl⟩
  · have hc' := Bool.eq_false_iff.2 hc
    cases l with
    | read =>
      rw [dstep_read_nil hi, settle_nil hi]
      exact ⟨⟨hr, hi⟩, rfl⟩
    | release w =>
      rw [dstep_release hc']
      simp only [settle, hi, List.length_nil, reads]
      refine ⟨⟨?_, rfl⟩, rfl⟩
      simp only [hr]; split <;> rfl
    | check =>
      rw [dstep_check hc']
      simp only [settle, hi, List.length_nil, reads]
      exact ⟨⟨hr, rfl⟩, rfl⟩
    | send m =>
      rw [dstep_send hc', hi, List.nil_append]
      have h2 : settle c t { s with inbox := [m] } = handle c { s with inbox := [] } t m := by
        simp only [settle, List.length_cons, List.length_nil, reads]
        exact dstep_read_cons hc' hr rfl
      rw [h2]
      refine ⟨⟨by rw [handle_reader ha]; exact hr, handle_inbox ..⟩, ?_⟩
      rw [handle_wd hp]
      cases m <;> rfl

/-- **With the code's registration the dispatcher is transparent.**  For every history of what the
    server sends (Pongs, ReqWorkConn, anything else), of work connections being used, closed or left
    idle for ever, and of checker firings: a prompt read loop keeps the watchdog in exactly the state
    of the bare watchdog model fed with the Pongs at the moments they were sent.  Work connections do
    not appear on the right-hand side. -/
theorem async_refines_watchdog (c : Dispatch.Cfg) (ha : c.asyncReq = true) (hp : c.policy.strict = true) :
    ∀ (ls : List (Nat × Lbl)) (s : Dispatch.St), Settled s →
      Settled (erun c s ls) ∧ (erun c s ls).wd = Watchdog.run c.wd s.wd (proj ls) := by
  intro ls
  induction ls with
  | nil => intro s hs; exact ⟨hs, rfl⟩
  | cons x xs ih =>
    intro s hs
    obtain ⟨t, l⟩ := x
    obtain ⟨h1, h2⟩ := estep_async c ha hp s t l hs
    obtain ⟨h3, h4⟩ := ih _ h1
    simp only [erun]
    refine ⟨h3, ?_⟩
    rw [proj_cons t l xs, wrun_append, h4, h2]

/-- **A server that keeps answering is never torn down, whatever work connections are idle.**  With
    ReqWorkConn handled asynchronously: if the Pongs the server sends are valid and no event is later
    than `I ≤ T` after the most recent one (`fed`, as in `alive_of_fed`), the session stays open for
    the whole history — any number of ReqWorkConn, none of them ever released, included. -/
theorem fed_never_torn_down (c : Dispatch.Cfg) (ha : c.asyncReq = true) (hp : c.policy.strict = true)
    (I : Nat) (hI : I ≤ c.wd.T)
    (ls : List (Nat × Lbl)) (s : Dispatch.St) (hs : Settled s) (h0 : s.wd.closed = none)
    (hb : c.wd.closeOnBad = true → noBad (proj ls)) (hf : fed I s.wd.last (proj ls) = true) :
    (erun c s ls).wd.closed = none := by
  rw [(async_refines_watchdog c ha hp ls s hs).2]
  exact alive_of_fed c.wd I hI _ _ h0 hb hf

/-- **A server that stops answering Pings is detected whatever else it still sends.**  Code's
    registration and strict policy, prompt read loop, checker enabled and firing at least every `P`: if
    the server sends no valid Pong (and none carrying an error, which closes at once) — but any stream of
    ReqWorkConn, NewProxyResp, NatHoleResp, with work connections used, closed or idle — and the history
    reaches a check later than `lastPong + T`, the session is closed for liveness within
    `(lastPong + T, lastPong + T + P]`. -/
theorem busy_server_detected (c : Dispatch.Cfg) (ha : c.asyncReq = true) (hp : c.policy.strict = true)
    (P : Nat) (hen : c.wd.enabled = true) (ls : List (Nat × Lbl)) (s : Dispatch.St) (pc : Nat)
    (hs : Settled s) (h0 : s.wd.closed = none) (hsil : silent (proj ls)) (hb : noBad (proj ls))
    (hreg : checksRegular P pc (proj ls) = true) (hpc : pc ≤ s.wd.last + c.wd.T)
    (hex : ∃ x ∈ proj ls, x.2 = .check ∧ s.wd.last + c.wd.T < x.1) :
    ∃ t, (erun c s ls).wd.closed = some (t, .timeout) ∧ s.wd.last + c.wd.T < t ∧ t ≤ s.wd.last + c.wd.T + P := by
  rw [(async_refines_watchdog c ha hp ls s hs).2]
  obtain ⟨t, h1, _, h2, h3⟩ := detect c.wd P hen (proj ls) s.wd pc h0 hsil (fun _ => hb) hreg hpc hex
  exact ⟨t, h1, h2, h3⟩

/-- a server whose Pongs stopped after the first one while user connections keep making it send
    ReqWorkConn (ms; interval 1 s, timeout 3 s) -/
def busySilentServer : List (Nat × Lbl) :=
  [(10, .send (.pong true)), (700, .send .reqWork), (1000, .check), (1700, .send .reqWork), (2000, .check),
   (2700, .send .reqWork), (3000, .check), (3700, .send .reqWork), (4000, .check), (4700, .send (.other 1)),
   (5000, .check), (5700, .send .reqWork), (6000, .check), (6700, .send .reqWork), (7000, .check)]

/-- **Witness: on the client too the policy decides.**  On `busySilentServer` the code's (strict) policy
    closes the session at the check of t = 4000 — the first later than 10 + 3000 —, a policy under which
    handleReqWorkConn and handleNewProxyResp store lastPong as well still has it open at t = 7000 with
    the clock at 6700. -/
theorem lenient_client_witness :
    let wd := Watchdog.clientCfg 1 3 1000
    let strict := erun { wd := wd, asyncReq := true } {} busySilentServer
    let lenient := erun { wd := wd, asyncReq := true, policy := { others := [reqKind, 1] } } {} busySilentServer
    silent ((proj busySilentServer).drop 1) ∧
    strict.wd.closed = some (4000, .timeout) ∧ strict.wd.last = 10 ∧
    lenient.wd.closed = none ∧ lenient.wd.last = 6700 := by
  decide

/-! ### a plain ReqWorkConn handler: an idle work connection starves the watchdog -/

/-- the checks of a schedule -/
def checksOf : List (Nat × Lbl) → List (Nat × Watchdog.Ev)
  | [] => []
  | (t, .check) :: ls => (t, .check) :: checksOf ls
  | _ :: ls => checksOf ls

theorem blocked_step (c : Dispatch.Cfg) (s : Dispatch.St) (t : Nat) (l : Lbl) (w : Nat)
    (hr : s.reader = .waiting w) (hl : l ≠ .release w) :
    (Dispatch.step c s t l).reader = .waiting w ∧ (Dispatch.step c s t l).wd.last = s.wd.last := by
  by_cases hc : s.wd.closed.isSome = true
  · rw [dstep_closed hc]; exact ⟨hr, rfl⟩
  · have hc' := Bool.eq_false_iff.2 hc
    cases l with
    | send m => rw [dstep_send hc']; exact ⟨hr, rfl⟩
    | read => rw [dstep_read_waiting hr]; exact ⟨hr, rfl⟩
    | check => rw [dstep_check hc']; exact ⟨hr, wstep_check_last ..⟩
    | release w' =>
      have hne : w ≠ w' := fun h => hl (by rw [h])
      rw [dstep_release hc']
      refine ⟨?_, rfl⟩
      simp only [hr, Reader.waiting.injEq, if_neg hne]

/-- **Occupancy.**  While the read loop sits in a handler that waits on work connection `w` and
    nothing happens on `w`, no schedule delivers anything: `lastPong` keeps its value, whatever the
    server sends. -/
theorem blocked_delivers_nothing (c : Dispatch.Cfg) (w : Nat) : ∀ (ls : List (Nat × Lbl)) (s : Dispatch.St),
    s.reader = .waiting w → (∀ x ∈ ls, x.2 ≠ .release w) →
      (Dispatch.run c s ls).reader = .waiting w ∧ (Dispatch.run c s ls).wd.last = s.wd.last ∧
        delivered c s ls = checksOf ls := by
  intro ls
  induction ls with
  | nil => intro s hr _; exact ⟨hr, rfl, rfl⟩
  | cons x xs ih =>
    intro s hr hn
    obtain ⟨t, l⟩ := x
    obtain ⟨h1, h2⟩ := blocked_step c s t l w hr (hn (t, l) List.mem_cons_self)
    obtain ⟨h3, h4, h5⟩ := ih _ h1 (fun y hy => hn y (List.mem_cons_of_mem _ hy))
    simp only [Dispatch.run, delivered]
    refine ⟨h3, by rw [h4, h2], ?_⟩
    rw [h5]
    cases l <;> simp only [hr, checksOf, List.cons_append, List.nil_append]

theorem mem_checksOf {ls : List (Nat × Lbl)} {x : Nat × Watchdog.Ev} (h : x ∈ checksOf ls) : x.2 = .check := by
  induction ls with
  | nil => cases h
  | cons y ys ih =>
    obtain ⟨t, l⟩ := y
    cases l with
    | check =>
      rcases List.mem_cons.1 h with rfl | h'
      · rfl
      · exact ih h'
    | _ => exact ih h

theorem checksOf_silent (ls : List (Nat × Lbl)) : silent (checksOf ls) ∧ noBad (checksOf ls) := by
  constructor <;> intro x hx h <;> rw [mem_checksOf hx] at h <;> cases h

/-- **The same session with a plain ReqWorkConn handler is torn down although the server answers.**
    From any open state whose read loop waits on work connection `w`: if nothing happens on `w`, the
    checker fires at least every `P` and the history reaches a check later than `lastPong + T`, the
    session is closed for liveness within `(lastPong + T, lastPong + T + P]` — for EVERY sequence of
    Pongs the server sends meanwhile. -/
theorem inline_starves (c : Dispatch.Cfg) (hp : c.policy.strict = true) (P : Nat) (hen : c.wd.enabled = true) (w : Nat)
    (ls : List (Nat × Lbl)) (s : Dispatch.St) (pc : Nat) (hr : s.reader = .waiting w)
    (hn : ∀ x ∈ ls, x.2 ≠ .release w) (h0 : s.wd.closed = none)
    (hreg : checksRegular P pc (checksOf ls) = true) (hpc : pc ≤ s.wd.last + c.wd.T)
    (hex : ∃ x ∈ checksOf ls, x.2 = .check ∧ s.wd.last + c.wd.T < x.1) :
    ∃ t, (Dispatch.run c s ls).wd.closed = some (t, .timeout) ∧
      s.wd.last + c.wd.T < t ∧ t ≤ s.wd.last + c.wd.T + P := by
  rw [delivered_sound c hp, (blocked_delivers_nothing c w ls s hr hn).2.2]
  obtain ⟨t, h1, _, h2, h3⟩ :=
    detect c.wd P hen (checksOf ls) s.wd pc h0 (checksOf_silent ls).1 (fun _ => (checksOf_silent ls).2) hreg hpc hex
  exact ⟨t, h1, h2, h3⟩

/-- the demo in numbers (ms): interval 1 s, timeout 3 s, ONE work connection requested right after the
    login and never used, a Pong every second -/
def idlePoolHistory : List (Nat × Lbl) :=
  [(10, .send (.pong true)), (50, .send .reqWork),
   (1000, .check), (1010, .send (.pong true)), (2000, .check), (2010, .send (.pong true)),
   (3000, .check), (3010, .send (.pong true)), (4000, .check), (4010, .send (.pong true)), (5000, .check)]

/-- **Witness: the registration mode decides.**  On the same history — the server answers every ping
    (`fed` holds with I = 1010 ≤ T = 3000) — the plain registration closes the session at the check of
    t = 4000 with the four later Pongs unread, the code's registration keeps it open with
    lastPong = 4010 and the work connection still idle; once the idle connection is used (`release`)
    the plain variant's queue drains and lastPong jumps to that moment. -/
theorem inline_starves_witness :
    let wd := Watchdog.clientCfg 1 3 1000
    let plain := erun { wd := wd, asyncReq := false } {} idlePoolHistory
    let code := erun { wd := wd, asyncReq := true } {} idlePoolHistory
    let used := erun { wd := wd, asyncReq := false } {} (idlePoolHistory.take 7 ++ [(3500, .release 0), (4000, .check)])
    fed 1010 0 (proj idlePoolHistory) = true ∧
    plain.wd.closed = some (4000, .timeout) ∧ plain.wd.last = 10 ∧ plain.inbox.length = 3 ∧
    code.wd.closed = none ∧ code.wd.last = 4010 ∧ code.flying = [0] ∧ code.inbox = [] ∧
    used.wd.closed = none ∧ used.wd.last = 3500 ∧ used.inbox = [] := by decide

/-! ### tie to the source (translate/gen_sessfacts.go, regenerated on every run) -/

/-- some client handler that waits for the peer runs inside the read loop: it is registered plainly
    (or `AsyncHandler` does not spawn) and the read loop invokes handlers inline -/
def codeClientBlocks : Bool :=
  Gen.SessFacts.readLoopInline &&
    Gen.SessFacts.clientHandlerWaits.any (fun h =>
      h.2 && !((Gen.SessFacts.clientHandlers.lookup h.1).getD false && Gen.SessFacts.asyncSpawns))

/-- the `asyncReq` parameter as the code has it -/
def codeReqAsync : Bool := !codeClientBlocks

/-- in the source at hand: handleReqWorkConn is the one client handler that waits for the peer, it is
    registered through `msg.AsyncHandler`; Pong is handled by a handler that does not wait -/
theorem code_client_dispatch :
    codeReqAsync = true ∧ Gen.SessFacts.clientHandlerWaits.lookup "ReqWorkConn" = some true ∧
      Gen.SessFacts.clientHandlerWaits.lookup "Pong" = some false ∧
      Gen.SessFacts.clientHandlers.lookup "ReqWorkConn" = some true := by
  decide +kernel

/-- `fed_never_torn_down` for the registration found in the source and the client's watchdog
    configuration -/
theorem fed_never_torn_down_code (iv tmo : Int) (u I : Nat) (hI : I ≤ (Watchdog.clientCfg iv tmo u).T)
    (ls : List (Nat × Lbl)) (s : Dispatch.St) (hs : Settled s) (h0 : s.wd.closed = none)
    (hb : noBad (proj ls)) (hf : fed I s.wd.last (proj ls) = true) :
    (erun { wd := Watchdog.clientCfg iv tmo u, asyncReq := codeReqAsync, policy := codeClientPolicy } s ls).wd.closed = none :=
  fed_never_torn_down _ code_client_dispatch.1 code_clock_strict.2.1 I hI ls s hs h0 (fun _ => hb) hf

/-- `busy_server_detected` for the registration and the policy found in the source -/
theorem busy_server_detected_code (iv tmo : Int) (u P : Nat) (hiv : 0 < iv) (htmo : 0 < tmo)
    (ls : List (Nat × Lbl)) (s : Dispatch.St) (pc : Nat)
    (hs : Settled s) (h0 : s.wd.closed = none) (hsil : silent (proj ls)) (hb : noBad (proj ls))
    (hreg : checksRegular P pc (proj ls) = true) (hpc : pc ≤ s.wd.last + (Watchdog.clientCfg iv tmo u).T)
    (hex : ∃ x ∈ proj ls, x.2 = .check ∧ s.wd.last + (Watchdog.clientCfg iv tmo u).T < x.1) :
    ∃ t, (erun { wd := Watchdog.clientCfg iv tmo u, asyncReq := codeReqAsync, policy := codeClientPolicy } s ls).wd.closed
        = some (t, .timeout) ∧
      s.wd.last + (Watchdog.clientCfg iv tmo u).T < t ∧ t ≤ s.wd.last + (Watchdog.clientCfg iv tmo u).T + P :=
  busy_server_detected _ code_client_dispatch.1 code_clock_strict.2.1 P
    ((client_enabled_iff iv tmo u).2 ⟨hiv, htmo⟩) ls s pc hs h0 hsil hb hreg hpc hex

/-! ### non-vacuity -/

-- `fed_never_torn_down`: three requests on login, never used, Pongs every second for 6 s against T = 2 s
example :
    let c : Dispatch.Cfg := { wd := Watchdog.clientCfg 1 2 1000, asyncReq := true }
    let ls : List (Nat × Lbl) :=
      [(5, .send (.pong true)), (20, .send .reqWork), (20, .send .reqWork), (20, .send .reqWork),
       (1000, .check), (1005, .send (.pong true)), (2000, .check), (2005, .send (.pong true)),
       (3000, .check), (3005, .send (.pong true)), (4000, .check), (4005, .send (.pong true)),
       (5000, .check), (5005, .send (.pong true)), (6000, .check)]
    Settled ({} : Dispatch.St) ∧ fed 2000 0 (proj ls) = true ∧ noBad (proj ls) ∧
      (erun c {} ls).wd.closed = none ∧ (erun c {} ls).flying = [0, 1, 2] := by
  refine ⟨⟨rfl, rfl⟩, by decide, by decide, by decide, by decide⟩

-- `inline_starves`: its hypotheses are met by the state after the request of `idlePoolHistory`
example :
    let c : Dispatch.Cfg := { wd := Watchdog.clientCfg 1 3 1000, asyncReq := false }
    let s := erun c {} (idlePoolHistory.take 2)
    let ls := idlePoolHistory.drop 2
    s.reader = .waiting 0 ∧ s.wd.closed = none ∧ s.wd.last = 10 ∧ checksRegular 1000 0 (checksOf ls) = true ∧
      (Dispatch.run c s ls).wd.closed = some (4000, .timeout) := by decide

end PartF

section WrittenTimeout
open Watchdog HbConf

/-! ## Parts B and J together — detection within the WRITTEN timeout -/

/-- **A silent server is detected within the written timeout plus one checker period**, for every written positive
    interval / timeout pair (timeout below, at, between one and two times, or above two times the interval) and
    either tcpMux setting: the client whose configuration went through `Complete` closes at the first check later
    than `last + t`, i.e. in `(last + t, last + t + P]` with `t` the timeout AS WRITTEN. -/
theorem detect_written (mux : Bool) (i t : Int) (u P : Nat) (hi : 0 < i) (ht : 0 < t)
    (es : List (Nat × Ev)) (s : St) (pc : Nat) (h0 : s.closed = none) (hs : silent es) (hb : noBad es)
    (hreg : checksRegular P pc es = true) (hpc : pc ≤ s.last + t.toNat * u)
    (hex : ∃ x ∈ es, x.2 = .check ∧ s.last + t.toNat * u < x.1) :
    ∃ tc, (run (clientCfg (clientComplete mux i t).1 (clientComplete mux i t).2 u) s es).closed = some (tc, .timeout) ∧
      s.last + t.toNat * u < tc ∧ tc ≤ s.last + t.toNat * u + P := by
  rw [client_cfg_written mux i t u hi ht]
  obtain ⟨tc, h1, _, h2, h3⟩ :=
    detect { enabled := true, T := t.toNat * u, closeOnBad := true } P rfl es s pc h0 hs (fun _ => hb) hreg hpc hex
  exact ⟨tc, h1, h2, h3⟩

/-- the same for the statements of `Complete` found in the source -/
theorem detect_written_code (mux : Bool) (i t : Int) (u P : Nat) (hi : 0 < i) (ht : 0 < t)
    (es : List (Nat × Ev)) (s : St) (pc : Nat) (h0 : s.closed = none) (hs : silent es) (hb : noBad es)
    (hreg : checksRegular P pc es = true) (hpc : pc ≤ s.last + t.toNat * u)
    (hex : ∃ x ∈ es, x.2 = .check ∧ s.last + t.toNat * u < x.1) :
    ∃ v, interp Gen.SessFacts.clientHbAssigns mux (i, t) = some v ∧
      ∃ tc, (run (clientCfg v.1 v.2 u) s es).closed = some (tc, .timeout) ∧
        s.last + t.toNat * u < tc ∧ tc ≤ s.last + t.toNat * u + P := by
  refine ⟨(clientComplete mux i t), code_client_complete mux i t, ?_⟩
  exact detect_written mux i t u P hi ht es s pc h0 hs hb hreg hpc hex

/-- **Witness: a `Complete` that raises the timeout to two intervals is late by up to an interval.**  Written
    interval 2 s / timeout 2 s, a server silent from the start, checks every second: the watchdog run with the
    raised value (4 s) closes at 5 s, outside the promised (2 s, 3 s + slack]. -/
theorem raised_timeout_late_witness :
    let es : List (Nat × Ev) := [(1000, .check), (2000, .check), (3000, .check), (4000, .check), (5000, .check)]
    (run (clientCfg 2 4 1000) { last := 0 } es).closed = some (5000, .timeout) ∧
      (run (clientCfg (clientComplete false 2 2).1 (clientComplete false 2 2).2 1000) { last := 0 } es).closed
        = some (3000, .timeout) ∧
      detectHolds 2000 1000 400 30 0 (some 5000) 5000 = false ∧
      detectHolds 2000 1000 400 30 0 (some 3000) 3000 = true := by decide

end WrittenTimeout

end C14
end Frp
