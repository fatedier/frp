import Frp.Props.C12Res
import Frp.Model.SessDisp
/-
  C12 — what the session teardown relies on in the message dispatcher (pkg/msg/handler.go), as theorems about a
  model of the dispatcher.

  `Sess.step … (.dispDone n)` is enabled only when no handler of session `n` is running: every theorem of
  Props/C12.lean / C12Res.lean about the teardown ("a session's proxies belong to a live session", "the previous
  session is completely torn down before the new login is acknowledged", "the client's own earlier registrations never
  block its new ones") rests on it.  `SessDisp` (Model/SessDisp.lean) is the product of the session model with the
  dispatcher as a small-step system — read loop, send loop, Send, Done, the worker's `<-Done()` — in which the worker
  needs nothing but a closed done channel.  Here:

    * (Props/C12DispCode.lean) `dispatcher_code_shape`, `code_cfg_is_frp` — the regenerated facts (Frp/Gen/DispFacts.lean, translate/gen_dispfacts.go):
      `doneCh` is closed in exactly one place, at the top of readLoop's `for` body after a failed ReadMsg and followed by
      `return`; it is handed out by Done() only to `<-` of the two workers; handlers are called by the read loop itself as
      plain statements; Run starts the send loop and the read loop and nothing else; the send loop drops the write error;
    * for a dispatcher of that shape, for EVERY interleaving of the labels of any number of sessions with reads, failed
      reads, Sends from anywhere, writes (failing or not), send-loop exits and workers:
        `done_only_after_read_loop`   Done() fires only after the read loop has returned,
        `no_handler_after_done`       from then on no handler of the session is running and none is ever entered,
        `teardown_without_handler`    while the worker tears the session down no handler of the session is in flight,
        `write_failure_changes_nothing` a failed write changes neither the session tables nor the done channel,
        `disp_refines_sess`           every reachable state of the product is a reachable state of `Sess`: all theorems of
                                      Props/C12.lean and C12Res.lean hold for it (`disp_named_is_live`,
                                      `disp_teardown_releases_all`, `disp_own_run_never_blocks`);
    * witnesses that the hypothesis is needed: with a send loop that closes `doneCh` on a failed write
      (`send_err_stops_orphan_witness`), or with handlers that run outside the read loop (`async_handlers_orphan_witness`),
      a reachable state has a name (and a visitor listener) held by a session that has closed its done channel and been
      deleted — and the client's re-login with the same run id is refused its own name (`…_blocks_own_relogin`).
-/
namespace Frp
namespace C12
open Sess SessDisp

/-! ### two facts about `Sess.step` -/

/-- a closed connection stays closed -/
theorem closed_mono {S S' : Sess.St} {l : Sess.Label} {n : Nat} (h : Sess.step S l = some S')
    (hc : S.closed.get n = true) : S'.closed.get n = true :=
  (step_records h).2.1 n hc

/-- a handler is entered by the labels `regExist` / `closeReq` only: any other label leaves an idle handler idle -/
theorem hp_idle_kept {S S' : Sess.St} {l : Sess.Label} {n : Nat} (h : Sess.step S l = some S')
    (hi : (S.s n).hp = .idle) (hs : startsHandler l ≠ some n) : (S'.s n).hp = .idle := by
  by_cases e : n = l.sid
  · subst e
    rcases (step_records h).2.2 hi with h1 | ⟨p, hp | hp⟩
    · exact h1
    · rw [hp] at hs
      exact absurd rfl hs
    · rw [hp] at hs
      exact absurd rfl hs
  · rw [(step_records h).1 n e]
    exact hi

/-! ### the invariant of the dispatcher -/

/-- done ⇒ the read loop has returned; the read loop has returned ⇒ no handler is running and the connection is closed -/
def DInv (D : SessDisp.St) : Prop :=
  ∀ n, ((D.dr n).done = true → (D.dr n).rdRet = true) ∧
       ((D.dr n).rdRet = true → (D.S.s n).hp = .idle ∧ D.S.closed.get n = true)

@[simp] theorem dr_updD (D : SessDisp.St) (n m : Nat) (f : DRec → DRec) :
    (D.updD n f).dr m = if m = n then f (D.dr n) else D.dr m := by
  simp only [SessDisp.St.dr, SessDisp.St.updD, Tbl.get_set]

@[simp] theorem updD_S (D : SessDisp.St) (n : Nat) (f : DRec → DRec) : (D.updD n f).S = D.S := rfl

@[simp] theorem dr_withS (D : SessDisp.St) (S' : Sess.St) (m : Nat) :
    SessDisp.St.dr { D with S := S' } m = D.dr m := rfl

/-- a session label of the product: the read loop has not returned if the label enters a handler, and the session
    tables move by that label -/
theorem step_sess {c : Cfg} {D D' : SessDisp.St} {sl : Sess.Label} (h : SessDisp.step c D (.sess sl) = some D') :
    ¬ blocked D sl = true ∧ ∃ S', Sess.step D.S sl = some S' ∧ D' = { D with S := S' } := by
  simp only [SessDisp.step] at h
  by_cases hd : isDispDone sl = true
  · simp [hd] at h
  by_cases hb : blocked D sl = true
  · simp [hb] at h
  rw [if_neg hd, if_neg hb] at h
  cases hs : Sess.step D.S sl with
  | none => simp [hs] at h
  | some S' =>
    simp only [hs, Option.map_some, Option.some.injEq] at h
    exact ⟨hb, S', rfl, h.symm⟩

theorem dinv_init : DInv SessDisp.init := by
  intro n
  simp [SessDisp.init, SessDisp.St.dr, Tbl.get, look]

theorem updD_keeps (D : SessDisp.St) (n : Nat) {f : DRec → DRec} (hd : (f (D.dr n)).done = (D.dr n).done)
    (hr : (f (D.dr n)).rdRet = (D.dr n).rdRet) (m : Nat) :
    ((D.updD n f).dr m).done = (D.dr m).done ∧ ((D.updD n f).dr m).rdRet = (D.dr m).rdRet := by
  rw [dr_updD]
  split
  · rename_i e
    rw [e]
    exact ⟨hd, hr⟩
  · exact ⟨rfl, rfl⟩

/-- a write to dispatcher `n` keeps `DInv` if it leaves `done` / `rdRet` alone, or if what `DInv` says of the new
    values holds -/
theorem dinv_updD {D : SessDisp.St} {n : Nat} {f : DRec → DRec} (hI : DInv D)
    (hd : (f (D.dr n)).done = true → (f (D.dr n)).rdRet = true)
    (hr : (f (D.dr n)).rdRet = true → (D.dr n).rdRet = true ∨ ((D.S.s n).hp = .idle ∧ D.S.closed.get n = true)) :
    DInv (D.updD n f) := by
  intro m
  rw [dr_updD, updD_S]
  split
  · rename_i e
    subst e
    exact ⟨hd, fun h => (hr h).elim (hI m).2 id⟩
  · exact hI m

theorem dinv_step {c : Cfg} (hin : c.inline = true) (hse : c.sendErrStops = false)
    {D D' : SessDisp.St} {l : SessDisp.Label} (hI : DInv D) (h : SessDisp.step c D l = some D') : DInv D' := by
  cases l with
  | sess sl =>
    obtain ⟨hb, S', hs, rfl⟩ := step_sess h
    intro n
    refine ⟨(hI n).1, ?_⟩
    intro hr
    have ⟨hi, hc⟩ := (hI n).2 hr
    refine ⟨hp_idle_kept hs hi ?_, closed_mono hs hc⟩
    intro he
    apply hb
    simp only [dr_withS] at hr
    simp [blocked, he, hr]
  | readErr n =>
    simp only [SessDisp.step] at h
    split at h
    · rename_i hg
      cases h
      exact dinv_updD hI (fun _ => rfl) (fun _ => Or.inr ⟨hg.2.2.2 hin, hg.2.1⟩)
    · cases h
  | send n =>
    simp only [SessDisp.step] at h
    split at h
    · cases h
      exact dinv_updD hI (hI n).1 Or.inl
    · cases h
  | write n =>
    simp only [SessDisp.step, hse] at h
    split at h
    · split at h
      · simp only [Bool.false_eq_true, if_false] at h
        cases h
        exact dinv_updD hI (hI n).1 Or.inl
      · cases h
        exact dinv_updD hI (hI n).1 Or.inl
    · cases h
  | sendLoopExit n =>
    simp only [SessDisp.step] at h
    split at h
    · cases h
      exact dinv_updD hI (hI n).1 Or.inl
    · cases h
  | workerDone n =>
    simp only [SessDisp.step] at h
    split at h
    · cases h
      intro m
      refine ⟨(hI m).1, ?_⟩
      intro hr
      have ⟨hi, hc⟩ := (hI m).2 hr
      simp only [dr_withS] at hr
      by_cases hm : m = n
      · subst hm; simp [passDone, hi, hc]
      · simp [passDone, hm, hi, hc]
    · cases h

theorem disp_run_inv {c : Cfg} {P : SessDisp.St → Prop}
    (hP : ∀ {D D' : SessDisp.St} {l : SessDisp.Label}, P D → SessDisp.step c D l = some D' → P D') :
    ∀ {ls : List SessDisp.Label} {D D' : SessDisp.St}, SessDisp.run c D ls = some D' → P D → P D'
  | [], D, D', h, hD => Option.some.inj h ▸ hD
  | l :: ls, D, D', h, hD => by
    simp only [SessDisp.run] at h
    split at h
    · cases h
    · exact disp_run_inv hP h (hP hD ‹_›)

theorem dinv_run {c : Cfg} (hin : c.inline = true) (hse : c.sendErrStops = false) {ls : List SessDisp.Label} :
    ∀ {D D' : SessDisp.St}, SessDisp.run c D ls = some D' → DInv D → DInv D' :=
  disp_run_inv (dinv_step hin hse)

theorem reachable_dinv {c : Cfg} (hin : c.inline = true) (hse : c.sendErrStops = false) {D : SessDisp.St}
    (hR : SessDisp.Reachable c D) : DInv D := by
  obtain ⟨ls, h⟩ := hR
  exact dinv_run hin hse h dinv_init

/-! ### what the teardown relies on -/

/-- **Done() fires only after the read loop has returned** -/
theorem done_only_after_read_loop {c : Cfg} (hin : c.inline = true) (hse : c.sendErrStops = false)
    {D : SessDisp.St} (hR : SessDisp.Reachable c D) {n : Nat} (hd : (D.dr n).done = true) :
    (D.dr n).rdRet = true :=
  (reachable_dinv hin hse hR n).1 hd

/-- **no handler runs after Done**: once the done channel is closed no handler of the session is running, and no
    label that enters a handler of the session is enabled any more -/
theorem no_handler_after_done {c : Cfg} (hin : c.inline = true) (hse : c.sendErrStops = false)
    {D : SessDisp.St} (hR : SessDisp.Reachable c D) {n : Nat} (hd : (D.dr n).done = true) :
    (D.S.s n).hp = .idle ∧
    ∀ sl, startsHandler sl = some n → SessDisp.step c D (.sess sl) = none := by
  have hI := reachable_dinv hin hse hR n
  have hr := hI.1 hd
  refine ⟨(hI.2 hr).1, ?_⟩
  intro sl hs
  simp [SessDisp.step, blocked, hs, hr]

/-- one step of the product is one step of the session model, or leaves the session tables alone -/
theorem refines_step {c : Cfg} {D D' : SessDisp.St} {l : SessDisp.Label} (hI : DInv D)
    (h : SessDisp.step c D l = some D') :
    match proj l with
    | some sl => Sess.step D.S sl = some D'.S
    | none => D'.S = D.S := by
  cases l with
  | sess sl =>
    obtain ⟨-, S', hs, rfl⟩ := step_sess h
    simpa [proj] using hs
  -- the dispatcher's own labels write to the dispatcher record only
  | readErr n | send n | sendLoopExit n =>
    simp only [SessDisp.step] at h
    split at h
    · cases h
      exact rfl
    · cases h
  | write n =>
    simp only [SessDisp.step] at h
    split at h
    · split at h
      · split at h
        · cases h
          exact rfl
        · cases h
          exact rfl
      · cases h
        exact rfl
    · cases h
  | workerDone n =>
    simp only [SessDisp.step] at h
    split at h
    · rename_i hg
      cases h
      have hr := (hI n).1 hg.2
      have ⟨hi, hc⟩ := (hI n).2 hr
      simp [proj, Sess.step, hg.1, hi, hc, passDone]
    · cases h

theorem refines_run {c : Cfg} (hin : c.inline = true) (hse : c.sendErrStops = false) {ls : List SessDisp.Label} :
    ∀ {D D' : SessDisp.St}, SessDisp.run c D ls = some D' → DInv D → Sess.Reachable D.S → Sess.Reachable D'.S := by
  intro D D' h hI hS
  refine (disp_run_inv (P := fun D => DInv D ∧ Sess.Reachable D.S) (fun {D D1 l} a hs => ?_) h ⟨hI, hS⟩).2
  refine ⟨dinv_step hin hse a.1 hs, ?_⟩
  have hr := refines_step a.1 hs
  cases hp : proj l with
  | none =>
    simp only [hp] at hr
    rw [hr]
    exact a.2
  | some sl =>
    simp only [hp] at hr
    exact reachable_step a.2 hr

/-- **the product refines the session model**: whatever the dispatcher, the peers of the proxies (Send) and the
    connection (failing writes) do in between, the session tables only ever move by labels of `Sess` -/
theorem disp_refines_sess {c : Cfg} (hin : c.inline = true) (hse : c.sendErrStops = false) {D : SessDisp.St}
    (hR : SessDisp.Reachable c D) : Sess.Reachable D.S := by
  obtain ⟨ls, h⟩ := hR
  exact refines_run hin hse h dinv_init ⟨[], rfl⟩

/-- **no handler is in flight while the worker tears the session down** (and afterwards) -/
theorem teardown_without_handler {c : Cfg} (hin : c.inline = true) (hse : c.sendErrStops = false) {D : SessDisp.St}
    (hR : SessDisp.Reachable c D) {n : Nat} (hp : (D.S.s n).phase ≠ .running) : (D.S.s n).hp = .idle := by
  have hN := (reachable_inv (disp_refines_sess hin hse hR)).1 n 0
  exact Classical.byContradiction (fun hc => hp (hN.busy_running hc))

/-- a write that fails (the peer is gone while frps has something to say) changes nothing: not the session tables,
    not the done channel, not the read loop -/
theorem write_failure_changes_nothing {c : Cfg} (hse : c.sendErrStops = false) {D D' : SessDisp.St} {n : Nat}
    (h : SessDisp.step c D (.write n) = some D') :
    D'.S = D.S ∧ ∀ m, (D'.dr m).done = (D.dr m).done ∧ (D'.dr m).rdRet = (D.dr m).rdRet := by
  -- with or without the error, the write changes `sendq` and `werrs` of dispatcher `n` and nothing else
  simp only [SessDisp.step, hse] at h
  split at h
  · split at h
    · simp only [Bool.false_eq_true, if_false] at h
      cases h
      exact ⟨rfl, updD_keeps D n rfl rfl⟩
    · cases h
      exact ⟨rfl, updD_keeps D n rfl rfl⟩
  · cases h

/-- a session's proxies belong to a live session — in the product -/
theorem disp_named_is_live {c : Cfg} (hin : c.inline = true) (hse : c.sendErrStops = false) {D : SessDisp.St}
    (hR : SessDisp.Reachable c D) {s p : Nat} (h : D.S.names.get p = some s) :
    (D.S.s s).phase.live = true ∧ ((D.S.s s).hp = .added p ∨ Holds D.S s p) :=
  named_is_live (disp_refines_sess hin hse hR) h

/-- a session that has closed its done channel holds no name, no visitor listener and no nat hole entry — in the product -/
theorem disp_teardown_releases_all {c : Cfg} (hin : c.inline = true) (hse : c.sendErrStops = false) {D : SessDisp.St}
    (hR : SessDisp.Reachable c D) {t : Nat} (hd : (D.S.s t).phase = .done) (p : Nat) :
    D.S.vis.get p ≠ some t ∧ D.S.nat.get p ≠ some t ∧ D.S.names.get p ≠ some t :=
  teardown_releases_all (disp_refines_sess hin hse hR) hd p

/-- the client's own earlier registrations never block its new ones — in the product -/
theorem disp_own_run_never_blocks {c : Cfg} (hin : c.inline = true) (hse : c.sendErrStops = false) {D : SessDisp.St}
    (hR : SessDisp.Reachable c D) {n t p : Nat} (hn : (D.S.s n).phase = .running) (ht : D.S.names.get p = some t)
    (hr : (D.S.s t).rid = (D.S.s n).rid) : t = n :=
  own_run_never_blocks (disp_refines_sess hin hse hR) hn ht hr

/-! ### the hypothesis is needed: witnesses -/

/-- session 1 (run id 7) owns the stcp proxy 1 and is inside the handler of a NewProxy for name 2 (past the Exist check)
    when its connection breaks; a visitor of proxy 1 makes frps write a ReqWorkConn … -/
def orphanPrefix : List SessDisp.Label :=
  [.sess (.login 1 7 false), .sess (.add 1), .sess (.start 1),
   .sess (.regExist 1 1), .sess (.regRun 1 1 .vis true), .sess (.regAdd 1 1), .sess (.regOwn 1 1),
   .sess (.regExist 1 2), .sess (.connClose 1), .send 1]

/-- … the teardown runs over a `ctl.proxies` without name 2, the session is deleted, and THEN the handler goes on -/
def orphanTeardown : List SessDisp.Label :=
  [.workerDone 1, .sess (.drain 1), .sess (.closeProxy 1 1), .sess (.done 1), .sess (.del 1),
   .sess (.regRun 1 2 .vis true), .sess (.regAdd 1 2), .sess (.regOwn 1 2)]

/-- the client logs in again with its run id and registers name 2 again -/
def orphanRelogin : List SessDisp.Label := [.sess (.login 2 7 false), .sess (.add 2), .sess (.start 2)]

/-- the failed write is what ends the dispatcher -/
def sendErrTrace : List SessDisp.Label := orphanPrefix ++ [.write 1] ++ orphanTeardown ++ orphanRelogin

/-- the read loop sees the closed connection while the handler runs elsewhere -/
def asyncTrace : List SessDisp.Label := orphanPrefix ++ [.readErr 1] ++ orphanTeardown ++ orphanRelogin

/-- name 2 and its visitor listener belong to session 1, which has closed its done channel and is gone from the run-id
    table; session 2 of the same run id is acknowledged -/
def orphaned (D : SessDisp.St) : Bool :=
  D.S.names.get 2 == some 1 && D.S.vis.get 2 == some 1 && decide ((D.S.s 1).phase = .done) &&
  (D.S.s 1).deleted && D.S.byRun.get 7 == some 2 && decide ((D.S.s 2).phase = .running)

theorem send_err_stops_orphan_witness :
    (SessDisp.run ⟨true, true⟩ SessDisp.init sendErrTrace).map orphaned = some true := by decide +kernel

theorem async_handlers_orphan_witness :
    (SessDisp.run ⟨false, false⟩ SessDisp.init asyncTrace).map orphaned = some true := by decide +kernel

/-- neither trace is a run of frp's shape: the write changes nothing, and the read loop is inside the handler -/
theorem orphan_traces_not_frp :
    SessDisp.run Cfg.frp SessDisp.init sendErrTrace = none ∧ SessDisp.run Cfg.frp SessDisp.init asyncTrace = none := by
  decide +kernel

/-- in the orphaned state the client's own re-login is refused its own earlier name -/
theorem send_err_stops_blocks_own_relogin :
    (SessDisp.run ⟨true, true⟩ SessDisp.init sendErrTrace).map (fun D => Sess.res D.S (.regExist 2 2)) = some .refused := by
  decide +kernel

theorem async_handlers_blocks_own_relogin :
    (SessDisp.run ⟨false, false⟩ SessDisp.init asyncTrace).map (fun D => Sess.res D.S (.regExist 2 2)) = some .refused := by
  decide +kernel

/-! ### non-vacuity: frp's shape does run, with failed writes in the middle of a handler -/

/-- the same story under frp's shape: the write fails, nothing moves; the handler finishes, THEN the read loop sees the
    error, the worker tears down both proxies, and the re-login registers name 2 -/
def frpTrace : List SessDisp.Label :=
  orphanPrefix ++ [.write 1, .sess (.regRun 1 2 .vis true), .sess (.regAdd 1 2), .sess (.regOwn 1 2), .readErr 1,
    .sendLoopExit 1, .workerDone 1, .sess (.drain 1), .sess (.closeProxy 1 2), .sess (.closeProxy 1 1), .sess (.done 1),
    .sess (.del 1)] ++ orphanRelogin ++ [.sess (.regExist 2 2)]

theorem frp_trace_runs :
    (SessDisp.run Cfg.frp SessDisp.init frpTrace).map
      (fun D => (D.dr 1).werrs == 1 && D.S.names.get 2 == none && D.S.names.get 1 == none && D.S.vis.get 2 == none &&
        decide ((D.S.s 2).hp = .checked 2)) = some true := by decide +kernel

end C12
end Frp
