import Frp.Model.CmdWire
import Frp.Gen.CmdWire
import Frp.Model.CmdSpec
import Frp.Props.C18
/-
  C18, command wiring: every setting that has a command-line flag reaches the configuration the command runs
  with.  `Frp/Gen/CmdWire.lean` is regenerated from cmd/frpc/sub/proxy.go and cmd/frps/root.go on every run.
-/
namespace Frp
namespace C18
open CmdWire Gen.CmdWire

/-! ## the model: own object ⇒ every flag is effective; shared object ⇒ `tls_enable` is not -/

/-- **own configuration object ⇒ `--tls_enable` is effective**: if the object a command's closure runs with was
    registered, and only ever on that command, then whatever value the flag is given is the value the closure
    sees — for every registration list, every command, both values -/
theorem own_config_tls_effective (regs : List Reg) (runCfg : Nat → Nat) (ran : Nat) (v : Bool)
    (hreg : ∃ r ∈ regs, r.cfg = runCfg ran)
    (hown : ∀ r ∈ regs, r.cfg = runCfg ran → r.cmd = ran) :
    seenTLS regs runCfg ran v = v := by
  simp only [seenTLS, enableCell]
  obtain ⟨r, hr, hc⟩ := hreg
  cases h : regs.reverse.find? (fun r => r.cfg = runCfg ran) with
  | none =>
    have := List.find?_eq_none.mp h r (List.mem_reverse.mpr hr)
    simp [hc] at this
  | some x =>
    have hx := List.find?_some h
    have hm := List.mem_of_find?_eq_some h
    simp only [decide_eq_true_eq] at hx
    simp [cellValue, hown x (List.mem_reverse.mp hm) hx]

/-- the same for flags bound by address (these only need the registration, not the exclusiveness) -/
theorem own_config_addr_effective {α : Type} (regs : List Reg) (runCfg : Nat → Nat) (ran : Nat) (v d : α)
    (hreg : ∃ r ∈ regs, r.cmd = ran ∧ r.cfg = runCfg ran) :
    seenAddr regs runCfg ran v d = v := by
  obtain ⟨r, hr, h1, h2⟩ := hreg
  have : regs.any (fun r => r.cmd = ran && r.cfg = runCfg ran) = true :=
    List.any_eq_true.mpr ⟨r, hr, by simp [h1, h2]⟩
  simp [seenAddr, this]

/-- with `ownRegs n` every one of the `n` commands sees its flag -/
theorem ownRegs_tls_effective (n ran : Nat) (v : Bool) (h : ran < n) :
    seenTLS (ownRegs n) id ran v = v := by
  apply own_config_tls_effective
  · exact ⟨⟨ran, ran⟩, List.mem_map.mpr ⟨ran, List.mem_range.mpr h, rfl⟩, rfl⟩
  · intro r hr hc
    obtain ⟨i, _, hi⟩ := List.mem_map.mp hr
    subst hi; exact hc

/-- **one shared object ⇒ the flag is lost** (witness): two commands registered on one object; `--tls_enable=false`
    on the first is not seen by its closure (the object points into the second command's flag set), while the
    address-bound flags still work — the situation a single `clientCfg` outside the per-type loop creates -/
theorem shared_config_tls_witness :
    seenTLS (sharedRegs 2) (fun _ => 0) 0 false = true ∧ seenTLS (sharedRegs 2) (fun _ => 0) 1 false = false ∧
    seenAddr (sharedRegs 2) (fun _ => 0) 0 (7001 : Nat) 7000 = 7001 := by decide

/-- in general: with one shared object only the command registered last sees `--tls_enable=false` -/
theorem shared_config_only_last (n ran : Nat) (h : ran + 1 < n) :
    seenTLS (sharedRegs n) (fun _ => 0) ran false = true := by
  have hn : n = (n - 1) + 1 := by omega
  have hcell : enableCell (sharedRegs n) 0 = some (n - 1) := by
    simp only [enableCell, sharedRegs]
    rw [hn, List.range_succ, List.map_append, List.reverse_append]
    simp
  simp only [seenTLS, hcell, cellValue]
  have : n - 1 ≠ ran := by omega
  simp [this]

/-! ## the source as it stands (regenerated) -/

/-- **every `frpc <type>` / `frpc <type> visitor` sub-command has its own objects**: each object handed to a Run
    closure or to a Register…Flags call in `init()` of cmd/frpc/sub/proxy.go, and each command, is declared
    inside the per-type loop — nothing is shared between sub-commands -/
theorem frpc_subcommands_own_config :
    ∀ s ∈ frpcSites, s.scope = .perCommand ∧ s.cmdScope = .perCommand := by decide

def sitesOf (r : Role) : List Site := frpcSites.filter (·.role = r)

def sCmd : Str := [99, 109, 100]                                                   -- cmd
def sVisitorCmd : Str := [118, 105, 115, 105, 116, 111, 114, 67, 109, 100]         -- visitorCmd
def sRootCmd : Str := [114, 111, 111, 116, 67, 109, 100]                           -- rootCmd

/-- **a command's flags are bound to the very objects its closure runs with**: the proxy command registers the
    common flags and the proxy flags on the objects it passes to NewProxyCommand; the visitor command registers
    the visitor flags on the object it passes to NewVisitorCommand, runs with the same common object, and is a
    child of the proxy command (whose persistent common flags it therefore inherits); the proxy command is added
    to the root command -/
theorem frpc_flags_bound_to_run_objects :
    (∃ c cfg, sitesOf .runProxy = [⟨.runProxy, sCmd, c, .perCommand, .perCommand⟩] ∧
      sitesOf .regProxy = [⟨.regProxy, sCmd, c, .perCommand, .perCommand⟩] ∧
      sitesOf .regClient = [⟨.regClient, sCmd, cfg, .perCommand, .perCommand⟩] ∧
      sitesOf .runClient = [⟨.runClient, sCmd, cfg, .perCommand, .perCommand⟩,
                            ⟨.runClient, sVisitorCmd, cfg, .perCommand, .perCommand⟩]) ∧
    (∃ vc, sitesOf .runVisitor = [⟨.runVisitor, sVisitorCmd, vc, .perCommand, .perCommand⟩] ∧
      sitesOf .regVisitor = [⟨.regVisitor, sVisitorCmd, vc, .perCommand, .perCommand⟩]) ∧
    frpcAdds = [(sCmd, sVisitorCmd), (sRootCmd, sCmd)] := by
  refine ⟨⟨[99], [99, 108, 105, 101, 110, 116, 67, 102, 103], ?_⟩, ⟨[118, 99], ?_⟩, ?_⟩ <;> decide

/-- the registration list `init()` produces for `n` iterations of its loop, read off the regenerated sites: an
    object declared per command gets the iteration number, a shared one the number 0 -/
def regsOfSites (n : Nat) : List Reg :=
  (List.range n).flatMap fun i =>
    (sitesOf .regClient).map fun s => ⟨i, if s.scope = .perCommand then i else 0⟩

/-- the object the closure of the `i`-th proxy command runs with (the visitor command below it runs with the
    same one and parses the same persistent flag set) -/
def runCfgOfSites (i : Nat) : Nat :=
  match sitesOf .runClient with
  | s :: _ => if s.scope = .perCommand then i else 0
  | [] => 0

/-- **`--tls_enable` is effective on every sub-command of the tree as it stands**, for each of the
    `proxyTypes.length` iterations and both values -/
theorem frpc_tls_flag_effective :
    ∀ i, i < proxyTypes.length → ∀ v, seenTLS (regsOfSites proxyTypes.length) runCfgOfSites i v = v := by decide

theorem frpc_addr_flags_effective :
    ∀ i, i < proxyTypes.length → seenAddr (regsOfSites proxyTypes.length) runCfgOfSites i (1 : Nat) 0 = 1 := by decide

def S8 : List Str := [[116, 99, 112], [117, 100, 112], [116, 99, 112, 109, 117, 120], [104, 116, 116, 112],
  [104, 116, 116, 112, 115], [115, 116, 99, 112], [115, 117, 100, 112], [120, 116, 99, 112]]

/-- all eight proxy types have a sub-command, the three visitor types a visitor command -/
theorem frpc_subcommand_types :
    proxyTypes = S8 ∧ visitorTypes = [[115, 116, 99, 112], [115, 117, 100, 112], [120, 116, 99, 112]] := by decide

/-! ### what the commands do with the object: Complete, validate, start -/

def str (s : String) : Str := Str.ofString s

/-- the Run closure of a proxy command: complete the common configuration, validate it, complete the proxy with
    the user, set its type, validate it, start the service with exactly these two objects -/
def expProxyRun : List Str := [
  str "clientCfg.Complete()",
  str "if _, err := validation.ValidateClientCommonConfig(clientCfg); err != nil { fmt.Println(err) os.Exit(1) }",
  str "c.Complete(clientCfg.User)",
  str "c.GetBaseConfig().Type = name",
  str "if err := validation.ValidateProxyConfigurerForClient(c); err != nil { fmt.Println(err) os.Exit(1) }",
  str "err := startService(clientCfg, []v1.ProxyConfigurer{c}, nil, \"\")",
  str "if err != nil { fmt.Println(err) os.Exit(1) }" ]

def expVisitorRun : List Str := [
  str "clientCfg.Complete()",
  str "if _, err := validation.ValidateClientCommonConfig(clientCfg); err != nil { fmt.Println(err) os.Exit(1) }",
  str "c.Complete(clientCfg)",
  str "c.GetBaseConfig().Type = name",
  str "if err := validation.ValidateVisitorConfigurer(c); err != nil { fmt.Println(err) os.Exit(1) }",
  str "err := startService(clientCfg, nil, []v1.VisitorConfigurer{c}, \"\")",
  str "if err != nil { fmt.Println(err) os.Exit(1) }" ]

theorem frpc_run_steps_expected : proxyRun = expProxyRun ∧ visitorRun = expVisitorRun := by
  simp only [expProxyRun, expVisitorRun, str, Str.ofString_eq]
  decide +kernel

/-- frps: the flags are bound to the package-level `serverCfg`; without `-c` RunE completes and validates that
    very object and runs the server with it; with `-c` the loaded file goes through the same validation -/
def expFrpsRunTail : List Str := [
  str "warning, err := validation.ValidateServerConfig(svrCfg)",
  str "if warning != nil { fmt.Printf(\"WARNING: %v\\n\", warning) }",
  str "if err != nil { fmt.Println(err) os.Exit(1) }",
  str "if err := runServer(svrCfg); err != nil { fmt.Println(err) os.Exit(1) }",
  str "return nil" ]

def sElseBranch : Str := str "} else { serverCfg.Complete() svrCfg = &serverCfg }"

theorem frps_flags_reach_run :
    frpsRegObj = str "serverCfg" ∧ frpsRegObjPkgLevel = true ∧
    frpsInit.getLast? = some (str "config.RegisterServerConfigFlags(rootCmd, &serverCfg)") ∧
    frpsRun.drop 3 = expFrpsRunTail ∧
    (∃ s, frpsRun[2]? = some s ∧ sElseBranch.isSuffixOf s = true ∧
      (str "if cfgFile != \"\" { svrCfg, isLegacyFormat, err = config.LoadServerConfig(cfgFile, strictConfigMode)").isPrefixOf s = true) := by
  simp only [expFrpsRunTail, sElseBranch, str, Str.ofString_eq]
  refine ⟨by decide +kernel, by decide, by decide +kernel, by decide +kernel, ?_⟩
  exact ⟨_, rfl, by decide +kernel, by decide +kernel⟩

/-! ## the running commands: one definition, flags or file, the same observable behaviour -/
section Observed
open CmdSpec ProxyMsg Validate

def obsGet (o : Obs) (k : Str) : Value := (Rec.lookupD o k).canon

/-- predicate for the driver, evaluated on what the two real processes did: the process started with flags and
    the process started with the file were observed doing the same, and on every key the definition
    determines that is the value the definition says; `verify` (the `verify -c` sub-command on the same
    file) accepts exactly the definitions that are not to be refused -/
def cmdHoldsOn (spec : Spec) (flagObs fileObs : Obs) (verifyOK : Bool) : Bool :=
  flagObs == fileObs && spec.obs.all (fun kv => obsGet flagObs kv.1 == kv.2.canon) && (verifyOK == !isRej spec)

theorem cmdHoldsOn_sound (spec : Spec) (f c : Obs) (v : Bool) (h : cmdHoldsOn spec f c v = true) :
    f = c ∧ (∀ kv ∈ spec.obs, obsGet f kv.1 = kv.2.canon ∧ obsGet c kv.1 = kv.2.canon) ∧ (v = true ↔ isRej spec = false) := by
  simp only [cmdHoldsOn, Bool.and_eq_true, beq_iff_eq, List.all_eq_true] at h
  obtain ⟨⟨h1, h2⟩, h3⟩ := h
  subst h1
  refine ⟨rfl, fun kv hkv => ⟨h2 kv hkv, h2 kv hkv⟩, ?_⟩
  cases v <;> cases hr : isRej spec <;> simp_all

/-- the specification passes its own predicate (a `prop=FAILS` can only come from the processes) -/
theorem model_cmdHoldsOn (spec : Spec) (hnd : ∀ kv ∈ spec.obs, obsGet spec.obs kv.1 = kv.2.canon) :
    cmdHoldsOn spec spec.obs spec.obs (!isRej spec) = true := by
  simp only [cmdHoldsOn, Bool.and_eq_true, beq_iff_eq, List.all_eq_true, beq_self_eq_true, and_true, true_and]
  exact hnd

/-- **a definition the validator refuses never starts**: the specification of `frps` is a refusal exactly when
    `ValidateServerConfig` reports an error on the completed definition -/
theorem serverSpec_rej_iff (c : Rec Str) :
    isRej (serverSpec c) = true ↔ validateServer (serverViewOf c true) ≠ [] := by
  simp only [serverSpec]
  cases h : validateServer (serverViewOf c true) with
  | nil => simp [isRej]
  | cons e es => simp [isRej]

/-- `frps` refuses a dashboard port outside 0..65535 with or without a `webServer.tls` section, complete or not
    (`web_port_checked`) -/
theorem serverSpec_web_port (c : Rec Str)
    (hp : ¬ (0 ≤ (serverViewOf c true).webPort ∧ (serverViewOf c true).webPort ≤ 65535)) :
    isRej (serverSpec c) = true := by
  rw [serverSpec_rej_iff]
  intro h
  have hb := (server_accept_iff_blocks _).mp h
  have hw : validateWebServer (serverViewOf c true).webTLS (serverViewOf c true).webPort = [] :=
    (web_accept_iff_blocks _ _).mpr ⟨hb.2.2.2.1, hb.2.2.2.2.1⟩
  exact hp (web_port_checked _ _ hw)

/-- a `frpc` definition that `ValidateClientCommonConfig` refuses never starts: its admin port, protocol, log
    level never reach the network -/
theorem clientSpec_rej_of_invalid (v : Bool) (t : Str) (c p : Rec Str)
    (h : validateClientCommon (clientCommonViewOf c true) ≠ []) : isRej (clientSpec v t c p) = true := by
  simp only [clientSpec]
  cases hh : validateClientCommon (clientCommonViewOf c true) with
  | nil => exact absurd hh h
  | cons e es => simp [isRej]

/-- **what `--tls_enable` says is what the wire shows**, on every sub-command of the tree as it stands: the first
    bytes specified for the value the Run closure sees (`CmdWire.seenTLS` on the regenerated registrations) are
    those specified for the value given on the command line -/
theorem wire_follows_tls_flag (proto : Str) :
    ∀ i, i < proxyTypes.length → ∀ v,
      wireOf proto (seenTLS (regsOfSites proxyTypes.length) runCfgOfSites i v) = wireOf proto v := by
  intro i hi v
  rw [frpc_tls_flag_effective i hi v]

/-- without TLS a tcp client starts with the multiplexer, with TLS (the default) with a TLS hello; the two differ -/
theorem wire_tls_distinct : wireOf (S "tcp") true ≠ wireOf (S "tcp") false ∧
    wireOf (S "websocket") true ≠ wireOf (S "websocket") false := by decide +kernel

end Observed

end C18
end Frp
