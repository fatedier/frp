import Frp.Model.HttpRewrite
import Frp.Model.HttpGroup
import Frp.Model.HttpErr
import Frp.Gen.HttpFacts
/-
  C02 (namespace `Frp.C02`): load-balancing groups and the error answer.

  * section Group (Frp/Model/HttpGroup.lean): GROUPING IS TRANSPARENT TO EVERY ROUTE OPTION.  The route a
    load-balancing group registers is the first member's route with only the connection source replaced
    (`group_source_route`: Gen/HttpFacts.groupCarried, read from server/group/http.go, names every option field;
    `group_source_fields`: the field list of vhost.RouteConfig, read from pkg/util/vhost/vhost.go, is exactly
    the modelled options + the three connection functions + regID), hence for EVERY member route, request,
    credentials and answer the backend and the user observe through the group what they observe without it
    (`grouping_transparent`).  A route built field by field is transparent IFF it carries every option field
    (`group_route_by_eq_iff`); the one without RewriteHost loses a declared Host rewrite (`group_drops_rewrite_witness`).
  * section Err (Frp/Model/HttpErr.lean): THE ERROR ANSWER DOES NOT WAIT FOR THE REQUEST BODY.  The not-found sites
    of pkg/util/vhost/http.go do not touch req.Body (`err_source_no_body_read`, regenerated), so the answer is held
    back only by net/http's own post-handler read of at most 256 KiB + 1 bytes: it goes out at once for
    Expect: 100-continue and for ≥ 256 KiB of unread Content-Length body (`err_answer_at_once`; after a failed dial,
    where the Transport closes the body first: `err_dialled_answer_at_once`, `err_dialled_expect_waits_witness`), not later than the
    arrival of the first 256 KiB + 1 bytes whatever follows them and whether or not the body ever ends
    (`err_answer_bound_any_tail`), not later than the end of the body (`err_answer_by_end`).  A handler that drains
    the body first never answers an open stream and has no bound at all (`err_drain_open_stream_hangs`,
    `err_drain_unbounded`).
-/
namespace Frp
namespace C02

section Group
open HttpRewrite HttpGroup

theorem carry_of_mem {α : Type} {carried : List String} {f : String} (h : carried.contains f = true) (v z : α) :
    carry carried f v z = v := by
  unfold carry
  rw [if_pos h]

/-- a field-by-field route that carries every option field is the copy with the connection source replaced -/
theorem group_route_by_all (carried : List String) (h : ∀ f ∈ optionFields, carried.contains f = true)
    (g : Nat) (m : Route) : groupRouteBy carried g m = groupRoute g m := by
  simp only [optionFields, List.forall_mem_cons] at h
  obtain ⟨h1, h2, h3, h4, h5, h6, h7, h8, _⟩ := h
  simp only [groupRouteBy, groupRoute, carry_of_mem h1, carry_of_mem h2, carry_of_mem h3, carry_of_mem h4,
    carry_of_mem h5, carry_of_mem h6, carry_of_mem h7, carry_of_mem h8]

/-- a member route with every option set to something other than Go's zero value (`[1]`, not `[]`), so that a field
    which is not carried shows -/
def fullMember : Route :=
  { rc := { domain := [1], location := [1], routeUser := [1], rewriteHost := [1], headers := [([1], [1])],
            respHeaders := [([1], [1])] }, httpUser := [1], httpPassword := [1], src := .own 0 }

/-- a carried value that differs from the zero value can only come from a listed field; the side condition is
    decided at each use (for `fullMember`: `[] ≠ [1]`, `[] ≠ [([1], [1])]`) -/
theorem mem_of_carry_eq {α : Type} {carried : List String} {f : String} {v z : α}
    (h : carry carried f v z = v) (hne : z ≠ v := by decide) : carried.contains f = true := by
  unfold carry at h
  by_cases hc : carried.contains f = true
  · exact hc
  · rw [if_neg hc] at h; exact absurd h hne

/-- a field-by-field route equals the copy ONLY when it carries every option field (a field that is not carried
    shows on `fullMember`) -/
theorem group_route_by_eq_iff (carried : List String) (g : Nat) :
    (∀ m, groupRouteBy carried g m = groupRoute g m) ↔ ∀ f ∈ optionFields, carried.contains f = true := by
  refine ⟨fun h => ?_, fun h m => group_route_by_all carried h g m⟩
  have e := h fullMember
  simp only [optionFields, List.forall_mem_cons]
  exact ⟨mem_of_carry_eq (congrArg (·.rc.domain) e),
    mem_of_carry_eq (congrArg (·.rc.location) e),
    mem_of_carry_eq (congrArg (·.rc.rewriteHost) e),
    mem_of_carry_eq (congrArg (·.httpUser) e),
    mem_of_carry_eq (congrArg (·.httpPassword) e),
    mem_of_carry_eq (congrArg (·.rc.headers) e),
    mem_of_carry_eq (congrArg (·.rc.respHeaders) e),
    mem_of_carry_eq (congrArg (·.rc.routeUser) e), fun _ hf => nomatch hf⟩

/-- the field list of vhost.RouteConfig read from pkg/util/vhost/vhost.go is what the model contains: the eight
    options, the three connection functions, the registration id -/
theorem group_source_fields :
    Gen.HttpFacts.routeConfigFields = optionFields ++ connFields ++ ["regID"] := rfl

/-- server/group/http.go as read from the source: every option field is carried, only connection functions are
    replaced -/
theorem group_source_carries_all :
    (∀ f ∈ optionFields, Gen.HttpFacts.groupCarried.contains f = true) ∧
    (∀ f ∈ Gen.HttpFacts.groupReplaced, f ∈ connFields) := by decide +kernel

/-- so the route the source builds IS `groupRoute` -/
theorem group_source_route (g : Nat) (m : Route) :
    groupRouteBy Gen.HttpFacts.groupCarried g m = groupRoute g m :=
  group_route_by_all _ group_source_carries_all.1 g m

/-- GROUPING IS TRANSPARENT TO EVERY ROUTE OPTION: through the group's route (as the source builds it) the router
    key, the credentials check, what the backend receives and what the user receives are those of the member's own
    route — for all members, groups, requests, credentials, peers, answers -/
theorem grouping_transparent (g : Nat) (m : Route) (q : Req) (user pass ip : Str) (resp : Resp) :
    let gr := groupRouteBy Gen.HttpFacts.groupCarried g m
    (gr.rc.domain, gr.rc.location, gr.rc.routeUser) = (m.rc.domain, m.rc.location, m.rc.routeUser) ∧
    authOk gr user pass = authOk m user pass ∧
    exchange gr q user pass ip resp = exchange m q user pass ip resp := by
  simp only [group_source_route]
  exact ⟨rfl, rfl, rfl⟩

/-- what a later member of a group gets is what the first one got (members of one group carry the same options) -/
theorem grouping_member_independent (g : Nat) (m m' : Route) (h : m.rc = m'.rc ∧ m.httpUser = m'.httpUser ∧
    m.httpPassword = m'.httpPassword) (q : Req) (user pass ip : Str) (resp : Resp) :
    exchange (groupRouteBy Gen.HttpFacts.groupCarried g m) q user pass ip resp = exchange m' q user pass ip resp := by
  rw [(grouping_transparent g m q user pass ip resp).2.2]
  obtain ⟨rc, u, p, s⟩ := m
  obtain ⟨rc', u', p', s'⟩ := m'
  obtain ⟨h1, h2, h3⟩ := h
  simp only at h1 h2 h3
  subst h1 h2 h3
  rfl

def rwMember : Route :=
  { rc := { domain := Str.ofString "g.example.com", location := [], routeUser := [], rewriteHost := Str.ofString "internal.local",
            headers := [], respHeaders := [] }, httpUser := [], httpPassword := [], src := .own 1 }

def rwReq : Req :=
  { method := Str.ofString "GET", absForm := false, path := [47], query := none, host := Str.ofString "g.example.com",
    hdr := [], chunked := false, body := [] }

/-- a group route that lists every field except RewriteHost: the declared Host rewrite is lost, the backend gets
    the user's Host -/
theorem group_drops_rewrite_witness :
    let carried := ["Domain", "Location", "Username", "Password", "Headers", "ResponseHeaders", "RouteByHTTPUser"]
    (backendSees (some (groupRouteBy carried 0 rwMember).rc) rwReq none false).host = Str.ofString "g.example.com" ∧
    (backendSees (some rwMember.rc) rwReq none false).host = Str.ofString "internal.local" := by
  decide +kernel

/-- the predicate of the engine: the backend that answered is a member of the route's group (the proxy itself
    without a group), and the request / answer clauses hold for the options THE MEMBER DECLARES — evaluated by the
    engine with `reqHolds` / `respHolds` of Frp/Props/C02.lean (`reqOk`, `respOk`) -/
def groupHolds (members : List Nat) (be : Nat) (reqOk respOk : Bool) : Bool :=
  members.contains be && reqOk && respOk

theorem groupHolds_sound (members : List Nat) (be : Nat) (reqOk respOk : Bool) :
    groupHolds members be reqOk respOk = true ↔ (be ∈ members ∧ reqOk = true ∧ respOk = true) := by
  simp [groupHolds, and_assoc]

end Group

section Err
open HttpErr

theorem arrival_ge (need t : Nat) (ps : List (Nat × Nat)) (T : Nat) (h : arrival need t ps = some T) : t ≤ T := by
  induction need, t, ps using arrival.induct with
  | case1 t ps => simp [arrival] at h; omega
  | case2 n t => simp [arrival] at h
  | case3 need t g n ps ih => rw [arrival] at h; have := ih h; omega

theorem arrival_le_sum (need t : Nat) (ps : List (Nat × Nat)) (T : Nat) (h : arrival need t ps = some T) :
    T ≤ t + (ps.map (·.1)).sum := by
  induction need, t, ps using arrival.induct with
  | case1 t ps => simp [arrival] at h; omega
  | case2 n t => simp [arrival] at h
  | case3 need t g n ps ih =>
    rw [arrival] at h
    have := ih h
    simp only [List.map_cons, List.sum_cons]
    omega

/-- once the needed bytes have arrived nothing that follows matters -/
theorem arrival_append (need t : Nat) (ps tail : List (Nat × Nat)) (T : Nat) (h : arrival need t ps = some T) :
    arrival need t (ps ++ tail) = some T := by
  induction need, t, ps using arrival.induct with
  | case1 t ps => simpa [arrival] using h
  | case2 n t => simp [arrival] at h
  | case3 need t g n ps ih => rw [arrival] at h; rw [List.cons_append, arrival]; exact ih h

/-- the not-found sites of pkg/util/vhost/http.go as read from the source: there are some, none touches req.Body -/
theorem err_source_no_body_read :
    Gen.HttpFacts.notFoundSites ≠ [] ∧ Gen.HttpFacts.notFoundSites.all (fun s => !s.readsBody) = true := by decide

/-- so the handler of the source is `frpHandler` -/
theorem err_source_handler : ({ drains := Gen.HttpFacts.notFoundSites.any (·.readsBody) } : Handler) = frpHandler := by
  decide

/-- no route: Expect: 100-continue, or ≥ 256 KiB of an announced body still unread — the answer goes out at once,
    whatever the body does afterwards -/
theorem err_answer_at_once (t : Nat) (u : Upload)
    (h : u.expect100 = true ∨ (u.chunked = false ∧ postRead ≤ u.unread)) : answerAt frpHandler false t u = some t := by
  unfold answerAt frpHandler serverReply
  rcases h with h | ⟨h1, h2⟩
  · simp [h]
  · by_cases he : u.expect100 = true
    · simp [he]
    · simp [he, h1, h2]

/-- dial error: more than 256 KiB of an announced body still unread — at once, Expect or not -/
theorem err_dialled_answer_at_once (t : Nat) (u : Upload) (h : u.chunked = false ∧ postRead < u.unread) :
    answerAt frpHandler true t u = some t := by
  simp [answerAt, frpHandler, closeReply, h.1, h.2]

theorem omin_le_left (a : Nat) (o : Option Nat) : ∃ x, omin (some a) o = some x ∧ x ≤ a := by
  cases o with
  | none => exact ⟨a, rfl, Nat.le_refl _⟩
  | some b => exact ⟨min a b, rfl, Nat.min_le_left _ _⟩

theorem omin_le_right (o : Option Nat) (b : Nat) : ∃ x, omin o (some b) = some x ∧ x ≤ b := by
  cases o with
  | none => exact ⟨b, rfl, Nat.le_refl _⟩
  | some a => exact ⟨min a b, rfl, Nat.min_le_right _ _⟩

/-- once `need` bytes are there the wait is over, whatever follows and whether or not the body ever ends -/
theorem waitFor_bound_any_tail (need t : Nat) (u : Upload) (T : Nat) (h : arrival need t u.pieces = some T)
    (tail : List (Nat × Nat)) (e : Bool) :
    ∃ a, waitFor need t { u with pieces := u.pieces ++ tail, ends := e } = some a ∧ a ≤ T := by
  unfold waitFor
  simp only [arrival_append _ _ _ tail _ h]
  exact omin_le_left _ _

/-- frp's handler leaves the body alone, so the answer goes out at once or after net/http's own wait for 256 KiB + 1
    bytes (256 KiB where the Transport has closed the body after a failed dial) -/
theorem answerAt_frp (dialled : Bool) (t : Nat) (u : Upload) (hx : dialled = true → u.expect100 = false) :
    answerAt frpHandler dialled t u = some t ∨
    answerAt frpHandler dialled t u = waitFor (if dialled then postRead else postRead + 1) t u := by
  cases dialled with
  | true =>
    simp only [answerAt, frpHandler, closeReply, hx rfl, Bool.false_eq_true, if_false, if_true]
    split
    · exact Or.inl rfl
    · exact Or.inr rfl
  | false =>
    simp only [answerAt, frpHandler, serverReply, Bool.false_eq_true, if_false]
    split
    · exact Or.inl rfl
    · split
      · exact Or.inl rfl
      · exact Or.inr rfl

/-- THE BOUND DOES NOT DEPEND ON THE REST OF THE BODY: if the first pieces of the upload bring 256 KiB + 1 bytes
    (256 KiB after a failed dial) by time `T`, the answer is out by `T` — for every continuation of the upload and
    whether or not it ever ends.  (After a failed dial a user that waits for 100 Continue sends nothing: excluded.) -/
theorem err_answer_bound_any_tail (dialled : Bool) (t : Nat) (u : Upload) (T : Nat)
    (hx : dialled = true → u.expect100 = false)
    (h : arrival (if dialled then postRead else postRead + 1) t u.pieces = some T) (tail : List (Nat × Nat)) (e : Bool) :
    ∃ a, answerAt frpHandler dialled t { u with pieces := u.pieces ++ tail, ends := e } = some a ∧ a ≤ T := by
  rcases answerAt_frp dialled t { u with pieces := u.pieces ++ tail, ends := e } hx with ha | ha
  · exact ⟨t, ha, arrival_ge _ _ _ _ h⟩
  · rw [ha]; exact waitFor_bound_any_tail _ t u T h tail e

/-- a body that ends is never waited for beyond its end -/
theorem err_answer_by_end (dialled : Bool) (t : Nat) (u : Upload) (T : Nat) (hx : dialled = true → u.expect100 = false)
    (h : endTime t u = some T) : ∃ a, answerAt frpHandler dialled t u = some a ∧ a ≤ T := by
  rcases answerAt_frp dialled t u hx with ha | ha
  · refine ⟨t, ha, ?_⟩
    rw [endTime] at h
    split at h
    · injection h with h; omega
    · cases h
  · rw [ha, waitFor, h]; exact omin_le_right _ _

/-- what net/http does to a user that insists on its 100 Continue when the dial fails: the Transport's close of the
    request body waits for bytes that user never sends (any real client sends them after its own expect timeout) -/
theorem err_dialled_expect_waits_witness :
    answerAt frpHandler true 0 { chunked := false, unread := 1000, expect100 := true, pieces := [], ends := false } = none := by
  decide

/-- a handler that reads the rest of the body before it answers never answers a stream that stays open -/
theorem err_drain_open_stream_hangs (dialled : Bool) (t : Nat) (u : Upload) (h : u.ends = false) :
    answerAt { drains := true } dialled t u = none := by
  simp [answerAt, endTime, h]

/-- a draining handler has no bound at all: for every `B` there is a complete upload whose first 256 KiB + 1 bytes are there at
    once, which frp answers at time 0 and the draining handler after `B` -/
theorem err_drain_unbounded (B : Nat) :
    ∃ u : Upload, answerAt frpHandler false 0 u = some 0 ∧ ∃ a, answerAt { drains := true } false 0 u = some a ∧ B < a := by
  refine ⟨{ chunked := true, unread := 0, expect100 := false, pieces := [(0, postRead + 1), (B + 1, 1)], ends := true }, ?_, B + 1, ?_, by omega⟩
  · simp [answerAt, frpHandler, serverReply, waitFor, arrival, endTime, omin]
  · simp [answerAt, endTime]

/-- the predicate of the engine on an error-path exchange (no backend answered): when the model says the answer
    comes (`ans ≠ none`) the user must hold it inside the engine's bound — status 404 with the page, or the
    connection ended (`cutOk`: only where a backend had been dialled and died) -/
def errHolds (ans : Option Nat) (answered : Bool) (st : Nat) (page cut cutOk : Bool) : Bool :=
  match ans with
  | none => true
  | some _ => (answered && st == 404 && page) || (cutOk && cut)

theorem errHolds_sound (a : Nat) (answered : Bool) (st : Nat) (page cut : Bool) :
    errHolds (some a) answered st page cut false = true ↔ (answered = true ∧ st = 404 ∧ page = true) := by
  simp [errHolds, and_assoc]

/-- every upload class the engine generates on the no-route path is answered at time 0 of the model: Expect,
    ≥ 256 KiB unread Content-Length, a stream that has delivered 256 KiB + 1 bytes and stays open, a complete body -/
theorem err_classes_answered (u : Upload)
    (h : u.expect100 = true ∨ (u.chunked = false ∧ postRead ≤ u.unread) ∨
         arrival (postRead + 1) 0 u.pieces = some 0 ∨ endTime 0 u = some 0) :
    answerAt frpHandler false 0 u = some 0 := by
  rcases h with h | h | h | h
  · exact err_answer_at_once 0 u (Or.inl h)
  · exact err_answer_at_once 0 u (Or.inr h)
  · obtain ⟨a, ha, hle⟩ := err_answer_bound_any_tail false 0 u 0 (fun h => nomatch h) h [] u.ends
    rwa [List.append_nil, Nat.le_zero.1 hle] at ha
  · obtain ⟨a, ha, hle⟩ := err_answer_by_end false 0 u 0 (fun h => nomatch h) h
    rwa [Nat.le_zero.1 hle] at ha

end Err

end C02
end Frp
