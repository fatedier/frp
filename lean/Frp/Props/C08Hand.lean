import Frp.Model.VisitorHandshake
import Frp.Lemmas.Frame
import Frp.Lemmas.Layers
import Frp.Props.C01
import Frp.Gen.VisitorFacts
/-
  C08 §13 — the CLIENT side of an admitted visitor stream (client/visitor/stcp.go, sudp.go, the stcp visitor an xtcp
  visitor falls back to): "an admitted visitor is bridged to the owner's backend as a byte-transparent stream" from
  byte 0, for EVERY segmentation in which the NewVisitorConnResp frame and the first payload bytes arrive.

   * a reader that obeys the io.Reader contract, reading a frame: `readFullAux_spec`, `readFull_exact`, `readFrame_exact` (exactly the frame is
     consumed from the reader's content, whatever the segmentation);
   * the connection itself is such a reader (`direct_ok`), so after the handshake the connection holds exactly what
     followed the frame (`hs_consumes_exactly_frame`);
   * the user reads exactly what the backend wrote, from byte 0: at every moment a prefix (`hs_stream_prefix`), all of it
     once everything arrived (`hs_stream_complete`), for all enc / comp declarations (lawful layers as in C01);
   * a refusal / a broken frame gives the user nothing (`hs_refused_nothing`, `hs_unreadable_nothing`);
   * a buffered reader that is dropped after the handshake is a contract-abiding reader (`buffered_ok`) but does NOT
     leave the connection intact: `hs_buffered_loses` (for every coalesced wire that fits the buffer the user loses the
     whole first burst), `hs_buffered_witness`;
   * the source reads from the connection it hands on: `visitor_reads_from_handed_conn` (regenerated fact).
-/
namespace Frp
namespace C08
open VisitorHandshake Frame Layers

/-! ## §13.1 readers -/

/-- one Read from the connection keeps the io.Reader contract: nothing lost or invented, at most `n` bytes, and
    progress while anything is still to come -/
theorem cread_spec (n : Nat) (w : Wire) :
    (cread n w).1 ++ (cread n w).2.flatten = w.flatten ∧ (cread n w).1.length ≤ n ∧
    (0 < n → w.flatten ≠ [] → (cread n w).1 ≠ []) := by
  induction w with
  | nil => exact ⟨rfl, Nat.zero_le _, fun _ h => absurd rfl h⟩
  | cons s rest ih =>
    dsimp only [cread]
    cases s with
    | nil => simp only [List.isEmpty_nil, if_true, List.flatten_cons, List.nil_append]; exact ih
    | cons a t =>
      simp only [List.isEmpty_cons, Bool.false_eq_true, if_false]
      refine ⟨?_, ?_, ?_⟩
      · by_cases hd : ((a :: t).drop n).isEmpty = true
        · have h := List.take_append_drop n (a :: t)
          rw [List.isEmpty_iff.mp hd, List.append_nil] at h
          simp only [hd, if_true, List.flatten_cons, h]
        · simp only [hd, Bool.false_eq_true, if_false, List.flatten_cons]
          rw [← List.append_assoc, List.take_append_drop]
      · simp only [List.length_take]; omega
      · intro hn _
        cases n with
        | zero => omega
        | succ m => simp

theorem cread_split (n : Nat) : ∀ w : Wire, (cread n w).1 ++ (cread n w).2.flatten = w.flatten :=
  fun w => (cread_spec n w).1

theorem cread_le (n : Nat) : ∀ w : Wire, (cread n w).1.length ≤ n := fun w => (cread_spec n w).2.1

theorem cread_progress (n : Nat) (hn : 0 < n) : ∀ w : Wire, w.flatten ≠ [] → (cread n w).1 ≠ [] :=
  fun w => (cread_spec n w).2.2 hn

theorem direct_ok : direct.Ok where
  split n s := cread_split n s
  le n s := cread_le n s
  progress n s hn h := cread_progress n hn s h

theorem buffered_ok (k : Nat) : (buffered k).Ok where
  split n s := by
    obtain ⟨b, w⟩ := s
    dsimp only [buffered, bread]
    by_cases hb : b.isEmpty = true
    · have : b = [] := List.isEmpty_iff.mp hb
      subst this
      by_cases hk : k ≤ n
      · simp [hk, cread_split]
      · simp only [List.isEmpty_nil, Bool.not_true, hk, if_false, Bool.false_eq_true, List.nil_append]
        rw [← List.append_assoc, List.take_append_drop, cread_split]
    · simp only [hb, Bool.not_false, if_true]
      rw [← List.append_assoc, List.take_append_drop]
  le n s := by
    obtain ⟨b, w⟩ := s
    dsimp only [buffered, bread]
    by_cases hb : b.isEmpty = true
    · by_cases hk : k ≤ n
      · simp [hb, hk, cread_le]
      · simp [hb, hk, List.length_take]; omega
    · simp [hb, List.length_take]; omega
  progress n s hn h := by
    obtain ⟨b, w⟩ := s
    dsimp only [buffered, bread] at *
    by_cases hb : b.isEmpty = true
    · have : b = [] := List.isEmpty_iff.mp hb
      subst this
      have hw : w.flatten ≠ [] := h
      by_cases hk : k ≤ n
      · simp [hk]; exact cread_progress n hn w hw
      · have hk' : 0 < k := by omega
        have := cread_progress k hk' w hw
        simp only [List.isEmpty_nil, Bool.not_true, hk, if_false, Bool.false_eq_true]
        cases hr : (cread k w).1 with
        | nil => exact absurd hr this
        | cons a t =>
          cases n with
          | zero => omega
          | succ m => simp
    · simp only [hb, Bool.not_false, if_true]
      cases b with
      | nil => simp at hb
      | cons a t =>
        cases n with
        | zero => omega
        | succ m => simp

/-- io.ReadFull on a contract-abiding reader: what it returns plus what the reader still holds is what the reader held;
    at most n bytes; exactly n when that many are still to come -/
theorem readFullAux_spec {R : Reader} (h : R.Ok) : ∀ (fuel n : Nat) (s : R.σ), n ≤ fuel →
    (readFullAux R fuel n s).1 ++ R.content (readFullAux R fuel n s).2 = R.content s ∧
    (readFullAux R fuel n s).1.length ≤ n ∧
    (n ≤ (R.content s).length → (readFullAux R fuel n s).1.length = n) := by
  intro fuel
  induction fuel with
  | zero =>
    intro n s hn
    have : n = 0 := by omega
    subst this
    simp [readFullAux]
  | succ f ih =>
    intro n s hn
    dsimp only [readFullAux]
    by_cases h0 : n = 0
    · subst h0; simp
    · simp only [h0, if_false]
      have hsp := h.split n s
      have hle := h.le n s
      by_cases he : (R.rd n s).1.isEmpty = true
      · have he' : (R.rd n s).1 = [] := List.isEmpty_iff.mp he
        simp only [he, if_true]
        rw [he'] at hsp
        refine ⟨by simpa using hsp, by simp, ?_⟩
        intro hlen
        have hc : R.content s ≠ [] := by
          intro hc; rw [hc] at hlen; simp at hlen; exact h0 hlen
        exact absurd he' (h.progress n s (by omega) hc)
      · simp only [he, Bool.false_eq_true, ↓reduceIte]
        have hk : 1 ≤ (R.rd n s).1.length := by
          cases hr : (R.rd n s).1 with
          | nil => rw [hr] at he; simp at he
          | cons a t => simp
        obtain ⟨i1, i2, i3⟩ := ih (n - (R.rd n s).1.length) (R.rd n s).2 (by omega)
        refine ⟨?_, ?_, ?_⟩
        · rw [List.append_assoc, i1, hsp]
        · simp only [List.length_append]; omega
        · intro hlen
          have : (R.content s).length = (R.rd n s).1.length + (R.content (R.rd n s).2).length := by
            rw [← hsp]; simp
          simp only [List.length_append]
          have := i3 (by omega)
          omega

theorem readFull_exact {R : Reader} (h : R.Ok) (n : Nat) (s : R.σ) (a rest : Str)
    (hc : R.content s = a ++ rest) (ha : a.length = n) :
    (readFull R n s).1 = a ∧ R.content (readFull R n s).2 = rest := by
  obtain ⟨h1, _, h3⟩ := readFullAux_spec h n n s (Nat.le_refl n)
  have hl : (readFullAux R n n s).1.length = a.length := by
    rw [ha]; apply h3; rw [hc]; simp; omega
  rw [hc] at h1
  exact List.append_inj h1 hl

/-- reading one frame from ANY contract-abiding reader consumes exactly the frame from its content -/
theorem readFrame_exact {R : Reader} (h : R.Ok) (max : Nat) (known : Nat → Bool) (s : R.σ) (t : Nat) (body rest : Str)
    (hc : R.content s = Frame.encode t body ++ rest) (hk : known t = true) (hb : body.length ≤ max)
    (hmax : max < 9223372036854775808) :
    (readFrame R max known s).1 = .ok t body ∧ R.content (readFrame R max known s).2 = rest := by
  have hsp := h.split 1 s
  have hle := h.le 1 s
  have hpr := h.progress 1 s (by omega) (by rw [hc]; simp [Frame.encode])
  rw [hc] at hsp
  simp only [Frame.encode, List.cons_append] at hsp
  -- the first Read delivers exactly the type byte
  obtain ⟨hr1, hc1⟩ : (R.rd 1 s).1 = [t] ∧ R.content (R.rd 1 s).2 = be64 body.length ++ (body ++ rest) := by
    cases hr : (R.rd 1 s).1 with
    | nil => exact absurd hr hpr
    | cons a tl =>
      rw [hr] at hsp hle
      have : tl = [] := by
        cases tl with
        | nil => rfl
        | cons _ _ => simp at hle
      subst this
      simp only [List.cons_append, List.nil_append, List.cons.injEq] at hsp
      obtain ⟨rfl, h2⟩ := hsp
      exact ⟨rfl, by rw [h2, List.append_assoc]⟩
  obtain ⟨hh1, hh2⟩ := readFull_exact h 8 (R.rd 1 s).2 (be64 body.length) (body ++ rest) hc1 (be64_length _)
  have hu : unbe64 (be64 body.length) = body.length := unbe64_be64 _ (by omega)
  have hi : toInt64 body.length = (body.length : Int) := by
    simp only [toInt64]; rw [if_pos (by omega)]
  obtain ⟨hb1, hb2⟩ := readFull_exact h body.length (readFull R 8 (R.rd 1 s).2).2 body rest hh2 rfl
  simp only [readFrame, hr1, readHeader, hk, Bool.not_true, Bool.false_eq_true, if_false, hh1, be64_length,
    Nat.lt_irrefl, readBody, hu, hi, Int.toNat_natCast, hb1]
  have h1 : ¬ ((body.length : Int) > (max : Int)) := by omega
  have h2 : ¬ ((body.length : Int) < 0) := by omega
  simp [h1, h2, hb2]

/-! ## §13.2 the stream visitor: the connection itself is read, the connection is handed on -/

def maxLen : Nat := Frame.maxLen

/-- after the handshake the connection holds exactly what followed the frame — for ALL segmentations -/
theorem hs_consumes_exactly_frame (segs : Wire) (t : Nat) (body rest : Str)
    (hw : segs.flatten = Frame.encode t body ++ rest) (hk : knownType t = true) (hb : body.length ≤ maxLen) :
    (readFrame direct maxLen knownType segs).1 = .ok t body ∧
    (direct.conn (readFrame direct maxLen knownType segs).2).flatten = rest :=
  readFrame_exact direct_ok maxLen knownType segs t body rest hw hk hb (by decide)

/-- the stack frps puts on an admitted visitor connection (server/visitor Manager.NewConn), as DECLARED by the visitor,
    as a layer -/
def serverEndLayer (encL compL : Layer) (e c : Bool) : Layer := stackLayer (instantiate encL compL 0 (visitorServerStack e c))
/-- the stack the visitor puts on its end (stcp.go handleConn / sudp.go getNewVisitorConn): the same kinds
    (`C01.mirror_visitor`) -/
def visitorEndLayer (encL compL : Layer) (e c : Bool) : Layer := stackLayer (instantiate encL compL 0 (visitorStack e c))

theorem visitorEnd_lawful {encL compL : Layer} (he : Lawful encL) (hc : Lawful compL) (e c : Bool) :
    Lawful (visitorEndLayer encL compL e c) := by
  apply stack_lawful
  cases e <;> cases c <;> simp [visitorStack, opt, instantiate] <;> (try exact he) <;> (try exact hc) <;> exact ⟨he, hc⟩

theorem serverEnd_eq (encL compL : Layer) (e c : Bool) : serverEndLayer encL compL e c = visitorEndLayer encL compL e c := rfl

/-- COMPLETE: the backend wrote `ps` (any writes, the first ones before the visitor's user said anything); the relay
    delivers frame ++ image in ANY segmentation (one segment = coalesced); the response carries no error: the user reads
    exactly `ps.flatten`, from byte 0 -/
theorem hs_stream_complete {encL compL : Layer} (he : Lawful encL) (hc : Lawful compL) (e c : Bool)
    (segs : Wire) (body : Str) (ps : List C01Bytes) (hb : body.length ≤ maxLen)
    (hw : segs.flatten = Frame.encode respType body ++ ((serverEndLayer encL compL e c).Eout ps).flatten) :
    userSees direct (visitorEndLayer encL compL e c) (readFrame direct maxLen knownType segs) true = some ps.flatten := by
  obtain ⟨h1, h2⟩ := hs_consumes_exactly_frame segs respType body _ hw (by decide) hb
  simp only [userSees, h1, if_true]
  rw [serverEnd_eq] at h2
  rw [transparent_complete (visitorEnd_lawful he hc e c) ps _ h2]

/-- AT EVERY MOMENT: whatever part of the image has arrived so far (`x`, a prefix), in whatever segments: what the user
    has been given is a prefix of what the backend wrote — no byte skipped, none invented -/
theorem hs_stream_prefix {encL compL : Layer} (he : Lawful encL) (hc : Lawful compL) (e c : Bool)
    (segs : Wire) (body x : Str) (ps : List C01Bytes) (hb : body.length ≤ maxLen)
    (hx : x <+: ((serverEndLayer encL compL e c).Eout ps).flatten)
    (hw : segs.flatten = Frame.encode respType body ++ x) :
    ∃ u, userSees direct (visitorEndLayer encL compL e c) (readFrame direct maxLen knownType segs) true = some u ∧
      u <+: ps.flatten := by
  obtain ⟨h1, h2⟩ := hs_consumes_exactly_frame segs respType body x hw (by decide) hb
  refine ⟨(visitorEndLayer encL compL e c).Dout (direct.conn (readFrame direct maxLen knownType segs).2), ?_, ?_⟩
  · simp only [userSees, h1, if_true]
  · rw [serverEnd_eq] at hx
    exact transparent_prefix (visitorEnd_lawful he hc e c) ps _ (by rw [h2]; exact hx)

/-- a response that carries an error gives the user nothing, whatever follows the frame -/
theorem hs_refused_nothing (R : Reader) (Lv : Layer) (out : HsRes × R.σ) : userSees R Lv out false = none := by
  unfold userSees; cases out.1 <;> simp

/-- a frame that cannot be read (unknown type, oversized, negative length, the stream ends) gives the user nothing -/
theorem hs_unreadable_nothing (R : Reader) (Lv : Layer) (out : HsRes × R.σ) (e : Err) (b : Bool) (h : out.1 = .err e) :
    userSees R Lv out b = none := by
  unfold userSees; rw [h]

/-! ## §13.3 a buffered reader that is dropped after the handshake: what reading the connection itself avoids -/

theorem bread_conn_nil (k n : Nat) (s : Str × Wire) (hs : s.2 = []) : (bread k n s).2.2 = [] := by
  obtain ⟨b, w⟩ := s
  simp only at hs; subst hs
  dsimp only [bread]
  by_cases hbe : b.isEmpty = true <;> by_cases hkn : k ≤ n <;> simp [hbe, hkn, cread]

theorem bfull_conn_nil (k : Nat) : ∀ (fuel n : Nat) (s : Str × Wire), s.2 = [] →
    (readFullAux (buffered k) fuel n s).2.2 = [] := by
  intro fuel
  induction fuel with
  | zero => intro n s hs; simpa [readFullAux] using hs
  | succ f ih =>
    intro n s hs
    dsimp only [readFullAux]
    by_cases h0 : n = 0
    · simpa [h0] using hs
    · simp only [h0, if_false]
      by_cases he : ((buffered k).rd n s).1.isEmpty = true
      · simp only [he, if_true]; exact bread_conn_nil k n s hs
      · simp only [he, Bool.false_eq_true, ↓reduceIte]; exact ih _ _ (bread_conn_nil k n s hs)

theorem bbody_conn_nil (k max t : Nat) (hdr : Str) (s : Str × Wire) (hs : s.2 = []) :
    (readBody (buffered k) max t hdr s).2.2 = [] := by
  unfold readBody
  split
  · exact hs
  · split
    · exact hs
    · split <;> exact bfull_conn_nil k _ _ s hs

theorem bheader_conn_nil (k max : Nat) (known : Nat → Bool) (t : Nat) (s : Str × Wire) (hs : s.2 = []) :
    (readHeader (buffered k) max known t s).2.2 = [] := by
  unfold readHeader
  split
  · exact hs
  · split
    · exact bfull_conn_nil k _ _ s hs
    · exact bbody_conn_nil k max t _ _ (bfull_conn_nil k _ _ s hs)

/-- the frame and the first payload bytes in ONE segment that fits the buffer: a handshake through
    `bufio.NewReaderSize(conn, k)` succeeds and leaves NOTHING of the payload on the connection -/
theorem hs_buffered_loses (k : Nat) (t : Nat) (body rest : Str) (hk : knownType t = true) (hb : body.length ≤ maxLen)
    (hfit : (Frame.encode t body ++ rest).length ≤ k) (h1 : 1 < k) :
    (readFrame (buffered k) maxLen knownType ([], [Frame.encode t body ++ rest])).1 = .ok t body ∧
    ((buffered k).conn (readFrame (buffered k) maxLen knownType ([], [Frame.encode t body ++ rest])).2).flatten = [] := by
  have hf := readFrame_exact (buffered_ok k) maxLen knownType ([], [Frame.encode t body ++ rest]) t body rest
    (by simp [buffered]) hk hb (by decide)
  refine ⟨hf.1, ?_⟩
  -- the first Read fills the buffer with the whole segment; everything later is served from the buffer
  have hfirst : (bread k 1 ([], [Frame.encode t body ++ rest])).2.2 = [] := by
    have hne : (Frame.encode t body ++ rest).isEmpty = false := by simp [Frame.encode]
    have hd : ((Frame.encode t body ++ rest).drop k).isEmpty = true := by
      rw [List.drop_of_length_le hfit]; rfl
    simp only [bread, List.isEmpty_nil, Bool.not_true, Bool.false_eq_true, if_false,
      show ¬ k ≤ 1 by omega, cread, hne, hd, if_true]
  have hall : (readFrame (buffered k) maxLen knownType ([], [Frame.encode t body ++ rest])).2.2 = [] := by
    unfold readFrame
    split
    · exact hfirst
    · exact bheader_conn_nil k _ _ _ _ hfirst
  show ((readFrame (buffered k) maxLen knownType ([], [Frame.encode t body ++ rest])).2.2).flatten = []
  rw [hall]; rfl

/-- concrete: a 3-byte greeting behind an empty-bodied response in one segment, bufio size 512: the handshake succeeds and
    the user's stream starts after the greeting; read from the connection itself nothing is lost -/
theorem hs_buffered_witness :
    userSees (buffered 512) idLayer (readFrame (buffered 512) maxLen knownType ([], [Frame.encode respType [123, 125] ++ [50, 50, 48]])) true
      = some [] ∧
    userSees direct idLayer (readFrame direct maxLen knownType [Frame.encode respType [123, 125] ++ [50, 50, 48]]) true
      = some [50, 50, 48] := by
  decide

/-- the same frame cut anywhere: reading the connection itself is insensitive to the cut (instances of `hs_consumes_exactly_frame`,
    executed) -/
example : (List.range 15).all (fun a =>
    userSees direct idLayer (readFrame direct maxLen knownType
      (segment (Frame.encode respType [123, 125] ++ [50, 50, 48]) [a])) true == some [50, 50, 48]) = true := by decide

/-! ## §13.4 the source reads from the connection it hands on (regenerated from go/ast) -/

/-- the reader argument of a `msg.ReadMsg` / `msg.ReadMsgInto` call is the connection itself: a `net.Conn` parameter of
    the function that goes on using it, or the variable `ConnectServer()` was assigned to and which is used again after
    the read (wrapped, returned) — never an expression / a second reader on top of it -/
def readsHandedConn (r : String × String × String × String × String × Nat) : Bool :=
  r.2.2.2.2.1 == "param:net.Conn" || (r.2.2.2.2.1 == "dial:ConnectServer" && decide (1 ≤ r.2.2.2.2.2))

theorem visitor_reads_from_handed_conn :
    Gen.VisitorFacts.msgReads.all readsHandedConn = true ∧
    1 ≤ (Gen.VisitorFacts.msgReads.filter (fun r => r.2.2.1 == "ReadMsgInto")).length := by
  decide +kernel

/-! ## §13.5 the predicate the `vhs` driver engine evaluates on what the real visitors delivered -/

/-- one scenario: `sent` = what the backend wrote for the user (stcp: the one byte stream; sudp: the datagrams, in
    order), `got` = what the user received until the end; `up` / `upgot` the other direction -/
def hsHoldsOn (refused : Bool) (sent got : List Str) (up upgot : Str) : Bool :=
  if refused then got.all (·.isEmpty) else got == sent && upgot == up

theorem hsHoldsOn_sound (sent got : List Str) (up upgot : Str) (h : hsHoldsOn false sent got up upgot = true) :
    got = sent ∧ upgot = up := by
  simpa [hsHoldsOn] using h

theorem hsHoldsOn_refused (sent got : List Str) (up upgot : Str) (h : hsHoldsOn true sent got up upgot = true) :
    got.flatten = [] := by
  simp only [hsHoldsOn, if_true, List.all_eq_true] at h
  induction got with
  | nil => rfl
  | cons g rest ih =>
    have hg : g = [] := List.isEmpty_iff.mp (h g List.mem_cons_self)
    simp [hg, ih (fun x hx => h x (List.mem_cons_of_mem _ hx))]

/-- the model's scenario: the peer's wire image cut at `abs`; the handshake on the connection itself; what is handed on -/
def hsRun (wire : Str) (abs : List Nat) : HsRes × Str :=
  ((readFrame direct maxLen knownType (segment wire abs)).1,
   (direct.conn (readFrame direct maxLen knownType (segment wire abs)).2).flatten)

example : hsRun (Frame.encode respType [123, 125] ++ [1, 2, 3, 4]) [1, 5, 12, 13] = (.ok respType [123, 125], [1, 2, 3, 4]) := by decide
example : hsRun (Frame.encode respType [123, 125] ++ [1, 2, 3, 4]) [] = (.ok respType [123, 125], [1, 2, 3, 4]) := by decide

end C08
end Frp
