import Frp.Model.AuthGate
import Frp.Lemmas.AuthGate
import Frp.Gen.AuthGateFacts
/-
  C04 - No session, proxy or work connection without valid client credentials.

  All statements are about `Frp.AuthGate` (the model of handleConnection / RegisterControl /
  RegisterWorkConn / handlePing as the code is now) and hold for EVERY plugin behaviour `P`, every
  `Prim` (`H` = util.GetAuthKey; `jwtClaims` / `jwtSigOk` = go-oidc's JWT parsing and signature check; `now`:
  nothing assumed about any of them), every
  configuration, every server state and every message.  `fx` is the repair switch
  (`true` = the repaired code of the pinned tree, fix: 7ed0301, `workVerifierIsFixed`; `false` = the code before it);
  theorems quantified over `fx` hold for both.

  "accepted key" means exactly: token method `key = H token ts`; OIDC `oidcVerify pr cfg.oidc key = some sub`
  (login) / `… ∧ sub ∈ subjectsFromLogin` (ping, work connection), where `oidcVerify` is the claim-level
  decision of go-oidc under the configuration `auth.NewTokenVerifier` builds (§9: `TokenValid`).  No
  cryptographic claim: "signed by a key the provider publishes" is the abstract `jwtSigOk`.
-/
namespace Frp
namespace C04
open AuthGate

variable {fx : Bool} {P : Plugins} {pr : Prim} {cfg : Cfg} {srv : Srv} {internal : Bool} {conn : ConnId}

/-! ## 1. Login -/

/-- the login the plugin chain handed on was accepted by the verifier RegisterControl selected -/
def LoginAccepted (P : Plugins) (pr : Prim) (cfg : Cfg) (srv : Srv) (internal : Bool) (m : Login) : Prop :=
  ∃ m', P.login m = some m' ∧ (verifyLogin pr cfg srv.subjects (verifierFor internal m') m').isSome = true

/-- a login is answered with success only if it was accepted; the reported run id is the effective one -/
theorem login_needs_key {m : Login} {rid : RunId}
    (h : (handleFirstG fx P pr cfg srv internal conn (.login m)).2.reply = .loginOk rid) :
    ∃ m', P.login m = some m' ∧ rid = effRunId m' ∧
      (verifyLogin pr cfg srv.subjects (verifierFor internal m') m').isSome = true := by
  rcases login_cases fx P pr cfg srv internal conn m with ⟨m', sj, hp, hv, e⟩ | ⟨_, e⟩
  · rw [e] at h
    cases h
    exact ⟨m', hp, rfl, hv ▸ rfl⟩
  · rw [e] at h
    cases h

/-- a login that is not accepted: `LoginResp{Error}`, connection closed, server state unchanged -/
theorem login_refused {m : Login} (h : ¬ LoginAccepted P pr cfg srv internal m) :
    handleFirstG fx P pr cfg srv internal conn (.login m) = (srv, { reply := .loginErr, closed := true }) := by
  rcases login_cases fx P pr cfg srv internal conn m with ⟨m', sj, hp, hv, _⟩ | ⟨_, e⟩
  · exact absurd ⟨m', hp, hv ▸ rfl⟩ h
  · exact e

/-- token method, network listener: success ⇒ the key equals `H token ts` (of the login the plugins handed on) -/
theorem login_token_network {m : Login} {rid : RunId} (hm : cfg.method = .token)
    (h : (handleFirstG fx P pr cfg srv false conn (.login m)).2.reply = .loginOk rid) :
    ∃ m', P.login m = some m' ∧ m'.key = pr.H cfg.token m'.ts := by
  obtain ⟨m', hp, _, hv⟩ := login_needs_key h
  rw [verifierFor_network, verifyLogin_isSome_token hm, decide_eq_true_eq] at hv
  exact ⟨m', hp, hv.symm⟩

/-- OIDC method, network listener: success ⇒ go-oidc accepted the key, and its subject is recorded -/
theorem login_oidc_network {m : Login} {rid : RunId} (hm : cfg.method = .oidc)
    (h : (handleFirstG fx P pr cfg srv false conn (.login m)).2.reply = .loginOk rid) :
    ∃ m' sub, P.login m = some m' ∧ oidcVerify pr cfg.oidc m'.key = some sub ∧
      sub ∈ (handleFirstG fx P pr cfg srv false conn (.login m)).1.subjects := by
  rcases login_cases fx P pr cfg srv false conn m with ⟨m', sj, hp, hv, e⟩ | ⟨_, e⟩
  · obtain ⟨sub, ho, rfl⟩ := (verifyLogin_oidc hm).mp hv
    refine ⟨m', sub, hp, ho, ?_⟩
    rw [e]
    show sub ∈ if sub ∈ srv.subjects then srv.subjects else srv.subjects ++ [sub]
    split
    · assumption
    · exact List.mem_append_right _ List.mem_cons_self
  · rw [e] at h
    cases h

/-- RegisterControl from a network listener: the outcome (state AND reply) is the same whatever the
    peer put into `client_spec.always_auth_pass`, for all other fields -/
theorem aap_irrelevant_from_network (m : Login) (b : Bool) :
    registerControl pr cfg srv false conn { m with aap := b } = registerControl pr cfg srv false conn m := by
  -- `verifierFor false` does not look at the flag, and nothing else in `registerControl` reads it
  rfl

/-- a plugin chain whose verdict and rewrites do not depend on the flag -/
def PluginAapBlind (P : Plugins) : Prop :=
  ∀ m b, (P.login { m with aap := b }).map (fun x => { x with aap := false })
        = (P.login m).map (fun x => { x with aap := false })

theorem id_aapBlind : PluginAapBlind Plugins.id := by
  intro m b
  rfl

/-- whole first-message handler, network listener: same outcome for both values of the flag -/
theorem login_aap_irrelevant (hP : PluginAapBlind P) (m : Login) (b : Bool) :
    handleFirstG fx P pr cfg srv false conn (.login { m with aap := b })
      = handleFirstG fx P pr cfg srv false conn (.login m) := by
  -- the handler looks at what the plugins hand on only through its copy with the flag cleared
  have key : ∀ m, handleFirstG fx P pr cfg srv false conn (.login m) =
      match (P.login m).map (fun x => { x with aap := false }) with
      | none => (srv, { reply := .loginErr, closed := true })
      | some y => registerControl pr cfg srv false conn y := by
    intro m
    simp only [handleFirstG]
    cases P.login m with
    | none => rfl
    | some x => exact (aap_irrelevant_from_network x false).symm
  rw [key, key, hP m b]

/-- who can get the always-pass verifier: only a login on the internal listener carrying the flag -/
theorem alwaysPass_iff (m : Login) : verifierFor internal m = .alwaysPass ↔ internal = true ∧ m.aap = true := by
  unfold verifierFor
  cases internal <;> cases m.aap <;> simp

/-! ## 2. Heartbeats -/

/-- what handlePing does, completely: `Pong{}` and a refreshed `lastPing` iff the plugins pass it and
    the session's verifier accepts; otherwise `Pong{Error}` and NOTHING changes.  The session is not
    closed by an invalid ping (it ends when the heartbeat timeout fires on the stale `lastPing`). -/
theorem ping_cases {s : Session} {m : Ping} (hs : byCtl srv conn = some s) :
    (∃ m', P.ping m = some m' ∧ verifyPing pr cfg srv.subjects s.vk m' = true ∧
        handlePing P pr cfg srv conn m =
          (updSession srv s.runId (fun x => { x with lastPing := x.lastPing + 1 }),
           { reply := .pongOk, closed := false }))
    ∨ ((∀ m', P.ping m = some m' → verifyPing pr cfg srv.subjects s.vk m' = false) ∧
        handlePing P pr cfg srv conn m = (srv, { reply := .pongErr, closed := false })) :=
  AuthGate.ping_cases P pr cfg m hs

/-- HeartBeats scope on, ordinary session: a ping whose key is not accepted leaves the whole server
    state (hence `lastPing`) unchanged and is answered with `Pong{Error}` -/
theorem ping_scope {s : Session} {m m' : Ping} (hs : byCtl srv conn = some s) (hk : s.vk = .cfg)
    (hb : cfg.hb = true) (hp : P.ping m = some m')
    (hbad : keyOk pr cfg srv.subjects m'.ts m'.key = false) :
    handlePing P pr cfg srv conn m = (srv, { reply := .pongErr, closed := false }) := by
  rcases AuthGate.ping_cases P pr cfg m hs with ⟨m'', hp', hv, _⟩ | ⟨_, e⟩
  · rw [hp] at hp'
    cases hp'
    simp only [verifyPing_iff, hk, hb, hbad, reduceCtorEq, Bool.true_eq_false, Bool.false_eq_true, or_self] at hv
  · exact e

theorem ping_scope_token {s : Session} {m m' : Ping} (hs : byCtl srv conn = some s) (hk : s.vk = .cfg)
    (hb : cfg.hb = true) (hm : cfg.method = .token) (hp : P.ping m = some m')
    (hbad : m'.key ≠ pr.H cfg.token m'.ts) :
    handlePing P pr cfg srv conn m = (srv, { reply := .pongErr, closed := false }) := by
  apply ping_scope hs hk hb hp
  rw [keyOk_token hm, decide_eq_false_iff_not]
  exact fun e => hbad e.symm

/-- `lastPing` of a session moves only by an accepted ping on its own control connection -/
theorem ping_moved_needs_key {m : Ping}
    (h : (handlePing P pr cfg srv conn m).1 ≠ srv) :
    ∃ s m', byCtl srv conn = some s ∧ P.ping m = some m' ∧
      (s.vk = .alwaysPass ∨ cfg.hb = false ∨ keyOk pr cfg srv.subjects m'.ts m'.key = true) := by
  cases hs : byCtl srv conn with
  | none => exact absurd (congrArg Prod.fst (handlePing_no_session hs)) h
  | some s =>
    rcases AuthGate.ping_cases P pr cfg m hs with ⟨m', hp, hv, _⟩ | ⟨_, e⟩
    · exact ⟨s, m', rfl, hp, verifyPing_iff.mp hv⟩
    · rw [e] at h
      exact absurd rfl h

/-! ## 3. Work connections -/

/-- a work connection stays open (is pooled) only if: the run id names a live session, the plugins
    passed it, the verifier used accepts it, and the pool has room.  `workVerifier` = the SESSION's
    verifier in the code before fix: 7ed0301. -/
theorem workconn_scope_partial {m : WorkConn}
    (h : (registerWork fx P pr cfg srv internal conn m).2.closed = false) :
    ∃ s m', lookup srv m.runId = some s ∧ P.work m = some m' ∧ s.pool.length < s.poolCap ∧
      (workVerifier fx internal s = .alwaysPass ∨ cfg.wc = false ∨
        keyOk pr cfg srv.subjects m'.ts m'.key = true) ∧
      (registerWork fx P pr cfg srv internal conn m).1 =
        updSession srv s.runId (fun x => { x with pool := x.pool ++ [conn] }) := by
  rcases work_cases fx P pr cfg srv internal conn m with ⟨s, m', hl, hp, hv, hc, e⟩ | ⟨_, hcl⟩
  · exact ⟨s, m', hl, hp, hc, verifyWork_iff.mp hv, by rw [e]⟩
  · rw [hcl] at h
    cases h

/-- otherwise it is refused: closed, and the server state is unchanged (unknown run id: no reply at
    all; plugin/verifier refusal: `StartWorkConn{Error}`; pool full: no reply) -/
theorem workconn_refused {m : WorkConn}
    (h : (registerWork fx P pr cfg srv internal conn m).2.closed = true) :
    (registerWork fx P pr cfg srv internal conn m).1 = srv := by
  rcases work_cases fx P pr cfg srv internal conn m with ⟨_, _, _, _, _, _, e⟩ | ⟨e, _⟩
  · rw [e] at h
    cases h
  · exact e

theorem workconn_unknown_runid {m : WorkConn} (h : lookup srv m.runId = none) :
    registerWork fx P pr cfg srv internal conn m = (srv, { reply := .none, closed := true }) := by
  simp [registerWork, h]

/-- NewWorkConns scope on and the configured verifier in charge: pooled only with an accepted key -/
theorem workconn_scope {m : WorkConn} (hw : cfg.wc = true)
    (hk : ∀ s, lookup srv m.runId = some s → workVerifier fx internal s = .cfg)
    (h : (registerWork fx P pr cfg srv internal conn m).2.closed = false) :
    ∃ s m', lookup srv m.runId = some s ∧ P.work m = some m' ∧
      keyOk pr cfg srv.subjects m'.ts m'.key = true := by
  obtain ⟨s, m', hl, hp, _, hor, _⟩ := workconn_scope_partial h
  simp only [hk s hl, hw, reduceCtorEq, Bool.true_eq_false, false_or] at hor
  exact ⟨s, m', hl, hp, hor⟩

/-- … and one whose key is not accepted is closed and changes nothing -/
theorem workconn_scope_refused {m : WorkConn} (hw : cfg.wc = true)
    (hk : ∀ s, lookup srv m.runId = some s → workVerifier fx internal s = .cfg)
    (hbad : ∀ m', P.work m = some m' → keyOk pr cfg srv.subjects m'.ts m'.key = false) :
    (registerWork fx P pr cfg srv internal conn m).2.closed = true ∧
      (registerWork fx P pr cfg srv internal conn m).1 = srv := by
  have hc : (registerWork fx P pr cfg srv internal conn m).2.closed = true := by
    apply Bool.of_not_eq_false
    intro h
    obtain ⟨s, m', _, hp, hok⟩ := workconn_scope hw hk h
    rw [hbad m' hp] at hok
    cases hok
  exact ⟨hc, workconn_refused hc⟩

/-- the property's clause at full strength: with the NewWorkConns scope on, a work connection arriving
    on a NETWORK listener is pooled only with an accepted key -/
def WorkconnScopeFull (fx : Bool) : Prop :=
  ∀ (P : Plugins) (pr : Prim) (cfg : Cfg) (srv : Srv) (conn : ConnId) (m : WorkConn),
    cfg.wc = true → (registerWork fx P pr cfg srv false conn m).2.closed = false →
    ∃ s m', lookup srv m.runId = some s ∧ P.work m = some m' ∧
      keyOk pr cfg srv.subjects m'.ts m'.key = true

/-- the clause of `WorkconnScopeFull`, for either value of `fx`, in every state without always-pass sessions - by
    `network_never_alwaysPass` every state reached without logins on the internal (ssh gateway) listener -/
theorem workconn_scope_no_gateway {m : WorkConn} (hall : AllCfg srv) (hw : cfg.wc = true)
    (h : (registerWork fx P pr cfg srv false conn m).2.closed = false) :
    ∃ s m', lookup srv m.runId = some s ∧ P.work m = some m' ∧
      keyOk pr cfg srv.subjects m'.ts m'.key = true :=
  workconn_scope hw (fun s hl => workVerifier_of_cfg fx false (hall s (mem_of_lookup hl).1)) h

def witPrim : Prim := { H := fun _ _ => [1], jwtClaims := fun _ => none, jwtSigOk := fun _ => false, now := 0 }
def witCfg : Cfg := { method := .token, hb := false, wc := true, token := [116], maxPool := 5 }
/-- a session the ssh gateway's virtual client created with `AlwaysAuthPass` (ssh did the authentication) -/
def witSrv : Srv :=
  { sessions := [{ runId := [114], ctl := 0, vk := .alwaysPass, poolCap := 10, pool := [], proxies := [], lastPing := 0 }],
    subjects := [] }

/-- THE CODE BEFORE fix: 7ed0301: the full clause fails.  A peer on a network listener that names the run id of an
    ssh-gateway session gets its work connection pooled with a wrong key although the scope is on
    (`RegisterWorkConn` verifies with `ctl.authVerifier`, the always-pass verifier of that session). -/
theorem workconn_scope_witness : ¬ WorkconnScopeFull false := by
  intro h
  obtain ⟨s, m', _, hp, hk⟩ :=
    h Plugins.id witPrim witCfg witSrv 7 { runId := [114], ts := 0, key := [] } rfl (by decide)
  cases hp
  revert hk
  decide

/-- THE REPAIRED CODE (the pinned tree, `workVerifierIsFixed := true`): the full clause holds in every state -/
theorem workconn_scope_fixed : WorkconnScopeFull true :=
  fun _ _ _ _ _ _ hw h => workconn_scope hw (fun _ _ => rfl) h

/-! ## 4. Who holds the always-pass verifier -/

/-- events that are not a login on the internal listener -/
def NoInternalLogin : Ev → Prop
  | .first true _ (.login _) => False
  | _ => True

/-- events that cannot select the always-pass verifier: everything except a login on the internal
    listener that carries the flag when the plugins hand it on -/
def NoBypassLogin (P : Plugins) : Ev → Prop
  | .first true _ (.login m) => ∀ m', P.login m = some m' → m'.aap = false
  | _ => True

theorem noBypass_of_noInternal {e : Ev} (he : NoInternalLogin e) : NoBypassLogin P e := by
  unfold NoBypassLogin
  split
  · exact he.elim
  · trivial

variable (fx P pr cfg) in
theorem step_allCfg {e : Ev} (he : NoBypassLogin P e) (h : AllCfg srv) :
    AllCfg (stepG fx P pr cfg srv e).1 := by
  have hs := stepG_effect fx P pr cfg srv e
  generalize (stepG fx P pr cfg srv e).1 = srv₁ at hs ⊢
  cases hs with
  | none => exact h
  | @login i c m m' sj hp hv =>
    intro s hs
    rcases mem_or_eq_of_mem_filter_append hs with hs | rfl
    · exact h s hs
    · -- the new session: from the network the flag is not looked at, on the internal listener it is off
      cases i with
      | false => rfl
      | true => simp [newSession, verifierFor, he m' hp]
  | work | ping | proxies | user => exact allCfg_updSession (fun _ => rfl) h
  | drop => exact fun s hs => h s (List.mem_filter.mp hs).1

/-- over EVERY history without a login on the internal listener (whatever the peers send, incl. the
    flag), no session ever holds the always-pass verifier -/
theorem network_never_alwaysPass (evs : List Ev) (hn : ∀ e ∈ evs, NoInternalLogin e) (h : AllCfg srv) :
    AllCfg (runG fx P pr cfg srv evs) := by
  exact foldl_invariant h fun _ e he hs => step_allCfg fx P pr cfg (noBypass_of_noInternal (hn e he)) hs

/-! ## 5. `lastPing` is refreshed by accepted heartbeats only - every event, every history

  server/control.go: `lastPing.Store` is called in `NewControl` and, after `VerifyPing` succeeded, in `handlePing`
  (regenerated source facts `lastPingStores`, `handlePingOrder`).  No other message on the control connection
  (NewProxy, CloseProxy), no first message of another connection naming the session (work / visitor connection,
  refused login) and no user connection touches it. -/

/-- the liveness record (run id, control connection, lastPing) of `s'` is that of a session of `srv` -/
def Kept (srv : Srv) (s' : Session) : Prop :=
  ∃ s ∈ srv.sessions, s.runId = s'.runId ∧ s.ctl = s'.ctl ∧ s.lastPing = s'.lastPing

theorem kept_updSession {rid : RunId} {f : Session → Session} {s' : Session}
    (h : s' ∈ (updSession srv rid f).sessions)
    (hf : ∀ x, (f x).runId = x.runId ∧ (f x).ctl = x.ctl ∧ (f x).lastPing = x.lastPing) : Kept srv s' := by
  obtain ⟨s, hs, e⟩ := mem_updSession h
  subst e
  refine ⟨s, hs, ?_⟩
  split
  · obtain ⟨a, b, c⟩ := hf s
    exact ⟨a.symm, b.symm, c.symm⟩
  · exact ⟨rfl, rfl, rfl⟩

/-- event `e` is a heartbeat that the plugins passed and the session's verifier accepted, on the control
    connection of a session with run id `rid` -/
def AcceptedPingOn (P : Plugins) (pr : Prim) (cfg : Cfg) (srv : Srv) (e : Ev) (rid : RunId) : Prop :=
  ∃ c m s m', e = .ping c m ∧ byCtl srv c = some s ∧ s.runId = rid ∧ P.ping m = some m' ∧
    verifyPing pr cfg srv.subjects s.vk m' = true

/-- ONE STEP, EVERY EVENT: a session of the state afterwards either has the liveness record of a session before,
    or is a fresh session of an accepted login (`lastPing` = the moment of `NewControl`), or the event is an
    accepted heartbeat on a session with its run id and `lastPing` moved by exactly that one -/
theorem lastPing_step {e : Ev} {s' : Session} (h : s' ∈ (stepG fx P pr cfg srv e).1.sessions) :
    Kept srv s'
    ∨ (s'.lastPing = 0 ∧ ∃ i m, e = .first i s'.ctl (.login m) ∧ LoginAccepted P pr cfg srv i m)
    ∨ (AcceptedPingOn P pr cfg srv e s'.runId ∧
        ∃ t ∈ srv.sessions, t.runId = s'.runId ∧ t.ctl = s'.ctl ∧ s'.lastPing = t.lastPing + 1) := by
  have keep : ∀ {t}, t ∈ srv.sessions → Kept srv t := fun ht => ⟨_, ht, rfl, rfl, rfl⟩
  have he := stepG_effect fx P pr cfg srv e
  generalize (stepG fx P pr cfg srv e).1 = srv₁ at he h
  cases he with
  | none => exact Or.inl (keep h)
  | @login i c m m' sj hp hv =>
    rcases mem_or_eq_of_mem_filter_append h with hs | rfl
    · exact Or.inl (keep hs)
    · exact Or.inr (Or.inl ⟨rfl, i, m, rfl, m', hp, hv ▸ rfl⟩)
  | work | proxies | user => exact Or.inl (kept_updSession h (fun _ => ⟨rfl, rfl, rfl⟩))
  | @ping c m s m' hs hp hv =>
    obtain ⟨t, ht, rfl⟩ := mem_updSession h
    split
    · rename_i hr
      exact Or.inr (Or.inr ⟨⟨c, m, s, m', rfl, hs, hr.symm, hp, hv⟩, t, ht, rfl, rfl, rfl⟩)
    · exact Or.inl (keep ht)
  | drop => exact Or.inl (keep (List.mem_filter.mp h).1)

/-- OVER EVERY HISTORY in which no heartbeat is accepted on run id `rid` (invalid heartbeats, NewProxy / CloseProxy
    requests, work and visitor connections, refused logins, user connections - in any number and order): the
    `lastPing` of a session with that run id is still the one a session with that run id started the history
    with, or that of its own login (0).  "Heartbeats without a valid key do not keep a session alive", and nothing
    else does either. -/
theorem lastPing_frozen_without_valid_ping (evs : List Ev) {rid : RunId}
    (hno : ∀ pre e post, evs = pre ++ e :: post → ¬ AcceptedPingOn P pr cfg (runG fx P pr cfg srv pre) e rid)
    {s' : Session} (h : s' ∈ (runG fx P pr cfg srv evs).sessions) (hr : s'.runId = rid) :
    s'.lastPing = 0 ∨ ∃ s ∈ srv.sessions, s.runId = rid ∧ s.lastPing = s'.lastPing := by
  induction evs generalizing srv with
  | nil => exact Or.inr ⟨s', h, hr, rfl⟩
  | cons e rest ih =>
    rcases ih (fun pre e' post he => hno (e :: pre) e' post (he ▸ rfl)) h with h0 | ⟨s1, hs1, hr1, hl1⟩
    · exact Or.inl h0
    · rcases lastPing_step hs1 with ⟨s, hs, e1, _, e3⟩ | ⟨h0, _⟩ | ⟨hacc, _⟩
      · exact Or.inr ⟨s, hs, by rw [e1, hr1], by rw [e3, hl1]⟩
      · exact Or.inl (by rw [← hl1]; exact h0)
      · rw [hr1] at hacc
        exact absurd hacc (hno [] e rest rfl)

/-! ## 6. The key function: what "a valid key" proves

  `Prim.H` = util.GetAuthKey is abstract.  Everything above says "accepted ⇒ key = H token ts".  That this means
  "the peer knows the token" needs one ASSUMPTION about the function: for a fixed timestamp, different tokens give
  different keys (`KeyInjective`).  It is an assumption about MD5 over token ++ decimal(ts) (no collision is
  known between such strings; MD5 is not injective on all strings) and is EVALUATED on the implementation by the
  engine (ops `authkey` / `authkey2`: util.GetAuthKey against two independent MD5s, tokens of 0 … 200 bytes,
  proper prefixes and extensions of one another, multi-byte UTF-8, all magnitudes of timestamps).  Under it a key
  computed from ANY other token - a prefix, an extension, a token that differs in one byte - is refused on all
  three paths. -/

def KeyInjective (H : Str → Int → Key) : Prop := ∀ a b ts, H a ts = H b ts → a = b

/-- a login accepted from a network listener carries the key of the configured token and of no other token -/
theorem login_proves_token (hinj : KeyInjective pr.H) (hm : cfg.method = .token) {m : Login} {rid : RunId}
    (h : (handleFirstG fx Plugins.id pr cfg srv false conn (.login m)).2.reply = .loginOk rid) {tok : Str}
    (hk : m.key = pr.H tok m.ts) : tok = cfg.token := by
  obtain ⟨m', hp, e⟩ := login_token_network hm h
  cases hp
  exact hinj _ _ _ (hk.symm.trans e)

/-- … so a login whose key was computed from another token is refused and changes nothing (the flag does not help) -/
theorem other_token_login_refused (hinj : KeyInjective pr.H) (hm : cfg.method = .token) {tok : Str}
    (hne : tok ≠ cfg.token) (m : Login) :
    handleFirstG fx Plugins.id pr cfg srv false conn (.login { m with key := pr.H tok m.ts })
      = (srv, { reply := .loginErr, closed := true }) := by
  apply login_refused
  rintro ⟨m', hp, hv⟩
  cases hp
  rw [verifierFor_network, verifyLogin_isSome_token hm, decide_eq_true_eq] at hv
  exact hne (hinj _ _ _ hv).symm

/-- HeartBeats scope on: a heartbeat whose key was computed from another token changes nothing -/
theorem other_token_ping_refused (hinj : KeyInjective pr.H) (hm : cfg.method = .token) (hb : cfg.hb = true)
    {s : Session} (hs : byCtl srv conn = some s) (hk : s.vk = .cfg) {tok : Str} (hne : tok ≠ cfg.token) (ts : Int) :
    handlePing Plugins.id pr cfg srv conn { ts := ts, key := pr.H tok ts }
      = (srv, { reply := .pongErr, closed := false }) := by
  apply ping_scope_token hs hk hb hm (m' := { ts := ts, key := pr.H tok ts }) rfl
  exact fun e => hne (hinj _ _ _ e)

/-- NewWorkConns scope on: a work connection from the network whose key was computed from another token is refused
    (closed, nothing pooled, state unchanged), whatever session it names -/
theorem other_token_work_refused (hinj : KeyInjective pr.H) (hm : cfg.method = .token) (hw : cfg.wc = true)
    {tok : Str} (hne : tok ≠ cfg.token) (rid : RunId) (ts : Int) :
    (registerWork true Plugins.id pr cfg srv false conn { runId := rid, ts := ts, key := pr.H tok ts }).2.closed = true ∧
    (registerWork true Plugins.id pr cfg srv false conn { runId := rid, ts := ts, key := pr.H tok ts }).1 = srv := by
  apply workconn_scope_refused hw (fun _ _ => rfl)
  intro m' hp
  cases hp
  rw [keyOk_token hm, decide_eq_false_iff_not]
  exact fun e => hne (hinj _ _ _ e).symm

/-! ## 7. Refused attempts leave nothing behind -/

/-- a first message whose connection the server closes changes nothing: sessions (with their pools,
    proxies, lastPing) and the OIDC subject list are literally the same -/
theorem first_refused_unchanged {i : Bool} {c : ConnId} {m : First}
    (h : (handleFirstG fx P pr cfg srv i c m).2.closed = true) :
    (handleFirstG fx P pr cfg srv i c m).1 = srv := by
  cases m with
  | login m =>
    rcases login_cases fx P pr cfg srv i c m with ⟨_, _, _, _, e⟩ | ⟨_, e⟩
    · rw [e] at h
      cases h
    · rw [e]
  | work m => exact workconn_refused h
  | visitor rid ok => exact visitor_fst i c rid ok
  | other | garbage => rfl

/-- refused first messages as (listener kind, connection, message) -/
abbrev Attempt := Bool × ConnId × First

def attemptEv (a : Attempt) : Ev := .first a.1 a.2.1 a.2.2

/-- `a` is refused by the server in state `srv` -/
def Refused (fx : Bool) (P : Plugins) (pr : Prim) (cfg : Cfg) (srv : Srv) (a : Attempt) : Prop :=
  (handleFirstG fx P pr cfg srv a.1 a.2.1 a.2.2).2.closed = true

/-- every attempt of the list is refused in the state its predecessors left -/
def RefusedAlong (fx : Bool) (P : Plugins) (pr : Prim) (cfg : Cfg) : Srv → List Attempt → Prop
  | _, [] => True
  | srv, a :: rest => Refused fx P pr cfg srv a ∧
      RefusedAlong fx P pr cfg (handleFirstG fx P pr cfg srv a.1 a.2.1 a.2.2).1 rest

theorem refused_along_no_residue (as : List Attempt) (h : RefusedAlong fx P pr cfg srv as) :
    runG fx P pr cfg srv (as.map attemptEv) = srv := by
  induction as generalizing srv with
  | nil => rfl
  | cons a rest ih =>
    obtain ⟨ha, hr⟩ := h
    show runG fx P pr cfg (handleFirstG fx P pr cfg srv a.1 a.2.1 a.2.2).1 (rest.map attemptEv) = srv
    rw [first_refused_unchanged ha] at hr ⊢
    exact ih hr

theorem refusedAlong_of_forall (as : List Attempt) (h : ∀ a ∈ as, Refused fx P pr cfg srv a) :
    RefusedAlong fx P pr cfg srv as := by
  induction as with
  | nil => trivial
  | cons a rest ih =>
    refine ⟨h a List.mem_cons_self, ?_⟩
    rw [first_refused_unchanged (h a List.mem_cons_self)]
    exact ih fun x hx => h x (List.mem_cons_of_mem _ hx)

/-- EVERY sequence of attempts, of any length, each of which the server refuses, leaves the server
    state exactly as it was (so every existing session, its proxies, pool and lastPing are untouched,
    and each attempt is refused in the very same state) -/
theorem refused_no_residue (as : List Attempt) (h : ∀ a ∈ as, Refused fx P pr cfg srv a) :
    runG fx P pr cfg srv (as.map attemptEv) = srv :=
  refused_along_no_residue as (refusedAlong_of_forall as h)

/-- even an ACCEPTED login touches no session with another run id -/
theorem login_others_untouched {m m' : Login} {s : Session} (hp : P.login m = some m')
    (hs : s ∈ srv.sessions) (hne : s.runId ≠ effRunId m') :
    s ∈ (handleFirstG fx P pr cfg srv internal conn (.login m)).1.sessions := by
  rcases login_cases fx P pr cfg srv internal conn m with ⟨m'', _, hp', _, e⟩ | ⟨_, e⟩
  · rw [hp] at hp'
    cases hp'
    rw [e]
    exact List.mem_append_left _ (List.mem_filter.mpr ⟨hs, by simpa using hne⟩)
  · rw [e]
    exact hs

/-- even an ACCEPTED work connection touches no session with another run id -/
theorem work_others_untouched {m : WorkConn} {s : Session}
    (hs : s ∈ srv.sessions) (hne : s.runId ≠ m.runId) :
    s ∈ (handleFirstG fx P pr cfg srv internal conn (.work m)).1.sessions := by
  show s ∈ (registerWork fx P pr cfg srv internal conn m).1.sessions
  rcases work_cases fx P pr cfg srv internal conn m with ⟨t, _, hl, _, _, _, e⟩ | ⟨e, _⟩
  · rw [e]
    exact other_mem_updSession hs (by rw [(mem_of_lookup hl).2]; exact hne)
  · rw [e]
    exact hs

/-! ## 8. Where table entries come from (one step, every event) -/

/-- a control connection appears in the session table only by an accepted login on that connection -/
theorem new_session_only_by_login {e : Ev} {c : ConnId}
    (hnew : c ∈ ctls (stepG fx P pr cfg srv e).1) (hold : c ∉ ctls srv) :
    ∃ i m, e = .first i c (.login m) ∧ LoginAccepted P pr cfg srv i m := by
  have he := stepG_effect fx P pr cfg srv e
  generalize (stepG fx P pr cfg srv e).1 = srv₁ at he hnew
  cases he with
  | none => exact absurd hnew hold
  | @login i c' m m' sj hp hv =>
    obtain ⟨s, hs, rfl⟩ := mem_ctls.mp hnew
    rcases mem_or_eq_of_mem_filter_append hs with hs | rfl
    · exact absurd (mem_ctls.mpr ⟨s, hs, rfl⟩) hold
    · exact ⟨i, m, rfl, m', hp, hv ▸ rfl⟩
  | work | ping | proxies | user => exact absurd (mem_ctls_updSession hnew (fun _ => rfl)) hold
  | drop =>
    obtain ⟨s, hs, rfl⟩ := mem_ctls.mp hnew
    exact absurd (mem_ctls.mpr ⟨s, (List.mem_filter.mp hs).1, rfl⟩) hold

/-- a proxy is registered only on the control connection of a live (hence logged-in) session -/
theorem proxy_needs_session {name : Str}
    (h : (handleNewProxy srv conn name).2.reply = .proxyOk) : ∃ s, byCtl srv conn = some s := by
  rcases handleNewProxy_cases srv conn name with ⟨_, hne⟩ | ⟨s, hs, _⟩
  · exact absurd h hne
  · exact ⟨s, hs⟩

/-! ## 9. OIDC at claim level (pkg/auth/oidc.go NewTokenVerifier + go-oidc Verify)

  `oidcVerify` is go-oidc's decision over the claims of the token under
  the `oidc.Config` that `auth.NewTokenVerifier` builds from `auth.oidc.{issuer, audience, skipExpiryCheck,
  skipIssuerCheck}`.  Abstract: JWT parsing (`jwtClaims`) and "signed, with a supported algorithm, by a key
  the provider's JWKS publishes, over exactly this payload" (`jwtSigOk`). -/

/-- what a key must be for the configured OIDC verifier to accept it, `c` = its claims -/
def TokenValid (pr : Prim) (oc : OidcCfg) (key : Key) (c : Claims) : Prop :=
  pr.jwtClaims key = some c ∧ pr.jwtSigOk key = true ∧
  (oc.skipIssuer = true ∨ c.iss = oc.issuer ∨ (oc.issuer = googleIss ∧ c.iss = googleIssNoScheme)) ∧
  (oc.audience = [] ∨ oc.audience ∈ c.aud) ∧
  (oc.skipExpiry = true ∨ (¬ c.exp < pr.now ∧ ∀ n, c.nbf = some n → ¬ pr.now + nbfLeeway < n))

/-- the verifier accepts a key with subject `sub` iff the key is a valid token whose `sub` claim is `sub` -/
theorem oidcVerify_iff {oc : OidcCfg} {key : Key} {sub : Subject} :
    oidcVerify pr oc key = some sub ↔ ∃ c, TokenValid pr oc key c ∧ c.sub = sub := by
  unfold oidcVerify TokenValid
  cases pr.jwtClaims key with
  | none => simp
  | some c =>
    -- both sides are the same five conditions, as one Boolean test and as a conjunction
    simp only [issOk, audOk, timeOk_iff, Bool.and_eq_true, Bool.or_eq_true, decide_eq_true_eq, Option.some.injEq,
      Option.ite_none_right_eq_some, or_assoc]
    constructor
    · rintro ⟨⟨⟨⟨hi, ha⟩, ht⟩, hs⟩, rfl⟩
      exact ⟨c, ⟨rfl, hs, hi, ha, ht⟩, rfl⟩
    · rintro ⟨_, ⟨rfl, hs, hi, ha, ht⟩, rfl⟩
      exact ⟨⟨⟨⟨hi, ha⟩, ht⟩, hs⟩, rfl⟩

/-- the ordinary configuration (no skip option, an audience configured, a non-Google issuer): a valid token
    names exactly the configured issuer, lists the configured audience, is not expired and not used before
    its time (5 min leeway) - "a token the provider issued for this audience" -/
theorem tokenValid_strict {oc : OidcCfg} {key : Key} {c : Claims} (h : TokenValid pr oc key c)
    (hi : oc.skipIssuer = false) (he : oc.skipExpiry = false) (ha : oc.audience ≠ []) (hg : oc.issuer ≠ googleIss) :
    pr.jwtSigOk key = true ∧ c.iss = oc.issuer ∧ oc.audience ∈ c.aud ∧ ¬ c.exp < pr.now ∧
      ∀ n, c.nbf = some n → ¬ pr.now + nbfLeeway < n := by
  obtain ⟨_, hs, h1, h2, h3⟩ := h
  simp only [hi, hg, Bool.false_eq_true, false_or, false_and, or_false] at h1
  simp only [ha, false_or] at h2
  simp only [he, Bool.false_eq_true, false_or] at h3
  exact ⟨hs, h1, h2, h3⟩

/-- OIDC, network listener: a session is created only for a valid token, and its subject is then among
    `subjectsFromLogin` -/
theorem oidc_login_claims {m : Login} {rid : RunId} (hm : cfg.method = .oidc)
    (h : (handleFirstG fx P pr cfg srv false conn (.login m)).2.reply = .loginOk rid) :
    ∃ m' c, P.login m = some m' ∧ TokenValid pr cfg.oidc m'.key c ∧
      c.sub ∈ (handleFirstG fx P pr cfg srv false conn (.login m)).1.subjects := by
  obtain ⟨m', sub, hp, hv, hs⟩ := login_oidc_network hm h
  obtain ⟨c, hc, rfl⟩ := oidcVerify_iff.mp hv
  exact ⟨m', c, hp, hc, hs⟩

theorem keyOk_oidc {subs : List Subject} {ts : Int} {key : Key} (hm : cfg.method = .oidc)
    (h : keyOk pr cfg subs ts key = true) : ∃ c, TokenValid pr cfg.oidc key c ∧ c.sub ∈ subs := by
  obtain ⟨sub, hv, hs⟩ := (keyOk_oidc_iff hm).mp h
  obtain ⟨c, hc, rfl⟩ := oidcVerify_iff.mp hv
  exact ⟨c, hc, hs⟩

/-- OIDC with the HeartBeats scope, ordinary session: `lastPing` moves only for a valid token whose subject
    some accepted login put into `subjectsFromLogin` (the list is per SERVER, not per session, and is never
    shortened: the subject of ANY earlier login is good for a ping on ANY session) -/
theorem oidc_ping_claims {m : Ping} {s : Session} (hm : cfg.method = .oidc) (hb : cfg.hb = true)
    (hs : byCtl srv conn = some s) (hk : s.vk = .cfg)
    (h : (handlePing P pr cfg srv conn m).1 ≠ srv) :
    ∃ m' c, P.ping m = some m' ∧ TokenValid pr cfg.oidc m'.key c ∧ c.sub ∈ srv.subjects := by
  obtain ⟨s', m', hs', hp, hor⟩ := ping_moved_needs_key h
  rw [hs] at hs'
  cases hs'
  simp only [hk, hb, reduceCtorEq, Bool.true_eq_false, false_or] at hor
  obtain ⟨c, hc, hsub⟩ := keyOk_oidc hm hor
  exact ⟨m', c, hp, hc, hsub⟩

/-- OIDC with the NewWorkConns scope: a work connection from a network listener is pooled only with a valid
    token of a logged-in subject (the repaired code, `workVerifierIsFixed`; every state) -/
theorem oidc_work_claims {m : WorkConn} (hm : cfg.method = .oidc) (hw : cfg.wc = true)
    (h : (registerWork true P pr cfg srv false conn m).2.closed = false) :
    ∃ s m' c, lookup srv m.runId = some s ∧ P.work m = some m' ∧ TokenValid pr cfg.oidc m'.key c ∧
      c.sub ∈ srv.subjects := by
  obtain ⟨s, m', hl, hp, hk⟩ := workconn_scope_fixed P pr cfg srv conn m hw h
  obtain ⟨c, hc, hsub⟩ := keyOk_oidc hm hk
  exact ⟨s, m', c, hl, hp, hc, hsub⟩

/-- `sub` entered `subjectsFromLogin` by this event: a login verified by the configured OIDC verifier -/
def LoginOf (P : Plugins) (pr : Prim) (cfg : Cfg) (sub : Subject) (e : Ev) : Prop :=
  ∃ i c m m', e = .first i c (.login m) ∧ P.login m = some m' ∧ verifierFor i m' = .cfg ∧
    cfg.method = .oidc ∧ oidcVerify pr cfg.oidc m'.key = some sub

theorem step_subjects {e : Ev} {sub : Subject} (h : sub ∈ (stepG fx P pr cfg srv e).1.subjects) :
    sub ∈ srv.subjects ∨ LoginOf P pr cfg sub e := by
  have he := stepG_effect fx P pr cfg srv e
  generalize (stepG fx P pr cfg srv e).1 = srv₁ at he h
  cases he with
  | @login i c m m' sj hp hv =>
    rcases verifyLogin_subjects hv h with h1 | ⟨h1, h2, h3⟩
    · exact Or.inl h1
    · exact Or.inr ⟨i, c, m, m', rfl, hp, h1, h2, h3⟩
  | _ => exact Or.inl h

/-- over EVERY history: a subject is in `subjectsFromLogin` only if it was there at the start or some
    login in the history was verified (by the configured verifier) with a token of that subject - so the
    subject a ping / work connection must carry is the subject of an accepted login -/
theorem subjects_only_from_logins (evs : List Ev) {sub : Subject}
    (h : sub ∈ (runG fx P pr cfg srv evs).subjects) :
    sub ∈ srv.subjects ∨ ∃ e ∈ evs, LoginOf P pr cfg sub e := by
  induction evs generalizing srv with
  | nil => exact Or.inl h
  | cons e rest ih =>
    rcases ih h with h1 | ⟨e', he', hl⟩
    · rcases step_subjects h1 with h2 | h2
      · exact Or.inl h2
      · exact Or.inr ⟨e, List.mem_cons_self, h2⟩
    · exact Or.inr ⟨e', List.mem_cons_of_mem _ he', hl⟩

/-! ## 10. Time and the provider's key set: no verdict is remembered

  The histories above run with ONE `Prim`.  Here every message arrives at its own `Moment` (clock, JWKS document
  served at that time) and the verifier's key cache is state (`AuthGate.stepT` / `runT`).  Because every theorem
  of this file holds for all `Prim`, it holds at every moment with `primAt pt (mo.idp cache)`; what is added is
  (1) acceptance is decided by the token, the moment, the cache and the login subjects - not by the session table
  and not by what was accepted before (`*_depends`), (2) a token that is not valid NOW is refused after EVERY
  history, including histories in which the very same token was accepted any number of times
  (`replay_refused_after_any_history`), with the two ways a token stops being valid spelled out (`expired_none`,
  `unpublished_none`, `rotated_key_refused`), (3) the cache only ever holds keys the provider published
  (`cache_provenance`). -/

theorem sigOkAt_iff {pt : PrimT} {w : Idp} {key : Key} :
    sigOkAt pt w key = true ↔ pt.jwsOk key = true ∧
      ((∃ j ∈ w.cache, pt.sigBy key j = true) ∨ ∃ ks, w.jwks = some ks ∧ ∃ j ∈ ks, pt.sigBy key j = true) := by
  unfold sigOkAt
  cases w.jwks with
  | none | some _ => simp [List.any_eq_true]

/-- expired now (and the operator did not switch the check off): not accepted, whatever keys are cached or published -/
theorem expired_none {pt : PrimT} {w : Idp} {oc : OidcCfg} {key : Key} {c : Claims}
    (hc : pt.jwtClaims key = some c) (he : oc.skipExpiry = false) (hx : c.exp < w.now) :
    oidcVerify (primAt pt w) oc key = none := by
  simp [oidcVerify, primAt, hc, timeOk, he, hx]

/-- signed by no key that is cached or published now: not accepted, whatever its claims say -/
theorem unpublished_none {pt : PrimT} {w : Idp} {oc : OidcCfg} {key : Key}
    (h1 : ∀ j ∈ w.cache, pt.sigBy key j = false)
    (h2 : ∀ ks, w.jwks = some ks → ∀ j ∈ ks, pt.sigBy key j = false) :
    oidcVerify (primAt pt w) oc key = none := by
  apply Option.eq_none_iff_forall_ne_some.mpr
  intro sub h
  obtain ⟨c, ⟨_, hs, _⟩, _⟩ := oidcVerify_iff.mp h
  obtain ⟨_, ⟨j, hj, e⟩ | ⟨ks, hk, j, hj, e⟩⟩ := sigOkAt_iff.mp hs
  · rw [h1 j hj] at e
    cases e
  · rw [h2 ks hk j hj] at e
    cases e

/-- OIDC, network listener: a login whose key the verifier does not accept NOW is refused, nothing changes -/
theorem stale_login_refused {m m' : Login} (hm : cfg.method = .oidc) (hp : P.login m = some m')
    (hv : oidcVerify pr cfg.oidc m'.key = none) :
    handleFirstG fx P pr cfg srv false conn (.login m) = (srv, { reply := .loginErr, closed := true }) := by
  apply login_refused
  rintro ⟨m'', hp', hs⟩
  rw [hp] at hp'
  cases hp'
  rw [verifierFor_network, verifyLogin_isSome_oidc hm, hv] at hs
  cases hs

/-- OIDC, HeartBeats scope, ordinary session: a ping whose key is not accepted NOW moves nothing -/
theorem stale_ping_refused {s : Session} {m m' : Ping} (hm : cfg.method = .oidc) (hs : byCtl srv conn = some s)
    (hk : s.vk = .cfg) (hb : cfg.hb = true) (hp : P.ping m = some m')
    (hv : oidcVerify pr cfg.oidc m'.key = none) :
    handlePing P pr cfg srv conn m = (srv, { reply := .pongErr, closed := false }) :=
  ping_scope hs hk hb hp (keyOk_oidc_none hm hv)

/-- OIDC, NewWorkConns scope, network listener: a work connection whose key is not accepted NOW is closed,
    nothing changes -/
theorem stale_work_refused {m : WorkConn} (hm : cfg.method = .oidc) (hw : cfg.wc = true)
    (hv : ∀ m', P.work m = some m' → oidcVerify pr cfg.oidc m'.key = none) :
    (registerWork true P pr cfg srv false conn m).2.closed = true ∧
      (registerWork true P pr cfg srv false conn m).1 = srv :=
  workconn_scope_refused hw (fun _ _ => rfl) (fun m' hp => keyOk_oidc_none hm (hv m' hp))

/-- THE CLAUSE OVER TIMED HISTORIES.  Take any history `evs` - every message at its own moment, the key cache
    evolving as go-oidc's does, the same token possibly accepted in it any number of times - and any later moment
    `mo` at which the verifier does not accept `key` (expired: `expired_none`; its signing key gone from cache and
    JWKS: `unpublished_none` / `rotated_key_refused`).  Then at `mo`: a login with `key` is refused, a heartbeat
    with `key` (scope on) moves nothing, a work connection with `key` (scope on) is closed - and frps's tables
    are unchanged each time. -/
theorem replay_refused_after_any_history {pt : PrimT} (evs : List (Moment × Ev)) (st0 : TSrv) (mo : Moment)
    {key : Key} (hm : cfg.method = .oidc)
    (hv : oidcVerify (primAt pt (mo.idp (runT true P pt cfg st0 evs).cache)) cfg.oidc key = none) :
    let st := runT true P pt cfg st0 evs
    (∀ c m m', P.login m = some m' → m'.key = key →
        (stepT true P pt cfg st mo (.first false c (.login m))).1.srv = st.srv ∧
        (stepT true P pt cfg st mo (.first false c (.login m))).2 = { reply := .loginErr, closed := true }) ∧
    (∀ c s m m', byCtl st.srv c = some s → s.vk = .cfg → cfg.hb = true → P.ping m = some m' → m'.key = key →
        (stepT true P pt cfg st mo (.ping c m)).1.srv = st.srv ∧
        (stepT true P pt cfg st mo (.ping c m)).2 = { reply := .pongErr, closed := false }) ∧
    (∀ c m, cfg.wc = true → (∀ m', P.work m = some m' → m'.key = key) →
        (stepT true P pt cfg st mo (.first false c (.work m))).1.srv = st.srv ∧
        (stepT true P pt cfg st mo (.first false c (.work m))).2.closed = true) := by
  intro st
  refine ⟨?_, ?_, ?_⟩
  · intro c m m' hp hk
    subst hk
    simp only [stepT, stepG]
    rw [stale_login_refused hm hp hv]
    exact ⟨rfl, rfl⟩
  · intro c s m m' hs hk hb hp hkey
    subst hkey
    simp only [stepT, stepG]
    rw [stale_ping_refused hm hs hk hb hp hv]
    exact ⟨rfl, rfl⟩
  · intro c m hw hk
    have h := stale_work_refused (srv := st.srv) (conn := c) (m := m) hm hw
      (fun m' hp => by rw [hk m' hp]; exact hv)
    exact ⟨h.2, h.1⟩

theorem cache_step {pt : PrimT} {st : TSrv} {mo : Moment} {e : Ev} {j : Jwk}
    (h : j ∈ (stepT fx P pt cfg st mo e).1.cache) : j ∈ st.cache ∨ ∃ ks, mo.jwks = some ks ∧ j ∈ ks := by
  simp only [stepT] at h
  split at h
  · exact cacheAfterVerify_mem h
  · exact Or.inl h

/-- over every timed history: a key is in the verifier's cache only if it was there at the start or the
    provider's JWKS document listed it at some moment of the history -/
theorem cache_provenance {pt : PrimT} (evs : List (Moment × Ev)) {st : TSrv} {j : Jwk}
    (h : j ∈ (runT fx P pt cfg st evs).cache) :
    j ∈ st.cache ∨ ∃ me ∈ evs, ∃ ks, me.1.jwks = some ks ∧ j ∈ ks := by
  induction evs generalizing st with
  | nil => exact Or.inl h
  | cons me rest ih =>
    rcases ih h with h1 | ⟨me', hme, ks, hk, hj⟩
    · rcases cache_step h1 with h2 | ⟨ks, hk, hj⟩
      · exact Or.inl h2
      · exact Or.inr ⟨me, List.mem_cons_self, ks, hk, hj⟩
    · exact Or.inr ⟨me', List.mem_cons_of_mem _ hme, ks, hk, hj⟩

/-- key rotation: a token signed by a key that was not cached when the history began and that the provider
    published at no moment of the history and does not publish now is not accepted - whatever else happened -/
theorem rotated_key_refused {pt : PrimT} (evs : List (Moment × Ev)) (st0 : TSrv) (mo : Moment) {key : Key}
    (h0 : ∀ j ∈ st0.cache, pt.sigBy key j = false)
    (hh : ∀ me ∈ evs, ∀ ks, me.1.jwks = some ks → ∀ j ∈ ks, pt.sigBy key j = false)
    (hnow : ∀ ks, mo.jwks = some ks → ∀ j ∈ ks, pt.sigBy key j = false) :
    oidcVerify (primAt pt (mo.idp (runT fx P pt cfg st0 evs).cache)) cfg.oidc key = none := by
  apply unpublished_none
  · intro j hj
    rcases cache_provenance evs hj with h1 | ⟨me, hme, ks, hk, hjk⟩
    · exact h0 j h1
    · exact hh me hme ks hk j hjk
  · exact hnow

/-- the answer to a login does not depend on the server's state at all: it is a function of the message, the
    configuration and the primitives of the moment -/
theorem login_reply_depends (srv₁ srv₂ : Srv) (c₁ c₂ : ConnId) (m : Login) :
    (handleFirstG fx P pr cfg srv₁ internal c₁ (.login m)).2 =
      (handleFirstG fx P pr cfg srv₂ internal c₂ (.login m)).2 := by
  simp only [handleFirstG]
  cases P.login m with
  | none => rfl
  | some m' =>
    dsimp only
    rw [registerControl_snd, registerControl_snd, verifyLogin_isSome_indep (s₂ := srv₂.subjects)]

/-- the answer to a heartbeat depends on: the message, the moment's primitives, which verifier the session holds
    and WHICH SUBJECTS have logged in - nothing else of the server's state or past -/
theorem ping_reply_depends {srv₁ srv₂ : Srv} {c₁ c₂ : ConnId} {s₁ s₂ : Session}
    (h1 : byCtl srv₁ c₁ = some s₁) (h2 : byCtl srv₂ c₂ = some s₂) (hv : s₁.vk = s₂.vk)
    (hs : ∀ x, x ∈ srv₁.subjects ↔ x ∈ srv₂.subjects) (m : Ping) :
    (handlePing P pr cfg srv₁ c₁ m).2 = (handlePing P pr cfg srv₂ c₂ m).2 := by
  simp only [handlePing, h1, h2]
  cases P.ping m with
  | none => rfl
  | some m' =>
    dsimp only
    rw [hv, show verifyPing pr cfg srv₁.subjects s₂.vk m' = verifyPing pr cfg srv₂.subjects s₂.vk m' by
      simp only [verifyPing, keyOk_congr hs]]
    simp only [apply_ite Prod.snd]

/-- the fate of a work connection depends on: the message, the moment's primitives, the verifier of the session
    it names, whether that session's pool has room, and which subjects have logged in -/
theorem work_reply_depends {srv₁ srv₂ : Srv} {c₁ c₂ : ConnId} {s₁ s₂ : Session} {m : WorkConn}
    (h1 : lookup srv₁ m.runId = some s₁) (h2 : lookup srv₂ m.runId = some s₂) (hv : s₁.vk = s₂.vk)
    (hroom : s₁.pool.length < s₁.poolCap ↔ s₂.pool.length < s₂.poolCap)
    (hs : ∀ x, x ∈ srv₁.subjects ↔ x ∈ srv₂.subjects) :
    (registerWork fx P pr cfg srv₁ internal c₁ m).2 = (registerWork fx P pr cfg srv₂ internal c₂ m).2 := by
  have hw : workVerifier fx internal s₁ = workVerifier fx internal s₂ := by simp only [workVerifier, hv]
  simp only [registerWork, h1, h2]
  cases P.work m with
  | none => rfl
  | some m' =>
    dsimp only
    rw [hw, show verifyWork pr cfg srv₁.subjects (workVerifier fx internal s₂) m'
        = verifyWork pr cfg srv₂.subjects (workVerifier fx internal s₂) m' by simp only [verifyWork, keyOk_congr hs]]
    simp only [apply_ite Prod.snd, hroom]

/-- THE SAME OVER TIMED HISTORIES.  Two histories whatsoever (`evs₁`, `evs₂` from any states - in one of them the
    token may have been accepted a hundred times, in the other never) that leave go-oidc with the same cached keys:
    a login arriving at the same moment gets the same answer. -/
theorem timed_login_depends {pt : PrimT} (evs₁ evs₂ : List (Moment × Ev)) (st₁ st₂ : TSrv) (mo : Moment)
    (c₁ c₂ : ConnId) (m : Login)
    (hc : (runT fx P pt cfg st₁ evs₁).cache = (runT fx P pt cfg st₂ evs₂).cache) :
    (stepT fx P pt cfg (runT fx P pt cfg st₁ evs₁) mo (.first internal c₁ (.login m))).2 =
      (stepT fx P pt cfg (runT fx P pt cfg st₂ evs₂) mo (.first internal c₂ (.login m))).2 := by
  simp only [stepT, stepG, hc]
  exact login_reply_depends _ _ _ _ _

/-- … a heartbeat: the same answer if, besides the cached keys, the two sessions hold the same kind of verifier and
    the same subjects have logged in -/
theorem timed_ping_depends {pt : PrimT} (evs₁ evs₂ : List (Moment × Ev)) (st₁ st₂ : TSrv) (mo : Moment)
    {c₁ c₂ : ConnId} {s₁ s₂ : Session} (m : Ping)
    (hc : (runT fx P pt cfg st₁ evs₁).cache = (runT fx P pt cfg st₂ evs₂).cache)
    (h1 : byCtl (runT fx P pt cfg st₁ evs₁).srv c₁ = some s₁) (h2 : byCtl (runT fx P pt cfg st₂ evs₂).srv c₂ = some s₂)
    (hv : s₁.vk = s₂.vk)
    (hs : ∀ x, x ∈ (runT fx P pt cfg st₁ evs₁).srv.subjects ↔ x ∈ (runT fx P pt cfg st₂ evs₂).srv.subjects) :
    (stepT fx P pt cfg (runT fx P pt cfg st₁ evs₁) mo (.ping c₁ m)).2 =
      (stepT fx P pt cfg (runT fx P pt cfg st₂ evs₂) mo (.ping c₂ m)).2 := by
  simp only [stepT, stepG, hc]
  exact ping_reply_depends h1 h2 hv hs m

/-- … a work connection: additionally whether the named session's pool has room -/
theorem timed_work_depends {pt : PrimT} (evs₁ evs₂ : List (Moment × Ev)) (st₁ st₂ : TSrv) (mo : Moment)
    {c₁ c₂ : ConnId} {s₁ s₂ : Session} {m : WorkConn}
    (hc : (runT fx P pt cfg st₁ evs₁).cache = (runT fx P pt cfg st₂ evs₂).cache)
    (h1 : lookup (runT fx P pt cfg st₁ evs₁).srv m.runId = some s₁)
    (h2 : lookup (runT fx P pt cfg st₂ evs₂).srv m.runId = some s₂) (hv : s₁.vk = s₂.vk)
    (hroom : s₁.pool.length < s₁.poolCap ↔ s₂.pool.length < s₂.poolCap)
    (hs : ∀ x, x ∈ (runT fx P pt cfg st₁ evs₁).srv.subjects ↔ x ∈ (runT fx P pt cfg st₂ evs₂).srv.subjects) :
    (stepT fx P pt cfg (runT fx P pt cfg st₁ evs₁) mo (.first internal c₁ (.work m))).2 =
      (stepT fx P pt cfg (runT fx P pt cfg st₂ evs₂) mo (.first internal c₂ (.work m))).2 := by
  simp only [stepT, stepG, hc, handleFirstG]
  exact work_reply_depends h1 h2 hv hroom hs

/-- refused attempts at ANY moments (clock and key set changing between them, the key cache refreshed by them):
    frps's tables stay what they were -/
theorem refused_no_residue_timed {pt : PrimT} (as : List (Moment × Attempt)) (st : TSrv)
    (h : ∀ a ∈ as, ∀ cache, Refused fx P (primAt pt (a.1.idp cache)) cfg st.srv a.2) :
    (runT fx P pt cfg st (as.map (fun a => (a.1, attemptEv a.2)))).srv = st.srv := by
  induction as generalizing st with
  | nil => rfl
  | cons a rest ih =>
    have e : (stepT fx P pt cfg st a.1 (attemptEv a.2)).1.srv = st.srv :=
      first_refused_unchanged (h a List.mem_cons_self st.cache)
    exact (ih (stepT fx P pt cfg st a.1 (attemptEv a.2)).1
      (fun x hx cache => by rw [e]; exact h x (List.mem_cons_of_mem _ hx) cache)).trans e

/-! ## 11. User connections are served by checked work connections only -/

/-- `Control.GetWorkConn`: what a user connection is joined with was in the pool -/
theorem user_served_from_pool {name : Str} {c : ConnId} (h : (takeWork srv name).2 = some c) : c ∈ pooled srv := by
  rcases takeWork_cases srv name with e | ⟨s, c', rest, hs, hp, e⟩
  · rw [e] at h
    cases h
  · rw [e] at h
    cases h
    exact mem_pooled.mpr ⟨s, hs, hp ▸ List.mem_cons_self⟩

/-- one step, every event: a connection is in some pool afterwards only if it was before or this very event is
    a work connection on it that the server kept open (i.e. that passed `workconn_scope_partial`'s conditions) -/
theorem pooled_step {e : Ev} {c : ConnId} (h : c ∈ pooled (stepG fx P pr cfg srv e).1) :
    c ∈ pooled srv ∨ ∃ i m, e = .first i c (.work m) ∧ (registerWork fx P pr cfg srv i c m).2.closed = false := by
  have he := stepG_effect fx P pr cfg srv e
  generalize (stepG fx P pr cfg srv e).1 = srv₁ at he h
  cases he with
  | none => exact Or.inl h
  | login =>
    obtain ⟨s, hs, hc⟩ := mem_pooled.mp h
    rcases mem_or_eq_of_mem_filter_append hs with hs | rfl
    · exact Or.inl (mem_pooled.mpr ⟨s, hs, hc⟩)
    · exact absurd hc List.not_mem_nil
  | @work i c' m rid hcl =>
    rcases mem_pooled_updSession h with h1 | ⟨s, hs, hd⟩
    · exact Or.inl h1
    · rcases List.mem_append.mp hd with hd | hd
      · exact Or.inl (mem_pooled.mpr ⟨s, hs, hd⟩)
      · cases List.mem_singleton.mp hd
        exact Or.inr ⟨i, m, rfl, hcl⟩
  | ping | proxies => exact Or.inl (pooled_updSession_sub h (fun _ _ hy => hy))
  | drop =>
    obtain ⟨s, hs, hc⟩ := mem_pooled.mp h
    exact Or.inl (mem_pooled.mpr ⟨s, (List.mem_filter.mp hs).1, hc⟩)
  | user => exact Or.inl (pooled_updSession_sub h (fun _ _ hy => List.mem_of_mem_drop hy))

/-- over EVERY history (logins, heartbeats, proxies, drops, user connections, refused attempts of any number): a
    connection sits in a pool only if it did at the start or the history contains a work connection on it that
    the server accepted in the state it was in at that point -/
theorem pooled_only_by_accepted_work (evs : List Ev) {c : ConnId} (h : c ∈ pooled (runG fx P pr cfg srv evs)) :
    c ∈ pooled srv ∨ ∃ pre post i m, evs = pre ++ .first i c (.work m) :: post ∧
      (registerWork fx P pr cfg (runG fx P pr cfg srv pre) i c m).2.closed = false := by
  induction evs generalizing srv with
  | nil => exact Or.inl h
  | cons e rest ih =>
    rcases ih h with h1 | ⟨pre, post, i, m, he, hc⟩
    · rcases pooled_step h1 with h2 | ⟨i, m, he, hc⟩
      · exact Or.inl h2
      · exact Or.inr ⟨[], rest, i, m, he ▸ rfl, hc⟩
    · exact Or.inr ⟨e :: pre, post, i, m, he ▸ rfl, hc⟩

/-- … hence a user connection is only ever joined with a work connection that passed the check -/
theorem user_served_by_checked_conn (evs : List Ev) {name : Str} {c : ConnId} (h0 : pooled srv = [])
    (h : (takeWork (runG fx P pr cfg srv evs) name).2 = some c) :
    ∃ pre post i m, evs = pre ++ .first i c (.work m) :: post ∧
      (registerWork fx P pr cfg (runG fx P pr cfg srv pre) i c m).2.closed = false := by
  rcases pooled_only_by_accepted_work evs (user_served_from_pool h) with h1 | h1
  · rw [h0] at h1
    cases h1
  · exact h1

/-! ## 12. The ssh tunnel gateway: the only producer of `internal = true` (pkg/ssh, pkg/virtual) -/

/-- ANY `ssh.ServerConfig` with NoClientAuth off and no password / keyboard-interactive / gssapi callback: the only
    request golang.org/x/crypto/ssh can accept is a publickey request for a key the PublicKeyCallback accepts,
    signed by the client.  (Which fields NewGateway sets is a regenerated source fact: `sshCfgWrites`.) -/
theorem ssh_only_pubkey_can_authenticate {sc : SshSrvCfg} {a : SshAuth} {u : Str}
    (hn : sc.noClientAuth = false) (hp : sc.passwordCb = none) (hk : sc.kbdCb = none) (hg : sc.gssapi = none)
    (h : sshTry sc a = .ok u) : ∃ k f, a = .pubkey k true ∧ sc.pubkeyCb = some f ∧ f k = some u := by
  cases a with
  | none | password _ | kbd _ | gssapi => simp [sshTry, hn, hp, hk, hg] at h
  | pubkey k proved =>
    simp only [sshTry] at h
    split at h
    · cases h
    · rename_i f hf
      split at h
      · cases h
      · rename_i u' hu
        cases proved with
        | false => cases h
        | true =>
          cases h
          exact ⟨k, f, rfl, hf, hu⟩

/-- the gateway's configuration, authorizedKeysFile configured or not: a password (ANY password, also the empty
    one or the frp token), a keyboard-interactive exchange (any answers) and gssapi never authenticate -/
theorem gw_ssh_other_methods_fail (akSet : Bool) (file : Option (List (PubKey × Str))) (pw : Str) (ans : List Str) :
    sshTry (gwSshCfg akSet file) (.password pw) = .fail ∧ sshTry (gwSshCfg akSet file) (.kbd ans) = .fail ∧
    sshTry (gwSshCfg akSet file) .gssapi = .fail := ⟨rfl, rfl, rfl⟩

/-- whatever a client sends, in whatever order and number: the user-auth loop lets it in only through ONE of its
    requests that was accepted (failures, retries and the 6-failure limit never add a way in) -/
theorem sshAuthLoop_ok {sc : SshSrvCfg} {f nc : Nat} {reqs : List SshAuth} {u : Str}
    (h : sshAuthLoop sc f nc reqs = some u) : ∃ a ∈ reqs, sshTry sc a = .ok u := by
  induction reqs generalizing f nc with
  | nil => cases h
  | cons a rest ih =>
    simp only [sshAuthLoop] at h
    split at h
    · cases h
    · split at h
      · rename_i u' ht
        cases h
        exact ⟨a, List.mem_cons_self, ht⟩
      · cases h
      · obtain ⟨b, hb, e⟩ := ih h
        exact ⟨b, List.mem_cons_of_mem _ hb, e⟩

/-- authorizedKeysFile configured: the ssh handshake succeeds only for a client that PROVES possession of
    the private key of a key that is listed in the file as it is read at that moment - whatever else it tries
    (none, passwords, keyboard-interactive, gssapi, other keys, listed keys it cannot sign for) -/
theorem ssh_handshake_needs_key {file : Option (List (PubKey × Str))} {reqs : List SshAuth} {u : Str}
    (h : sshHandshake true file reqs = some u) :
    ∃ k l, .pubkey k true ∈ reqs ∧ file = some l ∧ (k, u) ∈ l := by
  obtain ⟨a, ha, ht⟩ := sshAuthLoop_ok h
  obtain ⟨k, f, rfl, hf, hu⟩ := ssh_only_pubkey_can_authenticate (sc := gwSshCfg true file) rfl rfl rfl rfl ht
  cases hf
  cases file with
  | none => cases hu
  | some l => exact ⟨k, l, ha, rfl, akLookup_mem hu⟩

/-- a client whose ssh handshake fails reaches nothing: no connection on the internal listener, the server
    state is literally unchanged (no session, no proxy, no work connection) -/
theorem gw_refused_unchanged {akSet : Bool} {t : Tunnel} (h : sshHandshake akSet t.file t.reqs = none) :
    gwTunnel fx P pr cfg akSet srv t = (srv, .authFail) := by
  simp [gwTunnel, h]

/-- authorizedKeysFile configured and the client has no authorized key it can sign for: no session -/
theorem gw_unauthorized_no_session {t : Tunnel}
    (h : ¬ ∃ k l u, .pubkey k true ∈ t.reqs ∧ t.file = some l ∧ (k, u) ∈ l) :
    gwTunnel fx P pr cfg true srv t = (srv, .authFail) := by
  apply gw_refused_unchanged
  cases hh : sshHandshake true t.file t.reqs with
  | none => rfl
  | some u =>
    obtain ⟨k, l, h1, h2, h3⟩ := ssh_handshake_needs_key hh
    exact absurd ⟨k, l, u, h1, h2, h3⟩ h

/-- a tunnel comes up only if the handshake succeeded, the command parsed and the login of the virtual
    client was accepted by the verifier RegisterControl selected for it -/
theorem gw_up_needs {akSet : Bool} {t : Tunnel} {rid : RunId} {name : Str}
    (h : (gwTunnel fx P pr cfg akSet srv t).2 = .up rid name) :
    ∃ pu c, sshHandshake akSet t.file t.reqs = some pu ∧ t.cmd = some c ∧
      LoginAccepted P pr cfg srv true (gwLogin pr akSet t c) ∧ name = gwProxyName (gwUser pu c) c.name := by
  unfold gwTunnel at h
  split at h
  · cases h
  · rename_i pu hh
    split at h
    · cases h
    · rename_i c hc
      rcases login_cases fx P pr cfg srv true t.conn (gwLogin pr akSet t c) with ⟨m', sj, hp, hv, e⟩ | ⟨_, e⟩
      · rw [e] at h
        dsimp only at h
        split at h
        · injection h with _ h2
          exact ⟨pu, c, hh, hc, ⟨m', hp, hv ▸ rfl⟩, h2.symm⟩
        · cases h
      · rw [e] at h
        cases h

/-- authorizedKeysFile NOT configured (ssh lets everybody in): the virtual client does not claim the
    exemption, so with token auth a tunnel comes up only when the command carried the right `--token` -/
theorem gw_noauth_needs_token {t : Tunnel} {rid : RunId} {name : Str} (hm : cfg.method = .token)
    (h : (gwTunnel fx Plugins.id pr cfg false srv t).2 = .up rid name) :
    ∃ c, t.cmd = some c ∧ pr.H c.token t.ts = pr.H cfg.token t.ts := by
  obtain ⟨pu, c, _, hc, ⟨m', hp, hv⟩, _⟩ := gw_up_needs h
  cases hp
  -- without authorized keys the virtual client does not set the flag: the configured verifier judges its login
  rw [show verifierFor true (gwLogin pr false t c) = .cfg from rfl, verifyLogin_isSome_token hm,
    decide_eq_true_eq] at hv
  exact ⟨c, hc, hv.symm⟩

/-- nothing that arrives on a network listener is ever handled with `internal = true` -/
theorem net_never_internal (e : NetEv) (c : ConnId) (m : First) : e.toEv ≠ .first true c m := by
  cases e <;> simp [NetEv.toEv]

/-- a plugin chain that does not switch the flag on -/
def PluginNoAap (P : Plugins) : Prop := ∀ m m', P.login m = some m' → m.aap = false → m'.aap = false

theorem id_noAap : PluginNoAap Plugins.id := by
  intro m m' h ha
  cases h
  exact ha

/-- this tunnel is entitled to the exemption: authorizedKeysFile configured AND the ssh handshake succeeded
    (by `ssh_handshake_needs_key`: with a listed key the client proved to own) -/
def TunnelAuthorized (akSet : Bool) (t : Tunnel) : Prop :=
  akSet = true ∧ (sshHandshake akSet t.file t.reqs).isSome = true

theorem gw_allCfg {akSet : Bool} {t : Tunnel} (hP : PluginNoAap P) (hn : ¬ TunnelAuthorized akSet t)
    (h : AllCfg srv) : AllCfg (gwTunnel fx P pr cfg akSet srv t).1 := by
  unfold gwTunnel
  cases hh : sshHandshake akSet t.file t.reqs with
  | none => exact h
  | some pu =>
    cases t.cmd with
    | none => exact h
    | some c =>
      -- the handshake succeeded, so no authorized keys are configured and the virtual client leaves the flag off
      have hak : akSet = false := Bool.eq_false_iff.mpr fun e => hn ⟨e, hh ▸ rfl⟩
      have h1 := step_allCfg fx P pr cfg (e := .first true t.conn (.login (gwLogin pr akSet t c)))
        (fun m' hp => hP _ m' hp (hak ▸ rfl)) h
      have h2 := fun n => step_allCfg fx P pr cfg (e := .newProxy t.conn n) trivial h1
      dsimp only
      split
      · split
        · exact step_allCfg fx P pr cfg (e := .first true t.wconn (.work _)) trivial (h2 _)
        · exact step_allCfg fx P pr cfg (e := .drop t.conn) trivial (h2 _)
      · exact h1

/-- THE SYSTEM, over every history of network events (any peer, any message, any claimed flag) and ssh
    tunnels (any client, any authorized_keys content at the time): if no tunnel in the history was
    entitled to the exemption, no session ever holds the always-pass verifier.  Contrapositive: an
    always-pass session exists only after an ssh client proved an authorized key. -/
theorem sys_alwaysPass_only_by_authorized_key {akSet : Bool} (evs : List SysEv) (hP : PluginNoAap P)
    (hn : ∀ t, SysEv.ssh t ∈ evs → ¬ TunnelAuthorized akSet t) (h : AllCfg srv) :
    AllCfg (sysRun fx P pr cfg akSet srv evs) := by
  refine foldl_invariant h fun s e he hs => ?_
  cases e with
  | net e =>
    apply step_allCfg fx P pr cfg _ hs
    cases e <;> trivial
  | ssh t => exact gw_allCfg hP (hn t he) hs

/-! ## 13. The executable predicate the driver evaluates on the implementation's own results -/

/-- what the harness observed of the real frps (all booleans computed by the harness independently of
    frp: `kv` with its own crypto/md5, table lookups in the dump taken before the op) -/
inductive Obs
  | sessionCreated (internal aap kv : Bool)
      -- a login was answered with success / a session appeared; kv = key accepted by the configured method
  | pooled (known internal sessAp scope kv : Bool)
      -- a work connection was pooled; known = run id in the table; sessAp = that session holds always-pass
  | pingMoved (sessAp scope kv : Bool)       -- lastPing of the session changed
  | refused (same : Bool)                    -- the attempt was refused; same = tables after = tables before
  | sshSession (akSet authorized kv ap : Bool)
      -- a session appeared for an ssh client of the gateway; akSet = authorizedKeysFile configured; authorized =
      -- the client proved a key listed in the file at that moment; kv = its command carried the configured
      -- token; ap = the session holds the always-pass verifier
  | userServed (fromPool : Bool)
      -- a user connection was joined with a work connection; fromPool = that connection was in the pool of the
      -- session owning the proxy (so, by `pooled_only_by_accepted_work`, it passed the work-connection check)
  | lastPingMoved (byPing : Bool)
      -- `Control.lastPing` of a session changed while an operation ran; byPing = the operation was a heartbeat on
      -- that session's control connection (whose key `pingMoved` judges)
  | keyFn (agrees : Bool)
      -- util.GetAuthKey(token, ts) was evaluated; agrees = it is hex(md5(token ++ decimal ts)) as computed by two
      -- MD5 implementations that are not frp's (crypto/md5 in the harness, Frp.Md5 in the driver)
  | keyInj (sameToken sameKey : Bool)
      -- util.GetAuthKey was evaluated for two tokens and one timestamp
  deriving DecidableEq, Repr

def holdsOn : Obs → Bool
  | .sessionCreated i a kv => kv || (i && a)
  | .pooled known i ap sc kv => known && (!sc || kv || (i && ap))
  | .pingMoved ap sc kv => ap || !sc || kv
  | .refused same => same
  | .sshSession akSet au kv ap => (if akSet then au else kv) && (!ap || (akSet && au))
  | .userServed fromPool => fromPool
  | .lastPingMoved byPing => byPing
  | .keyFn agrees => agrees
  | .keyInj sameToken sameKey => !sameKey || sameToken

def Spec : Obs → Prop
  | .sessionCreated i a kv => kv = true ∨ (i = true ∧ a = true)
  | .pooled known i ap sc kv => known = true ∧ (sc = false ∨ kv = true ∨ (i = true ∧ ap = true))
  | .pingMoved ap sc kv => ap = true ∨ sc = false ∨ kv = true
  | .refused same => same = true
  | .sshSession akSet au kv ap =>
    ((akSet = true ∧ au = true) ∨ (akSet = false ∧ kv = true)) ∧ (ap = true → akSet = true ∧ au = true)
  | .userServed fromPool => fromPool = true
  | .lastPingMoved byPing => byPing = true
  | .keyFn agrees => agrees = true
  | .keyInj sameToken sameKey => sameKey = true → sameToken = true

theorem holdsOn_sound (o : Obs) : holdsOn o = true ↔ Spec o := by
  cases o with
  | sshSession akSet au kv ap => cases akSet <;> simp [holdsOn, Spec, Decidable.imp_iff_not_or]
  | _ => simp [holdsOn, Spec, or_assoc, Decidable.imp_iff_not_or]

/-- the model's own steps satisfy the liveness predicate: a session whose liveness record is new and not that of a
    fresh login was moved by a heartbeat -/
theorem model_holdsOn_lastPing {e : Ev} {s' : Session} (h : s' ∈ (stepG fx P pr cfg srv e).1.sessions)
    (hk : ¬ Kept srv s') (hf : s'.lastPing ≠ 0) :
    holdsOn (.lastPingMoved (match e with | .ping _ _ => true | _ => false)) = true := by
  rcases lastPing_step h with h1 | ⟨h0, _⟩ | ⟨⟨c, m, _, _, he, _⟩, _⟩
  · exact absurd h1 hk
  · exact absurd h0 hf
  · subst he
    rfl

/-- under the assumption about the key function the injectivity predicate holds for every pair of tokens -/
theorem model_holdsOn_keyInj {H : Str → Int → Key} (hinj : KeyInjective H) (a b : Str) (ts : Int) :
    holdsOn (.keyInj (decide (a = b)) (decide (H a ts = H b ts))) = true := by
  by_cases e : H a ts = H b ts
  · simp [holdsOn, hinj a b ts e]
  · simp [holdsOn, e]

/-- the model's own user connection satisfies the predicate -/
theorem model_holdsOn_user {name : Str} {c : ConnId} (h : (takeWork srv name).2 = some c) :
    holdsOn (.userServed (decide (c ∈ pooled srv))) = true := by
  simp [holdsOn, user_served_from_pool h]

/-- no plugin: a session is created only if the configured verifier accepts the login, or the login came in on
    the internal listener and carries the flag -/
theorem sessionCreated_holdsOn {m : Login} {rid : RunId}
    (h : (handleFirstG fx Plugins.id pr cfg srv internal conn (.login m)).2.reply = .loginOk rid) :
    holdsOn (.sessionCreated internal m.aap (verifyLogin pr cfg srv.subjects .cfg m).isSome) = true := by
  obtain ⟨m', hp, _, hv⟩ := login_needs_key h
  cases hp
  apply (holdsOn_sound _).mpr
  cases hk : verifierFor internal m with
  | alwaysPass => exact Or.inr ((alwaysPass_iff m).mp hk)
  | cfg =>
    rw [hk] at hv
    exact Or.inl hv

/-- the model's own successful OIDC login satisfies the predicate with `kv` = the claim-level decision -/
theorem model_holdsOn_login_oidc {m : Login} {rid : RunId} (hm : cfg.method = .oidc)
    (h : (handleFirstG fx Plugins.id pr cfg srv internal conn (.login m)).2.reply = .loginOk rid) :
    holdsOn (.sessionCreated internal m.aap (oidcVerify pr cfg.oidc m.key).isSome) = true := by
  rw [← verifyLogin_isSome_oidc (subs := srv.subjects) hm]
  exact sessionCreated_holdsOn h

/-- the model's own successful token login satisfies the predicate (network or internal) -/
theorem model_holdsOn_login {m : Login} {rid : RunId} (hm : cfg.method = .token)
    (h : (handleFirstG fx Plugins.id pr cfg srv internal conn (.login m)).2.reply = .loginOk rid) :
    holdsOn (.sessionCreated internal m.aap (decide (pr.H cfg.token m.ts = m.key))) = true := by
  rw [← verifyLogin_isSome_token (subs := srv.subjects) hm]
  exact sessionCreated_holdsOn h

/-- the model's own tunnel that comes up satisfies the ssh predicate (token method, no plugin) -/
theorem model_holdsOn_ssh {akSet : Bool} {t : Tunnel} {rid : RunId} {name : Str} (hm : cfg.method = .token)
    (h : (gwTunnel fx Plugins.id pr cfg akSet srv t).2 = .up rid name) :
    ∃ c, t.cmd = some c ∧
      holdsOn (.sshSession akSet (sshHandshake akSet t.file t.reqs).isSome
        (decide (pr.H c.token t.ts = pr.H cfg.token t.ts)) akSet) = true := by
  cases akSet with
  | true =>
    obtain ⟨pu, c, hh, hc, _, _⟩ := gw_up_needs h
    exact ⟨c, hc, by simp [holdsOn, hh]⟩
  | false =>
    obtain ⟨c, hc, hk⟩ := gw_noauth_needs_token hm h
    exact ⟨c, hc, by simp [holdsOn, hk]⟩

/-- the model's accepted ping satisfies the predicate -/
theorem model_holdsOn_ping {m : Ping} {s : Session} (hs : byCtl srv conn = some s)
    (h : (handlePing Plugins.id pr cfg srv conn m).1 ≠ srv) :
    holdsOn (.pingMoved (decide (s.vk = .alwaysPass)) cfg.hb (keyOk pr cfg srv.subjects m.ts m.key)) = true := by
  obtain ⟨s', m', hs', hp, hor⟩ := ping_moved_needs_key h
  cases hp
  rw [hs] at hs'
  cases hs'
  exact (holdsOn_sound _).mpr (hor.imp_left decide_eq_true)

/-- the REPAIRED model's pooled work connection satisfies the predicate in every state; the model of
    the code before the fix does so in states without always-pass sessions (see `workconn_scope_witness`) -/
theorem model_holdsOn_work_fixed {m : WorkConn}
    (h : (registerWork true Plugins.id pr cfg srv internal conn m).2.closed = false) :
    ∃ s, lookup srv m.runId = some s ∧
      holdsOn (.pooled true internal (decide (s.vk = .alwaysPass)) cfg.wc
        (keyOk pr cfg srv.subjects m.ts m.key)) = true := by
  obtain ⟨s, m', hl, hp, _, hor, _⟩ := workconn_scope_partial h
  cases hp
  refine ⟨s, hl, (holdsOn_sound _).mpr ⟨rfl, ?_⟩⟩
  rcases hor with h1 | h1 | h1
  · -- the always-pass verifier is in charge only of a connection from the internal listener
    cases internal with
    | false => cases h1
    | true => exact Or.inr (Or.inr ⟨rfl, decide_eq_true h1⟩)
  · exact Or.inl h1
  · exact Or.inr (Or.inl h1)

theorem model_holdsOn_work_no_gateway {m : WorkConn} (hall : AllCfg srv)
    (h : (registerWork false Plugins.id pr cfg srv internal conn m).2.closed = false) :
    ∃ s, lookup srv m.runId = some s ∧
      holdsOn (.pooled true internal (decide (s.vk = .alwaysPass)) cfg.wc
        (keyOk pr cfg srv.subjects m.ts m.key)) = true := by
  obtain ⟨s, m', hl, hp, _, hor, _⟩ := workconn_scope_partial h
  cases hp
  refine ⟨s, hl, (holdsOn_sound _).mpr ⟨rfl, ?_⟩⟩
  rcases hor with h1 | h1 | h1
  · rw [workVerifier_of_cfg false internal (hall s (mem_of_lookup hl).1)] at h1
    cases h1
  · exact Or.inl h1
  · exact Or.inr (Or.inl h1)

/-! ## 14. Source facts (regenerated from /repo by translate/gen_authgatefacts.go on every run)

  The model takes `internal` as an input; these pin, against the source as it is now, who supplies it
  and who can set the flag:
  * the bypass is selected under exactly `internal && loginMsg.ClientSpec.AlwaysAuthPass`, and that is the
    only read of the field and the only use of `auth.AlwaysPassVerifier` outside pkg/auth;
  * `internal = true` is passed only for `svr.sshTunnelListener`; every other listener passes `false`
    (quic: the literal `false` at handleConnection) and the flag is only forwarded below that;
  * the only code that gives `AlwaysAuthPass` a value is the ssh gateway's virtual client,
    `!s.sc.NoClientAuth`, and `NoClientAuth` is `cfg.AuthorizedKeysFile == ""` - i.e. the exemption is
    granted exactly when the ssh server itself authenticated the user by public key.
  A change of any of these makes this theorem fail to check (the check then reports a broken obligation). -/
open Frp.Gen.AuthGateFacts in
theorem source_facts :
    bypassCond = "internal && loginMsg.ClientSpec.AlwaysAuthPass" ∧
    internalCalls =
      [("HandleListener svr.kcpListener", "false"), ("HandleListener svr.listener", "false"),
       ("HandleListener svr.sshTunnelListener", "true"), ("HandleListener svr.tlsListener", "false"),
       ("HandleListener svr.websocketListener", "false"), ("RegisterControl", "internal"),
       ("handleConnection", "false"), ("handleConnection", "internal"), ("handleConnection", "internal")] ∧
    aapWrites = [("pkg/ssh/server.go", "!s.sc.NoClientAuth")] ∧
    aapReads = ["server/service.go"] ∧
    noClientAuth = ["cfg.AuthorizedKeysFile == \"\""] ∧
    alwaysPassRefs = ["server/service.go"] ∧
    putConnFiles.contains "pkg/ssh/server.go" = true :=
  -- each table unfolds to its expected literal; `decide` would compare the strings byte by byte
  ⟨rfl, rfl, rfl, rfl, rfl, rfl, by simp [putConnFiles]⟩

/- the gateway side of the same tie (what `gwTunnel` / `SysEv` assume about the code):
  * the listener handled with `internal = true` is created in NewService, handed to `ssh.NewGateway` and to
    `HandleListener(…, true)`, compared with nil and closed - nothing else in server/ gets hold of it;
  * inside pkg/ssh that listener is only passed on to `NewTunnelServer` and fed by `PutConn(conn)` with the
    connections of the tunnel's own virtual client (pkg/virtual `pipeConnector.Connect`);
  * `TunnelServer.Run` performs `ssh.NewServerConn` first and returns on its error before the virtual client
    exists (no handshake ⇒ nothing reaches frps: `gw_refused_unchanged`);
  * `PublicKeyCallback` reads authorized_keys anew, answers an error when that fails or the offered key is
    not in the map, and otherwise the permissions with the user of that key (`pubkeyCallback`). -/
open Frp.Gen.AuthGateFacts in
theorem source_facts_gateway :
    sshListenerRefs =
      ["declared *netpkg.InternalListener",
       "ssh.NewGateway(cfg.SSHTunnelGateway, cfg.ProxyBindAddr, svr.sshTunnelListener)",
       "sshTunnelListener: netpkg.NewInternalListener()", "svr.HandleListener(svr.sshTunnelListener, true)",
       "svr.sshTunnelListener != nil", "svr.sshTunnelListener.Close()"] ∧
    gwListenerUses =
      ["NewTunnelServer(conn, g.sshConfig, g.peerServerListener)", "declared *netpkg.InternalListener",
       "peerServerListener: peerServerListener", "s.peerServerListener.PutConn(conn)"] ∧
    gwPutConns =
      [("pkg/ssh/server.go", "s.peerServerListener.PutConn(conn)"),
       ("pkg/virtual/client.go", "pc.peerListener.PutConn(c1)")] ∧
    gwRunCalls =
      ["after handshake: if err != nil { return err }", "ssh.NewServerConn", "virtual.NewClient",
       "s.peerServerListener.PutConn"] ∧
    pubkeyCallbackSrc =
      [("assign", "authorizedKeysMap, err := loadAuthorizedKeysFromFile(cfg.AuthorizedKeysFile)"),
       ("return if err != nil", "nil, fmt.Errorf(…)"),
       ("assign", "user, ok := authorizedKeysMap[string(key.Marshal())]"),
       ("return if !ok", "nil, fmt.Errorf(…)"),
       ("return if ", "&ssh.Permissions{ Extensions: map[string]string{ \"user\": user, }, }, nil")] :=
  ⟨rfl, rfl, rfl, rfl, rfl⟩

/- where `internal` comes from (the model takes it as an input of every first message; `NetEv` has none):
  * `internal bool` is a PARAMETER of HandleListener, handleConnection, RegisterControl and RegisterWorkConn; every
    identifier `internal` in server/ is such a parameter declaration or a use that resolves to one - it is never
    assigned, redeclared or computed inside a function body;
  * the two identifiers of the bypass condition are parameters of RegisterControl;
  * no function or function literal of server/ takes a net.Conn / net.Listener / net.Addr and returns a bool (nothing
    classifies a connection as internal by looking at it - e.g. at the type of its RemoteAddr());
  * together with `source_facts.internalCalls` (each listener's handler passes a literal, the flag is only handed
    down below that): the value is decided by WHICH accept loop took the connection, for every transport;
  * RegisterWorkConn puts the configured verifier in charge under exactly `!internal`. -/
open Frp.Gen.AuthGateFacts in
theorem source_facts_internal_provenance :
    internalParams =
      [("HandleListener", "l net.Listener, internal bool"), ("HandleQUICListener", "l *quic.Listener"),
       ("RegisterControl", "ctlConn net.Conn, loginMsg *msg.Login, internal bool"),
       ("RegisterWorkConn", "conn net.Conn"),
       ("RegisterWorkConn", "workConn net.Conn, newMsg *msg.NewWorkConn, internal bool"),
       ("handleConnection", "ctx context.Context, conn net.Conn, internal bool")] ∧
    internalIdents =
      [("HandleListener", "param"), ("HandleListener", "use:param"), ("RegisterControl", "param"),
       ("RegisterControl", "use:param"), ("RegisterWorkConn", "param"), ("RegisterWorkConn", "use:param"),
       ("handleConnection", "param"), ("handleConnection", "use:param")] ∧
    bypassIdents = [("internal", "param"), ("loginMsg", "param")] ∧
    connBoolFuncs = [] ∧
    workCfgCond = ["!internal"] :=
  ⟨rfl, rfl, rfl, rfl, rfl⟩

/- which ssh methods can authenticate at the gateway (what `gwSshCfg` assumes about the code):
  * the only `ssh.ServerConfig` in the tree is the empty literal of NewGateway; the only authentication fields it is
    ever given are `NoClientAuth = cfg.AuthorizedKeysFile == ""` and a `PublicKeyCallback` - no PasswordCallback,
    KeyboardInteractiveCallback, NoClientAuthCallback, GSSAPIWithMICConfig, MaxAuthTries;
  * of the permissions the ssh layer returns, TunnelServer.Run reads the "user" extension only, and the only
    field of the virtual client's configuration it overrides is `User` (the token comes from the command line). -/
open Frp.Gen.AuthGateFacts in
theorem source_facts_ssh_methods :
    sshCfgLits = ["pkg/ssh/gateway.go: ssh.ServerConfig{}"] ∧
    sshCfgWrites =
      [("pkg/ssh/gateway.go sshConfig.NoClientAuth", "cfg.AuthorizedKeysFile == \"\""),
       ("pkg/ssh/gateway.go sshConfig.PublicKeyCallback", "func")] ∧
    gwPermUses = ["Run: sshConn.Permissions", "Run: sshConn.Permissions.Extensions[\"user\"]"] ∧
    gwClientCfgWrites =
      [("clientCfg.User", "util.EmptyOr(sshConn.Permissions.Extensions[\"user\"], clientCfg.User)")] :=
  ⟨rfl, rfl, rfl, rfl⟩

/-- the model's gateway configuration is the one these facts describe -/
theorem gwSshCfg_fields (akSet : Bool) (file : Option (List (PubKey × Str))) :
    (gwSshCfg akSet file).noClientAuth = !akSet ∧ (gwSshCfg akSet file).noClientAuthCb = none ∧
    (gwSshCfg akSet file).passwordCb = none ∧ (gwSshCfg akSet file).kbdCb = none ∧
    (gwSshCfg akSet file).gssapi = none ∧ (gwSshCfg akSet file).pubkeyCb.isSome = true :=
  ⟨rfl, rfl, rfl, rfl, rfl, rfl⟩

/- liveness and the key function:
  * `lastPing.Store` is called in NewControl and in handlePing only, in handlePing after the plugin call and
    `VerifyPing`, behind the `return` of the error branch (`handlePing`, `lastPing_step`);
  * util.GetAuthKey hashes the WHOLE token followed by the decimal timestamp with MD5 and returns the hex digest
    (what the engine's two independent MD5s compute; `Prim.H`); pkg/auth/token.go compares / sets keys with
    exactly that function of the configured token and the message's own timestamp. -/
open Frp.Gen.AuthGateFacts in
theorem source_facts_liveness_key :
    lastPingStores =
      [("NewControl", "ctl.lastPing.Store(time.Now())"), ("handlePing", "ctl.lastPing.Store(time.Now())")] ∧
    handlePingOrder =
      ["pluginManager.Ping", "if err == nil", "ctl.authVerifier.VerifyPing", "if err != nil", "return",
       "lastPing.Store"] ∧
    authKeySrc =
      ["func(token string, timestamp int64) (key string)", "md5Ctx := md5.New()", "md5Ctx.Write([]byte(token))",
       "md5Ctx.Write([]byte(strconv.FormatInt(timestamp, 10)))", "data := md5Ctx.Sum(nil)",
       "return hex.EncodeToString(data)"] ∧
    authKeyUses =
      [("SetLogin", "util.GetAuthKey(auth.token, loginMsg.Timestamp)"),
       ("SetNewWorkConn", "util.GetAuthKey(auth.token, newWorkConnMsg.Timestamp)"),
       ("SetPing", "util.GetAuthKey(auth.token, pingMsg.Timestamp)"),
       ("VerifyLogin", "util.GetAuthKey(auth.token, m.Timestamp)"),
       ("VerifyNewWorkConn", "util.GetAuthKey(auth.token, m.Timestamp)"),
       ("VerifyPing", "util.GetAuthKey(auth.token, m.Timestamp)")] :=
  ⟨rfl, rfl, rfl, rfl⟩

/-! ## Non-vacuity -/

def exPrim : Prim :=
  { H := fun tok ts => tok ++ [ts.toNat],
    jwtClaims := fun k => if k = [] then none else some { iss := [105], aud := [[97]], sub := k, exp := 100, nbf := none },
    jwtSigOk := fun k => k.length < 3, now := 50 }
def exCfg : Cfg := { method := .token, hb := true, wc := true, token := [116], maxPool := 5 }
def goodLogin : Login := { runId := [], ts := 7, key := [116, 7], aap := false, poolCount := 1, genId := [97] }
def badLogin : Login := { goodLogin with key := [0], aap := true }
def exSrv : Srv := (handleFirst Plugins.id exPrim exCfg Srv.empty false 1 (.login goodLogin)).1

-- a good login creates a session; a bad one (flag set, from the network) is refused and closed
example : (handleFirst Plugins.id exPrim exCfg Srv.empty false 1 (.login goodLogin)).2
    = { reply := .loginOk [97], closed := false } := by decide +kernel
example : exSrv.sessions.length = 1 := by decide +kernel
example : (handleFirst Plugins.id exPrim exCfg exSrv false 2 (.login badLogin)).2
    = { reply := .loginErr, closed := true } := by decide +kernel
-- the same bad login on the internal listener is accepted (always-pass) - the hypothesis
-- `internal = false` of the network theorems is what excludes it
example : (handleFirst Plugins.id exPrim exCfg exSrv true 2 (.login badLogin)).2.closed = false := by decide +kernel
example : ¬ AllCfg (handleFirst Plugins.id exPrim exCfg exSrv true 2 (.login badLogin)).1 := by
  unfold AllCfg
  decide +kernel
example : AllCfg exSrv := by
  unfold AllCfg
  decide +kernel
-- ping: valid key accepted and counted, invalid key answered with an error, state unchanged
example : (handlePing Plugins.id exPrim exCfg exSrv 1 { ts := 3, key := [116, 3] }).2.reply = .pongOk := by decide +kernel
example : handlePing Plugins.id exPrim exCfg exSrv 1 { ts := 3, key := [9] }
    = (exSrv, { reply := .pongErr, closed := false }) := by decide +kernel
-- work connection: valid key pooled; bad key and unknown run id refused
example : (handleFirst Plugins.id exPrim exCfg exSrv false 5 (.work { runId := [97], ts := 2, key := [116, 2] })).2
    = { reply := .none, closed := false } := by decide +kernel
example : (handleFirst Plugins.id exPrim exCfg exSrv false 5 (.work { runId := [97], ts := 2, key := [1] })).2
    = { reply := .startWorkErr, closed := true } := by decide +kernel
example : (handleFirst Plugins.id exPrim exCfg exSrv false 5 (.work { runId := [98], ts := 2, key := [116, 2] })).2
    = { reply := .none, closed := true } := by decide +kernel
-- a refused burst (three different kinds) satisfies the hypothesis of `refused_no_residue`
example : ∀ a ∈ ([(false, 5, .login badLogin), (false, 6, .work { runId := [98], ts := 2, key := [] }),
      (false, 7, .other)] : List Attempt), Refused false Plugins.id exPrim exCfg exSrv a := by
  unfold Refused
  decide +kernel
-- the witness `witSrv` of §3 really pools the connection
example : (registerWork false Plugins.id witPrim witCfg witSrv false 7 { runId := [114], ts := 0, key := [] }).1.sessions.map (·.pool)
    = [[7]] := by decide +kernel


-- Google's scheme-less issuer is let through for Google only
example : oidcVerify { exPrim with jwtClaims := fun _ => some { iss := googleIssNoScheme, aud := [[97]], sub := [7], exp := 100, nbf := none } }
    { issuer := googleIss, audience := [97] } [7] = some [7] := by decide +kernel
example : googleIss = Str.ofString "https://accounts.google.com" ∧
    googleIssNoScheme = Str.ofString "accounts.google.com" := by decide +kernel
-- OIDC, claim level: issuer [105], audience [97], now 50; exPrim's tokens carry iss [105], aud [[97]], exp 100
def exOidc : Cfg :=
  { method := .oidc, hb := true, wc := true, token := [], maxPool := 5,
    oidc := { issuer := [105], audience := [97], skipExpiry := false, skipIssuer := false } }
example : oidcVerify exPrim exOidc.oidc [7] = some [7] := by decide +kernel
example : TokenValid exPrim exOidc.oidc [7] { iss := [105], aud := [[97]], sub := [7], exp := 100, nbf := none } := by
  refine ⟨rfl, rfl, Or.inr (Or.inl rfl), Or.inr (by decide), Or.inr ⟨by decide, ?_⟩⟩
  intro n hn
  cases hn
-- another audience, another issuer, a later `now` (expired), a bad signature: refused
example : oidcVerify exPrim { exOidc.oidc with audience := [98] } [7] = none := by decide +kernel
example : oidcVerify exPrim { exOidc.oidc with issuer := [106] } [7] = none := by decide +kernel
example : oidcVerify { exPrim with now := 101 } exOidc.oidc [7] = none := by decide +kernel
example : oidcVerify exPrim exOidc.oidc [7, 7, 7] = none := by decide +kernel
-- ... unless the operator switched the check off
example : oidcVerify exPrim { exOidc.oidc with issuer := [106], skipIssuer := true } [7] = some [7] := by decide +kernel
example : oidcVerify { exPrim with now := 101 } { exOidc.oidc with skipExpiry := true } [7] = some [7] := by decide +kernel
-- login as [7]; a ping with a token of subject [8] is refused, with [7] accepted
def exOSrv : Srv := (handleFirst Plugins.id exPrim exOidc Srv.empty false 1
  (.login { runId := [], ts := 0, key := [7], aap := false, poolCount := 0, genId := [97] })).1
example : exOSrv.subjects = [[7]] := by decide +kernel
example : (handlePing Plugins.id exPrim exOidc exOSrv 1 { ts := 0, key := [8] }).2.reply = .pongErr := by decide +kernel
example : (handlePing Plugins.id exPrim exOidc exOSrv 1 { ts := 0, key := [7] }).2.reply = .pongOk := by decide +kernel

-- TIME.  exPrimT: tokens carry exp 100; token [7] is signed by JWK 1, token [8] by JWK 2.
def exPrimT : PrimT :=
  { H := fun tok ts => tok ++ [ts.toNat],
    jwtClaims := fun k => if k = [] then none else some { iss := [105], aud := [[97]], sub := k, exp := 100, nbf := none },
    jwsOk := fun _ => true, sigBy := fun k j => (k = [7] && j = 1) || (k = [8] && j = 2) }
def exLoginT (k : Key) : Ev := .first false 1 (.login { runId := [], ts := 0, key := k, aap := false, poolCount := 0, genId := [97] })
def exT0 : TSrv := { srv := Srv.empty, cache := [] }
-- at time 50 with JWK 1 published: login accepted (cache filled), ping and work connection accepted
def exT1 : TSrv := runT true Plugins.id exPrimT exOidc exT0
  [({ now := 50, jwks := some [1] }, exLoginT [7]), ({ now := 60, jwks := some [1] }, .ping 1 { ts := 0, key := [7] }),
   ({ now := 70, jwks := some [1] }, .first false 2 (.work { runId := [97], ts := 0, key := [7] }))]
example : exT1.cache = [1] ∧ exT1.srv.subjects = [[7]] ∧ exT1.srv.sessions.map (fun s => (s.pool, s.lastPing)) = [([2], 1)] := by
  decide +kernel
-- the very same token at time 100 (= exp) still passes, at 101 it is refused on all three paths - although it was
-- accepted three times before; nothing changes
example : (stepT true Plugins.id exPrimT exOidc exT1 { now := 100, jwks := some [1] } (.ping 1 { ts := 0, key := [7] })).2.reply = .pongOk := by
  decide +kernel
example : stepT true Plugins.id exPrimT exOidc exT1 { now := 101, jwks := some [1] } (.ping 1 { ts := 0, key := [7] })
    = (exT1, { reply := .pongErr, closed := false }) := by decide +kernel
example : stepT true Plugins.id exPrimT exOidc exT1 { now := 101, jwks := some [1] } (exLoginT [7])
    = (exT1, { reply := .loginErr, closed := true }) := by decide +kernel
example : stepT true Plugins.id exPrimT exOidc exT1 { now := 101, jwks := some [1] } (.first false 3 (.work { runId := [97], ts := 0, key := [7] }))
    = (exT1, { reply := .startWorkErr, closed := true }) := by decide +kernel
example : oidcVerify (primAt exPrimT (Moment.idp { now := 101, jwks := some [1] } exT1.cache)) exOidc.oidc [7] = none :=
  expired_none (c := { iss := [105], aud := [[97]], sub := [7], exp := 100, nbf := none }) rfl rfl
    (show (100 : Int) < 101 by decide)
-- KEY ROTATION.  The provider now publishes JWK 2 only.  Token [7] still verifies with the CACHED key 1 ...
example : (stepT true Plugins.id exPrimT exOidc exT1 { now := 80, jwks := some [2] } (.ping 1 { ts := 0, key := [7] })).2.reply = .pongOk := by
  decide +kernel
-- ... until a token signed with the new key makes go-oidc fetch the key set again: the cache becomes [2] and the
-- old token is refused from then on
def exT2 : TSrv := (stepT true Plugins.id exPrimT exOidc exT1 { now := 80, jwks := some [2] }
  (.first false 5 (.login { runId := [], ts := 0, key := [8], aap := false, poolCount := 0, genId := [98] }))).1
example : exT2.cache = [2] ∧ exT2.srv.sessions.length = 2 := by decide +kernel
example : (stepT true Plugins.id exPrimT exOidc exT2 { now := 81, jwks := some [2] } (.ping 1 { ts := 0, key := [7] })).2.reply = .pongErr := by
  decide +kernel
-- the key set cannot be fetched: cached keys go on working, everything else is refused and the cache stays
example : (stepT true Plugins.id exPrimT exOidc exT1 { now := 80, jwks := none } (exLoginT [8])) = (exT1, { reply := .loginErr, closed := true }) := by
  decide +kernel
-- a user connection takes the head of the pool of the session that owns the proxy
example : (takeWork { sessions := [{ runId := [97], ctl := 1, vk := .cfg, poolCap := 11, pool := [4, 5], proxies := [[117]], lastPing := 0 }], subjects := [] } [117]).2 = some 4 := by
  decide +kernel

-- ssh gateway: authorized_keys lists key [65] twice (the later line, user [122], wins) and [66] without a user
def exFile : Option (List (PubKey × Str)) := some [([65], [97]), ([66], []), ([65], [122])]
def exTunnel (a : SshAuth) (tok : Str) : Tunnel :=
  { reqs := [.none, a], file := exFile, cmd := some { name := [112], user := [], token := tok }, conn := 9, wconn := 10,
    ts := 3, genId := [103] }
example : sshHandshake true exFile [.none, .pubkey [65] true] = some [122] := by decide +kernel
example : sshHandshake true exFile [.none, .pubkey [65] false] = none := by decide +kernel
example : sshHandshake true exFile [.none, .pubkey [67] true] = none := by decide +kernel
example : sshHandshake true exFile [.none] = none := by decide +kernel
example : sshHandshake true none [.none, .pubkey [65] true] = none := by decide +kernel
-- every other method fails and the client may go on: password (any), keyboard-interactive, gssapi, an unknown key,
-- then the listed key it can sign for
example : sshHandshake true exFile [.none, .password [116], .password [], .kbd [[116]], .gssapi, .pubkey [67] true,
    .pubkey [66] true] = some [] := by decide +kernel
-- … but only six failures are tolerated (`MaxAuthTries`), and a bad signature ends the connection
example : sshHandshake true exFile [.none, .password [1], .password [2], .password [3], .password [4], .password [5],
    .password [6], .pubkey [66] true] = none := by decide +kernel
example : sshHandshake true exFile [.none, .pubkey [65] false, .pubkey [66] true] = none := by decide +kernel
example : sshHandshake true exFile [.none, .password [116], .kbd [], .gssapi] = none := by decide +kernel
-- NoClientAuth: the first request of every client ("none") is accepted, without permissions
example : sshHandshake false none [.none, .password [116]] = some [] := by decide +kernel
example : sshHandshake false none [.password [116], .kbd [], .gssapi, .pubkey [65] true] = none := by decide +kernel
-- an authorized client: tunnel up, always-pass session, proxy named user.name, the keyless work connection pooled
example : (gwTunnel true Plugins.id exPrim exCfg true exSrv (exTunnel (.pubkey [65] true) [])).2
    = .up [103] [122, 46, 112] := by decide +kernel
example : ((gwTunnel true Plugins.id exPrim exCfg true exSrv (exTunnel (.pubkey [65] true) [])).1.sessions.map
    (fun s => (s.vk, s.pool, s.proxies))) = [(.cfg, [], []), (.alwaysPass, [10], [[122, 46, 112]])] := by decide +kernel
-- an unknown key: nothing happens
example : gwTunnel true Plugins.id exPrim exCfg true exSrv (exTunnel (.pubkey [67] true) []) = (exSrv, .authFail) := by
  decide +kernel
-- no authorized_keys file configured: everybody passes ssh, the token decides; the session is an ordinary one
-- and (NewWorkConns scope on) the keyless work connection of the virtual client is refused
example : (gwTunnel true Plugins.id exPrim exCfg false exSrv (exTunnel .none [])).2 = .closed := by decide +kernel
example : (gwTunnel true Plugins.id exPrim exCfg false exSrv (exTunnel .none [116])).2 = .up [103] [112] := by decide +kernel
example : ((gwTunnel true Plugins.id exPrim exCfg false exSrv (exTunnel .none [116])).1.sessions.map
    (fun s => (s.vk, s.pool))) = [(.cfg, []), (.cfg, [])] := by decide +kernel
example : ¬ TunnelAuthorized false (exTunnel .none [116]) := fun h => nomatch h.1
example : ¬ TunnelAuthorized true (exTunnel (.pubkey [67] true) []) := by
  intro h
  have := h.2
  revert this
  decide

-- the assumption about the key function is satisfiable: the example `H` (token ++ [ts]) is injective in the token
example : KeyInjective exPrim.H := by
  intro a b ts h
  exact List.append_cancel_right h
-- … and under it the key of a PREFIX of the token is refused although the token's own key is accepted
example : (handleFirst Plugins.id exPrim { exCfg with token := [116, 111, 107] } Srv.empty false 1
    (.login { goodLogin with key := exPrim.H [116, 111] 7 })).2 = { reply := .loginErr, closed := true } := by decide +kernel
example : (handleFirst Plugins.id exPrim { exCfg with token := [116, 111, 107] } Srv.empty false 1
    (.login { goodLogin with key := exPrim.H [116, 111, 107] 7 })).2.reply = .loginOk [97] := by decide +kernel
-- a history of an invalid heartbeat, NewProxy, CloseProxy, a refused work connection and a refused login naming the
-- session: lastPing stays where it was; one valid heartbeat moves it
example : (run Plugins.id exPrim exCfg exSrv
    [.ping 1 { ts := 3, key := [9] }, .newProxy 1 [112], .closeProxy 1 [112], .closeProxy 1 [113],
     .first false 7 (.work { runId := [97], ts := 2, key := [1] }),
     .first false 8 (.login { badLogin with runId := [97] })]).sessions.map (fun s => (s.lastPing, s.proxies)) = [(0, [])] := by
  decide +kernel
example : (run Plugins.id exPrim exCfg exSrv
    [.newProxy 1 [112], .ping 1 { ts := 3, key := [116, 3] }]).sessions.map (fun s => (s.lastPing, s.proxies))
    = [(1, [[112]])] := by decide +kernel
example : ¬ AcceptedPingOn Plugins.id exPrim exCfg exSrv (.ping 1 { ts := 3, key := [9] }) [97] := by
  rintro ⟨c, m, s, m', he, hs, _, hp, hv⟩
  cases he
  cases hp
  have hb : byCtl exSrv 1 = some ⟨[97], 1, .cfg, 11, [], [], 0⟩ := by decide +kernel
  rw [hb] at hs
  cases hs
  revert hv
  decide +kernel

end C04
end Frp
