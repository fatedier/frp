import Frp.Model.PluginChain
import Frp.Model.PluginSite
import Frp.Lemmas.ListFacts
import Frp.Lemmas.PluginChain
import Frp.Gen.PluginSiteFacts
/-
  C15 — Server plugins gate every operation, fail closed, and see each other's edits.

  Statements are about `Frp.PluginChain` (the model of pkg/plugin/server) for ALL plugin lists,
  ALL handler functions (a plugin's answer may depend on the content it is handed), ALL contents.
-/
namespace Frp
namespace C15
open PluginChain

variable {C : Type}

/-! ## Registration: who is in the chain of an operation, and in which order -/

theorem register_list (m : Manager C) (p : Plugin C) (op : Op) :
    (m.register p).list op = if p.supports op then m.list op ++ [p] else m.list op := by
  cases op <;> rfl

/-- After registering `ps` (in this order) the chain of `op` is the old chain followed by exactly
    the plugins of `ps` that support `op`, in registration order.  In particular a plugin that does
    not support `op` is not in the chain of `op`. -/
theorem registerAll_list (m : Manager C) (ps : List (Plugin C)) (op : Op) :
    (m.registerAll ps).list op = m.list op ++ ps.filter (·.supports op) := by
  induction ps generalizing m with
  | nil => simp [Manager.registerAll]
  | cons p ps ih =>
    have h := ih (m.register p)
    simp only [Manager.registerAll, List.foldl_cons] at h ⊢
    rw [h, register_list]
    by_cases hs : p.supports op <;> simp [hs]

theorem registered_chain (ps : List (Plugin C)) (op : Op) :
    ((Manager.empty : Manager C).registerAll ps).list op = ps.filter (·.supports op) := by
  rw [registerAll_list]; cases op <;> rfl

/-! ## The gated loop -/

/-- the `Handle` calls the property allows: every step up to and including the first one that
    does not pass -/
def consultedSpec (op : Op) (R : List (Plugin C)) (c : C) : List (Seen C) :=
  ((steps op R c).take (((steps op R c).takeWhile (stepPasses op)).length + 1)).map seenOf

/-- what a failing step turns the operation into -/
def refusal (op : Op) (s : Plugin C × C) : Result C :=
  match s.1.handle op s.2 with
  | .err => .error (errMsg op)
  | .resp true reason _ _ => .error reason
  | .resp false _ _ _ => .panic

theorem refusal_not_ok (op : Op) (s : Plugin C × C) : (refusal op s).isOk = false := by
  unfold refusal
  split <;> rfl

/-- One round of the manager loop: a plugin that passes hands its content on to the rest of the
    chain, one that does not ends the loop with its refusal. -/
theorem gated_cons (op : Op) (p : Plugin C) (ps : List (Plugin C)) (c : C) :
    gated op (p :: ps) c =
      if stepPasses op (p, c) then
        ((gated op ps ((p.handle op c).next c)).1, (p.id, c) :: (gated op ps ((p.handle op c).next c)).2)
      else (refusal op (p, c), [(p.id, c)]) := by
  cases h : p.handle op c with
  | err =>
    simp only [gated, stepPasses, refusal, h]
    rfl
  | resp reject reason unchange content =>
    simp only [gated, stepPasses, refusal, h]
    cases reject <;> cases unchange <;> cases content <;> rfl

theorem consultedSpec_cons (op : Op) (p : Plugin C) (ps : List (Plugin C)) (c : C) :
    consultedSpec op (p :: ps) c =
      (p.id, c) :: if stepPasses op (p, c) then consultedSpec op ps ((p.handle op c).next c) else [] := by
  simp only [consultedSpec, steps, List.takeWhile_cons]
  split <;> rfl

theorem consultedSpec_of_all (op : Op) (R : List (Plugin C)) (c : C)
    (hall : ∀ s ∈ steps op R c, stepPasses op s = true) :
    consultedSpec op R c = (steps op R c).map seenOf := by
  rw [consultedSpec, ListW.takeWhile_eq_self _ _ hall, List.take_of_length_le (by omega)]

/-- **Consulted list.** The calls made are exactly: every plugin of the chain, in chain order,
    each handed the left-to-right composition of the earlier modifications, up to and including
    the first plugin that does not pass; nobody after it. -/
theorem gated_consulted (op : Op) (R : List (Plugin C)) (c : C) :
    (gated op R c).2 = consultedSpec op R c := by
  induction R generalizing c with
  | nil => rfl
  | cons p ps ih =>
    rw [gated_cons, consultedSpec_cons]
    split
    · rw [← ih]
    · rfl

/-- **Result.** `ok` with the composed content when every step passes; otherwise the refusal
    produced by the first step that does not pass. -/
theorem gated_result (op : Op) (R : List (Plugin C)) (c : C) :
    (gated op R c).1 =
      match (steps op R c).find? (fun s => !stepPasses op s) with
      | none => .ok (final op R c)
      | some s => refusal op s := by
  induction R generalizing c with
  | nil => rfl
  | cons p ps ih =>
    rw [gated_cons, steps, List.find?_cons]
    by_cases h : stepPasses op (p, c) = true
    · simp only [h, if_true, Bool.not_true]
      exact ih _
    · simp only [h, Bool.not_false]
      rfl

/-- **Proceed iff nobody refused or failed; then the content is the composition.** -/
theorem gated_ok_iff (op : Op) (R : List (Plugin C)) (c c' : C) :
    (gated op R c).1 = .ok c' ↔
      (∀ s ∈ steps op R c, stepPasses op s = true) ∧ c' = final op R c := by
  rw [gated_result]
  cases hf : (steps op R c).find? (fun s => !stepPasses op s) with
  | none =>
    have hall : ∀ s ∈ steps op R c, stepPasses op s = true := by simpa using hf
    exact ⟨fun h => ⟨hall, (Result.ok.inj h).symm⟩, fun h => by rw [h.2]⟩
  | some s =>
    have hs : stepPasses op s = false := by simpa using List.find?_some hf
    refine ⟨fun h => ?_, fun h => ?_⟩
    · have := refusal_not_ok op s
      rw [show refusal op s = .ok c' from h] at this
      cases this
    · have := h.1 s (List.mem_of_find?_eq_some hf)
      rw [hs] at this
      cases this

theorem gated_isOk (op : Op) (R : List (Plugin C)) (c : C) (h : (gated op R c).1.isOk = true) :
    (gated op R c).1 = .ok (final op R c) := by
  cases hr : (gated op R c).1 with
  | ok c' => rw [((gated_ok_iff op R c c').1 hr).2]
  | error | panic =>
    rw [hr] at h
    cases h

/-- **Fail closed.** If any plugin that was consulted answered with a transport error, a reject,
    or an unusable content, the operation is not allowed (whatever the others say). -/
theorem fail_closed (op : Op) (R : List (Plugin C)) (c : C) (s : Plugin C × C)
    (hs : s ∈ steps op R c) (hfail : stepPasses op s = false) :
    ∀ c', (gated op R c).1 ≠ .ok c' := by
  intro c' h
  have := ((gated_ok_iff op R c c').1 h).1 s hs
  rw [hfail] at this
  cases this

/-- **Transport error ⇒ refused with the fixed message; reject ⇒ refused with the plugin's
    reason**, at the first failing plugin `s` (everything before it, `pre`, passed). -/
theorem first_failure (op : Op) (R : List (Plugin C)) (c : C)
    (pre post : List (Plugin C × C)) (s : Plugin C × C)
    (hdec : steps op R c = pre ++ s :: post)
    (hpre : ∀ x ∈ pre, stepPasses op x = true) (hfail : stepPasses op s = false) :
    (gated op R c).1 = refusal op s ∧ (gated op R c).2 = (pre ++ [s]).map seenOf := by
  have htw := (ListW.split_unique (stepPasses op) _ pre post s hdec hpre hfail).1
  constructor
  · rw [gated_result, hdec, ListW.find_first (stepPasses op) pre post s hpre hfail]
  · rw [gated_consulted, consultedSpec, htw, hdec, List.append_cons, List.take_left' (by simp)]

/-- **Everybody consulted when the operation proceeds.** -/
theorem proceed_all_consulted (op : Op) (R : List (Plugin C)) (c c' : C)
    (h : (gated op R c).1 = .ok c') :
    (gated op R c).2 = (steps op R c).map seenOf ∧ c' = final op R c := by
  have ⟨hall, hc⟩ := (gated_ok_iff op R c c').1 h
  exact ⟨by rw [gated_consulted, consultedSpec_of_all op R c hall], hc⟩

theorem steps_ids (op : Op) (R : List (Plugin C)) (c : C) :
    (steps op R c).map (fun s => (seenOf s).1) = R.map (·.id) := by
  induction R generalizing c with
  | nil => rfl
  | cons p ps ih => simp only [steps, List.map_cons, seenOf]; rw [← ih]; rfl

/-- the ids consulted are a prefix of the chain's ids: in registration order, no gaps, no
    repetition of a position -/
theorem consulted_ids_prefix (op : Op) (R : List (Plugin C)) (c : C) :
    ((gated op R c).2.map (·.1)) <+: R.map (·.id) := by
  rw [gated_consulted, consultedSpec, List.map_map, ← steps_ids op R c]
  have : ((fun (x : Seen C) => x.1) ∘ seenOf) = fun (s : Plugin C × C) => (seenOf s).1 := rfl
  rw [this, List.map_take]
  exact List.take_prefix _ _

/-- **Plugins not registered for an operation are never consulted for it**: whatever was
    registered, every call made by the manager method of `op` went to a registered plugin that
    supports `op`. -/
theorem unregistered_never_consulted (ps : List (Plugin C)) (op : Op) (c : C) (e : Seen C)
    (he : e ∈ (gated op (((Manager.empty : Manager C).registerAll ps).list op) c).2) :
    ∃ p ∈ ps, p.supports op = true ∧ p.id = e.1 := by
  rw [registered_chain] at he
  have hpre := consulted_ids_prefix op (ps.filter (·.supports op)) c
  have hmem : e.1 ∈ ((gated op (ps.filter (·.supports op)) c).2.map (·.1)) :=
    List.mem_map_of_mem he
  have := hpre.subset hmem
  rcases List.mem_map.1 this with ⟨p, hp, hid⟩
  rcases List.mem_filter.1 hp with ⟨hp1, hp2⟩
  exact ⟨p, hp1, hp2, hid⟩

/-- the content composition spelled out: what plugin number `k` is handed is the fold of the
    first `k` modifications -/
theorem steps_content (op : Op) (R : List (Plugin C)) (c : C) (k : Nat) (hk : k < (steps op R c).length) :
    ((steps op R c)[k]).2 = final op (R.take k) c := by
  induction R generalizing c k with
  | nil => simp [steps] at hk
  | cons p ps ih =>
    cases k with
    | zero => simp [steps, final]
    | succ k =>
      simp only [steps, List.getElem_cons_succ, List.take_succ_cons, final, List.foldl_cons]
      simp only [steps, List.length_cons] at hk
      exact ih _ k (by omega)

theorem steps_length (op : Op) (R : List (Plugin C)) (c : C) : (steps op R c).length = R.length := by
  induction R generalizing c with
  | nil => rfl
  | cons p ps ih => simp [steps, ih]

/-! ## CloseProxy: notify everybody, whatever happens -/

theorem closeLoop_consulted (R : List (Plugin C)) (c : C) :
    (closeLoop R c).2 = R.map (fun p => (p.id, c)) := by
  induction R with
  | nil => rfl
  | cons p ps ih =>
    simp only [closeLoop, List.map_cons]
    split <;> simp [ih]

theorem closeLoop_errs (R : List (Plugin C)) (c : C) :
    (closeLoop R c).1 = (R.filter (fun p => (p.handle .closeProxy c).isErr)).map (·.id) := by
  induction R with
  | nil => rfl
  | cons p ps ih =>
    simp only [closeLoop, List.filter_cons]
    split <;> rename_i h <;> simp [h, ih, Ret.isErr]

/-- **Every plugin registered for CloseProxy is notified, with the original content, even if an
    earlier one fails**; the method reports an error iff some plugin failed. -/
theorem closeAll_spec (R : List (Plugin C)) (c : C) :
    (closeAll R c).2 = R.map (fun p => (p.id, c)) ∧
    ((closeAll R c).1 = .ok ↔ ∀ p ∈ R, (p.handle .closeProxy c).isErr = false) := by
  refine ⟨closeLoop_consulted R c, ?_⟩
  have hok : (closeAll R c).1 = .ok ↔ (closeLoop R c).1 = [] := by
    simp only [closeAll]
    split <;> simp [*]
  rw [hok, closeLoop_errs, List.map_eq_nil_iff, List.filter_eq_nil_iff]
  simp

/-! ## HTTP plugin: what makes `Handle` fail, what lets an operation pass -/

/-- **Unreachable plugin, non-200 status, unreadable or unparsable body ⇒ `Handle` returns an
    error** (and then, by `fail_closed`, the operation is refused). -/
theorem http_bad_is_err (zero : C) (r : HttpReply C)
    (h : r = .connErr ∨ (∃ code b, r = .status code b ∧ code ≠ 200) ∨
         (∃ code, r = .status code .readErr) ∨ (∃ code, r = .status code .malformed) ∨
         (∃ code, r = .status code .badField) ∨
         (∃ code rj rs u, r = .status code (.parsed rj rs u .wrongType))) :
    httpHandle zero r = .err := by
  rcases h with rfl | ⟨code, b, rfl, hc⟩ | ⟨code, rfl⟩ | ⟨code, rfl⟩ | ⟨code, rfl⟩ | ⟨code, rj, rs, u, rfl⟩
  · rfl
  · exact if_pos hc
  -- the four unusable bodies: an error whatever the status
  all_goals simp only [httpHandle, ite_self]

/-- **Exactly when an HTTP exchange lets the operation pass**: status 200 and a JSON body that is
    either the value `null`, or an object that does not reject and either says `unchange` or
    carries a usable (absent or object) content. -/
theorem http_passes_iff (zero : C) (r : HttpReply C) :
    (httpHandle zero r).passes = true ↔
      (r = .status 200 .jsonNull ∨
       ∃ reason unchange content, r = .status 200 (.parsed false reason unchange content) ∧
         content ≠ .wrongType ∧ (unchange = true ∨ content ≠ .null)) := by
  constructor
  · intro h
    cases r with
    | connErr => cases h
    | status code body =>
      by_cases hc : code = 200
      · subst hc
        cases body with
        | jsonNull => exact Or.inl rfl
        | parsed reject reason unchange content =>
          cases reject with
          | true => cases content <;> cases h
          | false =>
            refine Or.inr ⟨reason, unchange, content, rfl, ?_⟩
            cases content with
            | wrongType => cases h
            | null =>
              cases unchange with
              | false => cases h
              | true => exact ⟨nofun, Or.inl rfl⟩
            | _ => exact ⟨nofun, Or.inr nofun⟩
        | _ => cases h
      · rw [show httpHandle zero (.status code body) = .err from if_pos hc] at h
        cases h
  · rintro (rfl | ⟨reason, unchange, content, rfl, h1, h2⟩)
    · rfl
    · cases content with
      | wrongType => exact absurd rfl h1
      | null =>
        rcases h2 with rfl | h2
        · rfl
        · exact absurd rfl h2
      | _ => cases unchange <;> rfl

/-! ## The property as one predicate over an observed result, and its executable form -/

/-- what C15 demands of one gated manager call: `R` = the plugins registered for the op (in
    registration order), `c0` the content offered, `res` the method's result, `cons` the `Handle`
    calls that were made. -/
structure Spec (op : Op) (R : List (Plugin C)) (c0 : C) (res : Result C) (cons : List (Seen C)) : Prop where
  /-- nobody refuses ⇒ everybody was consulted in order on the composed content and the operation
      proceeds on the final composition -/
  proceed : (∀ s ∈ steps op R c0, stepPasses op s = true) →
    cons = (steps op R c0).map seenOf ∧ res = .ok (final op R c0)
  /-- somebody refuses ⇒ exactly the plugins up to the first refusing one were consulted (in
      order, each on the composed content) and the operation does not proceed -/
  refuse : ∀ pre s post, steps op R c0 = pre ++ s :: post →
    (∀ x ∈ pre, stepPasses op x = true) → stepPasses op s = false →
    cons = (pre ++ [s]).map seenOf ∧ res.isOk = false

/-- executable form of `Spec` (run by the driver on the implementation's own result) -/
def holdsOn [DecidableEq C] (op : Op) (R : List (Plugin C)) (c0 : C) (res : Result C)
    (cons : List (Seen C)) : Bool :=
  let st := steps op R c0
  let pre := st.takeWhile (stepPasses op)
  match st.dropWhile (stepPasses op) with
  | [] => cons == st.map seenOf && res == .ok (final op R c0)
  | s :: _ => cons == (pre ++ [s]).map seenOf && !res.isOk

theorem holdsOn_sound [DecidableEq C] (op : Op) (R : List (Plugin C)) (c0 : C) (res : Result C)
    (cons : List (Seen C)) :
    holdsOn op R c0 res cons = true ↔ Spec op R c0 res cons := by
  simp only [holdsOn]
  split
  · rename_i hd
    have hall := (ListW.dropWhile_eq_nil _ _).1 hd
    simp only [Bool.and_eq_true, beq_iff_eq]
    refine ⟨fun h => ⟨fun _ => h, fun pre s post hdec _ hs => ?_⟩, fun h => h.proceed hall⟩
    have := hall s (by rw [hdec]; simp)
    rw [hs] at this
    cases this
  · rename_i s post hd
    obtain ⟨hdec, hs⟩ := ListW.dropWhile_eq_cons hd
    have hpre : ∀ x ∈ (steps op R c0).takeWhile (stepPasses op), stepPasses op x = true :=
      List.all_eq_true.1 List.all_takeWhile
    simp only [Bool.and_eq_true, beq_iff_eq, Bool.not_eq_true']
    refine ⟨fun h => ⟨fun hall => ?_, fun pre' s' post' hdec' hpre' hs' => ?_⟩,
      fun h => h.refuse _ s post hdec hpre hs⟩
    · have := hall s (by rw [hdec]; simp)
      rw [hs] at this
      cases this
    · -- the decomposition the clause speaks of is the one `holdsOn` computed
      obtain ⟨h1, h2⟩ := ListW.split_unique _ _ pre' post' s' hdec' hpre' hs'
      rw [hd] at h2
      injection h2 with h2 _
      rw [← h1, ← h2]
      exact h

/-- **The model satisfies the property** for every chain, handler, content. -/
theorem model_spec (op : Op) (R : List (Plugin C)) (c : C) :
    Spec op R c (gated op R c).1 (gated op R c).2 := by
  constructor
  · intro hall
    have hok : (gated op R c).1 = .ok (final op R c) := (gated_ok_iff op R c _).2 ⟨hall, rfl⟩
    exact ⟨(proceed_all_consulted op R c _ hok).1, hok⟩
  · intro pre s post hdec hpre hs
    have := first_failure op R c pre post s hdec hpre hs
    exact ⟨this.2, by rw [this.1]; exact refusal_not_ok op s⟩

theorem call_eq_gated (m : Manager C) (op : Op) (hop : op ≠ .closeProxy) (c : C) :
    m.call op c = gated op (m.list op) c := by
  cases op
  case closeProxy => exact absurd rfl hop
  all_goals rfl

/-- … and so does the manager built by any sequence of `Register` calls, for each gated method,
    with `R` = the registered plugins that support the op (declaratively: `filter`). -/
theorem manager_spec (ps : List (Plugin C)) (op : Op) (hop : op ≠ .closeProxy) (c : C) :
    let m := (Manager.empty : Manager C).registerAll ps
    Spec op (ps.filter (·.supports op)) c (m.call op c).1 (m.call op c).2 := by
  intro m
  rw [call_eq_gated m op hop, show m.list op = _ from registered_chain ps op]
  exact model_spec _ _ _

/-- CloseProxy through the manager: all registered supporters notified with the original content -/
theorem manager_close_spec (ps : List (Plugin C)) (c : C) :
    let m := (Manager.empty : Manager C).registerAll ps
    (m.closeProxy c).2 = (ps.filter (·.supports .closeProxy)).map (fun p => (p.id, c)) ∧
    ((m.closeProxy c).1 = .ok ↔
      ∀ p ∈ ps, p.supports .closeProxy = true → (p.handle .closeProxy c).isErr = false) := by
  intro m
  have hl : m.closeProxyPlugins = ps.filter (·.supports .closeProxy) := registered_chain ps .closeProxy
  have := closeAll_spec (ps.filter (·.supports .closeProxy)) c
  simp only [Manager.closeProxy, hl]
  refine ⟨this.1, this.2.trans ?_⟩
  simp only [List.mem_filter, and_imp]

/-- executable predicate for CloseProxy results -/
def closeHoldsOn [DecidableEq C] (R : List (Plugin C)) (c0 : C) (res : CloseResult)
    (cons : List (Seen C)) : Bool :=
  cons == R.map (fun p => (p.id, c0)) &&
  ((res == .ok) == R.all (fun p => !(p.handle .closeProxy c0).isErr))

theorem closeHoldsOn_sound [DecidableEq C] (R : List (Plugin C)) (c0 : C) (res : CloseResult)
    (cons : List (Seen C)) :
    closeHoldsOn R c0 res cons = true ↔
      (cons = R.map (fun p => (p.id, c0)) ∧
       (res = .ok ↔ ∀ p ∈ R, (p.handle .closeProxy c0).isErr = false)) := by
  have hall : (R.all (fun p => !(p.handle .closeProxy c0).isErr) = true) ↔
      ∀ p ∈ R, (p.handle .closeProxy c0).isErr = false := by
    simp [List.all_eq_true]
  simp only [closeHoldsOn, Bool.and_eq_true, beq_iff_eq]
  rw [← hall, Bool.eq_iff_iff, beq_iff_eq]

theorem model_closeHoldsOn [DecidableEq C] (R : List (Plugin C)) (c : C) :
    closeHoldsOn R c (closeAll R c).1 (closeAll R c).2 = true :=
  (closeHoldsOn_sound R c _ _).2 (closeAll_spec R c)

/-! ## Call sites: close notifications for every proxy that stops (server/control.go) -/

/-- **Every proxy that stops — by an explicit CloseProxy or by the end of the session — gets a
    close notification, in the same order, exactly once**, for every history of the session. -/
theorem notified_eq_stopped (ops : List SessOp) :
    ((Sess.run {} ops).notified = (Sess.run {} ops).stopped) := by
  refine foldl_invariant (P := fun s : Sess => s.notified = s.stopped) (f := Sess.step) (l := ops) rfl ?_
  intro s o _ h
  cases o with
  | newProxy n => simp only [Sess.step]; split <;> exact h
  | closeProxy n => simp only [Sess.step]; split <;> simp [h]
  | sessionEnd => simp [Sess.step, h]

/-- after the session ended nothing is left running un-notified: every proxy ever registered and
    not yet stopped at session end is in `stopped` (hence notified) afterwards -/
theorem session_end_stops_all (s : Sess) :
    (s.step .sessionEnd).proxies = [] ∧ ∀ n ∈ s.proxies, n ∈ (s.step .sessionEnd).notified :=
  ⟨rfl, fun _ hn => List.mem_append_right _ hn⟩

/-! ## Call sites with the chain attached: every stop reaches every CloseProxy plugin, whatever any
       plugin answers, in every map order and every schedule of the notification goroutines -/

/-- what C15 demands of the notifications of a session: for the proxies `stopped` (in stop order)
    the `Handle(CloseProxy)` calls are, per proxy, one call to every plugin registered for CloseProxy
    with that proxy's content -/
def notifySpec (R : List (Plugin C)) (mk : Str → C) (stopped : List Str) : List (Seen C) :=
  stopped.flatMap (fun n => R.map (fun p => (p.id, mk n)))

/-- one notification goroutine calls every plugin of the chain on its own content, whatever the
    plugins answer (error, reject, anything) -/
theorem notifyGo_spec (R : List (Plugin C)) (mk : Str → C) (n : Str) :
    notifyGo R mk n = R.map (fun p => (p.id, mk n)) :=
  closeLoop_consulted R (mk n)

/-- the bookkeeping of a `SessP`: a `Sess` whose notifications are its stops -/
def eraseP (s : SessP C) : Sess := ⟨s.proxies, s.stopped, s.stopped⟩

theorem eraseP_step (R : List (Plugin C)) (mk : Str → C) (s : SessP C) (o : SessOp) :
    (eraseP s).step o = eraseP (SessP.step R mk s o) := by
  cases o with
  | newProxy n => cases h : s.proxies.contains n <;> simp only [SessP.step, Sess.step, eraseP, h] <;> rfl
  | closeProxy n => cases h : s.proxies.contains n <;> simp only [SessP.step, Sess.step, eraseP, h] <;> rfl
  | sessionEnd => rfl

/-- the bookkeeping of `SessP` is that of `Sess` (so `notified_eq_stopped` speaks about it too) -/
theorem sessP_erase (R : List (Plugin C)) (mk : Str → C) (ops : List SessOp) :
    (SessP.run R mk {} ops).proxies = (Sess.run {} ops).proxies ∧
    (SessP.run R mk {} ops).stopped = (Sess.run {} ops).stopped := by
  have h : Sess.run {} ops = eraseP (SessP.run R mk {} ops) :=
    List.foldl_hom eraseP (l := ops) (init := ({} : SessP C)) (eraseP_step R mk)
  rw [h]
  exact ⟨rfl, rfl⟩

/-- **One notification goroutine per stop, each complete**: for every history of a session, every
    chain and ALL handler functions, the goroutines started are — in stop order — exactly one per
    stopped proxy (explicit close or session end), and each one calls the whole chain. -/
theorem sessP_notes (R : List (Plugin C)) (mk : Str → C) (ops : List SessOp) :
    (SessP.run R mk {} ops).notes =
      (SessP.run R mk {} ops).stopped.map (fun n => R.map (fun p => (p.id, mk n))) := by
  refine foldl_invariant (f := SessP.step R mk) (l := ops) (s := ({} : SessP C))
    (P := fun s => s.notes = s.stopped.map (fun n => R.map (fun p => (p.id, mk n)))) rfl ?_
  intro s o _ h
  cases o with
  | newProxy n => simp only [SessP.step]; split <;> exact h
  | closeProxy n =>
    simp only [SessP.step]
    split
    · simp [h, notifyGo_spec]
    · exact h
  | sessionEnd =>
    simp only [SessP.step, h, List.map_append]
    congr 1
    exact List.map_congr_left (fun n _ => notifyGo_spec R mk n)

/-- **All map orders, all schedules.** Whatever order `worker` ranges over `ctl.proxies` in (the
    goroutines `gs` are any permutation of the model's), and however the goroutines interleave,
    the calls received are a permutation of `notifySpec`: nothing lost, nothing twice. -/
theorem notify_all_schedules (R : List (Plugin C)) (mk : Str → C) (ops : List SessOp)
    (gs : List (List (Seen C))) (out : List (Seen C))
    (hgs : gs.Perm (SessP.run R mk {} ops).notes) (hrun : ListW.Interleave gs out) :
    out.Perm (notifySpec R mk (SessP.run R mk {} ops).stopped) := by
  have h1 := hrun.perm
  have h2 := hgs.flatten
  rw [sessP_notes] at h2
  unfold notifySpec
  rw [List.flatMap_def]
  exact h1.trans h2

/-- **Every proxy that stopped reaches every plugin registered for CloseProxy** — also the plugins
    behind one that fails, and also the proxies whose goroutine comes after a failed notification. -/
theorem every_stop_reaches_every_plugin (R : List (Plugin C)) (mk : Str → C) (ops : List SessOp)
    (gs : List (List (Seen C))) (out : List (Seen C))
    (hgs : gs.Perm (SessP.run R mk {} ops).notes) (hrun : ListW.Interleave gs out) :
    ∀ n ∈ (SessP.run R mk {} ops).stopped, ∀ p ∈ R, (p.id, mk n) ∈ out := by
  intro n hn p hp
  rw [(notify_all_schedules R mk ops gs out hgs hrun).mem_iff]
  unfold notifySpec
  exact List.mem_flatMap.2 ⟨n, hn, List.mem_map.2 ⟨p, hp, rfl⟩⟩

/-- within one notification the plugins are called in chain order, in every schedule -/
theorem notify_chain_order (R : List (Plugin C)) (mk : Str → C) (ops : List SessOp)
    (gs : List (List (Seen C))) (out : List (Seen C))
    (hgs : gs.Perm (SessP.run R mk {} ops).notes) (hrun : ListW.Interleave gs out) :
    ∀ n ∈ (SessP.run R mk {} ops).stopped, (R.map (fun p => (p.id, mk n))).Sublist out := by
  intro n hn
  apply hrun.sublist
  rw [hgs.mem_iff, sessP_notes]
  exact List.mem_map.2 ⟨n, hn, rfl⟩

/-- the notifications do not depend on what any plugin answers: two chains with the same ids but
    arbitrary different handlers start the same goroutines making the same calls -/
theorem notes_handler_independent (R R' : List (Plugin C)) (mk : Str → C) (ops : List SessOp)
    (hid : R.map (·.id) = R'.map (·.id)) :
    (SessP.run R mk {} ops).notes = (SessP.run R' mk {} ops).notes := by
  rw [sessP_notes, sessP_notes, (sessP_erase R mk ops).2, (sessP_erase R' mk ops).2]
  apply List.map_congr_left
  intro n _
  have ids : ∀ Q : List (Plugin C),
      Q.map (fun p => (p.id, mk n)) = (Q.map (·.id)).map (fun i => (i, mk n)) := by
    simp [List.map_map]
  rw [ids R, ids R', hid]

/-- executable predicate for the `Handle(CloseProxy)` calls a real server's plugins received during
    a session whose stopped proxies were `stopped` (run by the driver on the implementation's wire) -/
def notifyHoldsOn [DecidableEq C] (R : List (Plugin C)) (mk : Str → C) (stopped : List Str)
    (obs : List (Seen C)) : Bool :=
  obs.isPerm (notifySpec R mk stopped)

theorem notifyHoldsOn_sound [DecidableEq C] (R : List (Plugin C)) (mk : Str → C) (stopped : List Str)
    (obs : List (Seen C)) :
    notifyHoldsOn R mk stopped obs = true ↔ obs.Perm (notifySpec R mk stopped) :=
  List.isPerm_iff

/-- the model satisfies it for every history, map order and schedule -/
theorem model_notifyHoldsOn [DecidableEq C] (R : List (Plugin C)) (mk : Str → C) (ops : List SessOp)
    (gs : List (List (Seen C))) (out : List (Seen C))
    (hgs : gs.Perm (SessP.run R mk {} ops).notes) (hrun : ListW.Interleave gs out) :
    notifyHoldsOn R mk (SessP.run R mk {} ops).stopped out = true :=
  (notifyHoldsOn_sound R mk _ out).2 (notify_all_schedules R mk ops gs out hgs hrun)

/-! ## Call sites over histories: every occurrence of every gated operation passes the gate

  `Frp.PluginSite` (server/service.go handleConnection + RegisterControl + RegisterWorkConn,
  server/control.go handleNewProxy / handlePing, server/proxy/proxy.go handleUserTCPConnection):
  several sessions, logins with an empty run id, an unknown one, the run id of a LIVE session
  (re-login / replacement) or of a session that has ended, the same operation any number of times —
  and a plugin manager that may be another one at every step (behaviours flip between operations). -/

section site
open PluginSite

/-- what an observer sees of a `Handle` call: the plugin's id and a view of the content (the identity
    for the model itself; the correspondence engine cannot compare ephemeral addresses) -/
def viewSeen (view : C → C) (e : Seen C) : Seen C := (e.1, view e.2)

/-- what C15 demands of one visit of a call site: the `Handle` calls are the property's list (every
    plugin of the chain in order on the composed content up to and including the first that does not
    pass), and the server goes on only if every plugin of the chain was consulted and passed -/
structure SiteSpec (view : C → C) (op : Op) (R : List (Plugin C)) (c0 : C) (proceeded : Bool)
    (cons : List (Seen C)) : Prop where
  consulted : cons = (consultedSpec op R c0).map (viewSeen view)
  gate : proceeded = true →
    (∀ s ∈ steps op R c0, stepPasses op s = true) ∧
    cons = ((steps op R c0).map seenOf).map (viewSeen view)

/-- executable form (run by the driver on what the plugin server received and what the peer saw) -/
def siteHoldsOn [DecidableEq C] (view : C → C) (op : Op) (R : List (Plugin C)) (c0 : C)
    (proceeded : Bool) (cons : List (Seen C)) : Bool :=
  cons == (consultedSpec op R c0).map (viewSeen view) &&
    (!proceeded || (steps op R c0).all (stepPasses op))

theorem siteHoldsOn_sound [DecidableEq C] (view : C → C) (op : Op) (R : List (Plugin C)) (c0 : C)
    (proceeded : Bool) (cons : List (Seen C)) :
    siteHoldsOn view op R c0 proceeded cons = true ↔ SiteSpec view op R c0 proceeded cons := by
  simp only [siteHoldsOn, Bool.and_eq_true, beq_iff_eq, Bool.or_eq_true, Bool.not_eq_true',
    List.all_eq_true]
  constructor
  · rintro ⟨h1, h2⟩
    refine ⟨h1, fun hp => ?_⟩
    have hall : ∀ s ∈ steps op R c0, stepPasses op s = true := by
      rcases h2 with h2 | h2
      · rw [hp] at h2; cases h2
      · exact h2
    exact ⟨hall, by rw [h1, consultedSpec_of_all op R c0 hall]⟩
  · intro h
    refine ⟨h.consulted, ?_⟩
    cases hp : proceeded with
    | false => exact Or.inl rfl
    | true => exact Or.inr (h.gate hp).1

/-- an event is *gated*: its result and its `Handle` calls are those of the manager loop on the chain
    and the content of the event, and the server went on only on `ok` -/
def EvGated (e : Ev C) : Prop :=
  e.res = (gated e.op e.chain e.offered).1 ∧ e.cons = (gated e.op e.chain e.offered).2 ∧
  (e.proceeded = true → e.res.isOk = true)

/-- a gated event on which the server went on: everybody consulted, everybody passed, and the result is
    the composition of all edits -/
theorem evGated_proceeded (e : Ev C) (h : EvGated e) (hp : e.proceeded = true) :
    (∀ st ∈ steps e.op e.chain e.offered, stepPasses e.op st = true) ∧
      e.cons = (steps e.op e.chain e.offered).map seenOf ∧
      e.res = .ok (final e.op e.chain e.offered) := by
  obtain ⟨h1, h2, h3⟩ := h
  have hok := gated_isOk _ _ _ (h1 ▸ h3 hp)
  exact ⟨((gated_ok_iff _ _ _ _).1 hok).1, by rw [h2, (proceed_all_consulted _ _ _ _ hok).1],
    by rw [h1, hok]⟩

/-- a gated event meets the property's `Spec` and `SiteSpec` -/
theorem gated_event_spec (view : C → C) (e : Ev C) (h : EvGated e) :
    Spec e.op e.chain e.offered e.res e.cons ∧
    SiteSpec view e.op e.chain e.offered e.proceeded (e.cons.map (viewSeen view)) := by
  refine ⟨by rw [h.1, h.2.1]; exact model_spec _ _ _, ⟨by rw [h.2.1, gated_consulted], fun hp => ?_⟩⟩
  have := evGated_proceeded e h hp
  exact ⟨this.1, by rw [this.2.1]⟩

/-! ### every call site is the same gate

  The five gated branches of `step` differ in the operation, in the content they build, in what the
  server itself still checks on the content the chain returns and in what going on does to the state;
  `gate` is what they share. -/

/-- the visit of the chain of `op` on the content `c`, after which the server went on (`go`) or not -/
def visit (m : Manager C) (op : Op) (c : C) (go : Bool) : Ev C :=
  ⟨op, m.list op, c, (gated op (m.list op) c).1, (gated op (m.list op) c).2, go⟩

/-- a gated call site: the chain of `op` is visited on `c`; the server goes on — to the state `eff` of
    the returned content — iff the chain consents and the server's own check `ok` of the returned
    content passes -/
def gate (m : Manager C) (s : Srv) (op : Op) (c : C) (ok : C → Bool) (eff : C → Srv) :
    Srv × List (Ev C) :=
  let go := (gated op (m.list op) c).1.isOk && ok (final op (m.list op) c)
  (if go then eff (final op (m.list op) c) else s, [visit m op c go])

/-- `gate` as Login and NewProxy are written in `step`: a `match` on the chain's result (which, when `ok`,
    holds the composition of the edits), the server's own check inside -/
theorem gate_eq_match (m : Manager C) (s : Srv) (op : Op) (c : C) (ok : C → Bool) (eff : C → Srv) :
    gate m s op c ok eff =
      match (gated op (m.list op) c).1 with
      | .ok c' => if ok c' then (eff c', [visit m op c true]) else (s, [visit m op c false])
      | _ => (s, [visit m op c false]) := by
  unfold gate
  cases hr : (gated op (m.list op) c).1 with
  | ok c' =>
    rw [← ((gated_ok_iff _ _ _ c').1 hr).2]
    dsimp only
    cases ok c' <;> rfl
  | error msg => rfl
  | panic => rfl

/-- … and as Ping, NewWorkConn and NewUserConn are: the check and the effect do not look at the content -/
theorem gate_const (m : Manager C) (s s' : Srv) (op : Op) (c : C) (b : Bool) :
    gate m s op c (fun _ => b) (fun _ => s') =
      if (gated op (m.list op) c).1.isOk && b then (s', [visit m op c true])
      else (s, [visit m op c false]) := by
  unfold gate
  cases (gated op (m.list op) c).1.isOk && b <;> rfl

/-- a call site whose going on leaves the state alone (NewWorkConn, NewUserConn) -/
theorem gate_stay (m : Manager C) (s : Srv) (op : Op) (c : C) (ok : C → Bool) :
    gate m s op c ok (fun _ => s) =
      (s, [visit m op c ((gated op (m.list op) c).1.isOk && ok (final op (m.list op) c))]) := by
  rw [gate, ite_self]

theorem step_login (E : Enc C) (m : Manager C) (s : Srv) (slot : Nat) (user rid genId : Str)
    (authOk : Bool) :
    step E m s (.login slot user rid genId authOk) =
      gate m s .login (E.login user rid) (fun _ => authOk) (fun c' =>
        s.add ⟨slot, if E.loginRid c' = [] then genId else E.loginRid c', E.loginUser c', [], s.now⟩) := by
  rw [gate_eq_match]
  rfl

theorem step_newProxy (E : Enc C) (m : Manager C) (s : Srv) (slot : Nat) (name : Str) (regOk : Bool) :
    step E m s (.newProxy slot name regOk) =
      match s.bySlot slot with
      | none => (s, [])
      | some ctl => gate m s .newProxy (E.newProxy name ctl.user)
          (fun c' => regOk && !s.hasProxy (E.proxyName c')) (fun c' => s.addProxy slot (E.proxyName c')) := by
  simp only [gate_eq_match]
  rfl

theorem step_ping (E : Enc C) (m : Manager C) (s : Srv) (slot : Nat) (key : Str) (authOk : Bool) :
    step E m s (.ping slot key authOk) =
      match s.bySlot slot with
      | none => (s, [])
      | some ctl => gate m s .ping (E.ping key ctl.user) (fun _ => authOk) (fun _ => s.beat slot) := by
  simp only [gate_const]
  rfl

theorem step_newWorkConn (E : Enc C) (m : Manager C) (s : Srv) (rid cred : Str) (authOk : Bool) :
    step E m s (.newWorkConn rid cred authOk) =
      match s.byRid rid with
      | none => (s, [])
      | some ctl => gate m s .newWorkConn (E.newWorkConn cred ctl.user) (fun _ => authOk) (fun _ => s) := by
  simp only [gate_stay]
  rfl

theorem step_newUserConn (E : Enc C) (m : Manager C) (s : Srv) (name : Str) :
    step E m s (.newUserConn name) =
      match s.owner name with
      | none => (s, [])
      | some ctl => gate m s .newUserConn (E.newUserConn name ctl.user) (fun _ => true) (fun _ => s) := by
  simp only [gate_stay, Bool.and_true]
  rfl

theorem gate_gated {m : Manager C} {s : Srv} {op : Op} {c : C} {ok : C → Bool} {eff : C → Srv} :
    ∀ e ∈ (gate m s op c ok eff).2, e.chain = m.list e.op ∧ EvGated e := by
  intro e he
  rw [List.mem_singleton.1 he]
  exact ⟨rfl, rfl, rfl, fun h => (Bool.and_eq_true_iff.1 h).1⟩

theorem gate_cases {m : Manager C} {s : Srv} {op : Op} {c : C} {ok : C → Bool} {eff : C → Srv}
    {r : Srv × List (Ev C)} (h : r = gate m s op c ok eff) :
    r = (s, [visit m op c false]) ∨
    ((gated op (m.list op) c).1 = .ok (final op (m.list op) c) ∧ ok (final op (m.list op) c) = true ∧
      r = (eff (final op (m.list op) c), [visit m op c true])) := by
  rw [h, gate]
  cases hgo : (gated op (m.list op) c).1.isOk && ok (final op (m.list op) c) with
  | false => exact Or.inl rfl
  | true =>
    rw [Bool.and_eq_true] at hgo
    exact Or.inr ⟨gated_isOk _ _ _ hgo.1, hgo.2, rfl⟩

/-- the requests of a session carry the user stored at its login -/
def OfferedFrom (E : Enc C) (u : Str) (e : Ev C) : Prop :=
  match e.op with
  | .newProxy => ∃ n, e.offered = E.newProxy n u
  | .ping => ∃ k, e.offered = E.ping k u
  | .newWorkConn => ∃ r, e.offered = E.newWorkConn r u
  | .newUserConn => ∃ n, e.offered = E.newUserConn n u
  | _ => True

theorem step_trace (E : Enc C) (m : Manager C) (s : Srv) (x : Msg) :
    ∀ e ∈ (step E m s x).2, (e.chain = m.list e.op ∧ EvGated e) ∧
      (e.op ≠ .login → ∃ ctl ∈ s.ctls, OfferedFrom E ctl.user e) := by
  intro e he
  cases x with
  | login slot user rid genId authOk =>
    rw [step_login] at he
    obtain rfl := List.mem_singleton.1 he
    exact ⟨gate_gated _ he, fun hop => absurd rfl hop⟩
  | connClosed | tick | hbCheck => cases he
  | _ =>
    -- the four messages that belong to a session: no session, no event; else one gate, on its user
    simp only [step_newProxy, step_ping, step_newWorkConn, step_newUserConn] at he
    split at he
    · cases he
    · rename_i ctl hs
      obtain rfl := List.mem_singleton.1 he
      exact ⟨gate_gated _ he, fun _ => ⟨ctl, List.mem_of_find?_eq_some hs, _, rfl⟩⟩

/-- one message: whatever the state (which sessions live, which ended), whatever the manager of the
    moment, every event is a visit of the manager's chain of that operation and is gated -/
theorem step_events_gated (E : Enc C) (m : Manager C) (s : Srv) (x : Msg) :
    ∀ e ∈ (step E m s x).2, e.chain = m.list e.op ∧ EvGated e :=
  fun e he => (step_trace E m s x e he).1

/-- every NewProxy / Ping / NewWorkConn / NewUserConn visit belongs to a session the server holds and
    offers the plugins that session's (rewritten) user -/
theorem offered_carries_session_user (E : Enc C) (m : Manager C) (s : Srv) (x : Msg) :
    ∀ e ∈ (step E m s x).2, e.op ≠ .login → ∃ ctl ∈ s.ctls, OfferedFrom E ctl.user e :=
  fun e he => (step_trace E m s x e he).2

/-- The induction behind every theorem about histories.  `P s T` speaks of a state and of the trace
    behind it; if every message of the history keeps it, the trace growing by the events of the message,
    then it goes from any `(s, T)` to the end state of the run and `T` followed by the trace of the run. -/
theorem run_induction (E : Enc C) (P : Srv → List (Ev C) → Prop) (hist : List (Manager C × Msg))
    (hstep : ∀ mx ∈ hist, ∀ s T, P s T → P (step E mx.1 s mx.2).1 (T ++ (step E mx.1 s mx.2).2)) :
    ∀ s T, P s T → P (run E s hist).1 (T ++ (run E s hist).2) := by
  induction hist with
  | nil => intro s T h; simpa [run] using h
  | cons mx rest ih =>
    intro s T h
    simp only [run]
    rw [← List.append_assoc]
    exact ih (fun mx' hm => hstep mx' (List.mem_cons_of_mem _ hm)) _ _
      (hstep mx (List.mem_cons_self ..) s T h)

/-- `run_induction` with no trace behind the start state: from `P s []` to `P` of the end state and the
    trace of the run -/
theorem run_invariant (E : Enc C) (P : Srv → List (Ev C) → Prop) (hist : List (Manager C × Msg))
    (hstep : ∀ mx ∈ hist, ∀ s T, P s T → P (step E mx.1 s mx.2).1 (T ++ (step E mx.1 s mx.2).2))
    (s : Srv) (h0 : P s []) : P (run E s hist).1 (run E s hist).2 := by
  have := run_induction E P hist hstep s [] h0
  rwa [List.nil_append] at this

/-- **every occurrence, in every history**: each event of the trace visited the chain of one of the
    managers of the history and is gated -/
theorem run_events_gated (E : Enc C) (hist : List (Manager C × Msg)) (s : Srv) :
    ∀ e ∈ (run E s hist).2, (∃ mx ∈ hist, e.chain = mx.1.list e.op) ∧ EvGated e := by
  exact run_invariant E (fun _ T => ∀ e ∈ T, (∃ mx ∈ hist, e.chain = mx.1.list e.op) ∧ EvGated e) hist
    (fun mx hm s T h e he => by
      rcases List.mem_append.1 he with he | he
      · exact h e he
      · have := step_events_gated E mx.1 s mx.2 e he
        exact ⟨⟨mx, hm, this.1⟩, this.2⟩) s (fun _ h => nomatch h)

/-- **The clause, for every history**: whenever the server goes on with an operation — the first
    login or the tenth, a login carrying the run id of a live session, a NewProxy for a name that is
    in use, a Ping after the plugins changed their mind … — every plugin registered for that operation
    at that moment was consulted, in order, each on the composition of the earlier edits, none refused,
    and the content the server acts on is the composition of all edits. -/
theorem site_proceeds_only_through_gate (E : Enc C) (hist : List (Manager C × Msg)) (s : Srv) :
    ∀ e ∈ (run E s hist).2, e.proceeded = true →
      (∀ st ∈ steps e.op e.chain e.offered, stepPasses e.op st = true) ∧
      e.cons = (steps e.op e.chain e.offered).map seenOf ∧
      e.res = .ok (final e.op e.chain e.offered) :=
  fun e he hp => evGated_proceeded e (run_events_gated E hist s e he).2 hp

/-- … and refused or not, what the plugins were asked is the property's list, at every occurrence -/
theorem site_every_occurrence (E : Enc C) (hist : List (Manager C × Msg)) (s : Srv) (view : C → C) :
    ∀ e ∈ (run E s hist).2,
      Spec e.op e.chain e.offered e.res e.cons ∧
      SiteSpec view e.op e.chain e.offered e.proceeded (e.cons.map (viewSeen view)) :=
  fun e he => gated_event_spec view e (run_events_gated E hist s e he).2

/-- the model meets the executable predicate at every visit of every history, under every view -/
theorem model_siteHoldsOn [DecidableEq C] (E : Enc C) (hist : List (Manager C × Msg)) (s : Srv)
    (view : C → C) :
    ∀ e ∈ (run E s hist).2,
      siteHoldsOn view e.op e.chain e.offered e.proceeded (e.cons.map (viewSeen view)) = true :=
  fun e he => (siteHoldsOn_sound _ _ _ _ _ _).2 (site_every_occurrence E hist s view e he).2

/-- **The login call site, for ALL kinds of login**: `s` is any server state and `rid` any run id —
    empty, never seen, the run id of a session that lives in `s` (re-login / replacement), the run id
    of a session that has ended (no longer in `s`).  In each case exactly one visit of the Login chain
    of the moment is made on the content built from the message; a login that is not accepted leaves the
    server state as it was; an accepted one stores a Control built from the content AS REWRITTEN by the
    chain (user, run id), replacing whatever was stored under that run id. -/
theorem login_gated_every_kind (E : Enc C) (m : Manager C) (s : Srv) (slot : Nat)
    (user rid genId : Str) (authOk : Bool) :
    ∃ e, (step E m s (.login slot user rid genId authOk)).2 = [e] ∧
      e.op = .login ∧ e.chain = m.loginPlugins ∧ e.offered = E.login user rid ∧
      e.res = (gated .login m.loginPlugins (E.login user rid)).1 ∧
      e.cons = consultedSpec .login m.loginPlugins (E.login user rid) ∧
      (e.proceeded = false → (step E m s (.login slot user rid genId authOk)).1 = s) ∧
      (e.proceeded = true →
        (∀ st ∈ steps .login m.loginPlugins (E.login user rid), stepPasses .login st = true) ∧
        (step E m s (.login slot user rid genId authOk)).1 =
          s.add ⟨slot,
            (if E.loginRid (final .login m.loginPlugins (E.login user rid)) = [] then genId
             else E.loginRid (final .login m.loginPlugins (E.login user rid))),
            E.loginUser (final .login m.loginPlugins (E.login user rid)), [], s.now⟩) := by
  rcases gate_cases (step_login E m s slot user rid genId authOk) with h | ⟨hr, _, h⟩ <;> rw [h]
  · exact ⟨_, rfl, rfl, rfl, rfl, rfl, gated_consulted _ _ _, fun _ => rfl, nofun⟩
  · exact ⟨_, rfl, rfl, rfl, rfl, rfl, gated_consulted _ _ _, nofun,
      fun _ => ⟨((gated_ok_iff _ _ _ _).1 hr).1, rfl⟩⟩

/-- after `ctlManager.Add` the run id names the new Control and nothing else -/
theorem add_unique (s : Srv) (c : Ctl) :
    c ∈ (s.add c).ctls ∧ ∀ o ∈ (s.add c).ctls, o.rid = c.rid → o = c := by
  constructor
  · simp [Srv.add]
  · intro o ho hr
    simp only [Srv.add, List.mem_append, List.mem_filter, List.mem_singleton] at ho
    rcases ho with ⟨_, h⟩ | h
    · simp [hr] at h
    · exact h

theorem mem_add (s : Srv) (c o : Ctl) (h : o ∈ (s.add c).ctls) : o ∈ s.ctls ∨ o = c := by
  simp only [Srv.add, List.mem_append, List.mem_filter, List.mem_singleton] at h
  exact h.imp (·.1) id

/-- `RegisterProxy` touches nothing but the proxy list of the Controls of that connection -/
theorem mem_addProxy (s : Srv) (slot : Nat) (n : Str) (ctl : Ctl) (h : ctl ∈ (s.addProxy slot n).ctls) :
    ∃ o ∈ s.ctls, o.slot = ctl.slot ∧ o.rid = ctl.rid ∧ o.user = ctl.user ∧ o.lastPing = ctl.lastPing ∧
      ∀ n' ∈ ctl.proxies, n' ∈ o.proxies ∨ n' = n := by
  simp only [Srv.addProxy, List.mem_map] at h
  obtain ⟨o, ho, rfl⟩ := h
  refine ⟨o, ho, ?_⟩
  split
  · exact ⟨rfl, rfl, rfl, rfl, fun n' hn => (List.mem_append.1 hn).imp id List.mem_singleton.1⟩
  · exact ⟨rfl, rfl, rfl, rfl, fun n' hn => Or.inl hn⟩

/-- `lastPing.Store` touches nothing but the heartbeat clock of the Controls of that connection -/
theorem mem_beat (s : Srv) (slot : Nat) (ctl : Ctl) (h : ctl ∈ (s.beat slot).ctls) :
    ∃ o ∈ s.ctls, o.slot = ctl.slot ∧ o.rid = ctl.rid ∧ o.user = ctl.user ∧ o.proxies = ctl.proxies ∧
      (ctl.lastPing = o.lastPing ∨ (ctl.slot = slot ∧ ctl.lastPing = s.now)) := by
  simp only [Srv.beat, List.mem_map] at h
  obtain ⟨o, ho, rfl⟩ := h
  refine ⟨o, ho, ?_⟩
  split
  · rename_i hs; exact ⟨rfl, rfl, rfl, rfl, Or.inr ⟨hs, rfl⟩⟩
  · exact ⟨rfl, rfl, rfl, rfl, Or.inl rfl⟩

/-- The ways a message moves the state.  A Control is created, a proxy registered, a heartbeat counted
    only by a visit that went on, and that visit is the trace of the message; otherwise Controls are only
    dropped and time only passes. -/
inductive Moved (E : Enc C) (m : Manager C) (s : Srv) : Msg → Srv × List (Ev C) → Prop
  | stay (x : Msg) (evs : List (Ev C)) : Moved E m s x (s, evs)
  | login (slot : Nat) (user rid genId : Str) (c' : C) :
      (visit m .login (E.login user rid) true).res = .ok c' →
      Moved E m s (.login slot user rid genId true)
        (s.add ⟨slot, if E.loginRid c' = [] then genId else E.loginRid c', E.loginUser c', [], s.now⟩,
         [visit m .login (E.login user rid) true])
  | newProxy (slot : Nat) (name : Str) (regOk : Bool) (c c' : C) : (visit m .newProxy c true).res = .ok c' →
      Moved E m s (.newProxy slot name regOk) (s.addProxy slot (E.proxyName c'), [visit m .newProxy c true])
  | ping (slot : Nat) (key : Str) (c : C) :
      Moved E m s (.ping slot key true) (s.beat slot, [visit m .ping c true])
  | closed (slot : Nat) (p : Ctl → Bool) :
      Moved E m s (.connClosed slot) ({ s with ctls := s.ctls.filter p }, [])
  | tick (d : Nat) : Moved E m s (.tick d) ({ s with now := s.now + d }, [])
  | expire (slot : Nat) (p : Ctl → Bool) :
      Moved E m s (.hbCheck slot) ({ s with ctls := s.ctls.filter p }, [])

theorem step_moved (E : Enc C) (m : Manager C) (s : Srv) (x : Msg) : Moved E m s x (step E m s x) := by
  cases x with
  | login slot user rid genId authOk =>
    rcases gate_cases (step_login E m s slot user rid genId authOk) with h | ⟨hr, rfl, h⟩ <;> rw [h]
    · exact .stay _ _
    · exact .login slot user rid genId _ hr
  | newProxy slot name regOk =>
    have h := step_newProxy E m s slot name regOk
    split at h
    · rw [h]
      exact .stay _ _
    · rcases gate_cases h with h | ⟨hr, _, h⟩ <;> rw [h]
      · exact .stay _ _
      · exact .newProxy slot name regOk _ _ hr
  | ping slot key authOk =>
    have h := step_ping E m s slot key authOk
    split at h
    · rw [h]
      exact .stay _ _
    · rcases gate_cases h with h | ⟨_, rfl, h⟩ <;> rw [h]
      · exact .stay _ _
      · exact .ping slot key _
  | newWorkConn | newUserConn =>
    simp only [step_newWorkConn, step_newUserConn]
    split
    · exact .stay _ _
    · rw [gate_stay]
      exact .stay _ _
  | connClosed slot => exact .closed slot _
  | tick d => exact .tick d
  | hbCheck slot => exact .expire slot _

/-- **The server state changes only through the gate**: a message changes the session / proxy tables
    or the heartbeat clock of a session only if one of its visits of a chain proceeded — or it is the end
    of a connection, the passage of time, or a run of a heartbeat worker (which can only END a session). -/
theorem effect_only_through_gate (E : Enc C) (m : Manager C) (s : Srv) (x : Msg)
    (h : (step E m s x).1 ≠ s) :
    (∃ slot, x = .connClosed slot) ∨ (∃ d, x = .tick d) ∨ (∃ slot, x = .hbCheck slot) ∨
      ∃ e ∈ (step E m s x).2, e.proceeded = true := by
  have hm := step_moved E m s x
  generalize step E m s x = r at hm h ⊢
  cases hm with
  | stay _ evs => exact absurd rfl h
  | login | newProxy | ping => exact Or.inr (Or.inr (Or.inr ⟨_, List.mem_singleton.2 rfl, rfl⟩))
  | closed slot => exact Or.inl ⟨slot, rfl⟩
  | tick d => exact Or.inr (Or.inl ⟨d, rfl⟩)
  | expire slot => exact Or.inr (Or.inr (Or.inl ⟨slot, rfl⟩))

/-- a visit of the chain of `op` on which the server went on, acting on `v`: the member `f` of the content
    the chain returned -/
def WentOn (op : Op) (f : C → Str) (v : Str) (e : Ev C) : Prop :=
  e.op = op ∧ e.proceeded = true ∧ ∃ c', e.res = .ok c' ∧ v = f c'

theorem wentOn_rewrite {E : Enc C} {hist : List (Manager C × Msg)} {s : Srv} {op : Op} {f : C → Str}
    {v : Str} {e : Ev C} (he : e ∈ (run E s hist).2) (h : WentOn op f v e) :
    e.op = op ∧ (∀ st ∈ steps op e.chain e.offered, stepPasses op st = true) ∧
      e.cons = (steps op e.chain e.offered).map seenOf ∧ v = f (final op e.chain e.offered) := by
  obtain ⟨hop, hp, c', hr, hv⟩ := h
  have hg := site_proceeds_only_through_gate E hist s e he hp
  rw [hop] at hg
  rw [hg.2.2] at hr
  exact ⟨hop, hg.1, hg.2.1, by rw [hv, ← Result.ok.inj hr]⟩

/-- the message is an accepted Login on connection `slot`, or a Ping on it that VerifyPing let through -/
def BeatMsg (slot : Nat) (op : Op) (x : Msg) : Prop :=
  (op = .login ∧ ∃ user rid genId, x = .login slot user rid genId true) ∨
  (op = .ping ∧ ∃ k, x = .ping slot k true)

/-- Where the Controls of the next state come from.  Either from a Control that was there (same
    connection, run id and user; a proxy it did not have was registered, its clock if it moved was set, by a
    visit of this message that went on), or it is new, from a Login visit of this message that went on. -/
theorem step_ctl (E : Enc C) (m : Manager C) (s : Srv) (x : Msg) :
    ∀ c' ∈ (step E m s x).1.ctls,
      (∃ c ∈ s.ctls, c.slot = c'.slot ∧ c.rid = c'.rid ∧ c.user = c'.user ∧
        (∀ n ∈ c'.proxies, n ∈ c.proxies ∨ ∃ e ∈ (step E m s x).2, WentOn .newProxy E.proxyName n e) ∧
        (c.lastPing = c'.lastPing ∨
          c'.lastPing = s.now ∧ ∃ e ∈ (step E m s x).2, e.proceeded = true ∧ BeatMsg c'.slot e.op x)) ∨
      (c'.proxies = [] ∧ c'.lastPing = s.now ∧
        ∃ e ∈ (step E m s x).2, WentOn .login E.loginUser c'.user e ∧ BeatMsg c'.slot e.op x) := by
  have hm := step_moved E m s x
  generalize step E m s x = r at hm ⊢
  intro c' hc
  cases hm with
  | stay | tick => exact Or.inl ⟨c', hc, rfl, rfl, rfl, fun _ hn => Or.inl hn, Or.inl rfl⟩
  | login slot user rid genId c1 hr =>
    rcases mem_add _ _ _ hc with hc | rfl
    · exact Or.inl ⟨c', hc, rfl, rfl, rfl, fun _ hn => Or.inl hn, Or.inl rfl⟩
    · exact Or.inr ⟨rfl, rfl, _, List.mem_singleton.2 rfl, ⟨rfl, rfl, c1, hr, rfl⟩,
        Or.inl ⟨rfl, user, rid, genId, rfl⟩⟩
  | newProxy slot name regOk c c1 hr =>
    obtain ⟨o, ho, h1, h2, h3, h4, hp⟩ := mem_addProxy _ _ _ _ hc
    refine Or.inl ⟨o, ho, h1, h2, h3, fun n hn => (hp n hn).imp id fun hn => ?_, Or.inl h4⟩
    exact ⟨_, List.mem_singleton.2 rfl, rfl, rfl, c1, hr, hn⟩
  | ping slot key =>
    obtain ⟨o, ho, h1, h2, h3, h4, h5⟩ := mem_beat s slot c' hc
    refine Or.inl ⟨o, ho, h1, h2, h3, fun n hn => Or.inl (h4 ▸ hn), h5.imp Eq.symm fun h5 => ?_⟩
    exact ⟨h5.2, _, List.mem_singleton.2 rfl, rfl, Or.inr ⟨rfl, key, by rw [h5.1]⟩⟩
  | closed | expire =>
    exact Or.inl ⟨c', (List.mem_filter.1 hc).1, rfl, rfl, rfl, fun _ hn => Or.inl hn, Or.inl rfl⟩

/-- what the history has to show for a Control the server holds: the Login visit that let the session in,
    and for each of its proxies the NewProxy visit that registered it -/
def Held (E : Enc C) (T : List (Ev C)) (ctl : Ctl) : Prop :=
  (∃ e ∈ T, WentOn .login E.loginUser ctl.user e) ∧
  ∀ n ∈ ctl.proxies, ∃ e ∈ T, WentOn .newProxy E.proxyName n e

theorem run_held (E : Enc C) (hist : List (Manager C × Msg)) :
    ∀ ctl ∈ (run E {} hist).1.ctls, Held E (run E {} hist).2 ctl := by
  exact run_invariant E (fun s T => ∀ ctl ∈ s.ctls, Held E T ctl) hist
    (fun mx _ s T h c' hc' => by
      rcases step_ctl E mx.1 s mx.2 c' hc' with ⟨c, hc, _, _, hu, hp, _⟩ | ⟨hp, _, e, he, hw, _⟩
      · obtain ⟨⟨e, he, hw⟩, hpx⟩ := h c hc
        refine ⟨⟨e, List.mem_append_left _ he, hu ▸ hw⟩, fun n hn => ?_⟩
        rcases hp n hn with hn | ⟨e, he, hw⟩
        · obtain ⟨e, he, hw⟩ := hpx n hn
          exact ⟨e, List.mem_append_left _ he, hw⟩
        · exact ⟨e, List.mem_append_right _ he, hw⟩
      · exact ⟨⟨e, List.mem_append_right _ he, hw⟩, fun n hn => by rw [hp] at hn; cases hn⟩)
    {} (fun _ h => nomatch h)

/-- **No session without a consulted, consenting Login chain, and its user is the chain's rewrite**
    (invariant over all histories): for every Control the server holds after any history there is a
    login event in which every plugin then registered for Login was consulted in order and passed, and
    the session's user — what every later NewProxy / Ping / NewWorkConn / NewUserConn / CloseProxy
    request of that session carries — is the user of the composition of their edits. -/
theorem session_user_is_login_rewrite (E : Enc C) (hist : List (Manager C × Msg)) :
    ∀ ctl ∈ (run E {} hist).1.ctls, ∃ e ∈ (run E {} hist).2,
      e.op = .login ∧
      (∀ st ∈ steps .login e.chain e.offered, stepPasses .login st = true) ∧
      e.cons = (steps .login e.chain e.offered).map seenOf ∧
      ctl.user = E.loginUser (final .login e.chain e.offered) := by
  intro ctl hc
  obtain ⟨e, he, h⟩ := (run_held E hist ctl hc).1
  exact ⟨e, he, wentOn_rewrite he h⟩

/-- **Every proxy the server runs was let through by a consulted, consenting NewProxy chain, under the
    name as rewritten** (invariant over all histories, also for names registered, closed with their
    session, and registered again). -/
theorem proxy_name_is_newproxy_rewrite (E : Enc C) (hist : List (Manager C × Msg)) :
    ∀ ctl ∈ (run E {} hist).1.ctls, ∀ n ∈ ctl.proxies, ∃ e ∈ (run E {} hist).2,
      e.op = .newProxy ∧
      (∀ st ∈ steps .newProxy e.chain e.offered, stepPasses .newProxy st = true) ∧
      e.cons = (steps .newProxy e.chain e.offered).map seenOf ∧
      n = E.proxyName (final .newProxy e.chain e.offered) := by
  intro ctl hc n hn
  obtain ⟨e, he, h⟩ := (run_held E hist ctl hc).2 n hn
  exact ⟨e, he, wentOn_rewrite he h⟩

/-! ### The heartbeat: a Ping counts only if it passed the gate

  For a Ping "the server proceeds" means: the heartbeat is counted (`ctl.lastPing.Store(time.Now())`,
  which is what keeps the session from being closed by its heartbeatWorker) and a Pong without error
  is sent.  `PluginSite.step` stores only on the branch on which the chain and VerifyPing passed; that
  this is where the store stands in handlePing is regenerated from the source (`code_ping_store_gated`). -/

/-- the heartbeat clock of `c'` is that of a Control of `s` on the same connection under the same run id -/
def ClockFrom (s : Srv) (c' : Ctl) : Prop :=
  ∃ c ∈ s.ctls, c.slot = c'.slot ∧ c.rid = c'.rid ∧ c.lastPing = c'.lastPing

theorem clockFrom_self (s : Srv) (c : Ctl) (h : c ∈ s.ctls) : ClockFrom s c := ⟨c, h, rfl, rfl, rfl⟩

theorem step_clock (E : Enc C) (m : Manager C) (s : Srv) (x : Msg) :
    ∀ c' ∈ (step E m s x).1.ctls, ClockFrom s c' ∨
      (c'.lastPing = s.now ∧ ∃ e ∈ (step E m s x).2, e.proceeded = true ∧ BeatMsg c'.slot e.op x) := by
  intro c' hc
  rcases step_ctl E m s x c' hc with ⟨c, hc, h1, h2, _, _, h5 | h5⟩ | ⟨_, hn, e, he, hw, hb⟩
  · exact Or.inl ⟨c, hc, h1, h2, h5⟩
  · exact Or.inr h5
  · exact Or.inr ⟨hn, e, he, hw.2.1, hb⟩

/-- **A heartbeat is counted only through the gate.**  Whatever the state and the manager of the moment,
    every Control the server holds after a message either carries the heartbeat clock of a Control that was
    there before (same connection, same run id) — or its clock was set to the present by this message, and
    then the message is an accepted Login that created it or a Ping on its connection that VerifyPing let
    through, and the visit of the Login / Ping chain it made consulted every plugin then registered for that
    operation, in order, each on the composition of the earlier edits, and every one of them passed.  A
    Ping that a plugin rejected, or whose plugin could not be reached / answered non-200 / answered garbage,
    leaves every clock where it was. -/
theorem lastPing_only_through_gate (E : Enc C) (m : Manager C) (s : Srv) (x : Msg) :
    ∀ c' ∈ (step E m s x).1.ctls, ClockFrom s c' ∨
      (c'.lastPing = s.now ∧ ∃ e ∈ (step E m s x).2, e.proceeded = true ∧ BeatMsg c'.slot e.op x ∧
        e.chain = m.list e.op ∧
        (∀ st ∈ steps e.op e.chain e.offered, stepPasses e.op st = true) ∧
        e.cons = (steps e.op e.chain e.offered).map seenOf) := by
  intro c' hc
  rcases step_clock E m s x c' hc with h | ⟨hnow, e, he, hp, hb⟩
  · exact Or.inl h
  · have hg := step_events_gated E m s x e he
    have := evGated_proceeded e hg.2 hp
    exact Or.inr ⟨hnow, e, he, hp, hb, hg.1, this.1, this.2.1⟩

/-- a refused Ping changes nothing at all (and a Ping on a connection the server does not read makes no
    visit): the state after it is the state before it -/
theorem refused_ping_changes_nothing (E : Enc C) (m : Manager C) (s : Srv) (slot : Nat) (key : Str)
    (authOk : Bool) (h : ∀ e ∈ (step E m s (.ping slot key authOk)).2, e.proceeded = false) :
    (step E m s (.ping slot key authOk)).1 = s := by
  have hm := step_moved E m s (.ping slot key authOk)
  generalize step E m s (.ping slot key authOk) = r at hm h ⊢
  cases hm with
  | stay => rfl
  | ping => cases h _ (List.mem_singleton.2 rfl)

theorem step_hb_now (E : Enc C) (m : Manager C) (s : Srv) (x : Msg) :
    (step E m s x).1.hb = s.hb ∧ s.now ≤ (step E m s x).1.now := by
  have hm := step_moved E m s x
  generalize step E m s x = r at hm ⊢
  cases hm with
  | tick d => exact ⟨rfl, Nat.le_add_right _ _⟩
  | _ => exact ⟨rfl, Nat.le_refl _⟩

theorem run_hb_now (E : Enc C) (hist : List (Manager C × Msg)) (s : Srv) :
    (run E s hist).1.hb = s.hb ∧ s.now ≤ (run E s hist).1.now :=
  run_invariant E (fun s' _ => s'.hb = s.hb ∧ s.now ≤ s'.now) hist
    (fun mx _ s' _ h => ⟨(step_hb_now E mx.1 s' mx.2).1.trans h.1,
      Nat.le_trans h.2 (step_hb_now E mx.1 s' mx.2).2⟩) s ⟨rfl, Nat.le_refl _⟩

/-- no visit of the history counted a heartbeat or created a session: every Login / Ping visit was refused -/
def Quiet (T : List (Ev C)) : Prop := ∀ e ∈ T, e.proceeded = true → e.op ≠ .login ∧ e.op ≠ .ping

instance (T : List (Ev C)) : Decidable (Quiet T) := by unfold Quiet; infer_instance

/-- **For every history**: as long as no Ping passes the gate (and nobody logs in), nobody's heartbeat clock
    moves — however many Pings arrive, whatever else happens (NewProxy, work and user connections, other
    sessions ending, time passing, heartbeat checks): every Control the server still holds carries the clock
    it had at the beginning. -/
theorem quiet_history_keeps_clocks (E : Enc C) (hist : List (Manager C × Msg)) (s : Srv)
    (hq : Quiet (run E s hist).2) :
    ∀ c' ∈ (run E s hist).1.ctls, ClockFrom s c' := by
  exact run_invariant E (fun s' T => Quiet T → ∀ c' ∈ s'.ctls, ClockFrom s c') hist
    (fun mx _ s' T h hq c1 hc1 => by
      rcases step_clock E mx.1 s' mx.2 c1 hc1 with ⟨c0, hc0, g1, g2, g3⟩ | ⟨_, e, he, hp, hb⟩
      · obtain ⟨c, hc, h1, h2, h3⟩ := h (fun e he => hq e (List.mem_append_left _ he)) c0 hc0
        exact ⟨c, hc, h1.trans g1, h2.trans g2, h3.trans g3⟩
      · -- a clock was set: by a Login or Ping visit that went on, which a quiet trace has not
        have := hq e (List.mem_append_right _ he) hp
        rcases hb with ⟨hop, _⟩ | ⟨hop, _⟩
        · exact absurd hop this.1
        · exact absurd hop this.2) s (fun _ => clockFrom_self s) hq

/-- what one run of a heartbeat worker leaves: the sessions of other connections, and of this connection
    those whose last counted heartbeat is at most the timeout old -/
theorem hbCheck_spec (E : Enc C) (m : Manager C) (s : Srv) (slot : Nat) (c : Ctl) :
    c ∈ (step E m s (.hbCheck slot)).1.ctls ↔
      c ∈ s.ctls ∧ (c.slot = slot → 0 < s.hb → s.now - c.lastPing ≤ s.hb) := by
  simp only [step, List.mem_filter, Srv.expired, Bool.not_eq_true', Bool.and_eq_false_iff,
    decide_eq_false_iff_not]
  exact and_congr_right fun _ => by omega

/-- **Refused Pings do not keep a session alive** (all histories).  Take any state in which the sessions on
    connection `slot` counted their last heartbeat at `t0` or before, and any history after it in which no
    Ping passed the gate (rejected, plugin unreachable, HTTP error, garbage, VerifyPing failed — any number
    of them) and nobody logged in.  The first run of the heartbeat worker later than `t0 + timeout` ends
    the session: the server holds no Control on that connection any more. -/
theorem unrenewed_session_is_dropped (E : Enc C) (m : Manager C) (hist : List (Manager C × Msg)) (s : Srv)
    (slot t0 : Nat) (hq : Quiet (run E s hist).2)
    (h0 : ∀ c ∈ s.ctls, c.slot = slot → c.lastPing ≤ t0)
    (hhb : 0 < s.hb) (hlate : t0 + s.hb < (run E s hist).1.now) :
    ∀ c' ∈ (step E m (run E s hist).1 (.hbCheck slot)).1.ctls, c'.slot ≠ slot := by
  intro c' hc hs
  obtain ⟨hin, hle⟩ := (hbCheck_spec E m _ slot c').1 hc
  obtain ⟨c, hcs, h1, _, h3⟩ := quiet_history_keeps_clocks E hist s hq c' hin
  have hb := (run_hb_now E hist s).1
  have := hle hs (by rw [hb]; exact hhb)
  have := h0 c hcs (h1.trans hs)
  omega

/-- … and a session that is still there after a run of its heartbeat worker counted a heartbeat — i.e. a
    Ping of it passed the gate, or it logged in — no longer ago than the timeout -/
theorem alive_after_check_is_recent (E : Enc C) (m : Manager C) (s : Srv) (slot : Nat) (hhb : 0 < s.hb) :
    ∀ c ∈ (step E m s (.hbCheck slot)).1.ctls, c.slot = slot → s.now - c.lastPing ≤ s.hb :=
  fun c hc hs => ((hbCheck_spec E m s slot c).1 hc).2 hs hhb

/-- no clock runs ahead of the present (invariant of every history) -/
theorem clocks_le_now (E : Enc C) (hist : List (Manager C × Msg)) (s : Srv)
    (h : ∀ c ∈ s.ctls, c.lastPing ≤ s.now) :
    ∀ c ∈ (run E s hist).1.ctls, c.lastPing ≤ (run E s hist).1.now := by
  exact run_invariant E (fun s' _ => ∀ c ∈ s'.ctls, c.lastPing ≤ s'.now) hist
    (fun mx _ s' _ h c' hc' => by
      have hn := (step_hb_now E mx.1 s' mx.2).2
      rcases step_clock E mx.1 s' mx.2 c' hc' with ⟨c, hc, _, _, h3⟩ | ⟨h3, _⟩
      · have := h c hc
        omega
      · omega) s h

/-- executable predicate for one Ping as the peer and the harness observe it: the requests the plugin
    server received, whether a Pong without error came back (`pong`), whether the session's `lastPing`
    moved (`counted`).  The server "proceeded" if either happened. -/
def pingHoldsOn [DecidableEq C] (view : C → C) (R : List (Plugin C)) (c0 : C) (pong counted : Bool)
    (cons : List (Seen C)) : Bool :=
  siteHoldsOn view .ping R c0 (pong || counted) cons

theorem pingHoldsOn_sound [DecidableEq C] (view : C → C) (R : List (Plugin C)) (c0 : C)
    (pong counted : Bool) (cons : List (Seen C)) :
    pingHoldsOn view R c0 pong counted cons = true ↔
      cons = (consultedSpec .ping R c0).map (viewSeen view) ∧
      ((pong = true ∨ counted = true) → ∀ s ∈ steps .ping R c0, stepPasses .ping s = true) := by
  rw [pingHoldsOn, siteHoldsOn_sound]
  constructor
  · intro h
    exact ⟨h.consulted, fun hp => (h.gate (by rcases hp with hp | hp <;> simp [hp])).1⟩
  · rintro ⟨h1, h2⟩
    refine ⟨h1, fun hp => ?_⟩
    have hall := h2 (by simpa [Bool.or_eq_true] using hp)
    exact ⟨hall, by rw [h1, consultedSpec_of_all _ _ _ hall]⟩

/-- the model meets it: for every Ping in every state, with "counted" read off the model's own state -/
theorem model_pingHoldsOn [DecidableEq C] (E : Enc C) (m : Manager C) (s : Srv) (slot : Nat) (key : Str)
    (authOk : Bool) (view : C → C) :
    ∀ e ∈ (step E m s (.ping slot key authOk)).2,
      pingHoldsOn view e.chain e.offered e.proceeded
        (decide ((step E m s (.ping slot key authOk)).1 ≠ s)) (e.cons.map (viewSeen view)) = true := by
  intro e he
  have hs := (gated_event_spec view e (step_events_gated E m s _ e he).2).2
  rw [pingHoldsOn_sound]
  have h := step_ping E m s slot key authOk
  split at h
  · rw [h] at he
    cases he
  · rcases gate_cases h with h | ⟨_, _, h⟩ <;> rw [h] at he ⊢ <;> obtain rfl := List.mem_singleton.1 he
    · -- refused: no Pong, and the state is as it was
      exact ⟨hs.consulted, fun hp => by simp [visit] at hp⟩
    · exact ⟨hs.consulted, fun _ => (hs.gate rfl).1⟩

/-- executable predicate for a session observed `since` after its last counted heartbeat (timeout `hb`,
    the worker's period, the observer's slack): it may be alive only if that is not longer ago than
    timeout + one period (+ slack) -/
def expiryHoldsOn (hb period slack since : Nat) (alive : Bool) : Bool :=
  !alive || decide (since ≤ hb + period + slack)

theorem expiryHoldsOn_sound (hb period slack since : Nat) (alive : Bool) :
    expiryHoldsOn hb period slack since alive = true ↔ (alive = true → since ≤ hb + period + slack) := by
  cases alive <;> simp [expiryHoldsOn]

/-- the model meets it with no period and no slack: right after a run of its heartbeat worker -/
theorem model_expiryHoldsOn (E : Enc C) (m : Manager C) (s : Srv) (slot : Nat) (hhb : 0 < s.hb)
    (period slack : Nat) :
    ∀ c ∈ (step E m s (.hbCheck slot)).1.ctls, c.slot = slot →
      expiryHoldsOn s.hb period slack (s.now - c.lastPing) true = true := by
  intro c hc hs
  rw [expiryHoldsOn_sound]
  intro _
  have := alive_after_check_is_recent E m s slot hhb c hc hs
  omega

/-! ### tie of the heartbeat part to the source (translate/gen_pluginsitefacts.go, regenerated on every run) -/

theorem handlePing_order :
    Gen.PluginSiteFacts.handlePing.filter (· ≠ "other") = ["chain", "verify", "refuse", "store", "pong"] := by
  decide +kernel

/-- **handlePing as it is in the source**: the chain is called, VerifyPing only if the chain passed, the
    refusal branch (`if err != nil`) sends `Pong{Error}` and RETURNS, and only after it — as a statement of
    its own, on no other path — comes the one `ctl.lastPing.Store`, then the `Pong{}`.  No other function of
    the server package writes `lastPing` except NewControl; the heartbeat worker closes the connection when
    `time.Since(lastPing)` exceeds the configured timeout, checked every second, and does not run at all
    for a timeout ≤ 0.  This is what `PluginSite.step` (.login / .ping / .hbCheck) mirrors. -/
theorem code_ping_store_gated :
    Gen.PluginSiteFacts.handlePing.filter (· ≠ "other") = ["chain", "verify", "refuse", "store", "pong"] ∧
    Gen.PluginSiteFacts.refuseSendsError = true ∧
    Gen.PluginSiteFacts.lastPingWriters = ["control.go:NewControl", "control.go:handlePing"] ∧
    Gen.PluginSiteFacts.hbOffCond = "ctl.serverCfg.Transport.HeartbeatTimeout <= 0" ∧
    Gen.PluginSiteFacts.hbCloseCond =
      "time.Since(ctl.lastPing.Load().(time.Time)) > time.Duration(ctl.serverCfg.Transport.HeartbeatTimeout)*time.Second" ∧
    Gen.PluginSiteFacts.hbPeriod = "time.Second" :=
  ⟨handlePing_order, rfl, rfl, rfl, rfl, rfl⟩

/-! ### Order at the call sites that also check credentials: the chain first, the check on what it returned

  handlePing and RegisterWorkConn (and the Login case of handleConnection) call the plugin chain FIRST and hand the
  message the chain RETURNED to the credential check.  `stepReq` closes `step`'s `authOk` for Ping and NewWorkConn with
  the verifier as a function of the rewritten credentials. -/

/-- a request of a peer is a `step` with the verdict the verifier gives on the chain's output: everything proved for
    `step` holds for it -/
theorem stepReq_is_step (E : Enc C) (A : Auth) (m : Manager C) (s : Srv) (r : Req) :
    ∃ x, stepReq E A m s r = step E m s x := by
  cases r with
  | ping slot cred => exact ⟨.ping slot cred (pingVerdict E A m s slot cred), rfl⟩
  | newWorkConn rid cred => exact ⟨.newWorkConn rid cred (workVerdict E A m s rid cred), rfl⟩

theorem stepReq_events_gated (E : Enc C) (A : Auth) (m : Manager C) (s : Srv) (r : Req) :
    ∀ e ∈ (stepReq E A m s r).2, e.chain = m.list e.op ∧ EvGated e := by
  obtain ⟨x, hx⟩ := stepReq_is_step E A m s r
  rw [hx]; exact step_events_gated E m s x

/-- the chain consents and the verifier accepts what it returned (as `pingVerdict` / `workVerdict` say it) -/
theorem verdict_iff (res : Result C) (acc : C → Bool) :
    (res.isOk && (match res with | .ok c' => acc c' | _ => false)) = true ↔
      ∃ c', res = .ok c' ∧ acc c' = true := by
  cases res with
  | ok c => exact ⟨fun h => ⟨c, rfl, h⟩, fun ⟨_, h, h'⟩ => Result.ok.inj h ▸ h'⟩
  | error msg => exact ⟨nofun, fun ⟨_, h, _⟩ => nomatch h⟩
  | panic => exact ⟨nofun, fun ⟨_, h, _⟩ => nomatch h⟩

/-- **Ping**: whatever credentials the Ping carried, the chain is consulted on the content built from them, and the
    heartbeat is counted (Pong without error) iff the chain consented AND the verifier accepts the credentials of the
    content the chain RETURNED.  A plugin that turns a ticket into valid credentials makes the Ping count; one that
    spoils valid credentials makes it fail. -/
theorem ping_acts_on_rewritten (E : Enc C) (A : Auth) (m : Manager C) (s : Srv) (slot : Nat) (cred : Str)
    (ctl : Ctl) (hc : s.bySlot slot = some ctl) :
    ∃ e, (stepReq E A m s (.ping slot cred)).2 = [e] ∧ e.op = .ping ∧ e.chain = m.pingPlugins ∧
      e.offered = E.ping cred ctl.user ∧
      e.cons = (gated .ping m.pingPlugins (E.ping cred ctl.user)).2 ∧
      (e.proceeded = true ↔ ∃ c', (gated .ping m.pingPlugins (E.ping cred ctl.user)).1 = .ok c' ∧
        Auth.accepts A.ping (E.pingCred c') = true) ∧
      (stepReq E A m s (.ping slot cred)).1 = (if e.proceeded then s.beat slot else s) := by
  -- the request is the Ping gate with `pingVerdict` as the server's own check
  simp only [stepReq, step_ping, pingVerdict, hc]
  exact ⟨_, rfl, rfl, rfl, rfl, rfl, verdict_iff _ (fun c' => Auth.accepts A.ping (E.pingCred c')), rfl⟩

/-- **NewWorkConn**: the same at RegisterWorkConn — the work connection is handed to the session iff the chain
    consented and the verifier accepts the credentials as the chain returned them; the chain is consulted whatever
    the credentials of the original message are worth -/
theorem workconn_acts_on_rewritten (E : Enc C) (A : Auth) (m : Manager C) (s : Srv) (rid cred : Str)
    (ctl : Ctl) (hc : s.byRid rid = some ctl) :
    ∃ e, (stepReq E A m s (.newWorkConn rid cred)).2 = [e] ∧ e.op = .newWorkConn ∧
      e.chain = m.newWorkConnPlugins ∧ e.offered = E.newWorkConn cred ctl.user ∧
      e.cons = (gated .newWorkConn m.newWorkConnPlugins (E.newWorkConn cred ctl.user)).2 ∧
      (e.proceeded = true ↔ ∃ c', (gated .newWorkConn m.newWorkConnPlugins (E.newWorkConn cred ctl.user)).1 = .ok c' ∧
        Auth.accepts A.work (E.workCred c') = true) ∧
      (stepReq E A m s (.newWorkConn rid cred)).1 = s := by
  simp only [stepReq, step_newWorkConn, workVerdict, hc]
  exact ⟨_, rfl, rfl, rfl, rfl, rfl, verdict_iff _ (fun c' => Auth.accepts A.work (E.workCred c')),
    ite_self _⟩

/-- … hence two requests whose chains return the same content fare alike, however different the credentials they
    arrived with: the ORIGINAL credentials decide nothing -/
theorem original_credentials_decide_nothing (E : Enc C) (A : Auth) (m : Manager C) (s : Srv) (rid k1 k2 : Str)
    (ctl : Ctl) (hc : s.byRid rid = some ctl)
    (hsame : (gated .newWorkConn m.newWorkConnPlugins (E.newWorkConn k1 ctl.user)).1 =
             (gated .newWorkConn m.newWorkConnPlugins (E.newWorkConn k2 ctl.user)).1) :
    ((stepReq E A m s (.newWorkConn rid k1)).2.map (·.proceeded)) =
    ((stepReq E A m s (.newWorkConn rid k2)).2.map (·.proceeded)) := by
  simp only [stepReq, step, hc, workVerdict, Manager.newWorkConn, hsame, List.map_cons, List.map_nil]

/-- **the statement order in the source** (regenerated on every run): RegisterWorkConn = chain, then — only if it
    consented — `newMsg = &retContent.NewWorkConn` and `VerifyNewWorkConn(newMsg)` on THAT variable, then the refusal
    branch, then `ctl.RegisterWorkConn`; handlePing alike (`inMsg = &retContent.Ping`, `VerifyPing(inMsg)`); the Login
    case of handleConnection = chain, then `m = &retContent.Login; RegisterControl(conn, m, …)`, and RegisterControl
    verifies its parameter before it creates / stores / starts the Control; handleUserTCPConnection itself calls the
    NewUserConn chain, returns on refusal, and only then asks for a work connection; every user connection is handed
    to a goroutine of its own; no gated chain is called from a function literal or from any other function -/
theorem code_chain_then_verify :
    Gen.PluginSiteFacts.registerWorkConn.filter (· ≠ "other") = ["chain", "verify", "refuse", "effect"] ∧
    Gen.PluginSiteFacts.handlePing.filter (· ≠ "other") = ["chain", "verify", "refuse", "store", "pong"] ∧
    Gen.PluginSiteFacts.loginCase.filter (· ≠ "other") = ["chain", "verify"] ∧
    Gen.PluginSiteFacts.registerControl.filter (· ≠ "other") = ["verify", "create", "add", "start"] ∧
    (Gen.PluginSiteFacts.userConn.filter (· ≠ "other")).take 3 = ["chain", "refuse", "workconn"] ∧
    Gen.PluginSiteFacts.userConn.all (fun k => k ≠ "stray-chain" && k ≠ "stray-in-refuse") = true ∧
    Gen.PluginSiteFacts.userConnSpawn = "startCommonTCPListenersHandler: go pxy.handleUserTCPConnection(c);" ∧
    Gen.PluginSiteFacts.gateCallers =
      ["control.go:CloseProxy:CloseProxy:lit", "control.go:handleNewProxy:NewProxy", "control.go:handlePing:Ping",
       "control.go:handlePing:VerifyPing", "control.go:worker:CloseProxy:lit",
       "proxy/proxy.go:handleUserTCPConnection:NewUserConn", "service.go:RegisterControl:VerifyLogin",
       "service.go:RegisterWorkConn:NewWorkConn", "service.go:RegisterWorkConn:VerifyNewWorkConn",
       "service.go:handleConnection:Login", "service.go:handleConnection:RegisterControl"] := by
  -- the statement orders are computed from the generated tables; the texts are compared as they stand
  refine ⟨?_, handlePing_order, ?_, ?_, ?_, ?_, rfl, rfl⟩ <;> decide +kernel

/-! ### Occurrences in flight at the same time: the gate is per occurrence

  Several user connections to one proxy, several work connections, Pings and NewProxys of several sessions may be
  inside their plugin chains at once, the plugins answering in any order and taking any time.  `Pool.run` lets the
  plugins answer in the order of a schedule. -/

theorem flight_advanceN_done (n : Nat) (f : Flight C) (r : Result C) (h : f.res = some r) :
    Flight.advanceN n f = f := by
  induction n with
  | zero => rfl
  | succ n ih => simp only [Flight.advanceN, Flight.advance, h, ih]

theorem flight_advanceN_succ (n : Nat) (f : Flight C) :
    Flight.advanceN (n + 1) f = Flight.advanceN n f.advance := rfl

/-- one answer to a goroutine that is still asking: the round of the manager loop of `gated_cons` -/
theorem flight_advance_asking (f : Flight C) (p : Plugin C) (ps : List (Plugin C))
    (h : f.res = none) (hrest : f.rest = p :: ps) :
    f.advance =
      if stepPasses f.op (p, f.cur) then
        { f with rest := ps, cur := (p.handle f.op f.cur).next f.cur, cons := f.cons ++ [(p.id, f.cur)] }
      else
        { f with rest := [], res := some (refusal f.op (p, f.cur)), cons := f.cons ++ [(p.id, f.cur)] } := by
  simp only [Flight.advance, h, hrest, stepPasses, refusal]
  cases p.handle f.op f.cur with
  | err => rfl
  | resp reject reason unchange content => cases reject <;> cases unchange <;> cases content <;> rfl

/-- a `Handle` call is made exactly when the goroutine asks one -/
theorem flight_advance_cons (f : Flight C) : f.advance.cons = f.cons ++ f.asks.toList := by
  cases h : f.res with
  | some r => simp [Flight.advance, Flight.asks, h]
  | none =>
    cases hrest : f.rest with
    | nil => simp [Flight.advance, Flight.asks, h, hrest]
    | cons p ps =>
      rw [flight_advance_asking f p ps h hrest]
      simp only [Flight.asks, h, hrest]
      split <;> rfl

/-- **one occurrence, let run**: after at most (chain length + 1) answers the goroutine has returned, with the result
    and the `Handle` calls of the manager loop on ITS chain and ITS content -/
theorem flight_runs_gated (f : Flight C) (h : f.res = none) (n : Nat) (hn : f.rest.length + 1 ≤ n) :
    (Flight.advanceN n f).res = some (gated f.op f.rest f.cur).1 ∧
    (Flight.advanceN n f).cons = f.cons ++ (gated f.op f.rest f.cur).2 := by
  induction n generalizing f with
  | zero => omega
  | succ n ih =>
    simp only [Flight.advanceN]
    cases hrest : f.rest with
    | nil =>
      have hadv : f.advance = { f with res := some (.ok f.cur) } := by
        simp only [Flight.advance, h, hrest]
      rw [hadv, flight_advanceN_done n _ _ rfl]
      exact ⟨rfl, (List.append_nil _).symm⟩
    | cons p ps =>
      have hn' : ps.length + 1 ≤ n := by
        rw [hrest, List.length_cons] at hn
        omega
      rw [flight_advance_asking f p ps h hrest, gated_cons]
      split
      · have := ih { f with rest := ps, cur := (p.handle f.op f.cur).next f.cur,
                            cons := f.cons ++ [(p.id, f.cur)] } h hn'
        exact ⟨this.1, by rw [this.2, List.append_assoc]; rfl⟩
      · rw [flight_advanceN_done n _ _ rfl]
        exact ⟨rfl, rfl⟩

theorem modAt_eq_modify {α : Type} (f : α → α) (j : Nat) (l : List α) : modAt f j l = l.modify j f := by
  induction l generalizing j with
  | nil => simp [modAt]
  | cons x xs ih => cases j <;> simp [modAt, ih]

/-- **what else is in flight does not matter**: under every schedule, occurrence `i` is where it would be had only
    its own plugins answered — as many times as the schedule names it -/
theorem pool_occurrence_independent (P : Pool C) (sched : List Nat) (i : Nat) :
    (P.run sched)[i]? = (P[i]?).map (Flight.advanceN (sched.count i)) := by
  induction sched generalizing P with
  | nil => cases h : P[i]? <;> simp [Pool.run, h, Flight.advanceN]
  | cons j sched ih =>
    rw [Pool.run, ih, modAt_eq_modify]
    by_cases hij : j = i
    · subst hij
      rw [List.getElem?_modify_eq, List.count_cons_self]
      cases P[j]? <;> rfl
    · rw [List.getElem?_modify_ne _ _ hij, List.count_cons_of_ne hij]

/-- **every occurrence gets ITS verdict**: occurrences `visits` (each with the chain as it answers that occurrence
    and with its own content) are in flight together; under every schedule that lets every goroutine finish, each one
    returns what the manager loop returns on its own chain and content, having made exactly those `Handle` calls -/
theorem concurrent_occurrences_gated (op : Op) (visits : List (List (Plugin C) × C)) (sched : List Nat)
    (hfin : ∀ i (h : i < visits.length), (visits[i]).1.length + 1 ≤ sched.count i) :
    ∀ i (h : i < visits.length),
      ∃ f : Flight C, (Pool.run (visits.map (fun v => Flight.start op v.1 v.2)) sched)[i]? = some f ∧
        f.res = some (gated op (visits[i]).1 (visits[i]).2).1 ∧
        f.cons = (gated op (visits[i]).1 (visits[i]).2).2 := by
  intro i h
  rw [pool_occurrence_independent]
  simp only [List.getElem?_map, List.getElem?_eq_getElem h, Option.map_some]
  refine ⟨_, rfl, ?_⟩
  have := flight_runs_gated (Flight.start op (visits[i]).1 (visits[i]).2) rfl (sched.count i) (hfin i h)
  simpa [Flight.start] using this

/-- **every occurrence appears in the plugins' request log with its own content**: the requests the plugins' side
    sees under a schedule, restricted to occurrence `i`, are exactly the `Handle` calls occurrence `i` made -/
theorem log_per_occurrence (P : Pool C) (sched : List Nat) (i : Nat) (f : Flight C) (hf : P[i]? = some f) :
    ∃ f', (P.run sched)[i]? = some f' ∧
      f'.cons = f.cons ++ ((P.log sched).filter (fun e => e.1 == i)).map (·.2) := by
  induction sched generalizing P f with
  | nil => exact ⟨f, by simp [Pool.run, hf], by simp [Pool.log]⟩
  | cons j sched ih =>
    simp only [Pool.run, Pool.log, modAt_eq_modify]
    by_cases hij : j = i
    · subst hij
      obtain ⟨f', h1, h2⟩ := ih (P.modify j Flight.advance) f.advance (by simp [hf])
      refine ⟨f', h1, ?_⟩
      rw [h2, flight_advance_cons, hf]
      cases ha : f.asks <;> simp [ha]
    · obtain ⟨f', h1, h2⟩ := ih (P.modify j Flight.advance) f
        (by rw [List.getElem?_modify_ne _ _ hij]; exact hf)
      refine ⟨f', h1, ?_⟩
      rw [h2]
      have hne : (j == i) = false := by simp [hij]
      cases ha : (P[j]?).bind Flight.asks <;> simp [hne]

/-- … so with every goroutine finished, the log restricted to an occurrence is the property's list for it -/
theorem log_is_each_occurrences_chain (op : Op) (visits : List (List (Plugin C) × C)) (sched : List Nat)
    (hfin : ∀ i (h : i < visits.length), (visits[i]).1.length + 1 ≤ sched.count i)
    (i : Nat) (h : i < visits.length) :
    ((Pool.log (visits.map (fun v => Flight.start op v.1 v.2)) sched).filter (fun e => e.1 == i)).map (·.2) =
      (consultedSpec op (visits[i]).1 (visits[i]).2) := by
  obtain ⟨f, hf, _, hcons⟩ := concurrent_occurrences_gated op visits sched hfin i h
  obtain ⟨f', hf', hlog⟩ := log_per_occurrence (visits.map (fun v => Flight.start op v.1 v.2)) sched i
    (Flight.start op (visits[i]).1 (visits[i]).2) (by simp [List.getElem?_eq_getElem h])
  rw [hf] at hf'
  cases hf'
  rw [← gated_consulted, ← hcons, hlog]
  rfl

/-- a user connection or a work connection -/
def IsConnMsg : Msg → Prop
  | .newUserConn _ => True
  | .newWorkConn _ _ _ => True
  | _ => False

/-- at the call sites: user and work connections leave the server state alone, so any number of them, interleaved in
    any order with plugin managers of their own, each see what they would see alone -/
theorem conn_visits_independent (E : Enc C) (hist : List (Manager C × Msg)) (s : Srv)
    (h : ∀ mx ∈ hist, IsConnMsg mx.2) :
    (run E s hist).1 = s ∧ (run E s hist).2 = hist.flatMap (fun mx => (step E mx.1 s mx.2).2) := by
  induction hist with
  | nil => simp [run]
  | cons mx rest ih =>
    obtain ⟨m, x⟩ := mx
    have hx := h (m, x) (List.mem_cons_self ..)
    have hs : (step E m s x).1 = s := by
      cases x with
      | newWorkConn | newUserConn =>
        simp only [step_newWorkConn, step_newUserConn]
        split
        · rfl
        · rw [gate_stay]
      | _ => exact hx.elim
    have := ih (fun mx hmx => h mx (List.mem_cons_of_mem _ hmx))
    simp only [run, hs, List.flatMap_cons]
    exact ⟨this.1, congrArg _ this.2⟩

end site

/-! ## Reporting a refusal to the peer -/

theorem errMsg_ne_nil (op : Op) : errMsg op ≠ [] := by
  cases op <;> decide +kernel

/-- the manager returns an error with an *empty* text only when the refusing plugin rejected with
    an empty `reject_reason` -/
theorem empty_error_only_from_empty_reason (op : Op) (R : List (Plugin C)) (c : C)
    (h : (gated op R c).1 = .error []) :
    ∃ s ∈ steps op R c, ∃ u ct, s.1.handle op s.2 = .resp true [] u ct := by
  rw [gated_result] at h
  cases hf : (steps op R c).find? (fun s => !stepPasses op s) with
  | none => rw [hf] at h; cases h
  | some s =>
    rw [hf] at h
    refine ⟨s, List.mem_of_find?_eq_some hf, ?_⟩
    simp only [refusal] at h
    split at h
    · injection h with h; exact absurd h (errMsg_ne_nil op)
    · rename_i reason u ct hh
      injection h with h; subst h; exact ⟨u, ct, hh⟩
    · cases h

/-- Whenever the chain refuses, the `Error` member sent to the peer is non-empty,
    i.e. the peer is told that the operation failed.  (All summaries passed by the call sites are
    non-empty string constants: "register control error", "new proxy [..] error", "invalid ping",
    "invalid NewWorkConn", "register visitor conn error".) -/
def RefusalReportedFull (resp : Bool → Str → Str → Str) : Prop :=
  ∀ (op : Op) (R : List (Plugin Content)) (c : Content) (msg summary : Str) (detailed : Bool),
    summary ≠ [] → (gated op R c).1 = .error msg → resp detailed summary msg ≠ []

/-- witness against the pinned tree: one plugin rejecting NewProxy with `reject_reason: ""`: the
    manager returns an error whose text is empty, the old `GenerateResponseErrorString` copies it,
    the peer reads success. -/
theorem refusal_reported_witness : ¬ RefusalReportedFull respErrorOld := by
  intro h
  exact h .newProxy [Beh.toPlugin (.rej []) 1 [Op.newProxy.name]] ⟨[1], []⟩ [] [2] true (by decide) rfl rfl

/-- **the repaired code reports every refusal**: the error string is never empty -/
theorem refusal_reported : RefusalReportedFull respError := by
  intro op R c msg summary detailed hs _
  unfold respError
  split
  · rename_i h; exact h.2
  · exact hs

/-- what held already on the pinned tree: a refusal is reported as an error unless the text is empty
    and the server sends detailed errors; an empty text needs a reject with an empty reason
    (`empty_error_only_from_empty_reason`). -/
theorem refusal_reported_partial (op : Op) (R : List (Plugin C)) (c : C) (msg summary : Str)
    (detailed : Bool) (_h : (gated op R c).1 = .error msg)
    (hne : (detailed = true ∧ msg ≠ []) ∨ (detailed = false ∧ summary ≠ [])) :
    respErrorOld detailed summary msg ≠ [] := by
  unfold respErrorOld
  rcases hne with ⟨h1, h2⟩ | ⟨h1, h2⟩
  · subst h1; simpa using h2
  · subst h1; simpa using h2

-- the hypotheses of `refusal_reported_partial` are met by a rejecting plugin with a reason
example : (gated .newProxy [Beh.toPlugin (.rej [110, 111]) 1 [Op.newProxy.name]] ⟨[1], []⟩).1 = .error [110, 111] := rfl

/-! ## Non-vacuity -/

section examples

/-- appends a byte to `a` -/
def pApp (id x : Nat) : Plugin Content :=
  { id := id, ops := [Op.login.name, Op.ping.name]
    handle := fun _ c => .resp false [] false (some { c with a := c.a ++ [x] }) }

/-- rejects when `a` ends with 7 (so it only rejects if it sees `pApp _ 7`'s edit) -/
def pRejIf7 (id : Nat) : Plugin Content :=
  { id := id, ops := [Op.login.name]
    handle := fun _ c => if [7].isSuffixOf c.a then .resp true [1, 2] true none else .resp false [] true none }

def pErr (id : Nat) : Plugin Content := { id := id, ops := [Op.login.name], handle := fun _ _ => .err }
def pPingOnly (id : Nat) : Plugin Content :=
  { id := id, ops := [Op.ping.name], handle := fun _ _ => .resp true [9] true none }

def mgr (ps : List (Plugin Content)) : Manager Content := Manager.empty.registerAll ps

-- two modifications compose left to right, the ping-only plugin (which would reject) is not asked
example : (mgr [pApp 1 5, pPingOnly 2, pApp 3 6]).login ⟨[], []⟩ =
    (.ok ⟨[5, 6], []⟩, [(1, ⟨[], []⟩), (3, ⟨[5], []⟩)]) := by decide +kernel
-- the second plugin sees the first one's edit and rejects; the third is not consulted
example : (mgr [pApp 1 7, pRejIf7 2, pApp 3 6]).login ⟨[], []⟩ =
    (.error [1, 2], [(1, ⟨[], []⟩), (2, ⟨[7], []⟩)]) := by decide +kernel
-- without the edit it accepts
example : ((mgr [pApp 1 8, pRejIf7 2, pApp 3 6]).login ⟨[], []⟩).1 = .ok ⟨[8, 6], []⟩ := by decide +kernel
-- transport error refuses, later plugins untouched
example : ((mgr [pErr 1, pApp 3 6]).login ⟨[], []⟩) = (.error (errMsg .login), [(1, ⟨[], []⟩)]) := by
  decide +kernel
-- close: everybody notified although the first fails
example : (closeAll [pErr 1, pApp 2 0, pErr 3] (⟨[4], []⟩ : Content)) =
    (.errs [1, 3], [(1, ⟨[4], []⟩), (2, ⟨[4], []⟩), (3, ⟨[4], []⟩)]) := by decide +kernel
-- the hypotheses of `first_failure` are met by a concrete chain
example : ∃ pre s post, steps .login [pApp 1 7, pRejIf7 2, pApp 3 6] (⟨[], []⟩ : Content) = pre ++ s :: post ∧
    (∀ x ∈ pre, stepPasses .login x = true) ∧ stepPasses .login s = false :=
  ⟨[(pApp 1 7, ⟨[], []⟩)], (pRejIf7 2, ⟨[7], []⟩), [(pApp 3 6, ⟨[7], []⟩)], rfl, by decide +kernel, by decide +kernel⟩
-- an HTTP body `{}` (no `unchange`) is accepted and replaces the content by the zero value
example : httpHandle (⟨[], []⟩ : Content) (.status 200 (.parsed false [] false .absent)) =
    .resp false [] false (some ⟨[], []⟩) := rfl
-- `"content": null` with unchange=false makes the manager panic (not proceed)
def pHttpNull (id : Nat) : Plugin Content :=
  { id := id, ops := [Op.login.name]
    handle := fun _ _ => httpHandle ⟨[], []⟩ (.status 200 (.parsed false [] false .null)) }
example : (gated .login [pHttpNull 1] ⟨[3], []⟩).1 = .panic := rfl
-- session: two proxies, one closed explicitly, the other by session end: both notified
example : (Sess.run {} [.newProxy [1], .newProxy [2], .closeProxy [1], .closeProxy [1], .sessionEnd]).notified
    = [[1], [2]] := by decide

-- session end with three proxies and a chain whose FIRST plugin always fails: three goroutines,
-- each still calls both plugins (the failure of one notification does not touch the others)
def mkC (user : Str) (n : Str) : Content := ⟨n, user⟩
example : (SessP.run [pErr 1, pApp 2 0] (mkC [9]) {}
      [.newProxy [1], .newProxy [2], .newProxy [3], .closeProxy [2], .sessionEnd]).notes =
    [[(1, ⟨[2], [9]⟩), (2, ⟨[2], [9]⟩)], [(1, ⟨[1], [9]⟩), (2, ⟨[1], [9]⟩)], [(1, ⟨[3], [9]⟩), (2, ⟨[3], [9]⟩)]] := by
  decide +kernel
-- a plugin that fails for one proxy name only (transient / content dependent failure)
def pErrIf1 (id : Nat) : Plugin Content :=
  { id := id, ops := [Op.closeProxy.name]
    handle := fun _ c => if [1].isSuffixOf c.a then .err else .resp false [] true none }
example : (closeAll [pErrIf1 1, pApp 2 0] (mkC [9] [1])).1 = .errs [1] ∧
    (closeAll [pErrIf1 1, pApp 2 0] (mkC [9] [3])).1 = .ok := by decide +kernel
-- the hypotheses of `notify_all_schedules` are met by a schedule that is neither sequential nor in
-- start order: goroutines of proxies [1] and [3], chain of two plugins, run 3.1 1.1 1.2 3.2
example : ListW.Interleave
    [[(1, mkC [9] [3]), (2, mkC [9] [3])], [(1, mkC [9] [1]), (2, mkC [9] [1])]]
    [(1, mkC [9] [3]), (1, mkC [9] [1]), (2, mkC [9] [1]), (2, mkC [9] [3])] :=
  .step [] [_] _ _ _ (.step [_] [] _ _ _ (.step [_] [] _ _ _ (.step [] [_] _ _ _
    (.done _ (by intro g hg; simpa using hg)))))
example : [[(1, mkC [9] [3]), (2, mkC [9] [3])], [(1, mkC [9] [1]), (2, mkC [9] [1])]].Perm
    (SessP.run [pErrIf1 1, pApp 2 0] (mkC [9]) {} [.newProxy [1], .newProxy [3], .sessionEnd]).notes := by
  decide +kernel
-- the executable predicate tells a run where the notifications behind the failed one are missing
example : notifyHoldsOn [pErrIf1 1, pApp 2 0] (mkC [9]) [[1], [3]]
    [(1, mkC [9] [1]), (2, mkC [9] [1])] = false := by decide +kernel
example : notifyHoldsOn [pErrIf1 1, pApp 2 0] (mkC [9]) [[1], [3]]
    [(1, mkC [9] [3]), (1, mkC [9] [1]), (2, mkC [9] [1]), (2, mkC [9] [3])] = true := by decide +kernel

/-! ### histories at the call sites -/
section siteExamples
open PluginSite

/-- one plugin (id 1, Login + NewProxy) that rewrites: appends `+` to the user / the proxy name -/
def mRewrite : Manager Content := mgr [Beh.toPlugin (.happ [43]) 1 [Op.login.name, Op.newProxy.name]]
/-- the same plugin after its behaviour flipped: rejects everything -/
def mReject : Manager Content := mgr [Beh.toPlugin (.hrej [110]) 1 [Op.login.name, Op.newProxy.name]]

/-- the Controls held (slot, run id, user, proxies) -/
def viewS (r : Srv × List (Ev Content)) : List Ctl := r.1.ctls
/-- per visit of a call site: the `Handle` calls made, and whether the server went on -/
def viewT (r : Srv × List (Ev Content)) : List (List (Nat × Content) × Bool) :=
  r.2.map (fun e => (e.cons, e.proceeded))

-- a first login (empty run id, the server draws [9]) is accepted with the user as rewritten; the plugin
-- flips; then a login carrying the run id of the LIVE session, one with an unknown run id, and — after the
-- first session ended — one with the run id of the ENDED session: the flipped plugin is consulted on each,
-- each is refused, and the live session is not replaced
def hist1 : List (Manager Content × Msg) :=
  [(mRewrite, .login 0 [117] [] [9] true), (mReject, .login 1 [117] [9] [8] true),
   (mReject, .login 2 [117] [7] [8] true), (mReject, .connClosed 0), (mReject, .login 3 [117] [9] [8] true)]
example : viewT (run encContent {} hist1) =
    [([(1, ⟨[117], []⟩)], true), ([(1, ⟨[117], [9]⟩)], false), ([(1, ⟨[117], [7]⟩)], false),
     ([(1, ⟨[117], [9]⟩)], false)] := by decide +kernel
example : viewS (run encContent {} (hist1.take 3)) = [⟨0, [9], [117, 43], [], 0⟩] ∧
    viewS (run encContent {} hist1) = [] := by decide +kernel
-- a re-login on the live run id that the (still rewriting) plugin accepts replaces the session: one Control
-- under [9], built from the SECOND message as rewritten; the proxy of the replaced session is gone, its name
-- can be registered again and the NewProxy plugin is asked again, with the new session's rewritten user
def hist2 : List (Manager Content × Msg) :=
  [(mRewrite, .login 0 [117] [] [9] true), (mRewrite, .newProxy 0 [112] true),
   (mRewrite, .login 1 [98] [9] [8] true), (mRewrite, .newProxy 0 [112] true),
   (mRewrite, .newProxy 1 [112] true), (mReject, .newProxy 1 [113] true)]
example : viewS (run encContent {} hist2) = [⟨1, [9], [98, 43], [[112, 43]], 0⟩] := by decide +kernel
example : viewT (run encContent {} hist2) =
    [([(1, ⟨[117], []⟩)], true), ([(1, ⟨[112], [117, 43]⟩)], true), ([(1, ⟨[98], [9]⟩)], true),
     ([(1, ⟨[112], [98, 43]⟩)], true), ([(1, ⟨[113], [98, 43]⟩)], false)] := by decide +kernel
-- the executable predicate tells a login that went on without the plugin having been asked, and a
-- NewProxy request that carried the user as the client sent it instead of the rewritten one
example : siteHoldsOn id .login mReject.loginPlugins (encContent.login [117] [9]) true [] = false := by
  decide +kernel
example : siteHoldsOn id .login mRewrite.loginPlugins (encContent.login [117] [9]) true [] = false := by
  decide +kernel
example : siteHoldsOn id .newProxy mRewrite.newProxyPlugins (encContent.newProxy [112] [98, 43]) true
    [(1, ⟨[112], [98]⟩)] = false := by decide +kernel
example : siteHoldsOn id .newProxy mRewrite.newProxyPlugins (encContent.newProxy [112] [98, 43]) true
    [(1, ⟨[112], [98, 43]⟩)] = true := by decide +kernel

-- the heartbeat (timeout 20): two sessions; a Ping plugin that rejects the Pings whose key ends in 1 from
-- time 5 on.  Session 0 keeps pinging with key [1] (refused from then on), session 1 with key [2] (passes):
-- the clock of session 0 stays at 5 whatever it sends, and the first run of its heartbeat worker after
-- 5 + 20 ends it; session 1 stays
def mPingAll : Manager Content := mgr [Beh.toPlugin .hacc 1 [Op.ping.name]]
def mPingRej1 : Manager Content := mgr [Beh.toPlugin (.hrejsuf [1] [110]) 1 [Op.ping.name]]
def hist3 : List (Manager Content × Msg) :=
  [(mPingAll, .login 0 [117] [] [9] true), (mPingAll, .login 1 [98] [] [8] true), (mPingAll, .tick 5),
   (mPingAll, .ping 0 [1] true), (mPingAll, .ping 1 [2] true),
   (mPingRej1, .tick 10), (mPingRej1, .ping 0 [1] true), (mPingRej1, .ping 1 [2] true),
   (mPingRej1, .hbCheck 0), (mPingRej1, .hbCheck 1),
   (mPingRej1, .tick 11), (mPingRej1, .ping 0 [1] true), (mPingRej1, .ping 0 [1] true),
   (mPingRej1, .ping 1 [2] true)]
example : viewS (run encContent { hb := 20 } hist3) = [⟨0, [9], [117], [], 5⟩, ⟨1, [8], [98], [], 26⟩] := by
  decide +kernel
example : viewS (run encContent { hb := 20 } (hist3 ++ [(mPingRej1, .hbCheck 0), (mPingRej1, .hbCheck 1)])) =
    [⟨1, [8], [98], [], 26⟩] := by decide +kernel
-- `unrenewed_session_is_dropped` applies to the part of it after time 5 restricted to session 0's Pings
example : Quiet (run encContent (run encContent { hb := 20 } (hist3.take 5)).1
    [(mPingRej1, .tick 10), (mPingRej1, .ping 0 [1] true), (mPingRej1, .tick 11), (mPingRej1, .ping 0 [1] true)]).2 := by
  decide +kernel
-- VerifyPing failing after the chain passed: not counted either
example : viewS (run encContent { hb := 20 } [(mPingAll, .login 0 [117] [] [9] true), (mPingAll, .tick 5),
    (mPingAll, .ping 0 [1] false)]) = [⟨0, [9], [117], [], 0⟩] := by decide +kernel
-- the executable predicates: a refused Ping that was counted all the same; a session seen alive 40 after
-- its last counted heartbeat (timeout 20, period 10, slack 3)
example : pingHoldsOn id mPingRej1.pingPlugins (encContent.ping [1] [117]) false true [(1, ⟨[1], [117]⟩)] = false := by
  decide +kernel
example : pingHoldsOn id mPingRej1.pingPlugins (encContent.ping [1] [117]) false false [(1, ⟨[1], [117]⟩)] = true := by
  decide +kernel
example : pingHoldsOn id mPingRej1.pingPlugins (encContent.ping [2] [117]) true true [(1, ⟨[2], [117]⟩)] = true := by
  decide +kernel
example : expiryHoldsOn 20 10 3 40 true = false ∧ expiryHoldsOn 20 10 3 33 true = true ∧
    expiryHoldsOn 20 10 3 40 false = true := by decide

/-! ### the credential check reads what the chain returned; occurrences in flight -/

/-- a translator: the ticket `t` becomes the key `K` the verifier accepts, anything else is turned away -/
def mXlat : Manager Content := mgr [Beh.toPlugin (.hxlat [116] [75]) 1 [Op.newWorkConn.name, Op.ping.name]]
/-- a plugin that spoils whatever credentials it is handed -/
def mSpoil : Manager Content := mgr [Beh.toPlugin (.happ [88]) 1 [Op.newWorkConn.name, Op.ping.name]]
def aKey : Auth := { ping := some [[75]], work := some [[75]] }
def sOne : Srv := { ctls := [⟨0, [9], [117], [], 0⟩], now := 4, hb := 20 }

-- the ticket is not a valid key, the server accepts the work connection because the plugin made it one
example : (stepReq encContent aKey mXlat sOne (.newWorkConn [9] [116])).2.map (fun e => (e.cons, e.proceeded)) =
    [([(1, ⟨[116], [117]⟩)], true)] := by decide +kernel
-- without the plugin the same ticket is refused; a valid key spoiled by the plugin is refused, though valid when it came
example : (stepReq encContent aKey Manager.empty sOne (.newWorkConn [9] [116])).2.map (·.proceeded) = [false] := by
  decide +kernel
example : (stepReq encContent aKey mSpoil sOne (.newWorkConn [9] [75])).2.map (fun e => (e.cons, e.proceeded)) =
    [([(1, ⟨[75], [117]⟩)], false)] := by decide +kernel
-- the translator turns a valid key away: the plugin is consulted about it all the same
example : (stepReq encContent aKey mXlat sOne (.newWorkConn [9] [75])).2.map (fun e => (e.cons, e.proceeded)) =
    [([(1, ⟨[75], [117]⟩)], false)] := by decide +kernel
-- Ping: the heartbeat is counted on the translated ticket, not on the spoiled key
example : viewS (stepReq encContent aKey mXlat sOne (.ping 0 [116])) = [⟨0, [9], [117], [], 4⟩] ∧
    viewS (stepReq encContent aKey mSpoil sOne (.ping 0 [75])) = [⟨0, [9], [117], [], 0⟩] := by decide +kernel
-- no scope configured: the verifier lets everything pass, the plugins still decide
example : (stepReq encContent {} mSpoil sOne (.newWorkConn [9] [1])).2.map (·.proceeded) = [true] := by decide +kernel

/-- three user connections in flight: the first two meet a consenting plugin, the third one that refuses -/
def pool3 : Pool Content :=
  [Flight.start .newUserConn [pApp 1 5, pApp 2 6] ⟨[1], []⟩,
   Flight.start .newUserConn [pApp 1 5, pRejIf7 2] ⟨[7], []⟩,
   Flight.start .newUserConn [pRejIf7 1, pApp 2 6] ⟨[2, 7], []⟩]

example : ((pool3.run [2, 0, 1, 1, 0, 2, 0, 1]).map (fun f => (f.res, f.cons.map (·.1)))) =
    [(some (.ok ⟨[1, 5, 6], []⟩), [1, 2]), (some (.ok ⟨[7, 5], []⟩), [1, 2]), (some (.error [1, 2]), [1])] := by
  decide +kernel
-- the plugins' side: who was asked about which occurrence, in the order of the schedule
example : (pool3.log [2, 0, 1, 1, 0, 2, 0, 1]).map (fun e => (e.1, e.2.1)) =
    [(2, 1), (0, 1), (1, 1), (1, 2), (0, 2)] := by decide +kernel
-- a schedule that has not let everybody finish: the others are none the worse for it
example : ((pool3.run [1, 1, 1]).map (fun f => f.res.isSome)) = [false, true, false] := by decide +kernel

end siteExamples

end examples

end C15
end Frp
