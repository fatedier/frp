import Frp.Lemmas.VisitorMgr
/-
  C19, Part V — "… and its visitors [converge] to exactly the configured ones: entries that
  disappeared or changed are stopped, unchanged entries keep running, new entries are started."

  Model: Frp/Model/VisitorMgr.lean (client/visitor/visitor_manager.go: UpdateAll, startVisitor,
  keepVisitorsRunning, Close, TransferConn).  All statements are for EVERY manager state that
  satisfies the invariant `VInv` (which every reachable state does: `vm_inv_run`), every loaded
  list, and every history of keep-alive iterations (`tryStart`, any entry in any order, any number
  of times), bind addresses being taken and released by other programs (`squat` / `free`) and
  `Close`.

  Not a theorem (and false for the pinned tree): "reloading the loaded configuration changes
  nothing" for a list in which a name occurs twice with different contents — `vm_dup_restart_witness`;
  for lists without duplicated names it is `vm_reload_idempotent`.
-/
namespace Frp
namespace C19
section V
open VisitorMgr VM

/-! ### the invariant holds in every reachable state -/

theorem vm_inv_init : VInv VisitorMgr.init := by
  simp [VInv, VisitorMgr.init, VNamesNodup]

theorem vm_inv_updateAll (m : Mgr) (cfgs : List VCfg) (h : VInv m) : VInv (updateAll m cfgs) :=
  addLoop_inv _ _ (afterDelete_inv m cfgs h)

theorem vm_inv_tryStart (m : Mgr) (n : Nat) (h : VInv m) : VInv (tryStart m n) := by
  rcases tryStart_eq m n with e | ⟨c, hc, rfl, hv, e⟩ <;> rw [e]
  · exact h
  · exact inv_start m c h hc hv

theorem vm_inv_close (m : Mgr) (h : VInv m) : VInv (VisitorMgr.close m) := by
  obtain ⟨h1, h2, h3, h4⟩ := h
  refine ⟨h1, List.pairwise_map.mpr h2, fun v hv => ?_, fun v hv => ?_⟩ <;>
    obtain ⟨w, hw, rfl⟩ := List.mem_map.mp hv
  · exact h3 w hw
  · exact h4 w hw

theorem vm_inv_step (m : Mgr) (e : Ev) (h : VInv m) : VInv (step m e) := by
  cases e with
  | upd cfgs => exact vm_inv_updateAll m cfgs h
  | tryStart n => exact vm_inv_tryStart m n h
  | squat p => simp only [step]; split <;> exact h
  | free p => exact h
  | close => exact vm_inv_close m h

theorem vm_inv_run (es : List Ev) : ∀ (m : Mgr), VInv m → VInv (run m es) :=
  fun _ h => List.foldlRecOn es step h (fun m hm e _ => vm_inv_step m e hm)

/-! ### what a reload stores -/

/-- both reloads are the delete loop followed by the add loop over a list `add` that has the names of
    the loaded list: the list itself, or its configured entries (`sel`) -/
theorem vmReload_names (m : Mgr) (cfgs add : List VCfg) (n : Nat) (ha : hasCfg add n = hasCfg cfgs n) :
    hasCfg (addLoop (afterDelete m cfgs) add).cfgs n = true ↔ ∃ c ∈ cfgs, c.name = n := by
  rw [addLoop_hasCfg, ha, Bool.or_eq_true, hasCfg_iff, hasCfg_iff]
  constructor
  · rintro (⟨c, hc, hn⟩ | h)
    · exact ⟨c, afterDelete_cfgs_mem hc, hn⟩
    · exact h
  · exact .inr

/-- the stored names after a reload are exactly the names of the loaded list -/
theorem vm_update_names (m : Mgr) (cfgs : List VCfg) (n : Nat) :
    hasCfg (updateAll m cfgs).cfgs n = true ↔ ∃ c ∈ cfgs, c.name = n :=
  vmReload_names m cfgs cfgs n rfl

/-- every stored configuration is an entry of the loaded list (nothing of an earlier list survives) -/
theorem vm_update_cfgs_mem (m : Mgr) (cfgs : List VCfg) (c : VCfg) (h : c ∈ (updateAll m cfgs).cfgs) :
    c ∈ cfgs := by
  rw [updateAll_eq] at h
  rcases addLoop_cfgs_mem _ _ _ h with h | h
  · exact afterDelete_cfgs_mem h
  · exact h

theorem vmReload_keeps_visitor (m : Mgr) (cfgs add : List VCfg) (h : VInv m) (v : V) (hv : v ∈ m.visitors)
    (hk : keeps cfgs v.cfg = true) : v ∈ (addLoop (afterDelete m cfgs) add).visitors := by
  apply addLoop_visitors_sub
  simp only [afterDelete, List.mem_filter]
  refine ⟨hv, ?_⟩
  cases hg : (goneNames m cfgs).contains v.cfg.name with
  | false => rfl
  | true =>
    obtain ⟨c, hc, hkc, hn⟩ := (gone_iff m cfgs _).mp hg
    have := vnodup_eq h.1 hc (h.2.2.1 v hv) hn
    subst this
    rw [hk] at hkc; cases hkc

/-- "unchanged entries keep running": a visitor whose configuration equals the configured entry
    of its name is the SAME object afterwards (not closed, not restarted) -/
theorem vm_kept_same_visitor (m : Mgr) (cfgs : List VCfg) (h : VInv m) (v : V) (hv : v ∈ m.visitors)
    (hk : keeps cfgs v.cfg = true) : v ∈ (updateAll m cfgs).visitors :=
  vmReload_keeps_visitor m cfgs cfgs h v hv hk

/-- "entries that disappeared or changed are stopped": the visitor object of a removed or changed
    entry is gone from the map (it was closed), and whatever runs under that name afterwards is a
    new object -/
theorem vm_changed_closed (m : Mgr) (cfgs : List VCfg) (h : VInv m) (v : V) (hv : v ∈ m.visitors)
    (hk : keeps cfgs v.cfg = false) :
    v ∉ (updateAll m cfgs).visitors ∧ ∀ w ∈ (updateAll m cfgs).visitors, w.cfg.name = v.cfg.name → m.nextId ≤ w.id := by
  have hgone : (goneNames m cfgs).contains v.cfg.name = true :=
    (gone_iff m cfgs _).mpr ⟨v.cfg, h.2.2.1 v hv, hk, rfl⟩
  have key : ∀ w ∈ (updateAll m cfgs).visitors, w.cfg.name = v.cfg.name → m.nextId ≤ w.id := by
    intro w hw hn
    rw [updateAll_eq] at hw
    rcases addLoop_visitors_mem _ _ _ hw with hw | hw
    · simp only [afterDelete, List.mem_filter] at hw
      rw [hn, hgone] at hw
      simp at hw
    · simpa [afterDelete_nextId] using hw
  exact ⟨fun hmem => Nat.lt_irrefl _ (Nat.lt_of_lt_of_le (h.2.2.2 v hv) (key v hmem rfl)), key⟩

/-- a second reload of the same list is a no-op as soon as the first one stored, under every name of
    `add`, the configured entry of that name -/
theorem vmReload_idempotent (m : Mgr) (cfgs add : List VCfg)
    (hlast : ∀ c ∈ (addLoop (afterDelete m cfgs) add).cfgs, lookupLast cfgs c.name = some c)
    (hnames : ∀ c ∈ add, hasCfg (addLoop (afterDelete m cfgs) add).cfgs c.name = true) :
    addLoop (afterDelete (addLoop (afterDelete m cfgs) add) cfgs) add = addLoop (afterDelete m cfgs) add := by
  rw [afterDelete_noop _ _ (fun c hc => by simp [keeps, hlast c hc])]
  exact addLoop_noop _ _ hnames

/-- reloading the loaded configuration changes nothing — for lists without duplicated names -/
theorem vm_reload_idempotent (m : Mgr) (cfgs : List VCfg) (hnd : VNamesNodup cfgs) :
    updateAll (updateAll m cfgs) cfgs = updateAll m cfgs :=
  vmReload_idempotent m cfgs cfgs
    (fun c hc => vlookupLast_of_nodup hnd (vm_update_cfgs_mem m cfgs c hc))
    (fun c hc => (vm_update_names m cfgs c.name).mpr ⟨c, hc, rfl⟩)

/-- pinned tree: reloading the loaded configuration is not a no-op for a name that occurs twice with
    different contents: the FIRST entry is stored and started, the delete loop of the next (identical)
    reload compares it with the LAST entry, closes the visitor and starts a new one (stamp 2 instead of 1) -/
theorem vm_dup_restart_witness :
    (updateAll VisitorMgr.init [⟨1, 0, 0, false⟩, ⟨1, 1, 0, false⟩]).visitors.map (fun v => (v.cfg.variant, v.id)) = [(0, 1)] ∧
    (updateAll (updateAll VisitorMgr.init [⟨1, 0, 0, false⟩, ⟨1, 1, 0, false⟩])
        [⟨1, 0, 0, false⟩, ⟨1, 1, 0, false⟩]).visitors.map (fun v => (v.cfg.variant, v.id)) = [(0, 2)] := by
  decide

/-! ### every history after a reload -/

theorem vm_step_cfgs (m : Mgr) (e : Ev) (he : e.isUpd = false) : (step m e).cfgs = m.cfgs := by
  cases e with
  | upd cfgs => cases he
  | tryStart n =>
    rcases tryStart_eq m n with e | ⟨c, _, _, _, e⟩ <;> simp only [step, e]
    exact startVisitor_cfgs _ _
  | squat p => simp only [step]; split <;> rfl
  | free p => rfl
  | close => rfl

theorem vm_run_cfgs (es : List Ev) : ∀ (m : Mgr), (∀ e ∈ es, e.isUpd = false) → (run m es).cfgs = m.cfgs :=
  fun m h => List.foldlRecOn (motive := fun x => x.cfgs = m.cfgs) es step rfl
    (fun x hx e he => (vm_step_cfgs x e (h e he)).trans hx)

/-- convergence of the configured set, for every history: after a reload of `cfgs`, whatever
    keep-alive iterations, start failures and successes, address squatting and `Close` follow (no
    further reload), the stored names are exactly the names of `cfgs` and every stored entry is
    an entry of `cfgs` -/
theorem vm_history_configured (m : Mgr) (cfgs : List VCfg) (es : List Ev) (hes : ∀ e ∈ es, e.isUpd = false) :
    (∀ n, hasCfg (run (updateAll m cfgs) es).cfgs n = true ↔ ∃ c ∈ cfgs, c.name = n) ∧
    (∀ c ∈ (run (updateAll m cfgs) es).cfgs, c ∈ cfgs) := by
  rw [vm_run_cfgs es _ hes]
  exact ⟨vm_update_names m cfgs, vm_update_cfgs_mem m cfgs⟩

/-- every running visitor is a configured one with its current configuration, for every history:
    a visitor that exists at any later moment was started from an entry of the loaded list and that
    entry is the one stored under its name -/
theorem vm_history_running (m : Mgr) (cfgs : List VCfg) (es : List Ev) (h : VInv m)
    (hes : ∀ e ∈ es, e.isUpd = false) (v : V) (hv : v ∈ (run (updateAll m cfgs) es).visitors) :
    v.cfg ∈ cfgs ∧ v.cfg ∈ (run (updateAll m cfgs) es).cfgs := by
  have hinv := vm_inv_run es _ (vm_inv_updateAll m cfgs h)
  have hc := hinv.2.2.1 v hv
  exact ⟨(vm_history_configured m cfgs es hes).2 _ hc, hc⟩

/-- "a removed visitor is never started again" -/
theorem vm_removed_never_runs (m : Mgr) (cfgs : List VCfg) (es : List Ev) (h : VInv m)
    (hes : ∀ e ∈ es, e.isUpd = false) (n : Nat) (hn : ∀ c ∈ cfgs, c.name ≠ n) :
    hasVisitor (run (updateAll m cfgs) es).visitors n = false := by
  rw [hasVisitor_false_iff]
  intro v hv
  exact hn _ (vm_history_running m cfgs es h hes v hv).1

/-- "a changed visitor runs with its NEW configuration" (list without duplicated names: the entry
    of the name) -/
theorem vm_changed_runs_new (m : Mgr) (cfgs : List VCfg) (es : List Ev) (h : VInv m)
    (hes : ∀ e ∈ es, e.isUpd = false) (hnd : VNamesNodup cfgs) (v : V)
    (hv : v ∈ (run (updateAll m cfgs) es).visitors) : lookupLast cfgs v.cfg.name = some v.cfg :=
  vlookupLast_of_nodup hnd (vm_history_running m cfgs es h hes v hv).1

/-! ### the keep-alive loop -/

/-- an entry that is not running and can bind is started by its next iteration, with the stored configuration -/
theorem vm_try_starts (m : Mgr) (h : VInv m) (c : VCfg) (hc : c ∈ m.cfgs)
    (hv : hasVisitor m.visitors c.name = false) (hcan : canStart m c = true) :
    (tryStart m c.name).visitors = m.visitors ++ [{ cfg := c, id := m.nextId }] := by
  simp only [tryStart, find_of_nodup h.1 hc, hv]
  exact startVisitor_can m c hcan

/-- an entry that cannot bind stays configured and is retried: the iteration changes nothing -/
theorem vm_try_blocked (m : Mgr) (h : VInv m) (c : VCfg) (hc : c ∈ m.cfgs) (hcan : canStart m c = false) :
    tryStart m c.name = m := by
  simp only [tryStart, find_of_nodup h.1 hc]
  split
  · rfl
  · exact startVisitor_cannot m c hcan

/-- an iteration never touches a running visitor and never starts one for a name that is not stored -/
theorem vm_try_others (m : Mgr) (n : Nat) (v : V) (hv : v ∈ (tryStart m n).visitors) :
    v ∈ m.visitors ∨ (v.cfg ∈ m.cfgs ∧ v.cfg.name = n ∧ v.id = m.nextId) := by
  rcases tryStart_eq m n with e | ⟨c, hc, hn, _, e⟩ <;> rw [e] at hv
  · exact Or.inl hv
  · rcases startVisitor_mem _ _ _ hv with hv | ⟨rfl, _⟩
    · exact Or.inl hv
    · exact Or.inr ⟨hc, hn, rfl⟩

/-- `vmSettled m c`: the entry runs, or it cannot be started as things are -/
def vmSettled (m : Mgr) (c : VCfg) : Prop := hasVisitor m.visitors c.name = true ∨ canStart m c = false

theorem vm_tryStart_cfgs (m : Mgr) (n : Nat) : (tryStart m n).cfgs = m.cfgs :=
  vm_step_cfgs m (.tryStart n) rfl

theorem vm_tryStart_sub (m : Mgr) (n : Nat) (v : V) (hv : v ∈ m.visitors) : v ∈ (tryStart m n).visitors := by
  rcases tryStart_eq m n with e | ⟨c, _, _, _, e⟩ <;> rw [e]
  · exact hv
  · exact startVisitor_sub _ _ _ hv

theorem vm_tryStart_busy (m : Mgr) (n p : Nat) (hb : busy m p = true) : busy (tryStart m n) p = true := by
  have hs : (tryStart m n).squat = m.squat := by
    rcases tryStart_eq m n with e | ⟨c, _, _, _, e⟩ <;> rw [e]
    exact startVisitor_squat _ _
  simp only [busy, Bool.or_eq_true, List.any_eq_true] at hb ⊢
  rcases hb with hb | ⟨v, hv, hb⟩
  · left; rw [hs]; exact hb
  · right; exact ⟨v, vm_tryStart_sub m n v hv, hb⟩

theorem vm_settled_tryStart (m : Mgr) (n : Nat) (c : VCfg) (hs : vmSettled m c) : vmSettled (tryStart m n) c := by
  rcases hs with hs | hs
  · left
    obtain ⟨v, hv, hn⟩ := (hasVisitor_iff _ _).mp hs
    exact (hasVisitor_iff _ _).mpr ⟨v, vm_tryStart_sub m n v hv, hn⟩
  · right
    simp only [canStart, Bool.and_eq_false_iff, Bool.not_eq_false', Bool.or_eq_false_iff] at hs ⊢
    rcases hs with hs | ⟨h0, hb⟩
    · exact Or.inl hs
    · exact Or.inr ⟨h0, by simpa using vm_tryStart_busy m n c.port (by simpa using hb)⟩

theorem vm_settled_pass (order : List Nat) (m : Mgr) (c : VCfg) (h : vmSettled m c) : vmSettled (pass m order) c :=
  List.foldlRecOn order tryStart h (fun m hm n _ => vm_settled_tryStart m n c hm)

theorem vm_settled_after_try (m : Mgr) (h : VInv m) (c : VCfg) (hc : c ∈ m.cfgs) : vmSettled (tryStart m c.name) c := by
  cases hv : hasVisitor m.visitors c.name with
  | true => exact vm_settled_tryStart m _ c (Or.inl hv)
  | false =>
    cases hcan : canStart m c with
    | true =>
      left
      rw [vm_try_starts m h c hc hv hcan, hasVisitor_iff]
      exact ⟨_, List.mem_append_right _ (List.mem_singleton.mpr rfl), rfl⟩
    | false =>
      rw [vm_try_blocked m h c hc hcan]
      exact Or.inr hcan

theorem vm_pass_cfgs (order : List Nat) (m : Mgr) : (pass m order).cfgs = m.cfgs :=
  List.foldlRecOn (motive := fun x => x.cfgs = m.cfgs) order tryStart rfl
    (fun x hx n _ => (vm_tryStart_cfgs x n).trans hx)

/-- a complete pass, in any order, settles every entry: after the loop has iterated over all stored
    entries (Go's map order is arbitrary, entries may be visited more than once), every stored
    entry runs or cannot be started in the state the pass ends in — its bind address is taken, or
    its configuration can never start.  Together with `vm_history_running` (whatever runs is
    configured): the running-or-retrying visitors are exactly the configured ones. -/
theorem vm_pass_complete (order : List Nat) : ∀ (m : Mgr), VInv m → ∀ c ∈ m.cfgs, c.name ∈ order →
    vmSettled (pass m order) c := by
  induction order with
  | nil => intro m _ c _ hn; cases hn
  | cons n rest ih =>
    intro m h c hc hn
    show vmSettled (pass (tryStart m n) rest) c
    by_cases hcn : c.name = n
    · subst hcn
      exact vm_settled_pass rest _ c (vm_settled_after_try m h c hc)
    · have hr : c.name ∈ rest := by
        rcases List.mem_cons.mp hn with h1 | h1
        · exact absurd h1 hcn
        · exact h1
      exact ih _ (vm_inv_tryStart m n h) c (by rw [vm_tryStart_cfgs]; exact hc) hr

/-! ### the two defects of the pinned tree — witnesses — and the repaired functions

    (a) a name that occurs twice with different contents: `vm_dup_restart_witness` above; with the add
        loop repaired (`updateAllFixed`: it stores and starts `cfgsMap[name]`) reloading the loaded list
        is a no-op for EVERY list, after every history.
    (b) `Close()` closes the visitors and `stopCh`, but an iteration of the keep-alive loop that was
        waiting for `vm.mu` (or a `select` that finds both the ticker and `stopCh` ready) still runs
        afterwards: an entry that was waiting for an address — one another program has released, or one
        a sibling visitor held until `Close()` closed it — is started by a manager that is closed, and
        nobody closes it.  With the iteration repaired (`tryStartFixed`) a closed manager holds no
        address, whatever follows. -/

theorem vsel_spec {all : List VCfg} {c : VCfg} (h : c ∈ all) : lookupLast all c.name = some (sel all c) := by
  unfold sel
  cases hf : lookupLast all c.name with
  | some c' => rfl
  | none =>
    unfold lookupLast at hf
    have := List.find?_eq_none.mp hf c (List.mem_reverse.mpr h)
    simp at this

theorem vsel_name (all : List VCfg) (c : VCfg) : (sel all c).name = c.name := by
  unfold sel
  split
  · rename_i c' hf
    exact (vlookupLast_mem hf).2
  · rfl

theorem hasCfg_map_sel (all cs : List VCfg) (n : Nat) : hasCfg (cs.map (sel all)) n = hasCfg cs n := by
  simp [hasCfg, List.any_map, Function.comp_def, vsel_name]

theorem updateAllFixed_eq (m : Mgr) (cfgs : List VCfg) :
    updateAllFixed m cfgs = addLoop (afterDelete m cfgs) (cfgs.map (sel cfgs)) := rfl

theorem vm_inv_updateAllFixed (m : Mgr) (cfgs : List VCfg) (h : VInv m) : VInv (updateAllFixed m cfgs) :=
  addLoop_inv _ _ (afterDelete_inv m cfgs h)

/-- repaired reload: every stored entry is THE configured entry of its name (the last one) -/
theorem vmF_update_cfgs_last (m : Mgr) (cfgs : List VCfg) (c : VCfg) (h : c ∈ (updateAllFixed m cfgs).cfgs) :
    lookupLast cfgs c.name = some c := by
  rw [updateAllFixed_eq] at h
  rcases addLoop_cfgs_mem _ _ _ h with h | h
  · simp only [afterDelete, List.mem_filter] at h
    simpa [keeps] using h.2
  · obtain ⟨c0, hc0, rfl⟩ := List.mem_map.mp h
    rw [vsel_name]
    exact vsel_spec hc0

theorem vmF_update_names (m : Mgr) (cfgs : List VCfg) (n : Nat) :
    hasCfg (updateAllFixed m cfgs).cfgs n = true ↔ ∃ c ∈ cfgs, c.name = n :=
  vmReload_names m cfgs _ n (hasCfg_map_sel cfgs cfgs n)

/-- the witness of (a) on the repaired reload: the LAST entry is stored and runs, the identical
    reload keeps the object (stamp 1) -/
theorem vm_dup_fixed_witness :
    (updateAllFixed VisitorMgr.init [⟨1, 0, 0, false⟩, ⟨1, 1, 0, false⟩]).visitors.map (fun v => (v.cfg.variant, v.id)) = [(1, 1)] ∧
    (updateAllFixed (updateAllFixed VisitorMgr.init [⟨1, 0, 0, false⟩, ⟨1, 1, 0, false⟩])
        [⟨1, 0, 0, false⟩, ⟨1, 1, 0, false⟩]).visitors.map (fun v => (v.cfg.variant, v.id)) = [(1, 1)] := by
  decide

/-- the full statement for the repaired reload: reloading the loaded configuration changes nothing,
    for every manager state and EVERY list (duplicated names included) -/
theorem vm_reload_idempotent_fixed (m : Mgr) (cfgs : List VCfg) :
    updateAllFixed (updateAllFixed m cfgs) cfgs = updateAllFixed m cfgs := by
  refine vmReload_idempotent m cfgs _ (vmF_update_cfgs_last m cfgs) ?_
  intro c hc
  obtain ⟨c0, hc0, rfl⟩ := List.mem_map.mp hc
  rw [vsel_name]
  exact (vmF_update_names m cfgs c0.name).mpr ⟨c0, hc0, rfl⟩

/-! histories of the repaired machine -/

theorem vmF_run_cfgs (es : List Ev) (m : Mgr) (h : ∀ e ∈ es, e.isUpd = false) : (runFixed m es).cfgs = m.cfgs := by
  refine List.foldlRecOn (motive := fun x => x.cfgs = m.cfgs) es stepFixed rfl (fun x hx e he => ?_)
  cases e with
  | upd cfgs => cases h _ he
  | tryStart n =>
    simp only [stepFixed, tryStartFixed]
    split
    · exact hx
    · exact (vm_tryStart_cfgs x n).trans hx
  | _ => exact (vm_step_cfgs x _ rfl).trans hx

theorem vmF_inv_step (m : Mgr) (e : Ev) (h : VInv m) : VInv (stepFixed m e) := by
  cases e with
  | upd cfgs => exact vm_inv_updateAllFixed m cfgs h
  | tryStart n =>
    simp only [stepFixed, tryStartFixed]
    split
    · exact h
    · exact vm_inv_tryStart m n h
  | _ => exact vm_inv_step m _ h

theorem vmF_inv_run (es : List Ev) : ∀ (m : Mgr), VInv m → VInv (runFixed m es) :=
  fun _ h => List.foldlRecOn es stepFixed h (fun m hm e _ => vmF_inv_step m e hm)

/-- repaired machine, every history: whatever runs carries THE configured entry of its name -/
theorem vm_fixed_runs_last (m : Mgr) (cfgs : List VCfg) (es : List Ev) (h : VInv m)
    (hes : ∀ e ∈ es, e.isUpd = false) (v : V) (hv : v ∈ (runFixed (updateAllFixed m cfgs) es).visitors) :
    lookupLast cfgs v.cfg.name = some v.cfg := by
  have hinv := vmF_inv_run es _ (vm_inv_updateAllFixed m cfgs h)
  have hc := hinv.2.2.1 v hv
  rw [vmF_run_cfgs es _ hes] at hc
  exact vmF_update_cfgs_last m cfgs _ hc

/-- repaired machine: reloading the loaded list keeps every visitor object, after any history of
    keep-alive iterations, start failures, addresses taken and released, for EVERY list -/
theorem vm_fixed_reload_keeps_all (m : Mgr) (cfgs : List VCfg) (es : List Ev) (h : VInv m)
    (hes : ∀ e ∈ es, e.isUpd = false) (v : V) (hv : v ∈ (runFixed (updateAllFixed m cfgs) es).visitors) :
    v ∈ (updateAllFixed (runFixed (updateAllFixed m cfgs) es) cfgs).visitors := by
  apply vmReload_keeps_visitor _ _ _ (vmF_inv_run es _ (vm_inv_updateAllFixed m cfgs h)) v hv
  simp [keeps, vm_fixed_runs_last m cfgs es h hes v hv]

/-! (b) a closed manager -/

/-- `Close()` was called and every visitor object in the map is closed -/
def ClosedQuiet (m : Mgr) : Prop := m.closed = true ∧ ∀ v ∈ m.visitors, v.isOpen = false

theorem vm_close_quiet (m : Mgr) : ClosedQuiet (VisitorMgr.close m) := by
  refine ⟨rfl, ?_⟩
  intro v hv
  simp only [VisitorMgr.close, List.mem_map] at hv
  obtain ⟨w, _, rfl⟩ := hv
  rfl

theorem closedQuiet_busy (m : Mgr) (h : ClosedQuiet m) (p : Nat) : busy m p = m.squat.contains p := by
  have : m.visitors.any (fun v => v.isOpen && v.cfg.port == p) = false := by
    rw [List.any_eq_false]
    intro v hv
    simp [h.2 v hv]
  simp [busy, this]

/-- on a closed manager only an iteration of the keep-alive loop can open anything -/
theorem closedQuiet_step (m : Mgr) (e : Ev) (h : ClosedQuiet m) (hu : e.isUpd = false) (ht : e.isTry = false) :
    ClosedQuiet (step m e) := by
  cases e with
  | upd cfgs => cases hu
  | tryStart n => cases ht
  | squat p => simp only [step]; split <;> exact h
  | free p => exact h
  | close => exact vm_close_quiet m

/-- the witness of (b): address 1 is taken by another program, the visitor waits; `Close()`; the
    address is released; one more iteration — the closed manager listens on address 1.  Second
    shape: two entries want address 1, the sibling holds it until `Close()` closes it. -/
theorem vm_close_pass_witness :
    (run VisitorMgr.init [.squat 1, .upd [⟨1, 0, 1, false⟩], .close, .free 1, .tryStart 1]).closed = true ∧
    busy (run VisitorMgr.init [.squat 1, .upd [⟨1, 0, 1, false⟩], .close, .free 1, .tryStart 1]) 1 = true ∧
    (run VisitorMgr.init [.squat 1, .upd [⟨1, 0, 1, false⟩], .close, .free 1, .tryStart 1]).squat = [] ∧
    busy (run VisitorMgr.init [.upd [⟨1, 0, 1, false⟩, ⟨2, 0, 1, false⟩], .close, .tryStart 2]) 1 = true := by
  decide

/-- the same histories on the repaired iteration: nothing listens -/
theorem vm_close_pass_fixed_witness :
    busy (runFixed VisitorMgr.init [.squat 1, .upd [⟨1, 0, 1, false⟩], .close, .free 1, .tryStart 1]) 1 = false ∧
    busy (runFixed VisitorMgr.init [.upd [⟨1, 0, 1, false⟩, ⟨2, 0, 1, false⟩], .close, .tryStart 2]) 1 = false := by
  decide

/-- repaired iteration: after `Close()`, whatever keep-alive iterations, addresses taken and released
    and further `Close()` calls follow (no reload), every visitor object is closed and the manager
    holds no address: an address is busy iff another program holds it -/
theorem vm_closed_quiet_fixed (es : List Ev) : ∀ (m : Mgr), ClosedQuiet m → (∀ e ∈ es, e.isUpd = false) →
    ClosedQuiet (runFixed m es) ∧ ∀ p, busy (runFixed m es) p = (runFixed m es).squat.contains p := by
  intro m h hes
  have hq : ClosedQuiet (runFixed m es) := by
    refine List.foldlRecOn es stepFixed h (fun x hx e he => ?_)
    cases e with
    | upd cfgs => cases hes _ he
    | tryStart n =>
      -- the repaired iteration looks at `closed` first
      simp only [stepFixed, tryStartFixed, hx.1, if_true]
      exact hx
    | _ => exact closedQuiet_step x _ hx rfl rfl
  exact ⟨hq, closedQuiet_busy _ hq⟩

/-- the pinned tree satisfies it only as long as no iteration of the loop runs after `Close()` -/
theorem vm_closed_quiet_partial (es : List Ev) : ∀ (m : Mgr), ClosedQuiet m →
    (∀ e ∈ es, e.isUpd = false ∧ e.isTry = false) →
    ClosedQuiet (run m es) ∧ ∀ p, busy (run m es) p = (run m es).squat.contains p := by
  intro m h hes
  have hq : ClosedQuiet (run m es) :=
    List.foldlRecOn es step h (fun x hx e he => closedQuiet_step x e hx (hes e he).1 (hes e he).2)
  exact ⟨hq, closedQuiet_busy _ hq⟩

/-! ### the executable predicate (run by the driver on the implementation's answers) -/

/-- what the harness reads off the real manager: the stored entries (name, variant, port), the
    names that have a visitor object, the pool addresses that cannot be bound -/
structure VObs where
  cfg : List (Nat × Nat × Nat)
  run : List Nat
  busy : List Nat

def vtriple (c : VCfg) : Nat × Nat × Nat := (c.name, c.variant, c.port)

def obsOf (keys : List Nat) (m : Mgr) : VObs :=
  { cfg := m.cfgs.map vtriple, run := m.visitors.map (·.cfg.name), busy := keys.filter (busy m) }

/-- the visitor clause on an observation, `cfgs` being the last loaded list: every stored entry is
    an entry of `cfgs`, every name of `cfgs` is stored, whatever runs is stored -/
def vHoldsOn (cfgs : List VCfg) (o : VObs) : Bool :=
  o.cfg.all (fun t => cfgs.any (fun c => vtriple c == t)) &&
  cfgs.all (fun c => o.cfg.any (fun t => t.1 == c.name)) &&
  o.run.all (fun n => o.cfg.any (fun t => t.1 == n))

/-- after a complete pass (manager not closed): every stored entry runs, can never start, or its
    address is taken -/
def vSettledOn (cfgs : List VCfg) (o : VObs) : Bool :=
  o.cfg.all (fun t => o.run.contains t.1 ||
    cfgs.all (fun c => vtriple c != t || c.never || (c.port != 0 && o.busy.contains c.port)))

/-- all entries of a name, in list order -/
def entriesOf (cfgs : List VCfg) (n : Nat) : List VCfg := cfgs.filter (fun c => c.name == n)

/-- (name, object stamp) of every visitor object in the map -/
def runObs (m : Mgr) : List (Nat × Nat) := m.visitors.map (fun v => (v.cfg.name, v.id))

/-- "unchanged entries keep running", on two observations around a reload from `prev` to `cfgs`:
    every visitor object that existed before under a name whose entries in the new list are exactly
    its entries in the previous list (so whichever of them is "the configured one", it has not
    changed) is still there — the same object, not a restarted one -/
def vKeptOn (prev cfgs : List VCfg) (before after : List (Nat × Nat)) : Bool :=
  before.all (fun p => (entriesOf cfgs p.1).isEmpty || entriesOf cfgs p.1 != entriesOf prev p.1 || after.contains p)

/-- "a closed manager holds nothing": every pool address that cannot be bound is one another
    program (`held`) holds -/
def vClosedQuietOn (held : List Nat) (o : VObs) : Bool := o.busy.all (fun p => held.contains p)

theorem lookupLast_entries (cfgs : List VCfg) (n : Nat) : lookupLast cfgs n = lookupLast (entriesOf cfgs n) n := by
  unfold lookupLast entriesOf
  rw [← List.filter_reverse, List.find?_filter]
  congr 1
  funext c
  cases h : (c.name == n) <;> simp [h]

/-- the repaired reload satisfies `vKeptOn` for every pair of lists and every history in between -/
theorem model_vKept_fixed (m : Mgr) (prev cfgs : List VCfg) (es : List Ev) (h : VInv m)
    (hes : ∀ e ∈ es, e.isUpd = false) :
    vKeptOn prev cfgs (runObs (runFixed (updateAllFixed m prev) es))
      (runObs (updateAllFixed (runFixed (updateAllFixed m prev) es) cfgs)) = true := by
  simp only [vKeptOn, List.all_eq_true, Bool.or_eq_true]
  intro p hp
  obtain ⟨v, hv, rfl⟩ := List.mem_map.mp hp
  by_cases he : entriesOf cfgs v.cfg.name = entriesOf prev v.cfg.name
  · right
    have hl : lookupLast cfgs v.cfg.name = some v.cfg := by
      rw [lookupLast_entries, he, ← lookupLast_entries]
      exact vm_fixed_runs_last m prev es h hes v hv
    have hk : keeps cfgs v.cfg = true := by simp [keeps, hl]
    simp only [List.contains_iff_mem]
    exact List.mem_map.mpr ⟨v, vmReload_keeps_visitor _ cfgs _ (vmF_inv_run es _ (vm_inv_updateAllFixed m prev h)) v hv hk, rfl⟩
  · left; right
    simpa using he

/-- the repaired loop satisfies `vClosedQuietOn` after `Close()` and every history without a reload -/
theorem model_vClosedQuiet_fixed (keys : List Nat) (m : Mgr) (es : List Ev) (h : ClosedQuiet m)
    (hes : ∀ e ∈ es, e.isUpd = false) :
    vClosedQuietOn (runFixed m es).squat (obsOf keys (runFixed m es)) = true := by
  have hb := (vm_closed_quiet_fixed es m h hes).2
  simp only [vClosedQuietOn, obsOf, List.all_eq_true, List.mem_filter]
  intro p hp
  rw [← hb p]
  exact hp.2

/-- the model's own observation satisfies the predicate, after every history -/
theorem model_vHolds (keys : List Nat) (m : Mgr) (cfgs : List VCfg) (es : List Ev) (h : VInv m)
    (hes : ∀ e ∈ es, e.isUpd = false) : vHoldsOn cfgs (obsOf keys (run (updateAll m cfgs) es)) = true := by
  have hcfg := vm_history_configured m cfgs es hes
  have hrun := vm_history_running m cfgs es h hes
  simp only [vHoldsOn, obsOf, Bool.and_eq_true, List.all_eq_true, List.any_eq_true, List.mem_map]
  refine ⟨⟨?_, ?_⟩, ?_⟩
  · rintro t ⟨c, hc, rfl⟩
    exact ⟨c, hcfg.2 c hc, by simp⟩
  · intro c hc
    obtain ⟨c', hc', hn⟩ := (hasCfg_iff _ _).mp ((hcfg.1 c.name).mpr ⟨c, hc, rfl⟩)
    exact ⟨vtriple c', ⟨c', hc', rfl⟩, by simp [vtriple, hn]⟩
  · rintro n ⟨v, hv, rfl⟩
    exact ⟨vtriple v.cfg, ⟨v.cfg, (hrun v hv).2, rfl⟩, by simp [vtriple]⟩

/-- after a complete pass the model's own observation also satisfies `vSettledOn`, when the pool contains
    every address in use -/
theorem model_vSettled (keys : List Nat) (m : Mgr) (order : List Nat) (h : VInv m)
    (hord : ∀ c ∈ m.cfgs, c.name ∈ order) (hkeys : ∀ c ∈ m.cfgs, c.port ∈ keys) :
    vSettledOn m.cfgs (obsOf keys (pass m order)) = true := by
  simp only [vSettledOn, obsOf, vm_pass_cfgs, List.all_eq_true, List.mem_map, Bool.or_eq_true]
  rintro t ⟨c, hc, rfl⟩
  rcases vm_pass_complete order m h c hc (hord c hc) with hs | hs
  · left
    obtain ⟨v, hv, hn⟩ := (hasVisitor_iff _ _).mp hs
    simp only [List.contains_iff_mem, List.mem_map]
    exact ⟨v, hv, by simpa [vtriple] using hn⟩
  · right
    intro c' hc'
    by_cases ht : vtriple c' = vtriple c
    · obtain rfl : c' = c := vnodup_eq h.1 hc' hc (by simpa [vtriple] using congrArg (·.1) ht)
      simp only [canStart, Bool.and_eq_false_iff, Bool.not_eq_false', Bool.or_eq_false_iff] at hs
      rcases hs with hs | ⟨h0, hb⟩
      · simp [hs]
      · have hb' : busy (pass m order) c'.port = true := by simpa using hb
        have hmem : c'.port ∈ keys.filter (busy (pass m order)) := List.mem_filter.mpr ⟨hkeys c' hc, hb'⟩
        have h0' : c'.port ≠ 0 := by simpa using h0
        simp [h0', hmem]
    · simp [ht]

example : VInv (updateAll VisitorMgr.init [⟨1, 0, 1, false⟩, ⟨2, 3, 1, false⟩, ⟨3, 0, 0, true⟩]) :=
  vm_inv_updateAll _ _ vm_inv_init
-- two entries want address 1: the first in slice order gets it, the other one is retried and gets
-- it once the first has been removed by a reload
example : (updateAll VisitorMgr.init [⟨1, 0, 1, false⟩, ⟨2, 3, 1, false⟩]).visitors.map (·.cfg.name) = [1] := by decide
example : (pass (updateAll (updateAll VisitorMgr.init [⟨1, 0, 1, false⟩, ⟨2, 3, 1, false⟩]) [⟨2, 3, 1, false⟩]) [2]).visitors.map
    (fun v => (v.cfg.name, v.id)) = [(2, 2)] := by decide
-- Run() fails at load (address taken by another program), the entry is removed by the next reload, the
-- address is released, the loop passes: nothing runs, nothing is stored
example : (run VisitorMgr.init [.squat 1, .upd [⟨1, 0, 1, false⟩], .upd [], .free 1, .tryStart 1]).visitors = [] ∧
    (run VisitorMgr.init [.squat 1, .upd [⟨1, 0, 1, false⟩], .upd [], .free 1, .tryStart 1]).cfgs = [] := by decide

end V
end C19
end Frp
