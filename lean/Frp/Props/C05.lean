import Frp.Model.Wire
import Frp.Model.WireReload
import Frp.Model.WireConfig
import Frp.Model.WireHist
import Frp.Gen.AuthFacts
import Frp.Lemmas.ListFacts
/-
  C05 — Configured encryption really protects the wire; TLS identity rules are enforced.   (PARTIAL)

  Model: Frp/Model/Wire.lean.  What is proved is about WHICH layers every message / payload byte
  passes before it reaches the socket, for every configuration, and about the decisions
  (first-byte sniff, forced TLS, tls.Config fields).  That a TLS / AES-CFB layer hides its plaintext
  is cryptography and is not expressible here; the engine `wire` observes marker absence on a
  recording relay between a real frpc and a real frps.

  `C05Full` (below) is the property read at the level of layers; the clauses proved in §D are its parts.

  The forced-TLS / trusted-CA / client-identity clauses are stated per LISTENER (§B2: tcp, tls-muxed,
  kcp, websocket, quic — the QUIC listener has its own tls.Config, `quicServerTls`, a clone of
  `svr.tlsConfig`) and per CONTROL TRANSPORT at session level (§C2), not only for the default tcp path.
-/
namespace Frp
namespace C05
open Wire

/-- The property read at the level of layers: on the network path, TLS leaves no content clear,
    useEncryption leaves no payload clear, no secret is clear.  Its three clauses are
    `tls_covers_everything`, `useEncryption_covers_payload`, `secrets_never_clear_on_path`.  What the
    property says beyond that — that the configured plaintext "does not appear" among the bytes AES / TLS
    produce — is not expressible in this setting. -/
def C05Full : Prop :=
  ∀ (cfg : PathCfg), onNetworkPath cfg = true →
    (cfg.tls = true → ∀ k, contentClear cfg k = false) ∧
    (cfg.useEncryption = true → payloadClear cfg = false) ∧
    (∀ s, clearOnPath cfg s = false)

/-! ## A. first-byte sniff: exact partition of the byte space -/

theorem sniff_of_other {b : Nat} (f : Bool) (h1 : b ≠ 0x17) (h2 : b ≠ 0x16) :
    sniff b f = if f then .refuse else .plain := by
  unfold sniff
  rw [if_neg h1, if_neg h2]

theorem sniff_custom_iff (b : Nat) (f : Bool) : sniff b f = .customTLS ↔ b = 0x17 := by
  by_cases h1 : b = 0x17
  · simp [h1, sniff]
  by_cases h2 : b = 0x16
  · simp [h2, sniff]
  · cases f <;> simp [sniff_of_other, h1, h2]

theorem sniff_tls_iff (b : Nat) (f : Bool) : sniff b f = .tls ↔ b = 0x16 := by
  by_cases h1 : b = 0x17
  · simp [h1, sniff]
  by_cases h2 : b = 0x16
  · simp [h2, sniff]
  · cases f <;> simp [sniff_of_other, h1, h2]

theorem sniff_plain_iff (b : Nat) (f : Bool) :
    sniff b f = .plain ↔ b ≠ 0x17 ∧ b ≠ 0x16 ∧ f = false := by
  by_cases h1 : b = 0x17
  · simp [h1, sniff]
  by_cases h2 : b = 0x16
  · simp [h2, sniff]
  · cases f <;> simp [sniff_of_other, h1, h2]

theorem sniff_refuse_iff (b : Nat) (f : Bool) :
    sniff b f = .refuse ↔ b ≠ 0x17 ∧ b ≠ 0x16 ∧ f = true := by
  by_cases h1 : b = 0x17
  · simp [h1, sniff]
  by_cases h2 : b = 0x16
  · simp [h2, sniff]
  · cases f <;> simp [sniff_of_other, h1, h2]

/-- **forced TLS**: whatever the first byte (all 256 values and beyond), a forcing server never
    treats the connection as plaintext. -/
theorem sniff_force_never_plain (b : Nat) : sniff b true ≠ .plain := by
  intro h
  have := (sniff_plain_iff b true).mp h
  simp at this

theorem sniff_noforce_never_refuse (b : Nat) : sniff b false ≠ .refuse := by
  intro h
  have := (sniff_refuse_iff b false).mp h
  simp at this

theorem firstByte_consumed_iff (b : Nat) (f : Bool) (h : sniff b f ≠ .refuse) :
    firstByteReplayed (sniff b f) = false ↔ b = 0x17 := by
  rw [← sniff_custom_iff b f]
  cases hs : sniff b f
  case refuse => exact absurd hs h
  all_goals simp [firstByteReplayed]

/-! ## B. forced TLS / trusted CA on the server -/

/-- `ServerTransportConfig.Complete`: force ∨ trusted CA -/
theorem serverForce_iff (s : ServerCfg) :
    serverForce s = true ↔ s.force = true ∨ s.trustedCA = true := by
  simp [serverForce, ServerCfg.complete]

/-- **a peer without TLS gets no protocol message interpreted by a forcing server** — for every
    first byte: `handleConnection`/`msg.ReadMsg` is never reached, no reply frame is produced. -/
theorem forced_plain_peer_uninterpreted (s : ServerCfg) (b : Nat) (h : serverForce s = true) :
    reachesReadMsg s b false = false ∧ rawReply s b = none := by
  have hr : reachesReadMsg s b false = false := by
    unfold reachesReadMsg
    rw [h]
    cases hs : sniff b true <;> simp
    exact absurd hs (sniff_force_never_plain b)
  exact ⟨hr, by simp [rawReply, hr]⟩

/-- `NewServerTLSConfig`: RequireAndVerifyClientCert iff a CA is configured (and then TLS is forced) -/
theorem serverTls_clientAuth_iff (s : ServerCfg) :
    (serverTls s).clientAuth = .requireAndVerify ↔ s.trustedCA = true := by
  cases h : s.trustedCA <;> simp [serverTls, serverTlsOf, h]

theorem ca_forces_and_requires (s : ServerCfg) (h : s.trustedCA = true) :
    serverForce s = true ∧ (serverTls s).clientAuth = .requireAndVerify ∧
      (serverTls s).hasClientCAs = true :=
  ⟨(serverForce_iff s).mpr (Or.inr h), (serverTls_clientAuth_iff s).mpr h, h⟩

theorem clientCertAccepted_requireAndVerify {st : ServerTls} (ct : ClientTls) (p : Pki)
    (h : st.clientAuth = .requireAndVerify) :
    clientCertAccepted st ct p = (ct.hasCert && p.cliCertIssuer == some p.srvClientCA) := by
  unfold clientCertAccepted
  rw [h]

theorem clientCert_refused {st : ServerTls} {ct : ClientTls} {p : Pki}
    (h : st.clientAuth = .requireAndVerify)
    (hbad : ct.hasCert = false ∨ p.cliCertIssuer ≠ some p.srvClientCA) :
    clientCertAccepted st ct p = false := by
  rw [clientCertAccepted_requireAndVerify ct p h]
  rcases hbad with h | h <;> simp [h]

/-- **trusted CA**: a peer that presents no certificate, or one not signed by the server's CA,
    gets nothing interpreted whatever first byte it sends and however it configures its side. -/
theorem ca_peer_without_acceptable_cert_uninterpreted (s : ServerCfg) (ct : ClientTls) (p : Pki)
    (b : Nat) (hca : s.trustedCA = true)
    (hbad : ct.hasCert = false ∨ p.cliCertIssuer ≠ some p.srvClientCA) :
    reachesReadMsg s b (handshakeOk s ct p) = false := by
  obtain ⟨hf, hreq, _⟩ := ca_forces_and_requires s hca
  have hh : handshakeOk s ct p = false := by
    rw [handshakeOk, clientCert_refused hreq hbad, Bool.and_false]
  rw [hh]
  exact (forced_plain_peer_uninterpreted s b hf).1

/-! ## B2. the same two rules on EVERY listener (tcp, tls-muxed, kcp, websocket, quic) -/

theorem listeners_complete (l : Listener) : l ∈ Listener.all := by
  cases l <;> decide

/-- every listener on the network is either sniffed by `HandleListener(l, false)` or is the QUIC
    listener; the only un-gated listener is the in-process one -/
theorem public_listener_gate (l : Listener) :
    (l.isPublic = true ↔ l.gate ≠ .internal) ∧
    (l.gate = .quicTls ↔ l = .quic) ∧ (l.gate = .internal ↔ l = .sshTunnel) := by
  cases l <;> simp [Listener.isPublic, Listener.gate]

/-- `quicTLSCfg = tlsConfig.Clone()` + NextProtos: the QUIC listener's config has the SAME client
    authentication mode, client CA pool and certificate as `svr.tlsConfig`; only ALPN differs -/
theorem quic_tls_inherits_identity (s : ServerCfg) :
    (quicServerTls s).clientAuth = (serverTls s).clientAuth ∧
    (quicServerTls s).hasClientCAs = (serverTls s).hasClientCAs ∧
    (quicServerTls s).randomCert = (serverTls s).randomCert ∧
    (quicServerTls s).nextProtos = [frpALPN] ∧
    { quicServerTls s with nextProtos := (serverTls s).nextProtos } = serverTls s :=
  ⟨rfl, rfl, rfl, rfl, rfl⟩

theorem listenerTls_some {l : Listener} {s : ServerCfg} {st : ServerTls}
    (h : listenerTls l s = some st) :
    st.clientAuth = (serverTls s).clientAuth ∧ st.hasClientCAs = s.trustedCA := by
  cases l <;> cases h <;> exact ⟨rfl, rfl⟩

/-- on every public listener the config a handshake runs with requires and verifies a client
    certificate iff a trusted CA is configured -/
theorem listenerTls_clientAuth_iff (l : Listener) (s : ServerCfg) (hl : l.isPublic = true) :
    ∃ st, listenerTls l s = some st ∧
      (st.clientAuth = .requireAndVerify ↔ s.trustedCA = true) ∧
      (st.hasClientCAs = true ↔ s.trustedCA = true) := by
  cases l
  case sshTunnel => cases hl
  all_goals exact ⟨_, rfl, serverTls_clientAuth_iff s, Iff.rfl⟩

/-- on the sniffed listeners with no ALPN in play the per-listener handshake is `handshakeOk` -/
theorem handshakeOkOn_sniff (l : Listener) (s : ServerCfg) (ct : ClientTls) (p : Pki)
    (hg : l.gate = .sniff) (ha : ct.nextProtos = []) :
    handshakeOkOn l s ct p = handshakeOk s ct p := by
  simp [handshakeOkOn, listenerTls, hg, alpnOk, ha, handshakeOk, serverTls, serverTlsOf]

/-- on the QUIC listener, for a client that offers the frp ALPN, it is `handshakeOk` too: the
    clone has the client-certificate policy of `svr.tlsConfig` and the protocols agree -/
theorem handshakeOkOn_quic (s : ServerCfg) (ct : ClientTls) (p : Pki)
    (ha : ct.nextProtos = [frpALPN]) : handshakeOkOn .quic s ct p = handshakeOk s ct p := by
  have halpn : alpnOk true (quicServerTls s) ct = true := by
    unfold alpnOk
    rw [ha]
    rfl
  show (serverCertAccepted s ct p && clientCertAccepted (quicServerTls s) ct p &&
    alpnOk true (quicServerTls s) ct) = _
  rw [halpn, Bool.and_true]
  rfl

/-- QUIC is never plaintext: a peer that does not complete the TLS handshake gets nothing
    interpreted, with or without `force` -/
theorem quic_never_plain (s : ServerCfg) (b : Nat) : reachesReadMsgOn .quic s b false = false := rfl

/-- **forced TLS, every listener**: on no public listener does a forcing server interpret a
    message of a peer without TLS, whatever first byte it sends -/
theorem forced_plain_peer_uninterpreted_every_listener (l : Listener) (s : ServerCfg) (b : Nat)
    (hl : l.isPublic = true) (h : serverForce s = true) :
    reachesReadMsgOn l s b false = false := by
  cases l
  case sshTunnel => cases hl
  case quic => rfl
  all_goals exact (forced_plain_peer_uninterpreted s b h).1

/-- a handshake with a config that requires a verified client certificate fails for a peer
    without an acceptable one, on every listener -/
theorem handshakeOkOn_requires_cert (l : Listener) (s : ServerCfg) (ct : ClientTls) (p : Pki)
    (hca : s.trustedCA = true)
    (hbad : ct.hasCert = false ∨ p.cliCertIssuer ≠ some p.srvClientCA) :
    handshakeOkOn l s ct p = false := by
  unfold handshakeOkOn
  cases hst : listenerTls l s with
  | none => rfl
  | some st =>
    have hreq := (listenerTls_some hst).1.trans (ca_forces_and_requires s hca).2.1
    simp only
    rw [clientCert_refused hreq hbad, Bool.and_false, Bool.false_and]

/-- **trusted CA, every listener**: a peer that presents no certificate, or one not signed by the
    server's CA, gets nothing interpreted on any public listener — tcp, the tls-muxed one, kcp,
    websocket and QUIC — whatever first byte it sends and however it configures its side. -/
theorem ca_peer_without_acceptable_cert_uninterpreted_every_listener (l : Listener) (s : ServerCfg)
    (ct : ClientTls) (p : Pki) (b : Nat) (hl : l.isPublic = true) (hca : s.trustedCA = true)
    (hbad : ct.hasCert = false ∨ p.cliCertIssuer ≠ some p.srvClientCA) :
    reachesReadMsgOn l s b (handshakeOkOn l s ct p) = false := by
  rw [handshakeOkOn_requires_cert l s ct p hca hbad]
  exact forced_plain_peer_uninterpreted_every_listener l s b hl
    ((ca_forces_and_requires s hca).1)

/-- with a CA the gate of a public listener opens only for a completed handshake, so what decides is
    the certificate check of that listener's config -/
theorem ca_reaches_iff_handshake (l : Listener) (s : ServerCfg) (b : Nat) (hs : Bool)
    (hl : l.isPublic = true) (hca : s.trustedCA = true) :
    reachesReadMsgOn l s b hs = true → hs = true := by
  intro h
  cases hs
  · rw [forced_plain_peer_uninterpreted_every_listener l s b hl ((ca_forces_and_requires s hca).1)] at h
    exact h
  · rfl

/-! ## C. client side: dial options and identity -/

/-- `NewClientTLSConfig`: InsecureSkipVerify iff no CA; ServerName always set -/
theorem clientTlsOf_fields (cert ca : Bool) (sn : Str) :
    (clientTlsOf cert ca sn).insecureSkipVerify = !ca ∧ (clientTlsOf cert ca sn).serverName = sn ∧
      (clientTlsOf cert ca sn).hasRootCAs = ca ∧ (clientTlsOf cert ca sn).hasCert = cert :=
  ⟨rfl, rfl, rfl, rfl⟩

/-- the tls.Config the connector builds when it builds one, for every control transport: the
    configured certificate and CA go into it iff tls.enable is on or the transport is wss; QUIC adds
    the ALPN -/
def connectorTls (c : ClientCfg) : ClientTls :=
  { clientTlsOf ((c.protocol == .wss || c.tlsEnable) && c.certGiven)
      ((c.protocol == .wss || c.tlsEnable) && c.trustedCA) (effServerName c) with
    nextProtos := if c.protocol = .quic then [frpALPN] else [] }

theorem clientTls_eq (c : ClientCfg) :
    clientTls c = if c.tlsEnable || tlsRequired c.protocol then some (connectorTls c) else none := by
  unfold clientTls connectorTls
  cases c.protocol <;> cases c.tlsEnable <;> rfl

theorem clientTls_some {c : ClientCfg} {ct : ClientTls} (h : clientTls c = some ct) :
    ct = connectorTls c := by
  rw [clientTls_eq] at h
  split at h
  · exact (Option.some.inj h).symm
  · cases h

/-- off wss the configured certificate is in the config only with tls.enable -/
theorem connectorTls_hasCert {c : ClientCfg} (hw : c.protocol ≠ .wss) :
    (connectorTls c).hasCert = (c.tlsEnable && c.certGiven) := by
  show ((c.protocol == .wss || c.tlsEnable) && c.certGiven) = _
  rw [beq_false_of_ne hw, Bool.false_or]

/-- the connector builds a tls.Config exactly when tls.enable is on OR the transport is TLS by itself
    (wss: `if protocol == "wss" { tlsEnable = true }`; quic: always a config) -/
theorem clientTls_isSome_iff (c : ClientCfg) :
    (clientTls c).isSome = (c.tlsEnable || tlsRequired c.protocol) := by
  rw [clientTls_eq]
  cases c.tlsEnable || tlsRequired c.protocol <;> rfl

/-- a client with TLS on and a trusted CA verifies the chain and the name (every protocol) -/
theorem client_ca_verifies (c : ClientCfg) (ht : c.tlsEnable = true) (hca : c.trustedCA = true) :
    ∃ ct, clientTls c = some ct ∧ ct.insecureSkipVerify = false ∧ ct.hasRootCAs = true ∧
      ct.serverName = effServerName c ∧
      (c.serverName ≠ [] → ct.serverName = c.serverName) := by
  have hs : (clientTls c).isSome = true := by rw [clientTls_isSome_iff, ht]; rfl
  obtain ⟨ct, hct⟩ := Option.isSome_iff_exists.mp hs
  refine ⟨ct, hct, ?_⟩
  rw [clientTls_some hct, connectorTls, ht, hca, Bool.or_true]
  exact ⟨rfl, rfl, rfl, fun hne => if_neg hne⟩

/-- as coded: without a CA the client accepts any server certificate -/
theorem client_no_ca_skips_verification (c : ClientCfg) (ct : ClientTls) (hca : c.trustedCA = false)
    (h : clientTls c = some ct) : ct.insecureSkipVerify = true := by
  rw [clientTls_some h, connectorTls, hca, Bool.and_false]
  rfl

/-- as coded (observation): over QUIC with tls.enable = false the configured CA is ignored -/
theorem quic_tls_disabled_ignores_ca (c : ClientCfg) (hp : c.protocol = .quic)
    (ht : c.tlsEnable = false) :
    clientTls c = some { clientTlsOf false false (effServerName c) with nextProtos := [frpALPN] } := by
  simp [clientTls, hp, ht]

theorem clientDial_tls_eq (c : ClientCfg) : (clientDial c).tls = (clientTls c).isSome := by
  unfold clientDial clientHooks
  rw [clientTls_isSome_iff]
  cases c.protocol <;> cases c.tlsEnable <;> cases c.disableCustomFirstByte <;> rfl

theorem clientDial_tls_iff (c : ClientCfg) :
    (clientDial c).tls = true ↔ (c.tlsEnable = true ∨ c.protocol = .wss ∨ c.protocol = .quic) := by
  rw [clientDial_tls_eq, clientTls_isSome_iff]
  cases c.protocol <;> simp [tlsRequired]

theorem clientDial_customByte_iff (c : ClientCfg) :
    (clientDial c).customByte = true ↔
      (c.tlsEnable = true ∧ c.disableCustomFirstByte = false ∧
        (c.protocol = .tcp ∨ c.protocol = .kcp ∨ c.protocol = .websocket)) := by
  unfold clientDial clientHooks
  rw [clientTls_isSome_iff]
  cases c.protocol <;> cases c.tlsEnable <;> cases c.disableCustomFirstByte <;> decide

theorem clientDial_customByte_tls (c : ClientCfg) (h : (clientDial c).customByte = true) :
    (clientDial c).tls = true := by
  rw [clientDial_tls_eq, clientTls_isSome_iff, ((clientDial_customByte_iff c).mp h).1]
  rfl

/-- the default client (Complete()d, nothing configured) dials TLS without the custom byte -/
theorem default_client_dials_tls (a : Str) :
    clientDial (ClientCfg.default a) = { tls := true, customByte := false } ∧
      clientFirstBytes (ClientCfg.default a) = [0x16] :=
  ⟨rfl, rfl⟩

/-- websocket: the custom byte and TLS come AFTER the websocket upgrade (TLS inside websocket);
    wss: TLS first, no custom byte -/
theorem hooks_order (c : ClientCfg) (ht : c.tlsEnable = true) :
    (c.protocol = .websocket → clientHooks c =
        [.websocket] ++ (if c.disableCustomFirstByte then [] else [.customByte]) ++ [.tls]) ∧
    (c.protocol = .wss → clientHooks c = [.tls, .websocket]) ∧
    (c.protocol = .tcp → clientHooks c =
        (if c.disableCustomFirstByte then [] else [.customByte]) ++ [.tls]) := by
  unfold clientHooks
  rw [clientTls_isSome_iff, ht]
  refine ⟨?_, ?_, ?_⟩ <;> intro hp <;> rw [hp] <;> cases c.disableCustomFirstByte <;> rfl

/-- what a client sends first: the custom byte; else, dialling TLS, the TLS record type; else 0x00 or a
    message type byte, none of which is a TLS record type -/
theorem clientFirstBytes_cases (c : ClientCfg) :
    ((clientDial c).customByte = true ∧ clientFirstBytes c = [0x17]) ∨
    ((clientDial c).customByte = false ∧ (clientDial c).tls = true ∧ clientFirstBytes c = [0x16]) ∨
    ((clientDial c).customByte = false ∧ (clientDial c).tls = false ∧
      ∀ b ∈ clientFirstBytes c, b ≠ 0x17 ∧ b ≠ 0x16) := by
  simp only [clientFirstBytes]
  cases (clientDial c).customByte
  case true => exact Or.inl ⟨rfl, rfl⟩
  cases (clientDial c).tls
  case true => exact Or.inr (Or.inl ⟨rfl, rfl, rfl⟩)
  refine Or.inr (Or.inr ⟨rfl, rfl, fun b hb => ?_⟩)
  simp only [Bool.false_eq_true, ↓reduceIte] at hb
  split at hb
  · simp at hb
    omega
  · simp at hb
    omega

/-- what the client sends first and what the server's sniff makes of it agree: the connection is
    treated as TLS by the server iff the client dialled TLS -/
theorem first_byte_class (c : ClientCfg) (f : Bool) (b : Nat) (hb : b ∈ clientFirstBytes c) :
    (sniff b f).isTLS = (clientDial c).tls ∧
      (sniff b f = .customTLS ↔ (clientDial c).customByte = true) := by
  rcases clientFirstBytes_cases c with ⟨hcb, he⟩ | ⟨hcb, ht, he⟩ | ⟨hcb, ht, hne⟩
  · rw [he] at hb
    rw [List.mem_singleton.mp hb, hcb, clientDial_customByte_tls c hcb]
    exact ⟨rfl, fun _ => rfl, fun _ => rfl⟩
  · rw [he] at hb
    rw [List.mem_singleton.mp hb, hcb, ht]
    exact ⟨rfl, nofun, nofun⟩
  · rw [hcb, ht, sniff_of_other f (hne b hb).1 (hne b hb).2]
    cases f
    · exact ⟨rfl, nofun, nofun⟩
    · exact ⟨rfl, nofun, nofun⟩

/-- `first_byte_class` with the transport named: `clientFirstBytes` is what a tcp client sends -/
theorem client_first_byte_class (c : ClientCfg) (f : Bool) (b : Nat) (hp : c.protocol = .tcp)
    (hb : b ∈ clientFirstBytes c) :
    (sniff b f).isTLS = (clientDial c).tls ∧
      (sniff b f = .customTLS ↔ (clientDial c).customByte = true) :=
  have _ := hp
  first_byte_class c f b hb

/-- the sniffed-path session in closed form: with a tls.Config the client sends 0x17 or 0x16 and
    the handshake decides; without one it sends a non-TLS byte and the server's force decides -/
theorem sessionUp_eq (s : ServerCfg) (c : ClientCfg) (p : Pki) :
    sessionUp s c p =
      match clientTls c with
      | some ct => handshakeOk s ct p
      | none => !serverForce s := by
  unfold sessionUp clientFirstBytes
  cases hc : clientTls c with
  | some ct =>
    have ht : (clientDial c).tls = true := by rw [clientDial_tls_eq, hc]; rfl
    -- one byte, 0x17 or 0x16, and the sniff hands either to the handshake
    cases hb : (clientDial c).customByte
    · simp only [ht, hb, ↓reduceIte, Bool.false_eq_true, List.all_cons, List.all_nil, Bool.and_true]
      rfl
    · simp only [hb, ↓reduceIte, List.all_cons, List.all_nil, Bool.and_true]
      rfl
  | none =>
    have ht : (clientDial c).tls = false := by rw [clientDial_tls_eq, hc]; rfl
    have hb : (clientDial c).customByte = false := by
      cases hb : (clientDial c).customByte
      · rfl
      · rw [clientDial_customByte_tls c hb] at ht
        cases ht
    simp only [ht, hb, Bool.false_eq_true, ↓reduceIte]
    cases c.tcpMux <;> cases serverForce s <;> rfl

theorem plain_client_session_iff (s : ServerCfg) (c : ClientCfg) (p : Pki)
    (hp : c.protocol = .tcp) (ht : c.tlsEnable = false) :
    sessionUp s c p = true ↔ serverForce s = false := by
  rw [sessionUp_eq, clientTls_eq, connectorTls, ht, hp]
  simp [tlsRequired]

theorem tls_client_session_iff (s : ServerCfg) (c : ClientCfg) (p : Pki)
    (hp : c.protocol = .tcp) (ht : c.tlsEnable = true) :
    sessionUp s c p =
      handshakeOk s (clientTlsOf c.certGiven c.trustedCA (effServerName c)) p := by
  rw [sessionUp_eq, clientTls_eq, connectorTls, ht, hp]
  rfl

/-! ## C2. sessions on every control transport -/

theorem sessionUpOn_sniffed (s : ServerCfg) (c : ClientCfg) (p : Pki)
    (hp : c.protocol = .tcp ∨ c.protocol = .kcp ∨ c.protocol = .websocket) :
    sessionUpOn s c p = sessionUp s c p := by
  rcases hp with h | h | h <;> simp [sessionUpOn, h]

/-- frps does not terminate wss: no session, whatever the configuration (and no message read) -/
theorem wss_no_session (s : ServerCfg) (c : ClientCfg) (p : Pki) (hp : c.protocol = .wss) :
    sessionUpOn s c p = false := by
  cases hm : s.tcpMux <;> simp [sessionUpOn, hp, innerAccepts, hm]

/-- a QUIC client gets a session iff the handshake between `quicServerTls` and the client's config
    is acceptable to both ends: the server's `force` flag and tcpMux play no role, the identity
    rules are those of `svr.tlsConfig`; with tls.enable = false the client side has neither
    certificate nor CA -/
theorem quic_client_session_iff (s : ServerCfg) (c : ClientCfg) (p : Pki) (hp : c.protocol = .quic) :
    sessionUpOn s c p =
      handshakeOk s (clientTlsOf (c.tlsEnable && c.certGiven) (c.tlsEnable && c.trustedCA)
        (effServerName c)) p := by
  unfold sessionUpOn
  rw [clientTls_eq, connectorTls, hp]
  cases c.tlsEnable <;> exact handshakeOkOn_quic s _ p rfl

/-- what a session means on every control transport at once: the transport is not wss, a client
    with a tls.Config completed the handshake under it, and a client without one met a server that
    does not force TLS -/
theorem sessionUpOn_handshake (s : ServerCfg) (c : ClientCfg) (p : Pki)
    (h : sessionUpOn s c p = true) :
    c.protocol ≠ .wss ∧ (∀ ct, clientTls c = some ct → handshakeOk s ct p = true) ∧
      (clientTls c = none → serverForce s = false) := by
  cases hp : c.protocol
  case wss => rw [wss_no_session s c p hp] at h; cases h
  case quic =>
    rw [quic_client_session_iff s c p hp] at h
    refine ⟨nofun, fun ct hc => ?_, fun hc => ?_⟩
    · rw [clientTls_some hc, connectorTls, hp]
      exact h
    · rw [clientTls_eq, hp, show tlsRequired .quic = true from rfl, Bool.or_true] at hc
      cases hc
  all_goals
    rw [sessionUpOn_sniffed s c p (by simp [hp]), sessionUp_eq] at h
    refine ⟨nofun, fun ct hc => ?_, fun hc => ?_⟩
    · rw [hc] at h
      exact h
    · rw [hc] at h
      simpa using h

/-- **trusted CA, session level, every control transport**: if frps has a trusted CA, a client
    that gets a session — over tcp, kcp, websocket, wss or quic — dialled TLS and presented a
    certificate signed by that CA. -/
theorem ca_session_requires_cert_every_protocol (s : ServerCfg) (c : ClientCfg) (p : Pki)
    (hca : s.trustedCA = true) (h : sessionUpOn s c p = true) :
    c.tlsEnable = true ∧ c.certGiven = true ∧ p.cliCertIssuer = some p.srvClientCA := by
  obtain ⟨hw, hsome, hnone⟩ := sessionUpOn_handshake s c p h
  obtain ⟨hf, hreq, _⟩ := ca_forces_and_requires s hca
  cases hc : clientTls c with
  | none =>
    rw [hf] at hnone
    cases hnone hc
  | some ct =>
    have ha := (Bool.and_eq_true_iff.mp (hsome ct hc)).2
    rw [clientCertAccepted_requireAndVerify ct p hreq, clientTls_some hc, connectorTls_hasCert hw] at ha
    simpa [and_assoc] using ha

/-- **forced TLS, session level, every control transport**: a client that gets a session from a
    forcing server dialled TLS -/
theorem force_session_requires_tls_every_protocol (s : ServerCfg) (c : ClientCfg) (p : Pki)
    (hf : serverForce s = true) (h : sessionUpOn s c p = true) : (clientDial c).tls = true := by
  rw [clientDial_tls_eq]
  cases hc : clientTls c with
  | none =>
    rw [(sessionUpOn_handshake s c p h).2.2 hc] at hf
    cases hf
  | some ct => rfl

/-- executable predicate for one observed connection attempt of a real client: `interpreted` = frps
    answered with a frame (LoginResp with or without an error text) -/
def interpretedOk (s : ServerCfg) (c : ClientCfg) (p : Pki) (interpreted : Bool) : Bool :=
  !interpreted || sessionUpOn s c p

/-- what an accepted observation means: under a trusted CA the peer dialled TLS with a certificate
    of that CA; under force it dialled TLS -/
theorem interpretedOk_sound (s : ServerCfg) (c : ClientCfg) (p : Pki)
    (h : interpretedOk s c p true = true) :
    (s.trustedCA = true →
      c.tlsEnable = true ∧ c.certGiven = true ∧ p.cliCertIssuer = some p.srvClientCA) ∧
    (serverForce s = true → (clientDial c).tls = true) :=
  ⟨fun hca => ca_session_requires_cert_every_protocol s c p hca h,
   fun hf => force_session_requires_tls_every_protocol s c p hf h⟩

/-! ## C3. WHICH identity a verifying client insists on: DNS names, IP literals, the defaulted name -/

/-- `sn := cfg.Transport.TLS.ServerName; if sn == "" { sn = cfg.ServerAddr }` -/
theorem effServerName_default (c : ClientCfg) (h : c.serverName = []) : effServerName c = c.serverAddr :=
  if_pos h

/-- whatever the control transport, the name in the client's tls.Config is the configured name, or
    `serverAddr` when none is configured -/
theorem client_verified_name (c : ClientCfg) (ct : ClientTls) (h : clientTls c = some ct) :
    ct.serverName = effServerName c := by
  rw [clientTls_some h]
  rfl

/-- Go's x509 rule (`VerifyHostname`): a name that parses as an IP address is matched against the
    IP SANs ONLY -/
theorem certMatchesName_ip (p : Pki) (n : Str) (h : isIPv4 n = true) :
    certMatchesName p n = p.srvCertIPs.contains n :=
  if_pos h

/-- Go's x509 rule (`VerifyHostname`): a name that is not an IP literal is matched against the DNS SANs only -/
theorem certMatchesName_dns (p : Pki) (n : Str) (h : isIPv4 n = false) :
    certMatchesName p n = p.srvCertDNS.contains n :=
  if_neg (h ▸ Bool.false_ne_true)

/-- a certificate without IP SANs is valid for NO IP-literal name, whatever DNS names it lists
    (a certificate "of somebody else" issued by the same CA included) -/
theorem ip_name_needs_ip_san (p : Pki) (n : Str) (h : isIPv4 n = true) (hno : p.srvCertIPs = []) :
    certMatchesName p n = false := by
  rw [certMatchesName_ip p n h, hno]
  rfl

theorem dns_name_needs_dns_san (p : Pki) (n : Str) (h : isIPv4 n = false) (hno : p.srvCertDNS = []) :
    certMatchesName p n = false := by
  rw [certMatchesName_dns p n h, hno]
  rfl

theorem serverCertAccepted_verifying (s : ServerCfg) {ct : ClientTls} (p : Pki)
    (h : ct.insecureSkipVerify = false) :
    serverCertAccepted s ct p =
      (s.certGiven && p.srvCertIssuer == some p.cliRootCA && certMatchesName p ct.serverName) := by
  unfold serverCertAccepted
  rw [h, Bool.false_or]

/-- **a session comes up only if the presented identity matches**: a client with TLS on and a
    trusted CA that gets a session — over any control transport, with the server name given or
    defaulted from serverAddr, DNS name or IP literal — was shown a configured certificate, issued
    by that CA, whose SANs of the name's own kind contain the name. -/
theorem session_requires_matching_identity (s : ServerCfg) (c : ClientCfg) (p : Pki)
    (ht : c.tlsEnable = true) (hca : c.trustedCA = true) (h : sessionUpOn s c p = true) :
    s.certGiven = true ∧ p.srvCertIssuer = some p.cliRootCA ∧
      certMatchesName p (effServerName c) = true := by
  obtain ⟨ct, hc, hv, _, hn, _⟩ := client_ca_verifies c ht hca
  have ha := (Bool.and_eq_true_iff.mp ((sessionUpOn_handshake s c p h).2.1 ct hc)).1
  rw [serverCertAccepted_verifying s p hv, hn] at ha
  simpa [and_assoc] using ha

/-- **a client given a trusted CA refuses a server presenting another identity — on every
    control transport** (tls.enable on; over QUIC with tls.enable off the CA is ignored, see
    `quic_tls_disabled_ignores_ca`) -/
theorem client_refuses_other_identity_every_protocol (s : ServerCfg) (c : ClientCfg) (p : Pki)
    (ht : c.tlsEnable = true) (hca : c.trustedCA = true)
    (hbad : s.certGiven = false ∨ p.srvCertIssuer ≠ some p.cliRootCA ∨
            certMatchesName p (effServerName c) = false) :
    sessionUpOn s c p = false := by
  cases h : sessionUpOn s c p
  · rfl
  · obtain ⟨h1, h2, h3⟩ := session_requires_matching_identity s c p ht hca h
    rcases hbad with hb | hb | hb
    · rw [h1] at hb; cases hb
    · exact absurd h2 hb
    · rw [h3] at hb; cases hb

/-- **a client given a trusted CA refuses a server presenting another
    identity**: no session, whatever the server's configuration. -/
theorem client_refuses_other_identity (s : ServerCfg) (c : ClientCfg) (p : Pki)
    (hp : c.protocol = .tcp) (ht : c.tlsEnable = true) (hca : c.trustedCA = true)
    (hbad : s.certGiven = false ∨ p.srvCertIssuer ≠ some p.cliRootCA ∨
            certMatchesName p (effServerName c) = false) :
    sessionUp s c p = false := by
  rw [← sessionUpOn_sniffed s c p (Or.inl hp)]
  exact client_refuses_other_identity_every_protocol s c p ht hca hbad

/-- the IP-literal case spelled out: the name (given, or `serverAddr`) must be among the IP SANs -/
theorem session_ip_name_requires_ip_san (s : ServerCfg) (c : ClientCfg) (p : Pki)
    (ht : c.tlsEnable = true) (hca : c.trustedCA = true) (hip : isIPv4 (effServerName c) = true)
    (h : sessionUpOn s c p = true) : effServerName c ∈ p.srvCertIPs := by
  have hm := (session_requires_matching_identity s c p ht hca h).2.2
  rw [certMatchesName_ip p _ hip] at hm
  simpa using hm

theorem session_dns_name_requires_dns_san (s : ServerCfg) (c : ClientCfg) (p : Pki)
    (ht : c.tlsEnable = true) (hca : c.trustedCA = true) (hip : isIPv4 (effServerName c) = false)
    (h : sessionUpOn s c p = true) : effServerName c ∈ p.srvCertDNS := by
  have hm := (session_requires_matching_identity s c p ht hca h).2.2
  rw [certMatchesName_dns p _ hip] at hm
  simpa using hm

/-- the common deployment: no `tls.serverName`, `serverAddr` an IP address.  A certificate that
    carries DNS names only — whoever it was issued to — gives no session. -/
theorem defaulted_ip_name_refuses_dns_only_cert (s : ServerCfg) (c : ClientCfg) (p : Pki)
    (ht : c.tlsEnable = true) (hca : c.trustedCA = true) (hsn : c.serverName = [])
    (hip : isIPv4 c.serverAddr = true) (hno : p.srvCertIPs = []) : sessionUpOn s c p = false := by
  apply client_refuses_other_identity_every_protocol s c p ht hca
  refine Or.inr (Or.inr ?_)
  rw [effServerName_default c hsn]
  exact ip_name_needs_ip_san p _ hip hno

/-- an accepted observation of the certificate lattice (`interpretedOk`) of a verifying client
    means the identity matched -/
theorem interpretedOk_identity (s : ServerCfg) (c : ClientCfg) (p : Pki)
    (ht : c.tlsEnable = true) (hca : c.trustedCA = true) (h : interpretedOk s c p true = true) :
    s.certGiven = true ∧ p.srvCertIssuer = some p.cliRootCA ∧
      certMatchesName p (effServerName c) = true :=
  session_requires_matching_identity s c p ht hca h

/-- executable predicate for one handshake of a tls.Config built by the real `NewClientTLSConfig(cert,
    key, ca, sn)` against a server presenting the certificate described by `p` (op `ident`):
    with a CA, acceptance implies chain and identity -/
def identOk (ca : Bool) (sn : Str) (p : Pki) (accepted : Bool) : Bool :=
  !(accepted && ca) || (p.srvCertIssuer == some p.cliRootCA && certMatchesName p sn)

/-- the model's own answer (`serverCertAccepted` on `clientTlsOf`) satisfies the predicate, and an
    accepted observation means what the property says -/
theorem identOk_sound (cert ca : Bool) (sn : Str) (p : Pki) :
    identOk ca sn p
      (serverCertAccepted { force := false, trustedCA := false, certGiven := true } (clientTlsOf cert ca sn) p) = true ∧
    (identOk ca sn p true = true → ca = true →
      p.srvCertIssuer = some p.cliRootCA ∧ certMatchesName p sn = true) := by
  constructor
  · cases ca
    · rfl
    · cases hi : (p.srvCertIssuer == some p.cliRootCA) <;> cases hm : certMatchesName p sn <;>
        simp [identOk, serverCertAccepted, clientTlsOf, hi, hm]
  · intro h hca
    simpa [identOk, hca] using h

/-! ## C4. wss: TLS whatever `transport.tls.enable` says; the identity rule against the endpoint that
      terminates it (a TLS reverse proxy in front of frps — frps itself has no wss listener) -/

/-- wss: the FULL configured tls.Config — certificate, trusted CA, server name — whether
    `transport.tls.enable` is true or false -/
theorem wss_tls_config_ignores_enable (c : ClientCfg) (hp : c.protocol = .wss) :
    clientTls c = some (clientTlsOf c.certGiven c.trustedCA (effServerName c)) := by
  simp [clientTls, hp]

/-- a wss client with a trusted CA verifies chain and name, tls.enable on or off -/
theorem wss_ca_always_verifies (c : ClientCfg) (hp : c.protocol = .wss) (hca : c.trustedCA = true) :
    ∃ ct, clientTls c = some ct ∧ ct.insecureSkipVerify = false ∧ ct.hasRootCAs = true ∧
      ct.serverName = effServerName c :=
  ⟨_, wss_tls_config_ignores_enable c hp, by simp [clientTlsOf, hca], by simp [clientTlsOf, hca],
    by simp [clientTlsOf]⟩

/-- behind the terminator frps sees a plain websocket client: a session iff it does not force TLS -/
theorem behindTerminator_session_iff (s : ServerCfg) (c : ClientCfg) (p : Pki) :
    sessionUp s (behindTerminator c) p = !serverForce s := by
  rw [sessionUp_eq]
  rfl

/-- a wss session through a terminator: the client's verdict on the terminator's certificate under the
    FULL configured tls.Config, and a frps that does not force TLS on the stream it gets -/
theorem wssSessionVia_eq (s : ServerCfg) (c : ClientCfg) (p : Pki) (t : Terminator) :
    wssSessionVia s c p t =
      (terminatorAccepted (clientTlsOf c.certGiven c.trustedCA (effServerName c)) t p && !serverForce s) := by
  simp [wssSessionVia, clientTls, effServerName, behindTerminator_session_iff]

/-- `transport.tls.enable` plays no role for wss -/
theorem wss_tls_enable_irrelevant (s : ServerCfg) (c : ClientCfg) (p : Pki) (t : Terminator) (b : Bool) :
    wssSessionVia s { c with tlsEnable := b } p t = wssSessionVia s c p t := by
  rw [wssSessionVia_eq, wssSessionVia_eq]
  simp [effServerName]

/-- a wss session of a verifying client implies the matching identity (and a non-forcing frps) -/
theorem wss_session_requires_matching_identity (s : ServerCfg) (c : ClientCfg) (p : Pki) (t : Terminator)
    (hca : c.trustedCA = true) (h : wssSessionVia s c p t = true) :
    t.issuer = p.cliRootCA ∧ certMatchesName (t.pki p) (effServerName c) = true ∧ serverForce s = false := by
  have hv : (clientTlsOf c.certGiven c.trustedCA (effServerName c)).insecureSkipVerify = false := by
    rw [hca]
    rfl
  rw [wssSessionVia_eq, terminatorAccepted, serverCertAccepted_verifying _ _ hv] at h
  simpa [Terminator.pki, clientTlsOf, and_assoc] using h

/-- **a wss client given a trusted CA (and a server name, or `serverAddr` by default) refuses an
    endpoint that presents another identity** — a certificate of another CA, or one of the trusted CA
    for another name —, with `transport.tls.enable` true or false -/
theorem wss_client_refuses_other_identity (s : ServerCfg) (c : ClientCfg) (p : Pki) (t : Terminator)
    (hca : c.trustedCA = true)
    (hbad : t.issuer ≠ p.cliRootCA ∨ certMatchesName (t.pki p) (effServerName c) = false) :
    wssSessionVia s c p t = false := by
  cases h : wssSessionVia s c p t
  · rfl
  · obtain ⟨h1, h2, _⟩ := wss_session_requires_matching_identity s c p t hca h
    rcases hbad with hb | hb
    · exact absurd h1 hb
    · rw [h2] at hb; cases hb

/-- executable predicate for one observed wss connection attempt through a terminator: frps answers
    with a frame only for a client the model gives a session -/
def interpretedOkWss (s : ServerCfg) (c : ClientCfg) (p : Pki) (t : Terminator) (interpreted : Bool) : Bool :=
  !interpreted || wssSessionVia s c p t

theorem interpretedOkWss_identity (s : ServerCfg) (c : ClientCfg) (p : Pki) (t : Terminator)
    (hca : c.trustedCA = true) (h : interpretedOkWss s c p t true = true) :
    t.issuer = p.cliRootCA ∧ certMatchesName (t.pki p) (effServerName c) = true :=
  have h' := wss_session_requires_matching_identity s c p t hca h
  ⟨h'.1, h'.2.1⟩

/-! ## D. what crosses the path -/

theorem msgKinds_complete (k : MsgKind) : k ∈ MsgKind.all := by
  cases k <;> decide

theorem msgKinds_count : MsgKind.all.length = 18 := rfl

/-- quantifier elimination over the finite tables (core Lean has no Fintype) -/
instance {P : MsgKind → Prop} [DecidablePred P] : Decidable (∀ k, P k) :=
  decidable_of_iff (∀ k ∈ MsgKind.all, P k)
    ⟨fun h k => h k (msgKinds_complete k), fun h k _ => h k⟩

instance {P : Secret → Prop} [DecidablePred P] : Decidable (∀ s, P s) :=
  decidable_of_iff (P .token ∧ P .sk ∧ P .httpPwd)
    ⟨fun ⟨a, b, c⟩ s => by cases s <;> assumption, fun h => ⟨h _, h _, h _⟩⟩

instance {P : Channel → Prop} [DecidablePred P] : Decidable (∀ c, P c) :=
  decidable_of_iff (P .rawControl ∧ P .control ∧ P .rawWork ∧ P .rawVisitor ∧ P .workStream)
    ⟨fun ⟨a, b, c, d, e⟩ s => by cases s <;> assumption, fun h => ⟨h _, h _, h _, h _, h _⟩⟩

theorem forall_pathCfg {P : PathCfg → Prop}
    (h : ∀ a b c d : Bool, P { tls := a, internal := b, useEncryption := c, tokenEmpty := d }) :
    ∀ cfg, P cfg := fun ⟨a, b, c, d⟩ => h a b c d

/-- **the token never travels in clear**, in any configuration, on any channel (internal included):
    no message type carries it in any form but the digest. -/
theorem token_never_clear : ∀ cfg, clearInChannel cfg .token = false :=
  forall_pathCfg (by decide +kernel)

theorem token_only_digest (k : MsgKind) (f : Form) (h : (Secret.token, f) ∈ carries k) :
    f = .digest := by
  cases f
  · rfl
  · revert k
    decide

/-- **proxy secret keys and HTTP passwords never cross the network path in clear**: the only
    message carrying them (NewProxy) goes through the dispatcher, which on every public listener is
    built over `NewCryptoReadWriter(token)`. -/
theorem secrets_never_clear_on_path : ∀ cfg (s : Secret), clearOnPath cfg s = false :=
  forall_pathCfg (by decide +kernel)

/-- the exact exception: on the in-process ssh-gateway listener (`internal`) the control channel
    has neither TLS nor the cipher, so NewProxy.Sk / HTTPPwd are in clear IN THAT CHANNEL — which is
    a pipe inside frps, not the network path. -/
theorem sk_pwd_clear_in_channel_iff : ∀ cfg,
    (clearInChannel cfg .sk = true ↔ cfg.internal = true) ∧
    (clearInChannel cfg .httpPwd = true ↔ cfg.internal = true) :=
  forall_pathCfg (by decide +kernel)

theorem newProxy_only_clear_carrier (k : MsgKind) (s : Secret) (h : (s, Form.clear) ∈ carries k) :
    k = .newProxy ∧ channel k = .control := by
  revert k s
  decide

/-- **with TLS on the transport nothing is outside TLS**: every message kind and the payload
    stream have the TLS layer; no content and no payload is clear. -/
theorem tls_covers_everything : ∀ cfg, cfg.tls = true → cfg.internal = false →
    (∀ ch, Layer.tls ∈ layers cfg ch) ∧ (∀ k, contentClear cfg k = false) ∧
      payloadClear cfg = false :=
  forall_pathCfg (by decide +kernel)

/-- without TLS: exactly these message kinds are readable on the path — the ones written with
    `msg.WriteMsg` directly on a connection (before / beside the control cipher), plus UDPPacket
    frames when the proxy does not encrypt. -/
theorem clear_kinds_without_tls : ∀ cfg, cfg.tls = false → cfg.internal = false → ∀ k,
    (contentClear cfg k = true ↔
      (k ∈ [MsgKind.login, .loginResp, .newWorkConn, .startWorkConn, .natHoleSid,
            .newVisitorConn, .newVisitorConnResp] ∨ (k = .udpPacket ∧ cfg.useEncryption = false))) :=
  forall_pathCfg (by decide +kernel)

/-- the control cipher covers exactly the dispatcher channel on public listeners -/
theorem ctlCipher_iff : ∀ cfg ch, (Layer.ctlCipher ∈ layers cfg ch ↔
    (ch = .control ∧ cfg.internal = false)) :=
  forall_pathCfg (by decide +kernel)

theorem payloadClear_iff : ∀ cfg, (payloadClear cfg = true ↔
    (cfg.internal = false ∧ cfg.tls = false ∧ cfg.useEncryption = false)) :=
  forall_pathCfg (by decide +kernel)

/-- **proxy encryption hides the payload even without TLS** (layer-level) -/
theorem useEncryption_covers_payload (cfg : PathCfg) (h : cfg.useEncryption = true) :
    payloadClear cfg = false ∧ Layer.proxyCipher ∈ layers cfg .workStream := by
  revert cfg
  exact forall_pathCfg (by decide +kernel)

/-- the enc layer is present on BOTH ends exactly when configured, and the byte-transforming
    layers are in the same order on both ends (enc next to the wire, compression above it);
    only the position of the (transparent) limiter differs -/
theorem enc_layer_both_sides (e c l l' : Bool) :
    (StackLayer.enc ∈ serverStack e c l ↔ e = true) ∧
    (StackLayer.enc ∈ clientStack e c l' ↔ e = true) ∧
    transforming (serverStack e c l) = transforming (clientStack e c l') := by
  revert e c l l'
  decide +kernel

/-- observation (as coded): the two AES-CFB layers are keyed from the token alone.  With an empty
    token and no TLS the secret key / HTTP password of NewProxy are under a cipher whose key is a
    public constant. -/
theorem secretlyProtected_iff : ∀ cfg, cfg.internal = false → ∀ s,
    (secretlyProtected cfg s = true ↔ (s = .token ∨ cfg.tls = true ∨ cfg.tokenEmpty = false)) :=
  forall_pathCfg (by decide +kernel)

theorem emptyToken_witness :
    secretlyProtected { tls := false, internal := false, useEncryption := true, tokenEmpty := true } .sk
      = false := by decide

/-- pkg/auth/token.go: no setter ever leaves anything but the digest (or nothing) -/
theorem authKey_never_clear (k : MsgKind) (h w : Bool) : authKeyField k h w ≠ .clear := by
  revert k h w
  decide

/-! ## E. executable predicate for implementation observations -/

/-- what the recording relay saw: which markers occur in the captured bytes -/
structure WireObs where
  tok : Bool     -- auth token
  sk : Bool      -- stcp secret key
  pwd : Bool     -- http password
  huser : Bool   -- http user (NewProxy content, inside the control channel)
  user : Bool    -- Login.User (control content outside the cipher)
  pay : Bool     -- tunnelled payload
  deriving DecidableEq, Repr

def wireModel (cfg : PathCfg) : WireObs :=
  { tok := clearOnPath cfg .token, sk := clearOnPath cfg .sk, pwd := clearOnPath cfg .httpPwd
  , huser := onNetworkPath cfg && contentClear cfg .newProxy
  , user := onNetworkPath cfg && contentClear cfg .login
  , pay := payloadClear cfg }

/-- marker seen ⇒ the model says clear -/
def HoldsOn (cfg : PathCfg) (o : WireObs) : Prop :=
  o.tok = false ∧ o.sk = false ∧ o.pwd = false ∧
  (o.huser = true → contentClear cfg .newProxy = true) ∧
  (o.user = true → contentClear cfg .login = true) ∧
  (o.pay = true → payloadClear cfg = true)

def holdsOn (cfg : PathCfg) (o : WireObs) : Bool :=
  !o.tok && !o.sk && !o.pwd && (!o.huser || contentClear cfg .newProxy) &&
    (!o.user || contentClear cfg .login) && (!o.pay || payloadClear cfg)

theorem holdsOn_sound (cfg : PathCfg) (o : WireObs) : holdsOn cfg o = true ↔ HoldsOn cfg o := by
  simp only [holdsOn, HoldsOn, Bool.and_eq_true, Bool.or_eq_true, Bool.not_eq_true', and_assoc,
    Decidable.imp_iff_not_or, Bool.not_eq_true]

theorem model_holdsOn : ∀ cfg, holdsOn cfg (wireModel cfg) = true :=
  forall_pathCfg (by decide +kernel)

/-- an observation on a TLS path holds only if no marker at all was seen -/
theorem holdsOn_tls (cfg : PathCfg) (o : WireObs) (ht : cfg.tls = true) (hi : cfg.internal = false)
    (h : holdsOn cfg o = true) :
    o = { tok := false, sk := false, pwd := false, huser := false, user := false, pay := false } := by
  have ⟨_, hc, hp⟩ := tls_covers_everything cfg ht hi
  obtain ⟨a, b, c, d, e, f⟩ := o
  -- with nothing clear (`hc`, `hp`) every conjunct `!seen || clear` of `holdsOn` says `seen = false`
  simp [holdsOn, hc, hp] at h
  simp [h]

/-! ## F. reload histories: the encryption setting a running proxy USES is the one configured NOW

  Model: Frp/Model/WireReload.lean (`Manager.UpdateAll`, `NewWrapper`, a new session after a
  reconnect).  For every start configuration and every sequence of reloads and reconnects. -/
section Reload
open WireReload

theorem lookupLast_some {cfgs : List PxCfg} {n : Nat} {c : PxCfg} (h : lookupLast cfgs n = some c) :
    c.name = n ∧ c ∈ cfgs := by
  unfold lookupLast at h
  have h1 := List.find?_some h
  have h2 := List.mem_of_find?_eq_some h
  exact ⟨by simpa using h1, by simpa using h2⟩

theorem lookupLast_of_mem {cfgs : List PxCfg} {c : PxCfg} (h : c ∈ cfgs) :
    ∃ c', lookupLast cfgs c.name = some c' := by
  have : (lookupLast cfgs c.name).isSome = true := by
    unfold lookupLast
    rw [List.find?_isSome]
    exact ⟨c, by simpa using h, by simp⟩
  exact Option.isSome_iff_exists.mp this

/-- `cfg = proxyCfgsMap[name]` is the entry the delete loop of the NEXT reload will compare with -/
theorem sel_spec {all : List PxCfg} {c : PxCfg} (h : c ∈ all) :
    lookupLast all c.name = some (sel all c) ∧ (sel all c).name = c.name := by
  obtain ⟨c', hc'⟩ := lookupLast_of_mem h
  have : sel all c = c' := by simp [sel, hc']
  rw [this]
  exact ⟨hc', (lookupLast_some hc').1⟩

theorem addLoop_mem {all : List PxCfg} {cs : List PxCfg} : ∀ {ps : List Px} {p : Px},
    p ∈ addLoop all ps cs → p ∈ ps ∨ ∃ c ∈ cs, p = mk (sel all c) := by
  induction cs with
  | nil => exact Or.inl
  | cons d ds ih =>
    intro ps p h
    have tail : (∃ c ∈ ds, p = mk (sel all c)) → ∃ c ∈ d :: ds, p = mk (sel all c) :=
      fun ⟨c, hc, he⟩ => ⟨c, List.mem_cons_of_mem _ hc, he⟩
    unfold addLoop at h
    split at h
    · exact (ih h).imp_right tail
    · rcases ih h with h1 | h1
      · rcases List.mem_append.mp h1 with h2 | h2
        · exact Or.inl h2
        · exact Or.inr ⟨d, List.mem_cons_self, List.mem_singleton.mp h2⟩
      · exact Or.inr (tail h1)

theorem addLoop_sub {all : List PxCfg} {cs : List PxCfg} : ∀ {ps : List Px} {p : Px},
    p ∈ ps → p ∈ addLoop all ps cs := by
  induction cs with
  | nil => exact id
  | cons d ds ih =>
    intro ps p h
    unfold addLoop
    split
    · exact ih h
    · exact ih (List.mem_append_left _ h)

theorem hasName_iff {ps : List Px} {n : Nat} : hasName ps n = true ↔ ∃ p ∈ ps, p.cfg.name = n := by
  simp [hasName]

theorem addLoop_hasName {all : List PxCfg} {cs : List PxCfg} : ∀ {ps : List Px} {c : PxCfg},
    c ∈ cs → (∀ d ∈ cs, (sel all d).name = d.name) → hasName (addLoop all ps cs) c.name = true := by
  induction cs with
  | nil => intro ps c h; cases h
  | cons d ds ih =>
    intro ps c hc hsel
    have hsel' : ∀ e ∈ ds, (sel all e).name = e.name := fun e he => hsel e (List.mem_cons_of_mem _ he)
    unfold addLoop
    rcases List.mem_cons.mp hc with rfl | hc'
    · -- the head's name runs already, or the wrapper made for it is appended; what is there stays
      split
      · rename_i hn
        obtain ⟨p, hp, hpn⟩ := hasName_iff.mp hn
        exact hasName_iff.mpr ⟨p, addLoop_sub hp, hpn⟩
      · exact hasName_iff.mpr ⟨mk (sel all c), addLoop_sub (List.mem_append_right _ List.mem_cons_self),
          hsel c List.mem_cons_self⟩
    · split <;> exact ih hc' hsel'

/-- what holds of an frpc at every moment -/
def Inv (s : St) : Prop :=
  (∀ p ∈ s.running, p.built = p.cfg ∧ lookupLast s.cfgs p.cfg.name = some p.cfg) ∧
  (∀ c ∈ s.cfgs, hasName s.running c.name = true)

/-- one `UpdateAll`: every proxy that runs afterwards — kept or newly made — was BUILT from the entry
    of the new configuration that carries its name, and every configured name runs -/
theorem updateAll_inv (ps : List Px) (cfgs : List PxCfg) (hb : ∀ p ∈ ps, p.built = p.cfg) :
    Inv { cfgs := cfgs, running := updateAll ps cfgs } := by
  constructor
  · intro p hp
    rcases addLoop_mem hp with h | ⟨c, hc, rfl⟩
    · have hf := List.mem_filter.mp h
      exact ⟨hb p hf.1, by simpa [keeps] using hf.2⟩
    · have hs := sel_spec hc
      refine ⟨rfl, ?_⟩
      show lookupLast cfgs (sel cfgs c).name = some (sel cfgs c)
      rw [hs.2]; exact hs.1
  · intro c hc
    exact addLoop_hasName hc (fun d hd => (sel_spec hd).2)

theorem start_inv (cfgs : List PxCfg) : Inv (start cfgs) :=
  updateAll_inv [] cfgs (fun _ h => by cases h)

theorem step_inv (s : St) (e : Ev) (h : Inv s) : Inv (step s e) := by
  cases e with
  | reload cfgs => exact updateAll_inv s.running cfgs (fun p hp => (h.1 p hp).1)
  | reconnect => exact updateAll_inv [] s.cfgs (fun _ h => by cases h)

theorem run_inv (evs : List Ev) : ∀ (s : St), Inv s → Inv (run s evs) :=
  fun _ h => foldl_invariant h fun s e _ => step_inv s e

/-- **in every history** (any start configuration, any sequence of reloads — switching encryption on
    or off, with or without other changes — and reconnects): the configuration a running proxy was
    built from, i.e. the one its work connections are wrapped according to and the one frps was told,
    IS the entry of the configuration in force now. -/
theorem running_built_from_current (cfgs0 : List PxCfg) (evs : List Ev) (p : Px)
    (hp : p ∈ (run (start cfgs0) evs).running) :
    lookupLast (run (start cfgs0) evs).cfgs p.cfg.name = some p.built := by
  have h := (run_inv evs _ (start_inv cfgs0)).1 p hp
  rw [h.1]; exact h.2

theorem every_configured_proxy_runs (cfgs0 : List PxCfg) (evs : List Ev) (c : PxCfg)
    (hc : c ∈ (run (start cfgs0) evs).cfgs) :
    ∃ p ∈ (run (start cfgs0) evs).running, p.cfg.name = c.name :=
  hasName_iff.mp ((run_inv evs _ (start_inv cfgs0)).2 c hc)

/-- **encryption as configured NOW is what the running proxy uses** -/
theorem enc_in_force_is_configured (cfgs0 : List PxCfg) (evs : List Ev) (p : Px) (c : PxCfg)
    (hp : p ∈ (run (start cfgs0) evs).running)
    (hc : lookupLast (run (start cfgs0) evs).cfgs p.cfg.name = some c) :
    p.built.enc = c.enc ∧ p.cfg = c := by
  obtain ⟨hb, hl⟩ := (run_inv evs _ (start_inv cfgs0)).1 p hp
  rw [hc] at hl
  cases hl
  exact ⟨congrArg _ hb, rfl⟩

/-- **when a proxy enables encryption its payload is under the cipher layer — in every history**,
    with or without TLS on the transport -/
theorem reload_enc_payload_never_clear (tls : Bool) (cfgs0 : List PxCfg) (evs : List Ev) (p : Px)
    (c : PxCfg) (hp : p ∈ (run (start cfgs0) evs).running)
    (hc : lookupLast (run (start cfgs0) evs).cfgs p.cfg.name = some c) (he : c.enc = true) :
    payloadClear (pathOf tls p) = false ∧ Layer.proxyCipher ∈ layers (pathOf tls p) .workStream := by
  have h := (enc_in_force_is_configured cfgs0 evs p c hp hc).1
  exact useEncryption_covers_payload (pathOf tls p) (by simp [pathOf, h, he])

/-- executable predicate for one observation after a step of a real frpc: `encNow` = the setting in
    the configuration in force, `seen` = a fresh payload marker showed up in the capture -/
def reloadObsOk (tls encNow seen : Bool) : Bool := !(seen && (tls || encNow))

theorem reloadObsOk_model (tls : Bool) (cfgs0 : List PxCfg) (evs : List Ev) (p : Px) (c : PxCfg)
    (hp : p ∈ (run (start cfgs0) evs).running)
    (hc : lookupLast (run (start cfgs0) evs).cfgs p.cfg.name = some c) :
    reloadObsOk tls c.enc (payloadClear (pathOf tls p)) = true := by
  rw [pathOf, (enc_in_force_is_configured cfgs0 evs p c hp hc).1]
  cases tls <;> cases c.enc <;> rfl

end Reload

/-! ## G. the configuration AS WRITTEN: nothing between the file and the work connection drops the flag

  Model: Frp/Model/WireConfig.lean (`ProxyBaseConfig.Complete`, the plugin options' `Complete`,
  `MarshalToMsg` / `UnmarshalFromMsg`, `NewProxyConfigurerFromMsg`).  For every proxy type, every
  client plugin, every name prefix. -/
section Written
open WireConfig

theorem pxTypes_complete (t : PxType) : t ∈ PxType.all := by cases t <;> decide

theorem plugins_complete (p : Plugin) : p ∈ Plugin.all := by cases p <;> decide

theorem completePlugin_only_http2 (b : Base) : { completePlugin b with enableHTTP2 := b.enableHTTP2 } = b := by
  unfold completePlugin; split <;> rfl

/-- `Complete` leaves useEncryption / useCompression (and type, plugin) exactly as written — for
    every proxy type, plugin and prefix -/
theorem complete_keeps_flags (pfx : Str) (b : Base) :
    (complete pfx b).enc = b.enc ∧ (complete pfx b).comp = b.comp ∧ (complete pfx b).type = b.type ∧
      (complete pfx b).plugin = b.plugin := by
  unfold complete completePlugin; split <;> simp

/-- the ONLY fields `Complete` writes: name, localIP, bandwidthLimitMode, the plugin's enableHTTP2 -/
theorem complete_writes_only (pfx : Str) (b : Base) :
    { complete pfx b with name := b.name, localIP := b.localIP, limitMode := b.limitMode
                        , enableHTTP2 := b.enableHTTP2 } = b := by
  unfold complete completePlugin; split <;> rfl

/-- the NewProxy message carries the two flags unchanged, and frps's configurer reads them back -/
theorem marshal_unmarshal_flags (b : Base) :
    (marshal b).useEncryption = b.enc ∧ (marshal b).useCompression = b.comp ∧
    (unmarshal (marshal b)).enc = b.enc ∧ (unmarshal (marshal b)).comp = b.comp ∧
    (serverCfgOf (marshal b)).enc = b.enc ∧ (serverCfgOf (marshal b)).comp = b.comp := by
  refine ⟨rfl, rfl, rfl, rfl, ?_, ?_⟩
  · exact (complete_keeps_flags [] (unmarshal (marshal b))).1
  · exact (complete_keeps_flags [] (unmarshal (marshal b))).2.1

/-- **both ends wrap exactly when the operator wrote useEncryption** — any type, any plugin -/
theorem written_enc_both_ends (user : Str) (w : Base) :
    clientEnc user w = w.enc ∧ serverEnc user w = w.enc := by
  have h1 := (complete_keeps_flags user w).1
  refine ⟨h1, ?_⟩
  unfold serverEnc loaded
  rw [(marshal_unmarshal_flags (complete user w)).2.2.2.2.1, h1]

theorem pathOfWritten_eq (tls : Bool) (user : Str) (w : Base) :
    pathOfWritten tls user w = { tls := tls, internal := false, useEncryption := w.enc } := by
  have h := written_enc_both_ends user w
  rw [pathOfWritten, h.1, h.2, Bool.and_self]

/-- the payload of a proxy is readable on the path exactly when the transport has no TLS and the
    operator did not write useEncryption -/
theorem written_payload_clear_iff (tls : Bool) (user : Str) (w : Base) :
    payloadClear (pathOfWritten tls user w) = true ↔ (tls = false ∧ w.enc = false) := by
  rw [pathOfWritten_eq, payloadClear_iff]
  simp

/-- **when the WRITTEN configuration of a proxy says useEncryption its payload is under the cipher
    layer, with or without TLS — whatever its type and whatever client plugin it uses** -/
theorem written_enc_payload_never_clear (tls : Bool) (user : Str) (w : Base) (he : w.enc = true) :
    payloadClear (pathOfWritten tls user w) = false ∧
      Layer.proxyCipher ∈ layers (pathOfWritten tls user w) .workStream := by
  exact useEncryption_covers_payload (pathOfWritten tls user w) (by rw [pathOfWritten_eq]; exact he)

/-- **the same over the life of an frpc**: in every history of reloads and reconnects, a running proxy whose
    entry in the configuration in force was loaded (`Complete`) from a written configuration that
    says useEncryption has the cipher layer -/
theorem written_reload_enc_payload_never_clear (tls : Bool) (cfgs0 : List WireReload.PxCfg)
    (evs : List WireReload.Ev) (p : WireReload.Px) (c : WireReload.PxCfg) (user : Str) (w : Base)
    (hp : p ∈ (WireReload.run (WireReload.start cfgs0) evs).running)
    (hc : WireReload.lookupLast (WireReload.run (WireReload.start cfgs0) evs).cfgs p.cfg.name = some c)
    (hw : c.enc = (loaded user w).enc) (he : w.enc = true) :
    payloadClear (WireReload.pathOf tls p) = false ∧
      Layer.proxyCipher ∈ layers (WireReload.pathOf tls p) .workStream :=
  reload_enc_payload_never_clear tls cfgs0 evs p c hp hc
    (by rw [hw]; exact (complete_keeps_flags user w).1.trans he)

/-- executable predicate for one loaded configuration (op `cfgload`): written useEncryption ⇒ the
    loaded configurer, the NewProxy message and frps's configurer all say useEncryption -/
def writtenKeptOk (wEnc lEnc mEnc sEnc : Bool) : Bool := !wEnc || (lEnc && mEnc && sEnc)

theorem writtenKeptOk_model (user : Str) (w : Base) :
    writtenKeptOk w.enc (loaded user w).enc (marshal (loaded user w)).useEncryption
      (serverCfgOf (marshal (loaded user w))).enc = true := by
  have h1 : (loaded user w).enc = w.enc := (complete_keeps_flags user w).1
  have h2 := marshal_unmarshal_flags (loaded user w)
  rw [h2.1, h2.2.2.2.2.1, h1]
  cases w.enc <;> rfl

/-- the rig's observation predicate (`reloadObsOk`) holds of the model for a written configuration -/
theorem writtenObsOk_model (tls : Bool) (user : Str) (w : Base) :
    reloadObsOk tls w.enc (payloadClear (pathOfWritten tls user w)) = true := by
  rw [pathOfWritten_eq]
  cases tls <;> cases w.enc <;> rfl

end Written

/-! ## H. HISTORIES of the TLS files on disk (both sides) and the websocket upgrade request

  frps: the tls.Config of every handshake is the one `NewService` built (no callback, no later write): whatever happens to
  certFile / keyFile / trustedCaFile while frps runs, and whenever the handshake comes, the trusted-CA and force clauses hold.
  frpc: every login attempt builds its tls.Config from the files as they are THEN; an attempt with TLS switched on is a
  TLS connection or no connection at all, never a plain one — whatever the earlier attempts met. -/

section Hist
open WireHist

theorem hist_run_keeps_running (evs : List Ev) : ∀ (s : St), (run s evs).run = s.run :=
  fun s => foldl_invariant (P := fun t : St => t.run = s.run) rfl fun _ e _ h => by cases e <;> exact h

theorem hist_effective_tls_const (l : Listener) (s : St) (evs : List Ev) :
    effectiveTls l (run s evs) = effectiveTls l s := by
  simp [effectiveTls, hist_run_keeps_running]

/-- **every handshake on every public listener at every point of every history** runs with
    RequireAndVerifyClientCert and the CA pool when a trusted CA is configured -/
theorem hist_every_handshake_requires_cert (l : Listener) (s : St) (evs : List Ev) (hl : l.isPublic = true)
    (hca : s.run.cfg.trustedCA = true) :
    ∃ t, effectiveTls l (run s evs) = some t ∧ t.clientAuth = .requireAndVerify ∧ t.hasClientCAs = true := by
  rw [hist_effective_tls_const]
  obtain ⟨t, ht, ha, hc⟩ := listenerTls_clientAuth_iff l s.run.cfg hl
  exact ⟨t, ht, ha.mpr hca, hc.mpr hca⟩

theorem probeUp_run (s : St) (evs : List Ev) (c : ClientCfg) (cli : Option Nat) :
    probeUp (run s evs) c cli = sessionUpOn s.run.cfg c (pkiOf s.run cli) := by
  unfold probeUp
  rw [hist_run_keeps_running]

/-- **trusted CA, for every history**: after any sequence of file replacements and waits, a peer without a
    certificate of the CA frps loaded gets no session on any control transport -/
theorem hist_ca_peer_without_acceptable_cert_uninterpreted (s : St) (evs : List Ev) (c : ClientCfg) (cli : Option Nat)
    (hca : s.run.cfg.trustedCA = true) (hbad : c.certGiven = false ∨ cli ≠ some s.run.clientCA) :
    probeUp (run s evs) c cli = false := by
  rw [probeUp_run]
  cases h : sessionUpOn s.run.cfg c (pkiOf s.run cli)
  · rfl
  · have := ca_session_requires_cert_every_protocol s.run.cfg c (pkiOf s.run cli) hca h
    rcases hbad with hb | hb
    · rw [this.2.1] at hb; cases hb
    · exact absurd this.2.2 hb

/-- **force, for every history**: a peer that does not dial TLS gets no session from a forcing frps -/
theorem hist_force_peer_without_tls_uninterpreted (s : St) (evs : List Ev) (c : ClientCfg) (cli : Option Nat)
    (hf : serverForce s.run.cfg = true) (hp : (clientDial c).tls = false) :
    probeUp (run s evs) c cli = false := by
  rw [probeUp_run]
  cases h : sessionUpOn s.run.cfg c (pkiOf s.run cli)
  · rfl
  · have := force_session_requires_tls_every_protocol s.run.cfg c (pkiOf s.run cli) hf h
    rw [this] at hp; cases hp

/-- executable predicate for one probe of a rig: an answer from frps only for a peer the rules allow -/
def histObsOk (s : St) (c : ClientCfg) (cli : Option Nat) (interpreted : Bool) : Bool :=
  !interpreted || probeUp s c cli

theorem histObsOk_sound (s : St) (evs : List Ev) (c : ClientCfg) (cli : Option Nat)
    (h : histObsOk (run s evs) c cli true = true) :
    (s.run.cfg.trustedCA = true → c.tlsEnable = true ∧ c.certGiven = true ∧ cli = some s.run.clientCA) ∧
    (serverForce s.run.cfg = true → (clientDial c).tls = true) := by
  have hs : sessionUpOn s.run.cfg c (pkiOf s.run cli) = true := probeUp_run s evs c cli ▸ h
  exact ⟨fun hca => ca_session_requires_cert_every_protocol s.run.cfg c (pkiOf s.run cli) hca hs,
         fun hf => force_session_requires_tls_every_protocol s.run.cfg c (pkiOf s.run cli) hf hs⟩

/-- `NewService` keeps the configuration and loads the CA that is on disk at that moment -/
theorem start_loads_disk (cfg : ServerCfg) (d : SrvDisk) (r : Running) (h : start cfg d = some r) :
    r.cfg = cfg ∧ (cfg.trustedCA = true → d.caEmpty = false → d.ca = some r.clientCA) ∧
      (cfg.certGiven = true → r.certIssuer = d.certIssuer ∧ d.certIssuer.isSome = true) := by
  unfold start at h
  split at h
  · cases h
  split at h
  · cases h
  -- neither guard fired: the configured files were there
  rename_i hcert hca
  obtain rfl := Option.some.inj h
  refine ⟨rfl, fun ht he => ?_, fun hc => ?_⟩
  · -- a configured CA file that is missing (and not merely empty) stops the second guard
    cases hd : d.ca with
    | none => rw [ht, he, hd] at hca; exact absurd rfl hca
    | some x => simp [ht, he]
  · -- a configured pair that does not load stops the first guard
    cases hd : d.certIssuer with
    | none => rw [hc, hd] at hcert; exact absurd rfl hcert
    | some x => simp [hc]

/-- a construction site is sound iff a CA pool never comes without the demand for a verified certificate -/
theorem site_sound_iff (x : Site) : x.sound = true ↔ (x.setsClientCAs = true → x.setsRequire = true) := by
  cases x with | mk a b => cases a <;> cases b <;> simp [Site.sound]

/-- **an attempt with TLS switched on never dials a plain connection**, whatever is on disk -/
theorem attempt_never_plain (c : ClientCfg) (d : CliDisk) (h : c.tlsEnable = true) : attempt c d ≠ .plainConn := by
  unfold attempt
  simp only [h, Bool.true_or, if_true]
  cases build c.certGiven c.trustedCA (effServerName c) d <;> simp

/-- **no attempt of a retry history with TLS switched on dials a plain connection** -/
theorem attempts_never_plain (c : ClientCfg) (ds : List CliDisk) (h : c.tlsEnable = true) :
    ∀ a ∈ attempts c ds, a ≠ .plainConn := by
  intro a ha
  simp only [attempts, List.mem_map] at ha
  obtain ⟨d, _, rfl⟩ := ha
  exact attempt_never_plain c d h

theorem attempt_memoryless (c : ClientCfg) (ds : List CliDisk) (d : CliDisk) :
    (attempts c (ds ++ [d])).getLast? = some (attempt c d) := by
  simp [attempts]

theorem build_eq_err_iff (cert ca : Bool) (sn : Str) (d : CliDisk) :
    build cert ca sn d = .err ↔ (cert = true ∧ d.pair ≠ .ok) ∨ (ca = true ∧ d.ca = .gone) := by
  unfold build
  by_cases h1 : cert = true ∧ d.pair ≠ .ok
  · simp [h1.1, h1.2]
  by_cases h2 : ca = true ∧ d.ca = .gone
  · simp [h2.1, h2.2]
  · simp [h1, h2]

/-- no connection is dialled exactly when a configured file cannot be loaded -/
theorem attempt_noConn_iff (c : ClientCfg) (d : CliDisk) (h : c.tlsEnable = true) :
    attempt c d = .noConn ↔ (c.certGiven = true ∧ d.pair ≠ .ok) ∨ (c.trustedCA = true ∧ d.ca = .gone) := by
  unfold attempt
  rw [h, Bool.true_or, if_pos rfl, ← build_eq_err_iff _ _ (effServerName c)]
  cases build c.certGiven c.trustedCA (effServerName c) d <;> simp

/-- a verifying attempt against a readable but empty CA file is a TLS connection the client itself refuses -/
theorem attempt_empty_ca_refuses (c : ClientCfg) (d : CliDisk) (h : c.tlsEnable = true) (hca : c.trustedCA = true)
    (hp : c.certGiven = false ∨ d.pair = .ok) (he : d.ca = .empty) : attempt c d = .tlsConn false := by
  unfold attempt build
  rcases hp with hp | hp <;> simp [h, hca, hp, he, clientTlsOf]

/-- executable predicate on the relay's own observation of one attempt: with TLS switched on no connection carried
    client bytes outside a TLS record stream and the marker of the Login is not readable -/
def loginObsOk (tls clear seen : Bool) : Bool := !tls || (!clear && !seen)

theorem loginObsOk_model (c : ClientCfg) (ds : List CliDisk) (a : Attempt) (ha : a ∈ attempts c ds) :
    loginObsOk c.tlsEnable (a == .plainConn) (a == .plainConn) = true := by
  cases ht : c.tlsEnable
  · simp [loginObsOk]
  · have hne := attempts_never_plain c ds ht a ha
    cases a
    case plainConn => exact absurd rfl hne
    all_goals rfl

/-- the upgrade request of a websocket peer is not an input: the reply is the one of a raw peer -/
theorem wsPeerReply_eq_rawReply (s : ServerCfg) (hdrs : List (Str × Str)) (b : Nat) :
    wsPeerReply s hdrs b = rawReply s b := rfl

theorem ws_headers_irrelevant (s : ServerCfg) (h h' : List (Str × Str)) (b : Nat) :
    wsPeerReply s h b = wsPeerReply s h' b := rfl

/-- **force, websocket peers**: whatever request headers a peer without TLS sends with its upgrade, a forcing frps
    interprets nothing of what follows -/
theorem ws_forced_peer_uninterpreted (s : ServerCfg) (hdrs : List (Str × Str)) (b : Nat)
    (h : serverForce s = true) : wsPeerReply s hdrs b = none := by
  rw [wsPeerReply_eq_rawReply]
  exact (forced_plain_peer_uninterpreted s b h).2

end Hist

/-! ## I. facts regenerated from the source on every run (translate/gen_authfacts.go → Frp/Gen/AuthFacts.lean)

  These are checked against what the Go files say NOW; a change of the code changes the generated
  file and the theorem stops type-checking. -/
section Generated
open Gen.AuthFacts

/-- pkg/auth/token.go: each setter assigns PrivilegeKey exactly once, the right-hand side is
    `util.GetAuthKey(auth.token, <msg>.Timestamp)`, `auth.token` occurs nowhere else in the setter,
    and the only other field written is Timestamp. -/
theorem gen_setters_only_digest :
    setters.map (·.fn) = ["SetLogin", "SetPing", "SetNewWorkConn"] ∧
    setters.all (fun s => s.allDigest && s.keyAssigns.length == 1 && s.tokenUses == 1 &&
      s.tokenUsesInDigest == 1 && s.otherFieldWrites.all (· == "Timestamp")) = true :=
  ⟨rfl, by decide +kernel⟩

def kindOfSetter : String → MsgKind
  | "SetPing" => .ping
  | "SetNewWorkConn" => .newWorkConn
  | _ => .login

/-- the scope guards are the ones `authKeyField` models: the field is the digest under the scope
    the setter checks, and (for guarded setters) empty without it -/
theorem gen_setters_match_model :
    setters.map (fun s => (s.fn, s.scopeGuard)) =
      [("SetLogin", ""), ("SetPing", "v1.AuthScopeHeartBeats"),
       ("SetNewWorkConn", "v1.AuthScopeNewWorkConns")] ∧
    (∀ hb wc, authKeyField .login hb wc = .digest) ∧
    (∀ hb wc, authKeyField .ping hb wc = if hb then .digest else .empty) ∧
    (∀ hb wc, authKeyField .newWorkConn hb wc = if wc then .digest else .empty) := by
  refine ⟨rfl, fun _ _ => rfl, fun hb _ => ?_, fun _ wc => ?_⟩
  · cases hb <;> rfl
  · cases wc <;> rfl

/-- both ends build the dispatcher over `NewCryptoReadWriter(conn, token)` exactly under the
    encrypted flag, over the raw connection otherwise; the server passes `!internal` -/
theorem gen_control_wrap :
    serverCtl = { cond := "ctlConnEncrypted"
                , thenCryptoCall := "netpkg.NewCryptoReadWriter(ctl.conn, []byte(ctl.serverCfg.Auth.Token))"
                , thenDispatcherArg := "cryptoRW", elseDispatcherArg := "ctl.conn" } ∧
    clientCtl = { cond := "sessionCtx.ConnEncrypted"
                , thenCryptoCall := "netpkg.NewCryptoReadWriter(sessionCtx.Conn, []byte(sessionCtx.Common.Auth.Token))"
                , thenDispatcherArg := "cryptoRW", elseDispatcherArg := "sessionCtx.Conn" } ∧
    registerControlEncArgs = ["!internal"] ∧
    (∀ internal, controlEncrypted internal = !internal) :=
  ⟨rfl, rfl, rfl, fun _ => rfl⟩

/-- the only listener served with `internal = true` is the in-process ssh-gateway listener -/
theorem gen_listeners :
    listeners = ["svr.kcpListener false", "svr.listener false", "svr.sshTunnelListener true",
                 "svr.tlsListener false", "svr.websocketListener false"] :=
  rfl

/-- the sniff switch has the modelled shape and constants -/
theorem gen_sniff :
    frpTLSHeadByte = 0x17 ∧ (∀ f, sniff frpTLSHeadByte f = .customTLS) ∧
    sniffCases =
      ["n == 1 && int(buf[0]) == FRPTLSHeadByte => tls.Server(c, tlsConfig)",
       "n == 1 && int(buf[0]) == 0x16 => tls.Server(sc, tlsConfig)",
       "default: if tlsOnly { err = fmt.Errorf(\"non-TLS connection received on a TlsOnly server\") return }; out = sc;"] :=
  ⟨rfl, fun _ => rfl, rfl⟩

def kindName : MsgKind → String
  | .login => "Login" | .loginResp => "LoginResp" | .newProxy => "NewProxy"
  | .newProxyResp => "NewProxyResp" | .closeProxy => "CloseProxy" | .newWorkConn => "NewWorkConn"
  | .reqWorkConn => "ReqWorkConn" | .startWorkConn => "StartWorkConn"
  | .newVisitorConn => "NewVisitorConn" | .newVisitorConnResp => "NewVisitorConnResp"
  | .ping => "Ping" | .pong => "Pong" | .udpPacket => "UDPPacket"
  | .natHoleVisitor => "NatHoleVisitor" | .natHoleClient => "NatHoleClient"
  | .natHoleResp => "NatHoleResp" | .natHoleSid => "NatHoleSid" | .natHoleReport => "NatHoleReport"

def fieldName : Secret × Form → String
  | (.token, _) => "PrivilegeKey"
  | (.sk, .digest) => "SignKey"
  | (.sk, .clear) => "Sk"
  | (.httpPwd, _) => "HTTPPwd"

/-- the 18 registered message types, in registry order, have exactly the secret-derived fields the
    model's `carries` table lists (no other message has a PrivilegeKey / SignKey / Sk / HTTPPwd) -/
theorem gen_secretFields_match_carries :
    secretFields = MsgKind.all.map (fun k => (kindName k, (carries k).map fieldName)) :=
  rfl

/-- visitors put only `GetAuthKey(secretKey, now)` into NewVisitorConn.SignKey, and the secret key
    is otherwise used only as a cipher key (WithEncryption / the peer-to-peer MakeHole) -/
theorem gen_visitors :
    visitorSignKeys = ["stcp.go: util.GetAuthKey(sv.cfg.SecretKey, now)",
                       "sudp.go: util.GetAuthKey(sv.cfg.SecretKey, now)"] ∧
    visitorSecretKeyUses = ["stcp.go: libio.WithEncryption", "stcp.go: util.GetAuthKey",
      "sudp.go: libio.WithEncryption", "sudp.go: util.GetAuthKey", "xtcp.go: libio.WithEncryption",
      "xtcp.go: nathole.MakeHole", "xtcp.go: util.GetAuthKey"] :=
  ⟨rfl, rfl⟩

/-- server/service.go: the listeners are served the way `Listener.gate` says — five sniffed /
    internal `HandleListener` calls and the QUIC listener through `HandleQUICListener`, whose streams
    go to `handleConnection(…, false)` with no sniff in between; the one sniff call uses
    `svr.tlsConfig` and the completed `Force`, under `!internal` -/
theorem gen_listener_handlers :
    listenerHandlers =
      ["HandleListener svr.kcpListener false", "HandleListener svr.listener false",
       "HandleListener svr.sshTunnelListener true", "HandleListener svr.tlsListener false",
       "HandleListener svr.websocketListener false", "HandleQUICListener svr.quicListener"] ∧
    handleConnectionCalls =
      ["HandleListener: frpConn internal", "HandleListener: stream internal",
       "HandleQUICListener: netpkg.QuicStreamToNetConn(stream, frpConn) false"] ∧
    sniffCalls = ["HandleListener: c, svr.tlsConfig, forceTLS, connReadTimeout"] ∧
    forceTLSIs = ["svr.cfg.Transport.TLS.Force"] ∧ sniffGuard = ["for && !internal"] ∧
    Listener.all.map Listener.gate = [.sniff, .sniff, .sniff, .sniff, .quicTls, .internal] :=
  ⟨rfl, rfl, rfl, rfl, rfl, rfl⟩

/-- NewService: `svr.tlsConfig` is the unmodified result of `NewServerTLSConfig(cert, key, trustedCa)`;
    the config handed to `quic.ListenAddr` is a `Clone()` of that same value on which nothing but
    `NextProtos` is written — which is what `quicServerTls` says -/
theorem gen_quic_tls :
    serviceTLS = { name := "tlsConfig"
                 , inits := ["transport.NewServerTLSConfig( cfg.Transport.TLS.CertFile, cfg.Transport.TLS.KeyFile, cfg.Transport.TLS.TrustedCaFile)"]
                 , writes := [] } ∧
    serviceTLSLaterWrites = [] ∧
    quicTLS.inits = [serviceTLS.name ++ ".Clone()"] ∧
    quicTLS.writes = ["NextProtos = []string{\"frp\"}"] ∧
    frpALPN = Str.ofString "frp" ∧
    (∀ s, quicServerTls s = { (serverTls s).clone with nextProtos := [frpALPN] }) :=
  ⟨rfl, rfl, by decide +kernel, rfl, by decide +kernel, fun _ => rfl⟩

/-- pkg/transport/tls.go NewServerTLSConfig: starts from an empty config, always sets a certificate
    (random iff cert or key path is empty), and sets RequireAndVerifyClientCert + ClientCAs exactly
    under `caPath != ""` — `serverTlsOf` -/
theorem gen_server_tls_config :
    newServerTLSParams = ["certPath", "keyPath", "caPath"] ∧
    newServerTLS =
      { name := "base", inits := ["&tls.Config{}"]
      , writes := ["certPath == \"\" || keyPath == \"\": Certificates = []tls.Certificate{*cert}",
                   "!(certPath == \"\" || keyPath == \"\"): Certificates = []tls.Certificate{*cert}",
                   "caPath != \"\": ClientAuth = tls.RequireAndVerifyClientCert",
                   "caPath != \"\": ClientCAs = pool"] } ∧
    (∀ cert ca, serverTlsOf cert ca =
      { clientAuth := if ca then .requireAndVerify else .noClientCert, hasClientCAs := ca
      , randomCert := !cert, nextProtos := [] }) :=
  ⟨rfl, rfl, fun _ _ => rfl⟩

/-- client/connector.go Open (quic): the configured config iff tls.enable, else one with no
    certificate / CA; then NextProtos — `clientTls` for `.quic` -/
theorem gen_client_quic_tls :
    clientQuicTLS =
      { name := "tlsConfig"
      , inits := ["lo.FromPtr(c.cfg.Transport.TLS.Enable): transport.NewClientTLSConfig( c.cfg.Transport.TLS.CertFile, c.cfg.Transport.TLS.KeyFile, c.cfg.Transport.TLS.TrustedCaFile, sn)",
                  "!(lo.FromPtr(c.cfg.Transport.TLS.Enable)): transport.NewClientTLSConfig(\"\", \"\", \"\", sn)"]
      , writes := ["NextProtos = []string{\"frp\"}"] } ∧
    (∀ c : ClientCfg, c.protocol = .quic → clientTls c =
      some { clientTlsOf (c.tlsEnable && c.certGiven) (c.tlsEnable && c.trustedCA) (effServerName c)
             with nextProtos := [frpALPN] }) := by
  refine ⟨rfl, fun c hp => ?_⟩
  cases ht : c.tlsEnable <;> simp [clientTls, hp, ht]

/-- pkg/transport/tls.go NewClientTLSConfig: starts from an empty config; `ServerName` is the parameter,
    unconditionally; `RootCAs` + `InsecureSkipVerify = false` exactly under `caPath != ""`,
    `InsecureSkipVerify = true` exactly otherwise; NO other field (no verification callback, no
    name-dependent branch) is written — `clientTlsOf` -/
theorem gen_client_tls_config :
    newClientTLSParams = ["certPath", "keyPath", "caPath", "serverName"] ∧
    newClientTLS =
      { name := "base", inits := ["&tls.Config{}"]
      , writes := ["certPath != \"\" && keyPath != \"\": Certificates = []tls.Certificate{*cert}",
                   "ServerName = serverName",
                   "caPath != \"\": RootCAs = pool",
                   "caPath != \"\": InsecureSkipVerify = false",
                   "!(caPath != \"\"): InsecureSkipVerify = true"] } ∧
    (∀ cert ca sn, clientTlsOf cert ca sn =
      { insecureSkipVerify := !ca, serverName := sn, hasRootCAs := ca, hasCert := cert, nextProtos := [] }) :=
  ⟨rfl, rfl, fun _ _ _ => rfl⟩

/-- client/connector.go: the three NewClientTLSConfig calls get `sn`, which is the configured server
    name, or `serverAddr` when that is empty — `effServerName`; the config of the tcp / kcp /
    websocket / wss dial is that call's result with no field written afterwards -/
theorem gen_connector_server_name :
    clientTLSCalls =
      ["Open: \"\", \"\", \"\", sn",
       "Open: c.cfg.Transport.TLS.CertFile, c.cfg.Transport.TLS.KeyFile, c.cfg.Transport.TLS.TrustedCaFile, sn",
       "realConnect: c.cfg.Transport.TLS.CertFile, c.cfg.Transport.TLS.KeyFile, c.cfg.Transport.TLS.TrustedCaFile, sn"] ∧
    clientServerNames =
      ["Open: sn <- c.cfg.Transport.TLS.ServerName | sn == \"\": c.cfg.ServerAddr",
       "realConnect: sn <- c.cfg.Transport.TLS.ServerName | sn == \"\": c.cfg.ServerAddr"] ∧
    clientDialTLS =
      { name := "tlsConfig"
      , inits := ["tlsEnable: transport.NewClientTLSConfig( c.cfg.Transport.TLS.CertFile, c.cfg.Transport.TLS.KeyFile, c.cfg.Transport.TLS.TrustedCaFile, sn)"]
      , writes := [] } ∧
    (∀ c : ClientCfg, effServerName c = if c.serverName = [] then c.serverAddr else c.serverName) :=
  ⟨rfl, rfl, rfl, fun _ => rfl⟩

/-- client/proxy: a reload drops a running proxy exactly under `!ok || !reflect.DeepEqual(pxy.Cfg, cfg)`
    (nothing is "applied in place": the only calls made on a wrapper are Stop on a dropped one and
    SetInWorkConnCallback / Start on a new one); `Wrapper.Cfg` is set by NewWrapper's literal and never
    written again, the proxy object is made from that same `pw.Cfg`, `BaseProxy.baseCfg` is its base
    configuration and never written again — `WireReload.keeps`, `WireReload.mk` -/
theorem gen_reload_compare :
    reloadDel = ["for: false", "for && !ok || !reflect.DeepEqual(pxy.Cfg, cfg): true"] ∧
    reloadWrapperCalls =
      ["for && del: pxy.Stop()",
       "for && !ok && pm.inWorkConnCallback != nil: pxy.SetInWorkConnCallback(pm.inWorkConnCallback)",
       "for && !ok: pxy.Start()"] ∧
    wrapperCfgWrites = [] ∧ wrapperCfgInit = ["proxy_wrapper.go NewWrapper: cfg"] ∧
    newProxyCalls = ["proxy_wrapper.go NewWrapper: pw.ctx, pw.Cfg, clientCfg, pw.msgTransporter, pw.vnetController"] ∧
    baseCfgInit = ["proxy.go NewProxy: pxyConf.GetBaseConfig()"] ∧
    (∀ c, (WireReload.mk c).built = (WireReload.mk c).cfg) ∧
    (∀ cfgs p, WireReload.keeps cfgs p = (WireReload.lookupLast cfgs p.cfg.name == some p.cfg)) :=
  ⟨rfl, rfl, rfl, rfl, rfl, rfl, fun _ => rfl, fun _ _ => rfl⟩

/-- every `libio.WithEncryption` wrap on the frpc↔frps work connection — three on the client side,
    three on the server side — sits directly under the `Transport.UseEncryption` of the configuration
    the proxy object holds -/
theorem gen_enc_wrap_conditions :
    encWrapConds =
      ["client/proxy/proxy.go HandleTCPWorkConnection: baseCfg.Transport.UseEncryption",
       "client/proxy/sudp.go InWorkConn: pxy.cfg.Transport.UseEncryption",
       "client/proxy/udp.go InWorkConn: pxy.cfg.Transport.UseEncryption",
       "server/proxy/http.go GetRealConn: pxy.cfg.Transport.UseEncryption",
       "server/proxy/proxy.go handleUserTCPConnection: cfg.Transport.UseEncryption",
       "server/proxy/udp.go Run: pxy.cfg.Transport.UseEncryption"] :=
  rfl

/-- pkg/config/v1: the proxy configurers have ONE `Complete` (ProxyBaseConfig's, no per-type override); it
    assigns exactly Name, LocalIP and Transport.BandwidthLimitMode, calls nothing but the plugin options'
    `Complete()`, takes no address of its fields; the only plugin option methods with a body write
    EnableHTTP2; `MarshalToMsg` / `UnmarshalFromMsg` copy the two flags; the client loader and
    `NewProxyConfigurerFromMsg` call Complete as modelled.  So: **the encryption flags are not among the
    fields Complete writes** (no written path is `Transport.UseEncryption` / `Transport.UseCompression`
    or a prefix of them) — `WireConfig.complete` -/
theorem gen_proxy_complete :
    proxyCompleteImpls = ["proxy.go ProxyBaseConfig"] ∧
    proxyCompleteWrites =
      ["Name = lo.Ternary(namePrefix == \"\", \"\", namePrefix+\".\") + c.Name",
       "LocalIP = util.EmptyOr(c.LocalIP, \"127.0.0.1\")",
       "Transport.BandwidthLimitMode = util.EmptyOr(c.Transport.BandwidthLimitMode, types.BandwidthLimitModeClient)"] ∧
    proxyCompleteCalls = ["c.Plugin.ClientPluginOptions != nil: c.Plugin.ClientPluginOptions.Complete()"] ∧
    proxyCompleteAddrTaken = [] ∧
    (∀ p ∈ proxyCompleteWrittenPaths,
      p ∉ ["", "Transport", "Transport.UseEncryption", "Transport.UseCompression"]) ∧
    pluginCompleteStmts =
      ["HTTPS2HTTPPluginOptions: o.EnableHTTP2 = util.EmptyOr(o.EnableHTTP2, lo.ToPtr(true))",
       "HTTPS2HTTPSPluginOptions: o.EnableHTTP2 = util.EmptyOr(o.EnableHTTP2, lo.ToPtr(true))"] ∧
    proxyMsgFlagStmts =
      ["MarshalToMsg: m.UseEncryption = c.Transport.UseEncryption",
       "MarshalToMsg: m.UseCompression = c.Transport.UseCompression",
       "UnmarshalFromMsg: c.Transport.UseEncryption = m.UseEncryption",
       "UnmarshalFromMsg: c.Transport.UseCompression = m.UseCompression"] ∧
    loaderCompleteCalls =
      ["LoadClientConfig: cliCfg != nil: cliCfg.Complete()", "LoadClientConfig: for: c.Complete(cliCfg.User)",
       "LoadClientConfig: for: c.Complete(cliCfg)", "NewProxyConfigurerFromMsg: configurer.UnmarshalFromMsg(m)",
       "NewProxyConfigurerFromMsg: configurer.Complete(\"\")"] ∧
    proxyTypes = WireConfig.PxType.all.map WireConfig.PxType.name ∧
    "none" :: clientPluginTypes = WireConfig.Plugin.all.map WireConfig.Plugin.name ∧
    pluginCompleteImpls.length + 1 = WireConfig.Plugin.all.length ∧
    (∀ pfx b, (WireConfig.complete pfx b).enc = b.enc ∧ (WireConfig.complete pfx b).comp = b.comp) := by
  refine ⟨rfl, rfl, rfl, rfl, by decide +kernel, rfl, rfl, rfl, rfl, rfl, rfl, fun pfx b => ?_⟩
  exact ⟨(complete_keeps_flags pfx b).1, (complete_keeps_flags pfx b).2.1⟩

/-- pkg/config/v1/visitor.go: the visitors' `Complete` (the stcp / sudp / xtcp visitor leg has its own
    transport.useEncryption) write the bind address, the two names and the xtcp retry / fallback defaults —
    nothing of `Transport` -/
theorem gen_visitor_complete :
    visitorCompleteWrites =
      ["VisitorBaseConfig: BindAddr", "VisitorBaseConfig: Name", "VisitorBaseConfig: ServerName",
       "VisitorBaseConfig: ServerName", "XTCPVisitorConfig: Protocol", "XTCPVisitorConfig: MaxRetriesAnHour",
       "XTCPVisitorConfig: MinRetryInterval", "XTCPVisitorConfig: FallbackTimeoutMs", "XTCPVisitorConfig: FallbackTo",
       "XTCPVisitorConfig: call c.VisitorBaseConfig.Complete(g)"] ∧
    (∀ x ∈ visitorCompleteWrites, ∀ r ∈ ["VisitorBaseConfig: ", "XTCPVisitorConfig: "],
      x ∉ [r, r ++ "Transport", r ++ "Transport.UseEncryption", r ++ "Transport.UseCompression",
           r ++ "VisitorBaseConfig", r ++ "VisitorBaseConfig.Transport"]) :=
  ⟨rfl, by decide +kernel⟩

/-- client/connector.go realConnect: a tls.Config is built under `tlsEnable`, which is
    `transport.tls.enable` and is set to true for wss — `tlsRequired`, `clientTls`; the wss dial runs the
    TLS hook (priority 100) with that config before the websocket hook (priority 110) and installs no
    custom-byte hook — `clientHooks` -/
theorem gen_connector_tls_required :
    clientDialTLSEnable =
      { name := "tlsEnable"
      , inits := ["lo.FromPtr(c.cfg.Transport.TLS.Enable)", "c.cfg.Transport.Protocol == \"wss\": true"]
      , writes := [] } ∧
    clientDialOptions =
      ["case \"websocket\": libnet.WithAfterHook(libnet.AfterHook{Hook: netpkg.DialHookWebsocket(protocol, \"\")})",
       "case \"websocket\": libnet.WithAfterHook(libnet.AfterHook{ Hook: netpkg.DialHookCustomTLSHeadByte(tlsConfig != nil, lo.FromPtr(c.cfg.Transport.TLS.DisableCustomTLSFirstByte)), })",
       "case \"websocket\": libnet.WithTLSConfig(tlsConfig)",
       "case \"wss\": libnet.WithTLSConfigAndPriority(100, tlsConfig)",
       "case \"wss\": libnet.WithAfterHook(libnet.AfterHook{Hook: netpkg.DialHookWebsocket(protocol, tlsConfig.ServerName), Priority: 110})",
       "default: libnet.WithAfterHook(libnet.AfterHook{ Hook: netpkg.DialHookCustomTLSHeadByte(tlsConfig != nil, lo.FromPtr(c.cfg.Transport.TLS.DisableCustomTLSFirstByte)), })",
       "default: libnet.WithTLSConfig(tlsConfig)"] ∧
    (∀ c : ClientCfg, (clientTls c).isSome = (c.tlsEnable || tlsRequired c.protocol)) ∧
    (∀ c : ClientCfg, c.protocol = .wss →
      clientTls c = some (clientTlsOf c.certGiven c.trustedCA (effServerName c)) ∧
      clientHooks c = [.tls, .websocket]) := by
  refine ⟨rfl, rfl, clientTls_isSome_iff, fun c hp => ?_⟩
  exact ⟨wss_tls_config_ignores_enable c hp, by simp [clientHooks, hp]⟩

/-- the policy fields a function writes, read as a `WireHist.Site` -/
def siteOf (fs : List (String × String)) : WireHist.Site :=
  { setsClientCAs := fs.any fun p => p.1 == "ClientCAs"
  , setsRequire := fs.contains ("ClientAuth", "tls.RequireAndVerifyClientCert") }

/-- census of pkg/transport, pkg/util/net, server/**, client/**: the only functions that build a `tls.Config` or write one
    of its policy fields are `NewServerTLSConfig` and `NewClientTLSConfig`; every site that sets `ClientCAs` sets
    `ClientAuth = RequireAndVerifyClientCert` beside it; NO crypto/tls callback (GetConfigForClient, GetCertificate,
    VerifyPeerCertificate, …) is installed anywhere, so no handshake runs with a config built elsewhere; inside `NewService`
    the server's config is only stored in `Service.tlsConfig`, cloned, given `NextProtos` and handed to `quic.ListenAddr`;
    pkg/transport keeps no package-level state between calls (every call of `NewClientTLSConfig` reads the files) —
    `WireHist.effectiveTls`, `WireHist.attempt` -/
theorem gen_tls_census :
    tlsSites =
      [ ("pkg/transport/tls.go NewServerTLSConfig", [("ClientAuth", "tls.RequireAndVerifyClientCert"), ("ClientCAs", "pool")])
      , ("pkg/transport/tls.go NewClientTLSConfig",
          [("RootCAs", "pool"), ("InsecureSkipVerify", "false"), ("InsecureSkipVerify", "true")]) ] ∧
    (tlsSites.all fun x => (siteOf x.2).sound) = true ∧
    tlsCallbacks = [] ∧
    serviceTLSUses =
      ["tlsConfig: defined", "tlsConfig: field tlsConfig", "quicTLSCfg: defined", "tlsConfig: call .Clone()",
       "quicTLSCfg: write .NextProtos", "quicTLSCfg: argument of quic.ListenAddr"] ∧
    transportPkgVars = [] :=
  ⟨rfl, by decide +kernel, rfl, rfl, rfl⟩

end Generated

/-! ## Non-vacuity -/

-- a forcing server exists through the CA alone; all 256 bytes are classified
example : serverForce { force := false, trustedCA := true, certGiven := true } = true := rfl
example : (List.range 256).all (fun b => sniff b true != .plain) = true := by decide +kernel
example : ((List.range 256).filter (fun b => sniff b false == .plain)).length = 254 := by
  decide +kernel
-- a mutual-TLS session that comes up, and one refused for the name only
example : sessionUp { force := false, trustedCA := true, certGiven := true }
    { tlsEnable := true, disableCustomFirstByte := true, trustedCA := true, certGiven := true
    , serverName := [102], serverAddr := [49] }
    { srvCertIssuer := some 1, srvCertDNS := [[102]], cliRootCA := 1, cliCertIssuer := some 1
    , srvClientCA := 1 } = true := by decide
example : sessionUp { force := false, trustedCA := true, certGiven := true }
    { tlsEnable := true, disableCustomFirstByte := true, trustedCA := true, certGiven := true
    , serverName := [103], serverAddr := [49] }
    { srvCertIssuer := some 1, srvCertDNS := [[102]], cliRootCA := 1, cliCertIssuer := some 1
    , srvClientCA := 1 } = false := by decide
-- QUIC: a mutual-TLS session that comes up, and the same peers with a certificate of another CA /
-- with no certificate: refused; force plays no role
example : sessionUpOn { force := false, trustedCA := true, certGiven := true }
    { tlsEnable := true, disableCustomFirstByte := true, protocol := .quic, trustedCA := false
    , certGiven := true, serverName := [], serverAddr := [49] }
    { srvCertIssuer := some 1, cliCertIssuer := some 1, srvClientCA := 1 } = true := by decide
example : sessionUpOn { force := false, trustedCA := true, certGiven := true }
    { tlsEnable := true, disableCustomFirstByte := true, protocol := .quic, trustedCA := false
    , certGiven := true, serverName := [], serverAddr := [49] }
    { srvCertIssuer := some 1, cliCertIssuer := some 2, srvClientCA := 1 } = false := by decide
example : sessionUpOn { force := true, trustedCA := false, certGiven := false }
    { tlsEnable := false, disableCustomFirstByte := true, protocol := .quic, trustedCA := false
    , certGiven := false, serverName := [], serverAddr := [49] } {} = true := by decide
example : (Listener.all.filter Listener.isPublic).length = 5 := rfl
-- the payload IS clear in some configuration (the predicate is not trivially false/true)
example : payloadClear { tls := false, internal := false, useEncryption := false } = true := rfl
example : holdsOn { tls := false, internal := false, useEncryption := true }
    { tok := false, sk := false, pwd := false, huser := false, user := true, pay := true } = false := rfl
example : holdsOn { tls := false, internal := false, useEncryption := false }
    { tok := false, sk := false, pwd := false, huser := false, user := true, pay := true } = true := rfl

-- names: what counts as an IP literal (netip.ParseAddr's IPv4 form)
example : isIPv4 (Str.ofString "127.0.0.1") = true := by decide +kernel
example : isIPv4 (Str.ofString "255.0.10.199") = true := by decide +kernel
example : isIPv4 (Str.ofString "frps.test") = false := by decide +kernel
example : isIPv4 (Str.ofString "127.0.0.01") = false := by decide +kernel
example : isIPv4 (Str.ofString "256.0.0.1") = false := by decide +kernel
example : isIPv4 (Str.ofString "1.2.3") = false := by decide +kernel
example : isIPv4 (Str.ofString "1.2.3.4.5") = false := by decide +kernel
example : isIPv4 (Str.ofString "1..2.3") = false := by decide +kernel
example : isIPv4 [] = false := by decide +kernel
-- the name defaulted from an IP serverAddr: session with the right IP SAN, none with a same-CA
-- certificate that lists DNS names only, none with another IP
example : sessionUpOn { force := false, trustedCA := false, certGiven := true }
    { tlsEnable := true, disableCustomFirstByte := true, trustedCA := true, certGiven := false
    , serverName := [], serverAddr := Str.ofString "127.0.0.1" }
    { srvCertIssuer := some 1, srvCertIPs := [Str.ofString "127.0.0.1"], cliRootCA := 1 } = true := by
  decide +kernel
example : sessionUpOn { force := false, trustedCA := false, certGiven := true }
    { tlsEnable := true, disableCustomFirstByte := true, trustedCA := true, certGiven := false
    , serverName := [], serverAddr := Str.ofString "127.0.0.1" }
    { srvCertIssuer := some 1, srvCertDNS := [Str.ofString "other.test", Str.ofString "127.0.0.1"]
    , cliRootCA := 1 } = false := by
  decide +kernel
example : sessionUpOn { force := false, trustedCA := false, certGiven := true }
    { tlsEnable := true, disableCustomFirstByte := true, protocol := .quic, trustedCA := true
    , certGiven := false, serverName := Str.ofString "127.0.0.1", serverAddr := Str.ofString "10.0.0.1" }
    { srvCertIssuer := some 1, srvCertDNS := [Str.ofString "frps.test"]
    , srvCertIPs := [Str.ofString "127.0.0.9"], cliRootCA := 1 } = false := by
  decide +kernel
-- reload histories: start without encryption, switch it on with nothing else changed, then change
-- only the limit, then reconnect: the running proxy is built from the entry in force
example :
    let c0 : WireReload.PxCfg := { name := 0, enc := false, comp := false, limit := 1, limitServer := false, other := 0 }
    let s := WireReload.run (WireReload.start [c0])
      [.reload [{ c0 with enc := true }], .reload [{ c0 with enc := true, limit := 2 }], .reconnect]
    (WireReload.find s 0).map (fun p => (p.built.enc, p.built.limit, p.cfg == p.built)) = some (true, 2, true) := by
  decide
-- the observation predicate is not trivially true: a proxy whose status shows encryption while the
-- object was built without it fails it (TLS off)
example :
    let c0 : WireReload.PxCfg := { name := 0, enc := false, comp := false, limit := 0, limitServer := false, other := 0 }
    reloadObsOk false true (payloadClear (WireReload.pathOf false { cfg := { c0 with enc := true }, built := c0 })) = false := by
  decide
example : identOk true (Str.ofString "127.0.0.1")
    { srvCertIssuer := some 1, srvCertDNS := [Str.ofString "other.test"], cliRootCA := 1 } true = false := by
  decide +kernel

-- wss through a terminator: a verifying client with tls.enable = FALSE gets a session from the genuine
-- endpoint and none from an impostor of another CA / an endpoint of the trusted CA with another name
example : wssSessionVia { force := false, trustedCA := false, certGiven := false }
    { tlsEnable := false, disableCustomFirstByte := true, protocol := .wss, trustedCA := true, certGiven := false
    , serverName := Str.ofString "frps.test", serverAddr := Str.ofString "127.0.0.1" } { cliRootCA := 1 }
    { issuer := 1, dns := [Str.ofString "frps.test"] } = true := by decide +kernel
example : wssSessionVia { force := false, trustedCA := false, certGiven := false }
    { tlsEnable := false, disableCustomFirstByte := true, protocol := .wss, trustedCA := true, certGiven := false
    , serverName := Str.ofString "frps.test", serverAddr := Str.ofString "127.0.0.1" } { cliRootCA := 1 }
    { issuer := 2, dns := [Str.ofString "frps.test"] } = false := by decide +kernel
example : wssSessionVia { force := false, trustedCA := false, certGiven := false }
    { tlsEnable := false, disableCustomFirstByte := true, protocol := .wss, trustedCA := true, certGiven := false
    , serverName := Str.ofString "frps.test", serverAddr := Str.ofString "127.0.0.1" } { cliRootCA := 1 }
    { issuer := 1, dns := [Str.ofString "other.test"] } = false := by decide +kernel
-- the written configuration: a tcp proxy with plugin http2https and useEncryption written, user "u"
example :
    let w : WireConfig.Base := { name := Str.ofString "web", type := .tcp, localIP := [], limitMode := []
                               , enc := true, comp := false, plugin := .http2https, enableHTTP2 := none }
    ((WireConfig.loaded (Str.ofString "u") w).name, (WireConfig.loaded (Str.ofString "u") w).enc,
      WireConfig.serverEnc (Str.ofString "u") w, payloadClear (WireConfig.pathOfWritten false (Str.ofString "u") w))
      = (Str.ofString "u.web", true, true, false) := by decide +kernel
-- the predicate is not trivially true: a loader that drops the flag fails it
example : writtenKeptOk true false false false = false := rfl


-- histories: a frps with a trusted CA, its certificate renewed and its CA file replaced on disk, six seconds later: a
-- peer with the certificate of the CA loaded at start gets a session, peers without / with another one do not
example :
    let cfg : ServerCfg := { force := false, trustedCA := true, certGiven := true }
    let d0 : WireHist.SrvDisk := { certIssuer := some 1, ca := some 1 }
    let c : ClientCfg := { tlsEnable := true, disableCustomFirstByte := true, trustedCA := false, certGiven := true
                         , serverName := [], serverAddr := [49] }
    (WireHist.start cfg d0).map (fun r =>
      let s := WireHist.run { run := r, disk := d0 }
        [.replace { d0 with certGen := 1 }, .replace { certIssuer := some 2, certGen := 2, ca := some 2 }, .wait 6000]
      (WireHist.probeUp s c (some 1), WireHist.probeUp s c (some 2), WireHist.probeUp s { c with certGiven := false } none))
      = some (true, false, false) := by decide
example : WireHist.start { force := false, trustedCA := true, certGiven := true } { certIssuer := some 1, ca := none } = none := by
  decide
example : (siteOf [("ClientCAs", "r.base.ClientCAs")]).sound = false := by decide
-- login attempts: CA file missing, then present — no connection, then a verified TLS connection; TLS off: plain
example :
    let c : ClientCfg := { tlsEnable := true, disableCustomFirstByte := true, trustedCA := true, certGiven := false
                         , serverName := [], serverAddr := [49] }
    (WireHist.attempts c [{ ca := .gone }, { ca := .gone }, { ca := .ok }, { ca := .empty }],
     WireHist.attempt { c with tlsEnable := false } { ca := .gone })
      = ([.noConn, .noConn, .tlsConn true, .tlsConn false], .plainConn) := by decide
example : loginObsOk true true true = false := rfl
example : WireHist.wsPeerReply { force := false, trustedCA := false, certGiven := false, tcpMux := false } [] 0x6f = some 0x31 := by
  decide

end C05
end Frp
