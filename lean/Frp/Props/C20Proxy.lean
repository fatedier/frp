import Frp.Props.C20
import Frp.Lemmas.NatProxy
/-
  C20, clause "a session is created only for a correctly signed request naming a LIVE xtcp proxy",
  through the SERVER-SIDE xtcp proxy (server/proxy/xtcp.go Run / Close / the sid-dispatch goroutine)
  composed with the controller model — Frp/Model/NatProxy.lean.

  The registration of a name in the controller (`Controller.clientCfgs`) is owned by the proxy:
  `PInv` says, for every reachable state of the composed system and so for every interleaving of
  visitor requests, owner deliveries (fast, slow, failing), closes, re-registrations and handler
  steps:   registered  ⇔  a proxy of that name whose Run succeeded and whose Close was not called,
  and the dispatch goroutine of a registered proxy has not returned.
  `deferred_unregister_witness`: the variant that unregisters when the goroutine returns, instead of in
  Close(), violates the clause.
-/
namespace Frp
namespace C20
open NatHole NatProxy

/-! ## free controller labels never touch the registrations -/

theorem free_step_cfgs (c c' : State) (l : Label) (o : Out) (hf : ctlFree l = true)
    (h : step c l = some (c', o)) : c'.cfgs = c.cfgs ∧ c'.nextChan = c.nextChan := by
  cases step_spec h with
  | listenRepeated | listen | close | notify => cases hf
  | _ => exact ⟨rfl, rfl⟩

/-! ## the invariant -/

structure PInvOn (cfgs : List (Str × Cfg)) (next : Nat) (pxs : List (Nat × Pxy)) : Prop where
  /-- a registered name belongs to a live proxy holding the registration's channel -/
  reg_live : ∀ name cfg, aget cfgs name = some cfg →
    ∃ id p, nget pxs id = some p ∧ p.name = name ∧ p.chan = cfg.chan ∧ p.closed = false
  /-- a live proxy is registered under its name with its own channel -/
  live_reg : ∀ id p, nget pxs id = some p → p.closed = false →
    ∃ cfg, aget cfgs p.name = some cfg ∧ cfg.chan = p.chan
  chan_lt : ∀ id p, nget pxs id = some p → p.chan < next
  chan_inj : ∀ id id' p p', nget pxs id = some p → nget pxs id' = some p' → p.chan = p'.chan → id = id'
  /-- the dispatch goroutine returns only after Close -/
  stopped_closed : ∀ id p, nget pxs id = some p → p.loop = .stopped → p.closed = true

def PInv (s : PState) : Prop := PInvOn s.ctl.cfgs s.ctl.nextChan s.pxs

theorem pinv_init : PInv {} := by
  constructor
  · intro name cfg h; simp [aget] at h
  · intro id p h; simp [nget] at h
  · intro id p h; simp [nget] at h
  · intro id id' p p' h; simp [nget] at h
  · intro id p h; simp [nget] at h

theorem chan_inj_nput {pxs : List (Nat × Pxy)} {id : Nat} {p' : Pxy}
    (h : ∀ a b q r, nget pxs a = some q → nget pxs b = some r → q.chan = r.chan → a = b)
    (hfresh : ∀ b r, nget pxs b = some r → r.chan = p'.chan → b = id) :
    ∀ a b q r, nget (nput pxs id p') a = some q → nget (nput pxs id p') b = some r → q.chan = r.chan → a = b := by
  intro a b q r hq hr hqr
  rcases nget_nput_some hq with ⟨rfl, rfl⟩ | ⟨ea, hq⟩ <;> rcases nget_nput_some hr with ⟨rfl, rfl⟩ | ⟨eb, hr⟩
  · rfl
  · exact (hfresh b r hr hqr.symm).symm
  · exact hfresh a q hq hqr
  · exact h a b q r hq hr hqr

/-- replacing the entry at `id` by one with the same name, channel and closed flag (a move of the dispatch
    goroutine) keeps the invariant -/
theorem pinv_update {cfgs : List (Str × Cfg)} {next : Nat} {pxs : List (Nat × Pxy)}
    (h : PInvOn cfgs next pxs) (id : Nat) (p p' : Pxy) (hp : nget pxs id = some p)
    (hn : p'.name = p.name) (hc : p'.chan = p.chan) (hcl : p'.closed = p.closed)
    (hl : p'.loop = .stopped → p'.closed = true) : PInvOn cfgs next (nput pxs id p') := by
  constructor
  · intro name cfg hcfg
    obtain ⟨id0, p0, h0, hn0, hc0, hcl0⟩ := h.reg_live name cfg hcfg
    by_cases e : id = id0
    · subst e
      rw [hp] at h0; cases h0
      exact ⟨id, p', by rw [nget_nput, if_pos rfl], hn.trans hn0, hc.trans hc0, hcl.trans hcl0⟩
    · exact ⟨id0, p0, by rw [nget_nput, if_neg e]; exact h0, hn0, hc0, hcl0⟩
  · exact all_nput h.live_reg id fun hqc => by rw [hn, hc]; exact h.live_reg id p hp (hcl ▸ hqc)
  · exact all_nput h.chan_lt id (by rw [hc]; exact h.chan_lt id p hp)
  · exact chan_inj_nput h.chan_inj (fun b r hr hch => h.chan_inj b id r p hr hp (hch.trans hc))
  · exact all_nput h.stopped_closed id hl

/-- `Run()` that registers: a fresh instance, a fresh channel, a name that was not registered -/
theorem pinv_run_ok {cfgs : List (Str × Cfg)} {next : Nat} {pxs : List (Nat × Pxy)}
    (h : PInvOn cfgs next pxs) (id : Nat) (name sk : Str) (allow : List Str)
    (hid : nget pxs id = none) (hname : aget cfgs name = none) :
    PInvOn (aput cfgs name { sk := sk, allow := allow, chan := next }) (next + 1)
      (nput pxs id { name := name, chan := next }) := by
  constructor
  · intro n cfg hcfg
    rw [aget_aput] at hcfg
    split at hcfg
    · next e => cases hcfg; exact ⟨id, { name := name, chan := next }, by rw [nget_nput, if_pos rfl], e, rfl, rfl⟩
    · obtain ⟨id0, p0, h0, hn0, hc0, hcl0⟩ := h.reg_live n cfg hcfg
      have : id ≠ id0 := by intro e2; subst e2; rw [hid] at h0; cases h0
      exact ⟨id0, p0, by rw [nget_nput, if_neg this]; exact h0, hn0, hc0, hcl0⟩
  · refine all_nput (fun id' q hq hqc => ?_) id fun _ => ⟨_, by rw [aget_aput, if_pos rfl], rfl⟩
    obtain ⟨cfg, h1, h2⟩ := h.live_reg id' q hq hqc
    have : name ≠ q.name := by intro e2; rw [← e2, hname] at h1; cases h1
    exact ⟨cfg, by rw [aget_aput, if_neg this]; exact h1, h2⟩
  · exact all_nput (fun id' q hq => Nat.lt_succ_of_lt (h.chan_lt id' q hq)) id (Nat.lt_succ_self _)
  · -- the fresh channel `next` is above every channel in use
    exact chan_inj_nput h.chan_inj (fun b r hr hch => absurd hch (Nat.ne_of_lt (h.chan_lt b r hr)))
  · exact all_nput h.stopped_closed id fun hs => by cases hs

/-- the first `Close()` of a proxy: CloseClient(name), closed := true — in any state of its goroutine -/
theorem pinv_close {cfgs : List (Str × Cfg)} {next : Nat} {pxs : List (Nat × Pxy)}
    (h : PInvOn cfgs next pxs) (id : Nat) (p : Pxy) (hp : nget pxs id = some p) (hpc : p.closed = false) :
    PInvOn (adel cfgs p.name) next (nput pxs id { p with closed := true }) := by
  constructor
  · intro n cfg hcfg
    rw [aget_adel] at hcfg
    split at hcfg
    · cases hcfg
    · next e =>
      obtain ⟨id0, p0, h0, hn0, hc0, hcl0⟩ := h.reg_live n cfg hcfg
      have : id ≠ id0 := by
        intro e2; subst e2; rw [hp] at h0; cases h0; exact e hn0
      exact ⟨id0, p0, by rw [nget_nput, if_neg this]; exact h0, hn0, hc0, hcl0⟩
  · intro id' q hq hqc
    rcases nget_nput_some hq with ⟨rfl, rfl⟩ | ⟨e, hq⟩
    · cases hqc
    · obtain ⟨cfg, h1, h2⟩ := h.live_reg id' q hq hqc
      -- another live proxy of the same name would be registered with both channels
      have hne : p.name ≠ q.name := by
        intro e2
        obtain ⟨cfg', h1', h2'⟩ := h.live_reg id p hp hpc
        rw [e2, h1] at h1'; cases h1'
        exact e (h.chan_inj id id' p q hp hq (h2'.symm.trans h2))
      exact ⟨cfg, by rw [aget_adel, if_neg hne]; exact h1, h2⟩
  · exact all_nput h.chan_lt id (h.chan_lt id p hp)
  · exact chan_inj_nput h.chan_inj (fun b r hr hch => h.chan_inj b id r p hr hp hch)
  · exact all_nput h.stopped_closed id fun _ => rfl

theorem pinv_step (s s' : PState) (l : PLabel) (o : Out) (d : Sids) (hi : PInv s)
    (h : pstep s l = some (s', o, d)) : PInv s' := by
  unfold PInv at *
  cases pstep_spec h with
  | runRepeated | closeAgain => exact hi
  | run hid hname => exact pinv_run_ok hi _ _ _ _ hid hname
  | close hp hc => exact pinv_close hi _ _ hp hc
  | recv hp | fetched hp => exact pinv_update hi _ _ _ hp rfl rfl rfl (fun hh => by cases hh)
  | exit hp _ hc => exact pinv_update hi _ _ _ hp rfl rfl rfl (fun _ => hc)
  | ctl hf hs =>
    obtain ⟨h1, h2⟩ := free_step_cfgs _ _ _ _ hf hs
    simp only [h1, h2]; exact hi

/-- ALL INTERLEAVINGS: every state the composed system reaches from the empty one satisfies `PInv` -/
theorem pinv_reachable (ls : List PLabel) (s : PState) (o : Out) (d : Sids)
    (h : prun {} ls = some (s, o, d)) : PInv s :=
  prun_keeps (fun s s' l o d _ hi h => pinv_step s s' l o d hi h) pinv_init h

/-- registered ⇔ live, in every reachable state -/
theorem registered_iff_live (ls : List PLabel) (s : PState) (o : Out) (d : Sids)
    (h : prun {} ls = some (s, o, d)) (name : Str) :
    (aget s.ctl.cfgs name).isSome = true ↔
      ∃ id p, nget s.pxs id = some p ∧ p.name = name ∧ p.closed = false ∧ p.loop ≠ .stopped := by
  have hi := pinv_reachable ls s o d h
  constructor
  · intro hr
    match hc : aget s.ctl.cfgs name with
    | none => rw [hc] at hr; cases hr
    | some cfg =>
      obtain ⟨id, p, h1, h2, _, h4⟩ := hi.reg_live name cfg hc
      refine ⟨id, p, h1, h2, h4, ?_⟩
      intro hs; rw [hi.stopped_closed id p h1 hs] at h4; cases h4
  · rintro ⟨id, p, h1, h2, h3, _⟩
    obtain ⟨cfg, hc, _⟩ := hi.live_reg id p h1 h3
    rw [← h2, hc]; rfl

/-! ## Close -/

/-- AFTER `Close()` RETURNS THE NAME IS NOT REGISTERED: for every reachable state, whatever the
    dispatch goroutine of the proxy is doing at that moment (idle, inside GetWorkConnFromPool for a
    sid in flight, or already returned) -/
theorem close_unregisters (ls : List PLabel) (s s' : PState) (o o' : Out) (d d' : Sids) (id : Nat) (p : Pxy)
    (_h : prun {} ls = some (s, o, d)) (hp : nget s.pxs id = some p) (hpc : p.closed = false)
    (hc : pstep s (.close id) = some (s', o', d')) :
    aget s'.ctl.cfgs p.name = none ∧ o' = [] ∧ d' = [] := by
  cases pstep_spec hc with
  | closeAgain hp' hcl =>
    rw [hp] at hp'; cases hp'
    rw [hpc] at hcl; cases hcl
  | close hp' =>
    rw [hp] at hp'; cases hp'
    exact ⟨by rw [aget_adel, if_pos rfl], rfl, rfl⟩

/-- after ANY `Close()` (first or repeated) no registration carries this proxy's channel: a
    visitor can never again be handed the sid channel of a closed proxy -/
theorem close_removes_own_channel (ls : List PLabel) (s s' : PState) (o o' : Out) (d d' : Sids) (id : Nat) (p : Pxy)
    (h : prun {} ls = some (s, o, d)) (hp : nget s.pxs id = some p)
    (hc : pstep s (.close id) = some (s', o', d')) :
    ∀ name cfg, aget s'.ctl.cfgs name = some cfg → cfg.chan ≠ p.chan := by
  have hi' : PInv s' := pinv_step s s' _ o' d' (pinv_reachable ls s o d h) hc
  intro name cfg hcfg hch
  obtain ⟨id0, p0, h0, _, hc0, hcl0⟩ := hi'.reg_live name cfg hcfg
  -- in s' the instance `id` is closed and still has channel p.chan
  have hid : ∃ q, nget s'.pxs id = some q ∧ q.chan = p.chan ∧ q.closed = true := by
    cases pstep_spec hc with
    | closeAgain hp' hcl =>
      rw [hp] at hp'; cases hp'
      exact ⟨p, hp, rfl, hcl⟩
    | close hp' =>
      rw [hp] at hp'; cases hp'
      exact ⟨{ p with closed := true }, by rw [nget_nput, if_pos rfl], rfl, rfl⟩
  obtain ⟨q, hq, hqc, hqcl⟩ := hid
  have : id0 = id := hi'.chan_inj id0 id p0 q h0 hq (by rw [hc0, hch, hqc])
  subst this
  rw [hq] at h0; cases h0
  rw [hqcl] at hcl0; cases hcl0

def isRunOf (name : Str) : PLabel → Bool
  | .run _ n _ _ => n == name
  | _ => false

/-- only `Run` registers a name -/
theorem registered_only_by_run (s s' : PState) (l : PLabel) (o : Out) (d : Sids) (name : Str)
    (h : pstep s l = some (s', o, d)) (hn : aget s.ctl.cfgs name = none) (hr : isRunOf name l = false) :
    aget s'.ctl.cfgs name = none := by
  cases pstep_spec h with
  | @run _ n =>
    have hne : n ≠ name := by simpa [isRunOf] using hr
    simp only [aget_aput, hne, if_false]; exact hn
  | close => simp only [aget_adel]; split <;> simp [hn]
  | ctl hf hs => rw [(free_step_cfgs _ _ _ _ hf hs).1]; exact hn
  | _ => exact hn

/-- an unregistered (closed) name stays unregistered along EVERY continuation (deliveries ending, the
    goroutine returning, other proxies, visitor requests, timeouts …) that has no Run of that name -/
theorem closed_stays_unregistered (name : Str) : ∀ (ls : List PLabel) (s s' : PState) (o : Out) (d : Sids),
    aget s.ctl.cfgs name = none → (∀ l ∈ ls, isRunOf name l = false) → prun s ls = some (s', o, d) →
    aget s'.ctl.cfgs name = none := by
  intro ls s s' o d hn hall h
  exact prun_keeps (fun s s1 l o1 d1 hl hn h1 => registered_only_by_run s s1 l o1 d1 name h1 hn (hall l hl)) hn h

/-- what "not registered" means for the parties: a (correctly signed or not) request and a pre-check
    naming it are answered "doesn't exist" and change nothing — no session —, and `Run()` of a proxy
    of that name succeeds (ListenClient does not say "repeated") -/
theorem unregistered_refused (s : PState) (name : Str) (hn : aget s.ctl.cfgs name = none) :
    (∀ sid m t u, m.proxyName = name → aget s.ctl.sessions sid = none →
       pstep s (.ctl (.visitorLookup sid m t u)) = some (s, [(t, errResp m.tid .noExist)], [])) ∧
    (∀ m t u, m.proxyName = name →
       pstep s (.ctl (.precheck m t u)) = some (s, [(t, errResp m.tid .noExist)], [])) ∧
    (∀ id sk allow, nget s.pxs id = none →
       ∃ s', pstep s (.run id name sk allow) = some (s', [], []) ∧ (aget s'.ctl.cfgs name).isSome = true ∧
         ∃ p, nget s'.pxs id = some p ∧ p.name = name ∧ p.closed = false ∧ p.loop = .idle) := by
  refine ⟨?_, ?_, ?_⟩
  · intro sid m t u hm hs
    subst hm
    simp [pstep, pstepWith, ctlFree, step, hs, hn]
  · intro m t u hm
    subst hm
    simp [pstep, pstepWith, ctlFree, step, hn]
  · intro id sk allow hid
    refine ⟨{ ctl := { s.ctl with cfgs := aput s.ctl.cfgs name { sk := sk, allow := allow, chan := s.ctl.nextChan },
                                   nextChan := s.ctl.nextChan + 1 },
              pxs := nput s.pxs id { name := name, chan := s.ctl.nextChan } },
      by simp only [pstep, pstepWith, hid, hn], by simp [aget_aput], ?_⟩
    exact ⟨{ name := name, chan := s.ctl.nextChan }, by rw [nget_nput]; simp, rfl, rfl, rfl⟩

/-! ## sessions -/

/-- A SESSION IS CREATED ONLY FOR A CORRECTLY SIGNED REQUEST NAMING A LIVE XTCP PROXY: in every
    reachable state of the composed system a step that makes a new sid stored is the critical
    section of HandleVisitor for a request whose proxy name belongs to a proxy whose Run succeeded,
    whose Close has NOT been called and whose dispatch goroutine is running; signature and allow list
    as before -/
theorem session_only_for_live_proxy (ls : List PLabel) (s s' : PState) (o o' : Out) (d d' : Sids) (l : PLabel)
    (sid : Str) (h : prun {} ls = some (s, o, d)) (hs : pstep s l = some (s', o', d'))
    (hnew : aget s.ctl.sessions sid = none) (hs' : aget s'.ctl.sessions sid ≠ none) :
    ∃ m t u cfg id p, l = .ctl (.visitorLookup sid m t u) ∧
      aget s.ctl.cfgs m.proxyName = some cfg ∧ m.signed = authInput cfg.sk m.timestamp ∧
      userAllowed cfg.allow u = true ∧
      nget s.pxs id = some p ∧ p.name = m.proxyName ∧ p.chan = cfg.chan ∧ p.closed = false ∧ p.loop ≠ .stopped := by
  have hi := pinv_reachable ls s o d h
  cases pstep_spec hs with
  | ctl _ hst =>
    obtain ⟨m, t, u, cfg, hl, hcfg, hsig, hal, _⟩ := session_created_only_signed s.ctl _ _ _ sid hst hnew hs'
    obtain ⟨id, p, h1, h2, h3, h4⟩ := hi.reg_live m.proxyName cfg hcfg
    refine ⟨m, t, u, cfg, id, p, by rw [hl], hcfg, hsig, hal, h1, h2, h3, h4, ?_⟩
    intro hst'; rw [hi.stopped_closed id p h1 hst'] at h4; cases h4
  | recv _ hsess =>
    -- the dispatch goroutine only moves a stored session on
    simp only [aget_aput] at hs'
    split at hs'
    · next e => rw [← e, hsess] at hnew; cases hnew
    · exact absurd hnew hs'
  | _ => exact absurd hnew hs'

/-- a dispatch goroutine takes a sid only from a stored session whose handler is sending on THIS
    proxy's channel, and hands the owner nothing else -/
theorem sid_only_from_notifying (s s' : PState) (o : Out) (d : Sids) (id : Nat) (sid : Str)
    (h : pstep s (.recv id sid) = some (s', o, d)) :
    ∃ p sess, nget s.pxs id = some p ∧ p.loop = .idle ∧ aget s.ctl.sessions sid = some sess ∧
      sess.phase = .notifying p.chan ∧ nget s'.pxs id = some { p with loop := .delivering sid } ∧ d = [] := by
  cases pstep_spec h with
  | recv hp hs hl hph => exact ⟨_, _, hp, hl, hs, hph, by rw [nget_nput, if_pos rfl], rfl⟩

theorem delivered_is_taken (s s' : PState) (o : Out) (d : Sids) (id : Nat) (ok : Bool)
    (h : pstep s (.fetched id ok) = some (s', o, d)) :
    ∃ p sid, nget s.pxs id = some p ∧ p.loop = .delivering sid ∧ o = [] ∧
      d = (if ok then [(id, sid)] else []) := by
  cases pstep_spec h with
  | fetched hp hl => exact ⟨_, _, hp, hl, rfl, rfl⟩

/-! ## the variant that unregisters when the dispatch goroutine returns -/

def pV (n : Nat) : VMsg := { tid := [118, n], proxyName := [112], signed := authInput [115] 7, timestamp := 7,
                              mapped := [Str.ofString "1.2.3.4:80", Str.ofString "1.2.3.4:80"] }

/-- Run p; a signed request s1; the goroutine takes s1 and asks the (slow) owner for a work
    connection; Close(); a second signed request s2 -/
def slowOwnerTrace : List PLabel :=
  [.run 0 [112] [115] [[Str.star]], .ctl (.visitorLookup [115, 49] (pV 1) 1 []), .recv 0 [115, 49], .close 0,
   .ctl (.visitorLookup [115, 50] (pV 2) 2 [])]

/-- If `Close()` only closed `closeCh` and the dispatch goroutine unregistered when it returns
    (`pstepWith false`), the clause would be FALSE: after `slowOwnerTrace` proxy 0 is closed, yet the
    second request created the session s2 and re-registering the name says "repeated" (state
    unchanged).  On xtcp.go as it is (`pstepWith true`) the same trace answers "doesn't exist" and
    stores nothing (general statements: `close_unregisters`, `session_only_for_live_proxy`). -/
theorem deferred_unregister_witness :
    (match prunWith false {} slowOwnerTrace with
     | some (s, o, _) => o.isEmpty && (aget s.ctl.sessions [115, 50]).isSome &&
         (match nget s.pxs 0 with | some p => p.closed && decide (p.loop = .delivering [115, 49]) | none => false) &&
         (match pstepWith false s (.run 1 [112] [115] [[Str.star]]) with
          | some (s2, _, _) => (nget s2.pxs 1).isNone | none => false)
     | none => false) = true ∧
    (match prunWith true {} slowOwnerTrace with
     | some (s, o, _) => decide (o = [(2, errResp [118, 2] .noExist)]) && (aget s.ctl.sessions [115, 50]).isNone &&
         (match pstepWith true s (.run 1 [112] [115] [[Str.star]]) with
          | some (s2, _, _) => (nget s2.pxs 1).isSome | none => false)
     | none => false) = true := by
  refine ⟨?_, ?_⟩ <;> decide +kernel

end C20
end Frp
