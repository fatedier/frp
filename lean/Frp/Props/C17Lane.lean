import Frp.Model.Lane
import Frp.Lemmas.ListFacts
/-
  C17, message routing inside a session (pkg/transport/message.go): a message handed to
  `Dispatch(m, laneKey)` reaches exactly the `Do` call registered for its type name and lane key —
  never a call waiting for another type or lane —, each `Do` call gets at most one message, and a
  message nobody is registered for is dropped (`false`).  For all histories of Do / Dispatch /
  cancel, by an invariant over the op list.
-/
namespace Frp
namespace C17
open Lane

def wkey (w : Waiter) : Key := (w.mtype, w.lane)

structure LaneInv (s : St) : Prop where
  reg : ∀ e ∈ s.registry, ∃ w ∈ s.waiting, w.id = e.2 ∧ wkey w = e.1
  wait_ever : ∀ w ∈ s.waiting, w ∈ s.ever
  ids : ∀ w1 ∈ s.ever, ∀ w2 ∈ s.ever, w1.id = w2.id → w1 = w2
  deliv : ∀ d ∈ s.delivered, ∃ w ∈ s.ever, w.id = d.1 ∧ wkey w = d.2.1
  once : (s.delivered.map (·.1)).Nodup ∧ ∀ d ∈ s.delivered, ∀ w ∈ s.waiting, w.id ≠ d.1

theorem mem_eraseKey {r : List (Key × Nat)} {k : Key} {e : Key × Nat} (h : e ∈ eraseKey r k) :
    e ∈ r ∧ e.1 ≠ k := by
  simp only [eraseKey, List.mem_filter, bne_iff_ne, ne_eq] at h
  exact h

theorem lookup_none_not_mem {r : List (Key × Nat)} {k : Key} (h : r.lookup k = none) : ∀ id, (k, id) ∉ r :=
  fun id hm => by simpa using List.lookup_eq_none_iff.mp h _ hm

/-- a waiter leaves (it got its message, or it was cancelled): the entry under its key is deleted, and
    every remaining entry still belongs to a remaining waiter, since ids name waiters -/
theorem LaneInv.leave {s : St} (h : LaneInv s) {w0 : Waiter} (hw0 : w0 ∈ s.waiting) :
    LaneInv { s with registry := eraseKey s.registry (wkey w0),
                     waiting := s.waiting.filter (fun x => x.id != w0.id) } := by
  refine ⟨?_, ?_, h.ids, h.deliv, h.once.1, ?_⟩
  · intro e he
    obtain ⟨hm, hne⟩ := mem_eraseKey he
    obtain ⟨w, hw, h1, h2⟩ := h.reg e hm
    refine ⟨w, ?_, h1, h2⟩
    simp only [List.mem_filter, bne_iff_ne, ne_eq]
    refine ⟨hw, fun heq => ?_⟩
    have : w = w0 := h.ids w (h.wait_ever w hw) w0 (h.wait_ever w0 hw0) heq
    subst this
    exact hne h2.symm
  · intro w hw
    exact h.wait_ever w (List.mem_filter.mp hw).1
  · intro d hd w hw
    exact h.once.2 d hd w (List.mem_filter.mp hw).1

theorem laneInv_step (s : St) (op : Op) (h : LaneInv s) : LaneInv (step s op).1 := by
  cases op with
  | doReq id t l =>
    simp only [step]
    split
    · exact h
    · rename_i hfresh
      have hfresh' : ∀ w ∈ s.ever, w.id ≠ id := by
        intro w hw heq
        apply hfresh
        rw [List.any_eq_true]
        exact ⟨w, hw, by simp [heq]⟩
      refine ⟨?_, ?_, ?_, ?_, ?_⟩
      · intro e he
        rcases List.mem_cons.mp he with rfl | he
        · exact ⟨⟨id, t, l⟩, List.mem_append_right _ List.mem_cons_self, rfl, rfl⟩
        · obtain ⟨w, hw, h1, h2⟩ := h.reg e (mem_eraseKey he).1
          exact ⟨w, List.mem_append_left _ hw, h1, h2⟩
      · intro w hw
        rcases List.mem_append.mp hw with hw | hw
        · exact List.mem_append_left _ (h.wait_ever w hw)
        · exact List.mem_append_right _ hw
      · intro w1 h1 w2 h2 heq
        rcases List.mem_append.mp h1 with h1 | h1 <;> rcases List.mem_append.mp h2 with h2 | h2
        · exact h.ids w1 h1 w2 h2 heq
        · simp only [List.mem_singleton] at h2; subst h2
          exact absurd heq (hfresh' w1 h1)
        · simp only [List.mem_singleton] at h1; subst h1
          exact absurd heq.symm (hfresh' w2 h2)
        · simp only [List.mem_singleton] at h1 h2; rw [h1, h2]
      · intro d hd
        obtain ⟨w, hw, h1, h2⟩ := h.deliv d hd
        exact ⟨w, List.mem_append_left _ hw, h1, h2⟩
      · refine ⟨h.once.1, ?_⟩
        intro d hd w hw
        rcases List.mem_append.mp hw with hw | hw
        · exact h.once.2 d hd w hw
        · simp only [List.mem_singleton] at hw; subst hw
          obtain ⟨w', hw', h1, _⟩ := h.deliv d hd
          intro heq
          exact hfresh' w' hw' (by rw [h1]; exact heq.symm)
  | dispatch t l tag =>
    simp only [step]
    cases hl : s.registry.lookup (t, l) with
    | none => exact h
    | some id =>
      simp only
      split
      · -- delivered to waiter `id`
        obtain ⟨w0, hw0, (hid0 : w0.id = id), (hk0 : wkey w0 = (t, l))⟩ := h.reg ((t, l), id) (lookup_mem hl)
        have h' := h.leave hw0
        rw [hk0, hid0] at h'
        refine ⟨h'.reg, h'.wait_ever, h.ids, ?_, ?_, ?_⟩
        · intro d hd
          rcases List.mem_append.mp hd with hd | hd
          · exact h.deliv d hd
          · simp only [List.mem_singleton] at hd; subst hd
            exact ⟨w0, h.wait_ever w0 hw0, hid0, hk0⟩
        · rw [List.map_append, List.nodup_append]
          refine ⟨h.once.1, by simp, ?_⟩
          intro a ha b hb
          simp only [List.map_cons, List.map_nil, List.mem_singleton] at hb
          subst hb
          obtain ⟨d, hd, rfl⟩ := List.mem_map.mp ha
          intro heq
          exact h.once.2 d hd w0 hw0 (by rw [hid0]; exact heq.symm)
        · intro d hd w hw
          rcases List.mem_append.mp hd with hd | hd
          · exact h'.once.2 d hd w hw
          · simp only [List.mem_singleton] at hd; subst hd
            simpa using (List.mem_filter.mp hw).2
      · exact h
  | cancel id =>
    simp only [step]
    cases hf : s.waiting.find? (fun w => w.id == id) with
    | none => exact h
    | some w0 =>
      simp only
      have hw0 : w0 ∈ s.waiting := List.mem_of_find?_eq_some hf
      have hid0 : w0.id = id := by
        have := List.find?_some hf
        simpa using this
      rw [← hid0]
      exact h.leave hw0

/-- the invariant holds after every history of Do / Dispatch / cancel -/
theorem lane_inv (ops : List Op) : LaneInv (run {} ops) :=
  foldl_invariant ⟨by simp, by simp, by simp, by simp, by simp⟩ fun s op _ h => laneInv_step s op h

/-- a message is delivered to exactly the waiting `Do` call registered for its type and lane key: when
    `Dispatch` returns true, ONE call took the message, it was waiting, and it had asked for exactly this
    type and lane; nothing else changes hands -/
theorem dispatch_to_registered (s : St) (h : LaneInv s) (t : String) (l : Str) (tag id : Nat) (s' : St)
    (hs : step s (.dispatch t l tag) = (s', .dispatched true (some id))) :
    (∃ w ∈ s.waiting, w.id = id ∧ w.mtype = t ∧ w.lane = l)
      ∧ s'.delivered = s.delivered ++ [(id, (t, l), tag)] := by
  simp only [step] at hs
  cases hl : s.registry.lookup (t, l) with
  | none => rw [hl] at hs; simp at hs
  | some id' =>
    rw [hl] at hs
    simp only at hs
    split at hs
    · injection hs with h1 h2
      injection h2 with _ h3
      injection h3 with h3
      subst h3
      obtain ⟨w0, hw0, hid0, hk0⟩ := h.reg ((t, l), id') (lookup_mem hl)
      simp only [wkey, Prod.mk.injEq] at hk0
      exact ⟨⟨w0, hw0, hid0, hk0.1, hk0.2⟩, by rw [← h1]⟩
    · simp at hs

/-- a message nobody is registered for (under ITS type and ITS lane key) is dropped: `false`, no state
    change — whoever else is waiting for other types / lanes -/
theorem dispatch_unregistered_dropped (s : St) (t : String) (l : Str) (tag : Nat)
    (h : ∀ id, ((t, l), id) ∉ s.registry) : step s (.dispatch t l tag) = (s, .dispatched false none) := by
  simp only [step]
  cases hl : s.registry.lookup (t, l) with
  | none => rfl
  | some id => exact absurd (lookup_mem hl) (h id)

/-- never to another: after any history, every message a `Do` call received had been dispatched with the
    type and lane that call registered for; and no call received two -/
theorem never_to_another (ops : List Op) :
    (∀ d ∈ (run {} ops).delivered, ∀ w ∈ (run {} ops).ever, w.id = d.1 → (w.mtype, w.lane) = d.2.1)
    ∧ ((run {} ops).delivered.map (·.1)).Nodup := by
  have h := lane_inv ops
  refine ⟨?_, h.once.1⟩
  intro d hd w hw heq
  obtain ⟨w', hw', h1, h2⟩ := h.deliv d hd
  have : w = w' := h.ids w hw w' hw' (by rw [heq, h1])
  subst this
  exact h2

/-! non-vacuity, and the overwrite behaviour of the Go map mirrored as it is -/
def lk (s : String) : Str := Str.ofString s
-- two calls wait for NatHoleResp on lanes a / b; a message for lane b reaches call 2 only
example : (run {} [.doReq 1 "NatHoleResp" (lk "a"), .doReq 2 "NatHoleResp" (lk "b"),
      .dispatch "NatHoleResp" (lk "b") 7]).delivered = [(2, ("NatHoleResp", lk "b"), 7)] := by decide +kernel
-- wrong type or wrong lane: dropped
example : (step (run {} [.doReq 1 "NatHoleResp" (lk "a")]) (.dispatch "Pong" (lk "a") 7)).2 = .dispatched false none
    ∧ (step (run {} [.doReq 1 "NatHoleResp" (lk "a")]) (.dispatch "NatHoleResp" (lk "c") 7)).2 = .dispatched false none := by
  decide +kernel
-- after it received its message (or was cancelled) a call is not registered any more
example : (step (run {} [.doReq 1 "Pong" (lk "a"), .dispatch "Pong" (lk "a") 1]) (.dispatch "Pong" (lk "a") 2)).2
    = .dispatched false none := by decide +kernel
-- as the code is: a second call under the same type and lane takes the entry over, and the cancel of the
-- FIRST one then deletes the second one's entry (`delete(byLaneKey, laneKey)`): the message is dropped
-- although call 2 still waits.  Lane keys are random transaction ids in frp, so this does not arise there.
example : (step (run {} [.doReq 1 "Pong" (lk "a"), .doReq 2 "Pong" (lk "a"), .cancel 1]) (.dispatch "Pong" (lk "a") 9)).2
    = .dispatched false none := by decide +kernel

end C17
end Frp
