import Frp.Props.C03
import Frp.Model.UdpWireGen
import Frp.Gen.MsgSchema
/-
  C03, part 2 — the stream of a connection that carries UDPPackets is TYPED in both directions; keep-alives and
  datagrams interleave arbitrarily; the backend still sees nothing but user datagrams.

  The configuration (`genCfg`, `genSudpCfg`) is REGENERATED from the source on every run (translate UdpWire →
  Frp/Gen/UdpWire.lean): which message types each end passes to msg.WriteMsg, and whether its reader looks at the type
  byte.  The theorems that depend on those facts are in this file (and not in Props/C03.lean, which the driver
  imports), so that a fact that breaks one of them is reported as a broken obligation while the driver — built from
  the new facts — still evaluates the property on the implementation's results.
-/
namespace Frp
namespace C03
open Udp UdpWire

/-- **every reader suits its peer** (regenerated facts): where a reader does not look at the type byte, the peer
    writes nothing but the one type it unmarshals into; where it switches on the type, it has a case for everything
    the peer writes — on the udp work connection and on the sudp path, in both directions -/
theorem wire_readers_suit_peers :
    endOK genCfg.cli genCfg.srv = true ∧ endOK genCfg.srv genCfg.cli = true ∧
    endOK genSudpCfg.cli genSudpCfg.srv = true ∧ endOK genSudpCfg.srv genSudpCfg.cli = true ∧
    Gen.UdpWire.forwarderSendsOnlyNewUDPPacket = true := by
  decide

/-- why an untyped read of another message type yields the EMPTY packet: no registered message other than UDPPacket
    has a JSON key that encoding/json would match (case-insensitively) with `c`, `l` or `r` (regenerated: Gen/MsgSchema) -/
theorem wire_ctl_decodes_empty :
    ∀ e ∈ Gen.MsgSchema.registry, e.2 ≠ "UDPPacket" →
      ∀ s ∈ Gen.MsgSchema.structs, s.1 = e.2 → ∀ f ∈ s.2, f.2.1.toLower ∉ ["c", "l", "r"] := by
  -- `key` states the table fact on character lists, where `decide` can evaluate `toLower`
  have key : ∀ e ∈ Gen.MsgSchema.registry, e.2 ≠ "UDPPacket" → ∀ s ∈ Gen.MsgSchema.structs, s.1 = e.2 →
      ∀ f ∈ s.2, f.2.1.toList.map Char.toLower ∉ [['c'], ['l'], ['r']] := by
    decide +kernel
  intro e he hne s hs hse f hf hmem
  refine key e he hne s hs hse f hf ?_
  have := List.mem_map_of_mem (f := String.toList) hmem
  rwa [String.toLower, String.toList_map] at this

/-- a control message that the peer of an untyped reader never writes is a no-op of the machine -/
theorem wire_step_core_or_id (c : Cfg) (hs : endOK c.cli c.srv = true) (hc : endOK c.srv c.cli = true)
    (hcu : c.cli.untyped = some "UDPPacket") (hsu : c.srv.untyped = none) (s : St) (l : UdpWire.Label) :
    (∃ l', UdpWire.step c s l = Udp.step s l') ∨ UdpWire.step c s l = s := by
  cases l with
  | core l => exact .inl ⟨l, rfl⟩
  | srvCtl ty =>
    right
    simp only [UdpWire.step]
    split
    · rename_i h
      -- the peer writes `ty ≠ UDPPacket`, but the untyped reader's peer writes only UDPPacket
      simp only [endOK, hcu, List.all_eq_true, beq_iff_eq] at hs
      exact absurd (hs ty h.1) h.2
    · rfl
  | cliCtl ty =>
    right
    simp only [UdpWire.step]
    split
    · simp only [reads, hsu]
    · rfl

/-- **backend datagrams = user datagrams, for every interleaving of packets and keep-alives**: in every run of the
    typed machine under a configuration whose readers suit their peers, what the backend is handed is a sub-multiset of
    what the users sent, and what the users get is a sub-multiset of what the backend sockets replied — keep-alives of
    either side, at any point, add nothing -/
theorem wire_backend_only_user_datagrams (c : Cfg) (hs : endOK c.cli c.srv = true) (hc : endOK c.srv c.cli = true)
    (hcu : c.cli.untyped = some "UDPPacket") (hsu : c.srv.untyped = none)
    (sbs cbs cap : Nat) (ls : List UdpWire.Label) (x : View) :
    let s := UdpWire.run c (init sbs cbs cap) ls
    (s.backendLog.map Prod.snd).count x ≤ s.sentV.count x ∧
    (s.userLog.map uview).count x ≤ (s.replyLog.map Prod.snd).count x := by
  have hreach : ∀ (ls : List UdpWire.Label) (s : St), Reachable s → Reachable (UdpWire.run c s ls) := by
    intro ls
    induction ls with
    | nil => intro s h; exact h
    | cons l ls ih =>
      intro s h
      simp only [UdpWire.run, List.foldl_cons]
      apply ih
      rcases wire_step_core_or_id c hs hc hcu hsu s l with ⟨l', e⟩ | e
      · rw [e]
        obtain ⟨a, b, d, l0, rfl⟩ := h
        exact ⟨a, b, d, l0 ++ [l'], by simp [Udp.run, List.foldl_append]⟩
      · rw [e]; exact h
  exact model_safe (hreach ls _ ⟨sbs, cbs, cap, [], rfl⟩) x

/-- … for the code as it is (regenerated configuration), udp and sudp -/
theorem wire_gen_backend_only_user_datagrams (sbs cbs cap : Nat) (ls : List UdpWire.Label) (x : View) :
    let s := UdpWire.run genCfg (init sbs cbs cap) ls
    (s.backendLog.map Prod.snd).count x ≤ s.sentV.count x ∧
    (s.userLog.map uview).count x ≤ (s.replyLog.map Prod.snd).count x :=
  wire_backend_only_user_datagrams genCfg (by decide) (by decide) (by decide) (by decide) sbs cbs cap ls x

theorem wire_gen_sudp_backend_only_user_datagrams (sbs cbs cap : Nat) (ls : List UdpWire.Label) (x : View) :
    let s := UdpWire.run genSudpCfg (init sbs cbs cap) ls
    (s.backendLog.map Prod.snd).count x ≤ s.sentV.count x ∧
    (s.userLog.map uview).count x ≤ (s.replyLog.map Prod.snd).count x :=
  wire_backend_only_user_datagrams genSudpCfg (by decide) (by decide) (by decide) (by decide) sbs cbs cap ls x

/-- **witness**: let the server end also write Ping (a keep-alive of its own) and leave frpc's reader as it is: one
    keep-alive, and the backend is handed a zero-length datagram on a socket of no user — nobody sent anything -/
def pingingCfg : Cfg :=
  { srv := { writes := ["Ping", "UDPPacket"], untyped := none, handles := ["Ping", "UDPPacket"] }
    cli := { writes := ["Ping", "UDPPacket"], untyped := some "UDPPacket", handles := [] } }

theorem wire_server_ping_witness :
    let s := UdpWire.run pingingCfg (init 1500 1500 1024) [.srvCtl "Ping", .core (.cfwd true)]
    s.sentV = [] ∧ s.backendLog = [(0, (none, some []))] ∧ endOK pingingCfg.cli pingingCfg.srv = false := by
  decide +kernel

/-- … while the same keep-alive is harmless for a reader that switches on the type (frps' own reader, the visitor's) -/
theorem wire_typed_reader_ignores_ctl (e : End) (h : e.untyped = none) (ty : String) : reads e (.ctl ty) = none := by
  simp [reads, h]

end C03
end Frp
