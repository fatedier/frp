import Frp.Model.CtlReg
import Frp.Props.C19
/-
  C19, Part C — the Control's message handlers between the control connection and the proxy manager,
  against a server that holds what it accepted: "the proxies the client has registered at the server
  are exactly the configured-and-healthy ones" for ALL reply schedules.

  Model: Frp/Model/CtlReg.lean (client/control.go handleNewProxyResp, proxy_manager.go StartProxy,
  the server's NewProxy / CloseProxy handling).  `Reg` is one proxy name: the wrapper registered under
  it, whether the server holds a proxy of that name, the last message on the wire.  An action is a
  worker iteration / monitor callback, a reload removing or adding the name, or a NewProxyResp — ANY
  reply at ANY time: late, duplicated, reordered, after the proxy was stopped, success after error.

  Two invariants of one name.  `CtlSync` (status and last message on the wire in step) holds for all
  schedules.  `RegInv` (status and the server's table in step) holds for the schedules whose replies,
  when they meet a waiting wrapper, say what the server holds at that moment (`Truthful`): the answer
  to a request sent while the server holds nothing for the name is of that kind (`own_reply_truthful`),
  and so are the two schedules with two requests outstanding that matter in practice
  (`flap_unanswered_converges`, `resend_converges`).

  FINDING (code as it is; the reply carries nothing but the name): an answer that is applied to a
  LATER registration of the name than the one it answers can contradict the server's table for
  good — accepted, withdrawn, refused the second time: the first answer makes the client report
  `running` for a proxy the server does not hold, and nothing ever corrects it
  (`stale_reply_witness`); `truthful_needed` states it as the failure of `RegInv`.
-/
namespace Frp
namespace C19
open Wrapper Reconcile CtlReg

section C

-- what one action does to a name is unfolded by `simp` throughout this file
attribute [local simp] regStep regStepG actOut onStartResult srv1 lastMsg WEv.toEvent

theorem lastMsg_nil (p : Option Msg) : lastMsg p [] = p := rfl
theorem lastMsg_single (p : Option Msg) (m : Msg) : lastMsg p [m] = some m := rfl

/-! ## executable predicates (also run by the driver on the implementation's answers)

  Both invariants below are stated through a Boolean function of what an observer sees of one name —
  the reported status (`none` = not configured) and the last message on the wire / the server's table —
  so that the very same function judges the implementation's answers. -/

/-- status vs. the last message on the wire: running / wait start ⇒ NewProxy; check failed ⇒
    CloseProxy; new (never started, possibly the successor of a stopped wrapper) and not configured ⇒
    nothing or CloseProxy; a closed wrapper is never registered -/
def syncObsOK (ph : Option Phase) (last : Option Msg) : Bool :=
  match ph with
  | none => last != some .newProxy
  | some .running | some .waitStart => last == some .newProxy
  | some .checkFailed => last == some .closeProxy
  | some .new => last != some .newProxy
  | some .startErr => true
  | some .closed => false

/-- status vs. the server's table: running ⇒ held; start error / check failed / new / not configured
    ⇒ not held; waiting ⇒ either -/
def tableObsOK (ph : Option Phase) (held : Bool) : Bool :=
  match ph with
  | some .running => held
  | some .waitStart => true
  | some .closed => false
  | _ => !held

/-! ## all schedules -/

/-- a reply that meets a wrapper that is not waiting is ignored: nothing changes, nothing is sent
    (SetRunningStatus returns "status not wait start", the handler only logs) -/
theorem reply_outside_wait_silent (s : Reg) (w : W) (hw : s.w = some w) (hp : w.phase ≠ .waitStart)
    (now : Nat) (respErr acc : Bool) :
    regStep s (.reply now respErr) acc = s ∧ (actOut onStartResult s.w (.reply now respErr)).2 = [] := by
  obtain ⟨sw, held, last⟩ := s
  simp only at hw
  subst hw
  simp [step, hp]

/-- a reply for a name that is not configured (any more) is ignored as well -/
theorem reply_unconfigured_silent (s : Reg) (hw : s.w = none) (now : Nat) (respErr acc : Bool) :
    regStep s (.reply now respErr) acc = s := by
  obtain ⟨sw, held, last⟩ := s
  simp only at hw
  subst hw
  simp

/-- status and wire in step for one name -/
def CtlSync (s : Reg) : Prop := syncObsOK (s.w.map (·.phase)) s.last = true

/-- any event but `Stop` keeps the observer's two readings of a configured name in step -/
theorem syncObsOK_move {e : Event} {p q : Phase} {ms : List Msg} {last : Option Msg} (hm : Move e p q ms)
    (he : e ≠ .stop) (h : syncObsOK (some p) last = true) : syncObsOK (some q) (lastMsg last ms) = true := by
  cases hm with
  | stay => exact h
  | started => exact h
  | stop => exact absurd rfl he
  | _ => rfl

theorem ctl_sync_step (s : Reg) (a : Act) (acc : Bool) (h : CtlSync s) : CtlSync (regStep s a acc) := by
  obtain ⟨sw, held, last⟩ := s
  unfold CtlSync at h ⊢
  cases sw with
  | none =>
    cases a with
    -- a fresh wrapper is `new`, which reads like "not configured"
    | add c id now => exact syncObsOK_move (step_move (mk c id) (.tick now)) nofun h
    | _ => exact h
  | some w =>
    cases a with
    | ev e => exact syncObsOK_move (step_move w e.toEvent) (by cases e <;> nofun) h
    | reply now e =>
      simp only [regStep, regStepG, actOut, onStartResult, List.append_nil]
      exact syncObsOK_move (step_move w (.startResp now e)) nofun h
    | remove =>
      have hne : w.phase ≠ .closed := fun hc => by rw [Option.map_some, hc] at h; cases h
      simp only [regStep, regStepG, actOut, stop_emits_one_close w hne]
      rfl
    | add c id now => exact h

/-- for every schedule of worker iterations, health changes, reloads and replies — late, duplicated,
    reordered, for names that are gone — status and wire stay in step -/
theorem ctl_sync_run (as : List (Act × Bool)) : ∀ (s : Reg), CtlSync s → CtlSync (regRun s as) := by
  induction as with
  | nil => intro s h; simpa [regRun, regRunG] using h
  | cons a as ih =>
    intro s h
    obtain ⟨a, acc⟩ := a
    simp only [regRun, regRunG]
    exact ih _ (ctl_sync_step s a acc h)

theorem ctlSync_init : CtlSync {} := by simp [CtlSync, syncObsOK]

/-- the client never closes a proxy it reports running: whatever happened, in whatever order, the last
    message about a proxy whose status is `running` (or `wait start`) is NewProxy -/
theorem running_never_closed (as : List (Act × Bool)) (w : W) (h : (regRun {} as).w = some w)
    (hp : w.phase = .running ∨ w.phase = .waitStart) : (regRun {} as).last = some .newProxy := by
  have := ctl_sync_run as {} ctlSync_init
  simp only [CtlSync, h, Option.map_some] at this
  rcases hp with hp | hp <;> simpa [syncObsOK, hp] using this

/-- whenever CloseProxy is the last message about a name, the name is neither running nor waiting -/
theorem close_leaves_not_running (as : List (Act × Bool)) (h : (regRun {} as).last = some .closeProxy) :
    ∀ w, (regRun {} as).w = some w → w.phase ≠ .running ∧ w.phase ≠ .waitStart := by
  intro w hw
  constructor <;> intro hp
  · have := running_never_closed as w hw (Or.inl hp); rw [h] at this; cases this
  · have := running_never_closed as w hw (Or.inr hp); rw [h] at this; cases this

/-- a name that is not configured (any more) is closed at the server or was never announced -/
theorem unconfigured_closed (as : List (Act × Bool)) (h : (regRun {} as).w = none) :
    (regRun {} as).last ≠ some .newProxy := by
  have := ctl_sync_run as {} ctlSync_init
  simp only [CtlSync, h, Option.map_none, syncObsOK] at this
  simpa using this

/-! ## the server's table -/

/-- running ⇒ held;  start error / check failed / new / not configured ⇒ not held -/
def RegInv (s : Reg) : Prop := tableObsOK (s.w.map (·.phase)) s.held = true

/-- the reply, if it meets a waiting wrapper, says what the server holds for the name right now -/
def truthful (s : Reg) : Act → Bool
  | .reply _ respErr =>
    match s.w with
    | some w => w.phase != .waitStart || respErr == !s.held
    | none => true
  | _ => true

def Truthful (s : Reg) (a : Act) : Prop := truthful s a = true

instance (s : Reg) : Decidable (RegInv s) := by unfold RegInv; infer_instance
instance (s : Reg) : Decidable (CtlSync s) := by unfold CtlSync; infer_instance
instance (s : Reg) (a : Act) : Decidable (Truthful s a) := by unfold Truthful; infer_instance

/-- any event but `Stop` keeps the table entry in step with the status, provided a reply that meets a
    waiting wrapper says what the server holds -/
theorem tableObsOK_move {e : Event} {p q : Phase} {ms : List Msg} {held : Bool} (acc : Bool)
    (hm : Move e p q ms) (he : e ≠ .stop)
    (ht : ∀ now respErr, e = .startResp now respErr → p = .waitStart → respErr = !held)
    (h : tableObsOK (some p) held = true) : tableObsOK (some q) (srv1 acc held ms) = true := by
  cases hm with
  | stay => exact h
  | refused now => rw [Bool.not_eq_eq_eq_not.mp (ht now true rfl rfl).symm]; rfl
  | started now => rw [Bool.not_eq_eq_eq_not.mp (ht now false rfl rfl).symm]; rfl
  | stop => exact absurd rfl he
  | _ => rfl

theorem reg_inv_step (s : Reg) (a : Act) (acc : Bool) (h : RegInv s) (ht : Truthful s a) :
    RegInv (regStep s a acc) := by
  obtain ⟨sw, held, last⟩ := s
  unfold RegInv at h ⊢
  cases sw with
  | none =>
    cases a with
    | add c id now => exact tableObsOK_move acc (step_move (mk c id) (.tick now)) nofun nofun h
    | _ => exact h
  | some w =>
    cases a with
    | ev e => exact tableObsOK_move acc (step_move w e.toEvent) (by cases e <;> nofun) (by cases e <;> nofun) h
    | reply now e =>
      simp only [regStep, regStepG, actOut, onStartResult, List.append_nil]
      refine tableObsOK_move acc (step_move w (.startResp now e)) nofun ?_ h
      intro _ _ he hp
      cases he
      simpa [Truthful, truthful, hp] using ht
    | remove =>
      have hne : w.phase ≠ .closed := fun hc => by rw [Option.map_some, hc] at h; cases h
      simp only [regStep, regStepG, actOut, stop_emits_one_close w hne]
      rfl
    | add c id now => exact h

/-- every action of the run is truthful in the state it meets -/
def truthfulRun : Reg → List (Act × Bool) → Bool
  | _, [] => true
  | s, (a, acc) :: rest => truthful s a && truthfulRun (regStep s a acc) rest

def TruthfulRun (s : Reg) (as : List (Act × Bool)) : Prop := truthfulRun s as = true

instance (s : Reg) (as : List (Act × Bool)) : Decidable (TruthfulRun s as) := by unfold TruthfulRun; infer_instance

/-- for every schedule whose replies, when they meet a waiting wrapper, agree with the server's table:
    running ⇒ held, start error / check failed / new / not configured ⇒ not held -/
theorem reg_inv_run (as : List (Act × Bool)) : ∀ (s : Reg), RegInv s → TruthfulRun s as → RegInv (regRun s as) := by
  induction as with
  | nil => intro s h _; simpa [regRun, regRunG] using h
  | cons a as ih =>
    intro s h ht
    obtain ⟨a, acc⟩ := a
    simp only [TruthfulRun, truthfulRun, Bool.and_eq_true] at ht
    simp only [regRun, regRunG]
    exact ih _ (reg_inv_step s a acc h ht.1) ht.2

theorem regInv_init : RegInv {} := by simp [RegInv, tableObsOK]

/-- at quiescence (no wrapper of the name waiting for an answer) the server holds the proxy iff the
    client reports it running -/
theorem quiescent_held_iff_running (as : List (Act × Bool)) (ht : TruthfulRun {} as)
    (hq : ∀ w, (regRun {} as).w = some w → w.phase ≠ .waitStart) :
    (regRun {} as).held = true ↔ ∃ w, (regRun {} as).w = some w ∧ w.phase = .running := by
  have hi := reg_inv_run as {} regInv_init ht
  generalize regRun {} as = s at hi hq
  obtain ⟨sw, held, last⟩ := s
  cases sw with
  | none => simp only [RegInv, Option.map_none, tableObsOK] at hi; simp_all
  | some w =>
    simp only [RegInv, Option.map_some] at hi
    have hq' := hq w rfl
    cases hp : w.phase <;> simp_all [tableObsOK]

/-- a request sent while the server holds nothing for the name and answered by what the server did
    with it is truthful: accepted ⇒ held and success, refused ⇒ not held and error -/
theorem own_reply_truthful (s : Reg) (w : W) (hw : s.w = some w) (now : Nat) (acc : Bool)
    (hwant : wantsStart w now = true) (hh : w.health = 0) (hfree : s.held = false) :
    (regStep s (.ev (.tick now)) acc).held = acc ∧
    Truthful (regStep s (.ev (.tick now)) acc) (.reply now (!acc)) := by
  obtain ⟨sw, held, last⟩ := s
  simp only at hw hfree
  subst hw hfree
  simp [step, hh, hwant, Truthful, truthful]

/-! ## convergence to configured ∧ healthy -/

/-- convergence to configured ∧ healthy, per name, against a server that accepts: from any state that
    satisfies the table invariant with no answer outstanding and the wrapper not waiting, a healthy
    proxy whose local start works is, one worker iteration after the deadlines and the (truthful) answer
    later, running AND held -/
theorem converge_registers (s : Reg) (w : W) (hw : s.w = some w) (hi : RegInv s)
    (hp : w.phase = .new ∨ w.phase = .checkFailed ∨ w.phase = .startErr)
    (hh : w.health = 0) (hr : w.cfg.runFails = false) (now : Nat) (h2 : w.lastErr + startErrTimeout < now) :
    let s1 := regStep s (.ev (.tick now)) true
    let s2 := regStep s1 (.reply now false) true
    Truthful s1 (.reply now false) ∧ s2.held = true ∧ s2.w.map (·.phase) = some .running ∧
    s2.last = some .newProxy := by
  obtain ⟨sw, held, last⟩ := s
  simp only at hw
  subst hw
  simp only [RegInv, Option.map_some] at hi
  rcases hp with hp | hp | hp <;> simp_all [step, wantsStart, Truthful, truthful, tableObsOK]

/-- from a state that satisfies the table invariant, an unhealthy proxy is, one worker iteration later,
    neither waiting nor running and not held -/
theorem converge_unhealthy_withdrawn (s : Reg) (w : W) (hw : s.w = some w) (hi : RegInv s)
    (hh : w.health ≠ 0) (now : Nat) (acc : Bool) :
    let s1 := regStep s (.ev (.tick now)) acc
    s1.held = false ∧ ∀ w1, s1.w = some w1 → w1.phase ≠ .running ∧ w1.phase ≠ .waitStart := by
  obtain ⟨sw, held, last⟩ := s
  simp only at hw
  subst hw
  simp only [RegInv, Option.map_some] at hi
  cases hp : w.phase <;> simp_all [step, tableObsOK]

/-- a name that a reload removes is released at the server -/
theorem remove_releases (s : Reg) (acc : Bool) (hi : RegInv s) :
    (regStep s .remove acc).held = false ∧ (regStep s .remove acc).w = none := by
  obtain ⟨sw, held, last⟩ := s
  cases sw with
  | none => exact ⟨by simpa [RegInv, tableObsOK] using hi, rfl⟩
  | some w =>
    have hne : w.phase ≠ .closed := fun hc => by simp [RegInv, tableObsOK, hc] at hi
    exact ⟨by simp [stop_emits_one_close w hne], rfl⟩

/-! ## the two schedules with two requests outstanding -/

def plainCfg : Cfg := ⟨1, 0, false, false⟩
def healthCfg : Cfg := ⟨1, 10, true, false⟩

/-- registration, withdrawal and registration again while the first request is unanswered; the
    server accepts both and answers both: the first answer makes the proxy running, the second one
    is ignored; held and running -/
def flapSchedule : List (Act × Bool) :=
  [(.add healthCfg 1 0, true), (.ev .healthUp, true), (.ev (.tick 600), true),       -- NewProxy (accepted)
   (.ev .healthDown, true), (.ev (.tick 700), true),                                  -- CloseProxy
   (.ev .healthUp, true), (.ev (.tick 800), true),                                    -- NewProxy (accepted)
   (.reply 900 false, true), (.reply 901 false, true)]

theorem flap_unanswered_converges :
    TruthfulRun {} flapSchedule ∧ (regRun {} flapSchedule).held = true ∧
    ((regRun {} flapSchedule).w.map (·.phase)) = some .running ∧
    (regRun {} flapSchedule).last = some .newProxy := by
  decide +kernel

/-- a request repeated after waitResponseTimeout; the server accepts the first and refuses the second
    ("already exists", the registration stays); success, then the error: held and running -/
def resendSchedule : List (Act × Bool) :=
  [(.add plainCfg 1 0, true), (.ev (.tick 20001), true), (.reply 20500 false, true), (.reply 20501 true, true)]

theorem resend_converges :
    TruthfulRun {} resendSchedule ∧ (regRun {} resendSchedule).held = true ∧
    ((regRun {} resendSchedule).w.map (·.phase)) = some .running := by
  decide +kernel

/-! ## finding: the answer to an earlier request is applied to a later one -/

/-- accepted, withdrawn (health), registered again and REFUSED (say the remote port was taken in
    between); the server answers in order: success, error.  The success meets the second wait: the
    client reports `running`; the error is then ignored.  The server holds nothing -/
def staleSchedule : List (Act × Bool) :=
  [(.add healthCfg 1 0, true), (.ev .healthUp, true), (.ev (.tick 600), true),       -- NewProxy, accepted
   (.ev .healthDown, true), (.ev (.tick 700), true),                                  -- CloseProxy
   (.ev .healthUp, true), (.ev (.tick 800), false),                                   -- NewProxy, refused
   (.reply 900 false, true), (.reply 901 true, true)]

theorem stale_reply_witness :
    (regRun {} staleSchedule).held = false ∧
    ((regRun {} staleSchedule).w.map (·.phase)) = some .running ∧
    -- and no later worker iteration changes that
    ((regRun {} (staleSchedule ++ [(.ev (.tick 100000), true)])).w.map (·.phase)) = some .running ∧
    (regRun {} (staleSchedule ++ [(.ev (.tick 100000), true)])).held = false := by
  decide +kernel

/-- without the hypothesis `TruthfulRun` the table invariant does not hold for the code as it is -/
theorem truthful_needed : ¬ (∀ as : List (Act × Bool), RegInv (regRun {} as)) := by
  intro h
  have := h staleSchedule
  revert this
  decide +kernel

/-! ## sensitivity: a handler that closes on every start error -/

/-- with `onStartResultClosing` as the handler's reaction the duplicated-answer schedule of
    `flap_unanswered_converges` (truthful) ends with a proxy reported running, closed at the server -/
theorem closing_glue_witness :
    (regRunG onStartResultClosing {} flapSchedule).held = false ∧
    ((regRunG onStartResultClosing {} flapSchedule).w.map (·.phase)) = some .running ∧
    (regRunG onStartResultClosing {} flapSchedule).last = some .closeProxy := by
  decide +kernel

/-! ## why one name is enough

  `Reg` is the projection of the manager's map and of the server's list of held names to one name.  The
  three facts below say that the projection commutes with the handler and with the server: on the entry
  of `n`, `handleResp` is `actOut` of a reply, the server's table after the messages of `n` is `srv1`, and
  messages about other names leave the entry alone.  The invariants above are not restated for `Mgr`. -/

theorem find_map_replace (n : Nat) (w w' : W) (hn : (w'.cfg.name == n) = true) : ∀ (ws : List W),
    ws.find? (fun x => x.cfg.name == n) = some w →
    (ws.map (fun x => if (x.cfg.name == n) = true then w' else x)).find? (fun x => x.cfg.name == n) = some w' := by
  intro ws
  induction ws with
  | nil => intro hf; cases hf
  | cons x xs ih =>
    intro hf
    rw [List.map_cons, List.find?_cons]
    rw [List.find?_cons] at hf
    cases hx : x.cfg.name == n
    · rw [hx] at hf
      simp only [Bool.false_eq_true, if_false, hx]
      exact ih hf
    · simp only [if_true, hn]

theorem handleResp_eq_act (glue : Option Res → List Msg) (m : Mgr) (n now : Nat) (respErr : Bool) :
    (handleResp glue m n now respErr).2.1 = (actOut glue (Reconcile.find m n) (.reply now respErr)).2 ∧
    Reconcile.find (handleResp glue m n now respErr).1 n =
      ((actOut glue (Reconcile.find m n) (.reply now respErr)).1) := by
  unfold handleResp deliver
  cases hf : Reconcile.find m n with
  | none => simp [hf]
  | some w =>
    have hf' : m.proxies.find? (fun w => w.cfg.name == n) = some w := hf
    have hwn : (w.cfg.name == n) = true := by simpa using List.find?_some hf'
    have hcfg : ((step w (.startResp now respErr)).1.cfg.name == n) = true := by
      rw [(step_cfg w _).1]; exact hwn
    refine ⟨rfl, ?_⟩
    exact find_map_replace n w _ hcfg _ hf'

theorem contains_filter_ne (held : List Nat) (n n' : Nat) (h : n' ≠ n) :
    (held.filter (· != n')).contains n = held.contains n := by
  rw [Bool.eq_iff_iff]
  simp [List.mem_filter, h.symm]

theorem contains_filter_self (held : List Nat) (n : Nat) : (held.filter (· != n)).contains n = false := by
  simp [List.mem_filter]

/-- the server's table for one name is `srv1` of that name's messages -/
theorem srvRecvAll_held (acc : Bool) (n : Nat) (ms : List Msg) : ∀ (held : List Nat),
    (srvRecvAll acc held (ms.map (fun x => (n, x)))).1.contains n = srv1 acc (held.contains n) ms := by
  induction ms with
  | nil => intro held; rfl
  | cons x xs ih =>
    intro held
    cases x with
    | newProxy =>
      simp only [List.map_cons, srvRecvAll, srvRecv, srv1]
      -- held already, accepted, refused: in each case the entry becomes `held.contains n || acc`
      (repeat' split) <;> rw [ih] <;> simp_all
    | closeProxy =>
      simp only [List.map_cons, srvRecvAll, srvRecv, srv1]
      rw [ih, contains_filter_self]

/-- messages about other names do not touch the entry -/
theorem srvRecv_other (acc : Bool) (held : List Nat) (n n' : Nat) (x : Msg) (h : n' ≠ n) :
    (srvRecv acc held (n', x)).1.contains n = held.contains n := by
  cases x with
  | newProxy =>
    simp only [srvRecv]
    (repeat' split) <;> simp [h.symm]
  | closeProxy => exact contains_filter_ne held n n' h

/-! ## the model's own runs satisfy the executable predicates -/

theorem model_syncObsOK (as : List (Act × Bool)) :
    syncObsOK ((regRun {} as).w.map (·.phase)) (regRun {} as).last = true :=
  ctl_sync_run as {} ctlSync_init

theorem model_tableObsOK (as : List (Act × Bool)) (ht : TruthfulRun {} as) :
    tableObsOK ((regRun {} as).w.map (·.phase)) (regRun {} as).held = true :=
  reg_inv_run as {} regInv_init ht

end C

end C19
end Frp
