import Frp.Props.C19Visitors
import Frp.Model.VisitorKeeper
import Frp.Gen.C19Facts
/-
  C19, Part VK — the visitor manager's keeper goroutine is alive in every reachable state, hence a
  configured visitor whose start failed is started by the next tick once the obstacle is gone —
  after ANY history of reloads (also to zero visitors and back), failing starts, addresses taken and
  released, and ticks.
-/
namespace Frp
namespace C19
open VisitorMgr VisitorKeeper

/-- the shape of the source the model rests on, regenerated on every run: the keeper's `for` has no
    condition and its ONLY exits are the two `return`s under `case <-vm.stopCh` (the outer select and the
    re-check once the lock is held); the goroutine is started from UpdateAll alone, through the Once,
    whenever the list is not empty; nobody re-arms the Once -/
theorem keeper_source_shape :
    Gen.C19Facts.keeperLoopUnconditional = true ∧
    Gen.C19Facts.keeperExits = [("return", ["recv vm.stopCh"]), ("return", ["recv ticker.C", "recv vm.stopCh"])] ∧
    Gen.C19Facts.keeperStarts = [("UpdateAll", true, ["if len(cfgs) > 0"])] ∧
    Gen.C19Facts.keeperOnceReassigned = false := by decide +kernel

/-- every exit of the loop is guarded, innermost, by a receive from the stop channel -/
theorem keeper_exits_only_on_stop :
    Gen.C19Facts.keeperExits.all (fun e => e.2.getLast? == some "recv vm.stopCh") = true := by decide +kernel

/-! ### lemmas about the manager's `closed` flag and stored entries -/

theorem tryStart_closed (m : Mgr) (n : Nat) : (tryStart m n).closed = m.closed := by
  rcases VM.tryStart_eq m n with e | ⟨c, _, _, _, e⟩ <;> rw [e]
  exact VM.startVisitor_closed _ _

theorem activePass_eq_pass (order : List Nat) : ∀ (m : Mgr), m.closed = false → activePass m order = pass m order := by
  induction order with
  | nil => intro m _; rfl
  | cons n rest ih =>
    intro m h
    show activePass (activeTryStart m n) rest = pass (tryStart m n) rest
    have e : activeTryStart m n = tryStart m n := by simp [activeTryStart, tryStartFixed, h]
    rw [e]
    exact ih _ (by rw [tryStart_closed]; exact h)

theorem addLoop_closed (cs : List VCfg) (m : Mgr) : (addLoop m cs).closed = m.closed :=
  VM.addLoop_induct (P := fun x => x.closed = m.closed) cs
    (fun _ _ _ _ h => (VM.startVisitor_closed _ _).trans h) m rfl

theorem activeUpdateAll_closed (m : Mgr) (cfgs : List VCfg) : (activeUpdateAll m cfgs).closed = m.closed :=
  addLoop_closed _ _

theorem activeUpdateAll_nil (m : Mgr) : (activeUpdateAll m []).cfgs = [] := by
  simp [activeUpdateAll, updateAllFixed, addLoop, keeps, lookupLast]

theorem activeTryStart_eq (m : Mgr) (n : Nat) : activeTryStart m n = m ∨ activeTryStart m n = tryStart m n := by
  simp only [activeTryStart, tryStartFixed]
  split
  · exact .inl rfl
  · exact .inr rfl

theorem activePass_cfgs (order : List Nat) (m : Mgr) : (activePass m order).cfgs = m.cfgs := by
  refine List.foldlRecOn (motive := fun x => x.cfgs = m.cfgs) order activeTryStart rfl (fun x hx n _ => ?_)
  rcases activeTryStart_eq x n with e | e <;> rw [e]
  · exact hx
  · exact (vm_tryStart_cfgs x n).trans hx

theorem activePass_closed (order : List Nat) : ∀ (m : Mgr), (activePass m order).closed = m.closed := by
  intro m
  refine List.foldlRecOn (motive := fun x => x.closed = m.closed) order activeTryStart rfl (fun x hx n _ => ?_)
  rcases activeTryStart_eq x n with e | e <;> rw [e]
  · exact hx
  · exact (tryStart_closed x n).trans hx

theorem activePass_inv (order : List Nat) (m : Mgr) (h : VInv m) : VInv (activePass m order) := by
  refine List.foldlRecOn order activeTryStart h (fun x hx n _ => ?_)
  rcases activeTryStart_eq x n with e | e <;> rw [e]
  · exact hx
  · exact vm_inv_tryStart x n hx

/-! ### the keeper is alive in every reachable state -/

/-- whenever something is configured the Once has fired; once it has fired and the manager is not
    closed the goroutine is inside its loop; the manager's own invariant -/
structure KInv (s : KM) : Prop where
  cfgOnce : s.m.cfgs ≠ [] → s.once = true
  alive : s.once = true → s.m.closed = false → s.k = .alive
  vinv : VInv s.m

theorem keeper_inv_init : KInv VisitorKeeper.init :=
  ⟨fun h => absurd rfl h, fun h => (by cases h), vm_inv_init⟩

theorem keeper_inv_step (s : KM) (e : VisitorKeeper.Ev) (h : KInv s) : KInv (VisitorKeeper.step s e) := by
  obtain ⟨h1, h2, h3⟩ := h
  cases e with
  | upd cfgs =>
    -- first the Once: it leaves the manager alone, has fired if the list is not empty, and a goroutine
    -- it starts on an open manager is alive
    obtain ⟨s1, he, hm, hc, ha⟩ : ∃ s1 : KM,
        VisitorKeeper.step s (.upd cfgs) = { s1 with m := activeUpdateAll s1.m cfgs } ∧
        s1.m = s.m ∧ (cfgs ≠ [] → s1.once = true) ∧ (s1.once = true → s.m.closed = false → s1.k = .alive) := by
      simp only [VisitorKeeper.step, stepG, VisitorKeeper.upd]
      split
      · exact ⟨_, rfl, rfl, fun _ => rfl, fun _ hcl => by simp [hcl]⟩
      · refine ⟨s, rfl, rfl, fun hne => ?_, h2⟩
        cases ho : s.once
        · cases cfgs <;> simp_all
        · rfl
    rw [he, hm]
    refine ⟨fun hne => hc (fun hnil => hne (hnil ▸ activeUpdateAll_nil s.m)), fun ho hcl => ?_,
      vm_inv_updateAllFixed s.m cfgs h3⟩
    rw [activeUpdateAll_closed] at hcl
    exact ha ho hcl
  | tick order =>
    simp only [VisitorKeeper.step, stepG, VisitorKeeper.tick]
    split
    · split
      · rename_i hcl
        exact ⟨h1, fun _ hc => (by simp only at hc; rw [hcl] at hc; cases hc), h3⟩
      · simp only [Bool.false_and, Bool.false_eq_true, if_false]
        rename_i hk hcl
        refine ⟨fun hne => h1 (by rw [activePass_cfgs] at hne; exact hne), fun _ _ => hk, activePass_inv order _ h3⟩
    · exact ⟨h1, h2, h3⟩
  | squat p =>
    simp only [VisitorKeeper.step, stepG]
    refine ⟨fun hne => h1 (by rw [vm_step_cfgs _ _ rfl] at hne; exact hne), ?_, vm_inv_step _ _ h3⟩
    intro ho hcl
    apply h2 ho
    simp only [VisitorMgr.step] at hcl
    split at hcl <;> exact hcl
  | free p =>
    simp only [VisitorKeeper.step, stepG]
    refine ⟨fun hne => h1 (by rw [vm_step_cfgs _ _ rfl] at hne; exact hne), ?_, vm_inv_step _ _ h3⟩
    intro ho hcl
    exact h2 ho hcl
  | close =>
    simp only [VisitorKeeper.step, stepG]
    refine ⟨fun hne => h1 hne, ?_, vm_inv_close _ h3⟩
    intro _ hcl
    simp [VisitorMgr.close] at hcl

theorem keeper_inv_run (es : List VisitorKeeper.Ev) : ∀ (s : KM), KInv s → KInv (VisitorKeeper.run s es) :=
  fun _ h => List.foldlRecOn es VisitorKeeper.step h (fun s hs e _ => keeper_inv_step s e hs)

/-- the keeper is alive: after every history, if anything is configured and the manager has not been
    closed, the goroutine is inside its loop -/
theorem keeper_alive (es : List VisitorKeeper.Ev) (hcl : (VisitorKeeper.run VisitorKeeper.init es).m.closed = false)
    (hc : (VisitorKeeper.run VisitorKeeper.init es).m.cfgs ≠ []) :
    (VisitorKeeper.run VisitorKeeper.init es).k = .alive := by
  have h := keeper_inv_run es _ keeper_inv_init
  exact h.alive (h.cfgOnce hc) hcl

/-- convergence within one tick, for every history (reloads to zero visitors and back, failing starts,
    addresses taken and released, any number of ticks in between): on a manager that has not been
    closed, the next firing of the ticker — whatever order Go's map iteration takes, as long as it
    visits every stored name — leaves every configured entry running or unstartable in the state it
    ends in (its address is taken, or its configuration can never start) -/
theorem keeper_tick_settles (es : List VisitorKeeper.Ev) (order : List Nat)
    (hcl : (VisitorKeeper.run VisitorKeeper.init es).m.closed = false) :
    ∀ c ∈ (VisitorKeeper.run VisitorKeeper.init es).m.cfgs, c.name ∈ order →
      vmSettled (VisitorKeeper.step (VisitorKeeper.run VisitorKeeper.init es) (.tick order)).m c := by
  intro c hc hn
  have h := keeper_inv_run es _ keeper_inv_init
  have hne : (VisitorKeeper.run VisitorKeeper.init es).m.cfgs ≠ [] := by
    intro e; rw [e] at hc; cases hc
  have hk := h.alive (h.cfgOnce hne) hcl
  simp only [VisitorKeeper.step, stepG, VisitorKeeper.tick, hk, hcl, Bool.false_and, Bool.false_eq_true, if_false]
  rw [activePass_eq_pass order _ hcl]
  exact vm_pass_complete order _ h.vinv c hc hn

/-- if the obstacle is gone after the tick — the entry can start in the state the tick ends in — the entry
    is running -/
theorem keeper_obstacle_gone_running (es : List VisitorKeeper.Ev) (order : List Nat)
    (hcl : (VisitorKeeper.run VisitorKeeper.init es).m.closed = false)
    (c : VCfg) (hc : c ∈ (VisitorKeeper.run VisitorKeeper.init es).m.cfgs) (hn : c.name ∈ order)
    (hcan : canStart (VisitorKeeper.step (VisitorKeeper.run VisitorKeeper.init es) (.tick order)).m c = true) :
    hasVisitor (VisitorKeeper.step (VisitorKeeper.run VisitorKeeper.init es) (.tick order)).m.visitors c.name = true := by
  rcases keeper_tick_settles es order hcl c hc hn with h | h
  · exact h
  · rw [hcan] at h; cases h

/-! ### the theorems discriminate: a loop that also ends when nothing is configured -/

def kA : VCfg := ⟨1, 0, 1, false⟩
def kB : VCfg := ⟨2, 0, 1, false⟩

/-- load a visitor, reload to zero visitors, one tick, the address is taken, reload adding a visitor on
    it (its start fails), the address is released -/
def emptyEpisode : List VisitorKeeper.Ev := [.upd [kA], .upd [], .tick [], .squat 1, .upd [kB], .free 1]

/-- in the variant the goroutine is gone, the Once is spent: the configured, startable visitor is not
    running and no tick will ever start it … -/
theorem keeper_exit_on_empty_witness :
    (runG true VisitorKeeper.init emptyEpisode).k = .exited ∧
    (runG true VisitorKeeper.init emptyEpisode).m.cfgs = [kB] ∧
    canStart (runG true VisitorKeeper.init emptyEpisode).m kB = true ∧
    ∀ order, (stepG true (runG true VisitorKeeper.init emptyEpisode) (.tick order)).m.visitors = [] := by
  refine ⟨by decide, by decide, by decide, ?_⟩
  intro order
  have hk : (runG true VisitorKeeper.init emptyEpisode).k = .exited := by decide
  have hv : (runG true VisitorKeeper.init emptyEpisode).m.visitors = [] := by decide
  simp only [stepG, VisitorKeeper.tick, hk]
  exact hv

/-- on the same episode the code as it is keeps the goroutine and starts the visitor at the next tick -/
theorem keeper_empty_episode_code :
    (VisitorKeeper.run VisitorKeeper.init emptyEpisode).k = .alive ∧
    hasVisitor (VisitorKeeper.step (VisitorKeeper.run VisitorKeeper.init emptyEpisode) (.tick [2])).m.visitors 2 = true := by
  decide

end C19
end Frp
