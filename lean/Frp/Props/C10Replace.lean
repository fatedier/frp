import Frp.Model.SessReplace
import Frp.Props.C10
import Frp.Gen.ReplaceFacts
/-
  C10 — a session REPLACED by a new login with its run id, teardown of any duration (Frp/Model/SessReplace.lean).

  Clause: "end or replacement of its session … every server resource it held is released.  Consequently an identical
  registration submitted … on a new session shortly after the old one ended succeeds."

  The model has no clock: an attempt to end the wait may come at any moment, "however long the teardown takes" is
  "after any number of other labels".  `RInv` says, for every history: the tables are consistent; a session that is not
  started or has walked owns nothing and has no registration in flight; a started session that replaced `o` ⇒ `o` has
  closed its doneCh.  The last three theorems are one slow-teardown history, run with a wait that may give up and with
  the wait the source has.
-/
namespace Frp
namespace C10
namespace Replace
open Release RegSteps SessReplace

/-! ### tie to the source -/

def codeUnbounded : Bool :=
  Gen.ReplaceFacts.regCtlSeq == ["ifOld", "start"] &&
  Gen.ReplaceFacts.oldBody == ["call:oldCtl.WaitClosed"] &&
  Gen.ReplaceFacts.waitCalleeParams == 0 &&
  Gen.ReplaceFacts.waitCalleeBody == ["recv:ctl.doneCh"] &&
  Gen.ReplaceFacts.doneChClosers == ["control.go:worker"] &&
  Gen.ReplaceFacts.doneChMakers == ["control.go:NewControl"] &&
  Gen.ReplaceFacts.doneCloseAfterWalk && Gen.ReplaceFacts.walkClosesInline &&
  Gen.ReplaceFacts.workerSpawns == ["control.go:Start"] &&
  Gen.ReplaceFacts.dispatcherRunIn == ["control.go:worker"]

/-- RegisterControl waits for the replaced session without any bound: between ControlManager.Add and ctl.Start() it
    does nothing but `oldCtl.WaitClosed()`, the bare receive `<-ctl.doneCh`; doneCh is closed only by worker(), at top
    level, after the walk that closes every proxy; messages are handled only after Start() (facts regenerated from the
    source, Frp/Gen/ReplaceFacts.lean) -/
theorem wait_is_unbounded : codeUnbounded = true := by decide +kernel

/-! ### the invariant -/

def Quiet (c : CState) (n : Nat) : Prop := ∀ f ∈ c.flights, f.sid ≠ n
def Absent (c : CState) (n : Nat) : Prop := (∀ o ∈ c.own, o.sid ≠ n) ∧ Quiet c n

def PhOK (c : CState) (n : Nat) : Ph → Prop
  | .live => True
  | .ending => True
  | .parked => Quiet c n
  | _ => Absent c n

structure RInv (s : PState) : Prop where
  conc : Conc.Inv s.c
  phok : ∀ n, PhOK s.c n (s.ph n)
  wait : ∀ n o, s.old n = some o → (∃ b, s.ph n = .waiting b) ∨ s.ph o = .gone

theorem rinv_init (m : Nat) : RInv (PState.init m) :=
  ⟨Conc.inv_init m, fun n => by
     show Absent _ n
     exact ⟨fun o ho => (by cases ho), fun f hf => (by cases hf)⟩,
   fun n o h => by cases h⟩

theorem RInv.phokAt {s : PState} (h : RInv s) {n : Nat} {p : Ph} (e : s.ph n = p) : PhOK s.c n p :=
  e ▸ h.phok n

theorem phok_weaken {c : CState} {n : Nat} {p : Ph} (h : Absent c n) : PhOK c n p := by
  cases p with
  | live | ending => trivial
  | parked => exact h.2
  | _ => exact h

/-- the tables `c'` after an action of session `m` on `c`: whatever is new belongs to `m` -/
def Frame (c c' : CState) (m : Nat) : Prop :=
  (∀ o ∈ c'.own, o ∈ c.own ∨ o.sid = m) ∧ (∀ f ∈ c'.flights, f ∈ c.flights ∨ f.sid = m)

theorem Frame.of_sub {c c' : CState} {m : Nat} (ho : ∀ o ∈ c'.own, o ∈ c.own)
    (hf : ∀ f ∈ c'.flights, f ∈ c.flights) : Frame c c' m :=
  ⟨fun o h => .inl (ho o h), fun f h => .inl (hf f h)⟩

theorem phok_frame {c c' : CState} {m n : Nat} {p : Ph} (hfr : Frame c c' m) (hn : n ≠ m)
    (h : PhOK c n p) : PhOK c' n p := by
  have q : Quiet c n → Quiet c' n := fun hq f hf' => by
    rcases hfr.2 f hf' with a | a
    · exact hq f a
    · rw [a]; exact fun e => hn e.symm
  have a : Absent c n → Absent c' n := fun ha => ⟨fun o ho' => by
    rcases hfr.1 o ho' with a | a
    · exact ha.1 o a
    · rw [a]; exact fun e => hn e.symm, q ha.2⟩
  cases p with
  | live | ending => trivial
  | parked => exact q h
  | _ => exact a h

theorem begin_frame (c : CState) (m : Nat) (name : Str) (keys : List Key) (k : Nat) :
    Frame c (c.begin m name keys k).1 m := by
  cases Conc.begin_cases c m name keys k with
  | busy _ e => rw [e]; exact .of_sub (fun _ h => h) (fun _ h => h)
  | quota _ _ e => rw [e]; exact .of_sub (fun _ h => h) (fun _ h => h)
  | taken _ _ _ e => rw [e]; exact .of_sub (fun _ h => by simpa using h) (fun _ h => by simpa using h)
  | parked _ _ _ e =>
    rw [e]
    refine ⟨fun o h => .inl (by simpa using h), fun f h => ?_⟩
    rcases List.mem_cons.mp h with a | a
    · exact .inr (by rw [a])
    · exact .inl (by simpa using a)

theorem step_frame (c : CState) (m : Nat) : Frame c (c.step m).1 m := by
  refine ⟨fun o h => ?_, fun f h => ?_⟩
  · cases Conc.step_cases c m with
    | noflight _ e => rw [e] at h; exact .inl h
    | failed _ _ _ _ e => rw [e] at h; exact .inl (by simpa [CState.dropFlight] using h)
    | ran _ _ _ _ e => rw [e] at h; exact .inl h
    | added _ _ _ _ e =>
      rw [e] at h
      rcases List.mem_cons.mp h with a | a
      · exact .inr (by rw [a])
      · exact .inl a
  · by_cases e : f.sid = m
    · exact .inr e
    · exact .inl ((Conc.step_flights_other c m f e).mp h)

theorem close_frame (c : CState) (m : Nat) (name : Str) : Frame c (c.close m name).1 m := by
  refine .of_sub (fun o h => ?_) (fun f h => Conc.close_flights c m name ▸ h)
  rcases Conc.close_cases c m name with ⟨_, e⟩ | ⟨_, _, e⟩ | ⟨o', _, _, _, _, e⟩
  · rw [e] at h; exact h
  · rw [e] at h; exact h
  · rw [e] at h
    simp only [CState.dropProxy, refund_frame] at h
    exact (List.mem_filter.mp h).1

theorem end_frame {c : CState} (hi : Conc.Inv c) (m : Nat) : Frame c (c.sessionEnd m).1 m := by
  refine .of_sub (fun o h => ?_) (fun f h => Conc.sessionEnd_flights hi m ▸ h)
  rcases Conc.sessionEnd_cases c m with ⟨_, e⟩ | ⟨hb, _⟩
  · rw [e] at h; exact h
  · rw [Conc.sessionEnd_own hi m hb] at h
    exact (List.mem_filter.mp h).1

theorem rinv_act {s : PState} (h : RInv s) (n : Nat) {c' : CState} (hc : Conc.Inv c')
    (hfr : Frame s.c c' n) (hn : PhOK c' n (s.ph n)) : RInv { s with c := c' } := by
  refine ⟨hc, fun m => ?_, h.wait⟩
  by_cases em : m = n
  · rw [em]; exact hn
  · exact phok_frame hfr em (h.phok m)

/-! ### phase changes -/

/-- a phase change of session `x` that keeps `PhOK` and never revives a finished wait -/
theorem rinv_setPh {s : PState} (h : RInv s) (x : Nat) (p : Ph) (hp : PhOK s.c x p)
    (hg : s.ph x ≠ .gone)
    (hw : (∃ b, s.ph x = .waiting b) → (∃ b, p = .waiting b) ∨ ∀ o, s.old x = some o → s.ph o = .gone) :
    RInv (s.setPh x p) := by
  refine ⟨h.conc, fun n => ?_, fun n o ho => ?_⟩
  · show PhOK s.c n (if n = x then p else s.ph n)
    by_cases e : n = x
    · rw [if_pos e, e]; exact hp
    · rw [if_neg e]; exact h.phok n
  · show (∃ b, (if n = x then p else s.ph n) = .waiting b) ∨ (if o = x then p else s.ph o) = .gone
    have ho' : s.old n = some o := ho
    have gone_stays : s.ph o = .gone → (if o = x then p else s.ph o) = .gone := fun g => by
      have : o ≠ x := fun e => hg (e ▸ g)
      rw [if_neg this]; exact g
    rcases h.wait n o ho' with a | a
    · by_cases e : n = x
      · rw [if_pos e]
        rcases hw (e ▸ a) with a' | a'
        · exact .inl a'
        · exact .inr (gone_stays (a' o (e ▸ ho')))
      · rw [if_neg e]; exact .inl a
    · exact .inr (gone_stays a)

theorem rinv_setPh_started {s : PState} (h : RInv s) (x : Nat) (p : Ph) (hp : PhOK s.c x p) {q : Ph}
    (hq : s.ph x = q) (hs : q.started = true) (hg : q ≠ .gone) : RInv (s.setPh x p) :=
  rinv_setPh h x p hp (hq ▸ hg) fun ⟨b, e⟩ => by rw [hq] at e; subst e; cases hs

theorem rinv_closeConn {s : PState} (h : RInv s) (n : Nat) : RInv (s.closeConn n) := by
  unfold PState.closeConn
  split
  · rename_i b hb
    exact rinv_setPh h n _ (h.phokAt hb : Absent s.c n) (by rw [hb]; intro e; cases e) (fun _ => .inl ⟨true, rfl⟩)
  · rename_i hb
    refine rinv_setPh_started h n _ ?_ hb rfl (by decide)
    by_cases bz : s.c.busy n = true
    · rw [if_pos bz]; trivial
    · rw [if_neg bz]; exact Conc.not_busy_iff.mp (Bool.eq_false_iff.mpr bz)
  · exact h

theorem closeConn_c (s : PState) (n : Nat) : (s.closeConn n).c = s.c := by
  unfold PState.closeConn; split <;> rfl

theorem closeConn_old (s : PState) (n : Nat) : (s.closeConn n).old = s.old := by
  unfold PState.closeConn; split <;> rfl

theorem closeConn_absent (s : PState) (n x : Nat) (hx : s.ph x = .absent) : (s.closeConn n).ph x = .absent := by
  by_cases e : x = n
  · subst e; unfold PState.closeConn; rw [hx]; exact hx
  · unfold PState.closeConn
    split
    · exact (if_neg e).trans hx
    · exact (if_neg e).trans hx
    · exact hx

theorem rinv_start {s : PState} (h : RInv s) (n : Nat) : RInv (s.start true n).1 := by
  unfold PState.start
  split
  · rename_i closed hb
    have hk' : Absent s.c n := h.phokAt hb
    by_cases may : s.mayStart true n = true
    · rw [if_pos may]
      have fin : ∀ o, s.old n = some o → s.ph o = .gone := fun o ho => by
        unfold PState.mayStart at may
        rw [ho] at may
        simpa using may
      cases closed
      · exact rinv_setPh h n .live trivial (by rw [hb]; intro e; cases e) (fun _ => .inr fin)
      · exact rinv_setPh h n .parked hk'.2 (by rw [hb]; intro e; cases e) (fun _ => .inr fin)
    · rw [if_neg may]; exact h
  · exact h

theorem rinv_closeOld {s : PState} (h : RInv s) (o : Option Nat) : RInv (s.closeOld o) := by
  cases o with
  | none => exact h
  | some o => exact rinv_closeConn h o

theorem closeOld_absent (s : PState) (o : Option Nat) (x : Nat) (hx : s.ph x = .absent) :
    (s.closeOld o).ph x = .absent := by
  cases o with
  | none => exact hx
  | some o => exact closeConn_absent s o x hx

/-- `added` is the phase change `absent → waiting` plus the entry of `old` for the new, waiting session -/
theorem rinv_added {s1 : PState} (h1 : RInv s1) (n rid : Nat) (o : Option Nat) (a1 : s1.ph n = .absent) :
    RInv (s1.added n rid o) := by
  have h2 := rinv_setPh h1 n (.waiting false) (h1.phokAt a1 : Absent s1.c n) (by rw [a1]; decide)
    (fun _ => .inl ⟨false, rfl⟩)
  refine ⟨h2.conc, h2.phok, fun m o' ho => ?_⟩
  have ho : (if m = n then o else s1.old m) = some o' := ho
  by_cases e : m = n
  · exact .inl ⟨false, if_pos e⟩
  · rw [if_neg e] at ho
    exact h2.wait m o' ho

theorem rinv_login {s : PState} (h : RInv s) (n rid : Nat) : RInv (s.login true n rid).1 := by
  unfold PState.login
  by_cases hn : s.ph n ≠ .absent
  · rw [if_pos hn]; exact h
  · rw [if_neg hn]
    have hn' : s.ph n = .absent := Classical.not_not.mp hn
    exact rinv_start (rinv_added (rinv_closeOld h _) n rid _ (closeOld_absent s _ n hn')) n

/-- a label that only a live session answers: the tables move by an action of `n`, or the other branch is taken -/
theorem rinv_ifLive {s : PState} (h : RInv s) (n : Nat) {c' : CState} (hc : Conc.Inv c') (hfr : Frame s.c c' n)
    (a : Ans) {t : PState × Ans} (ht : RInv t.1) :
    RInv (if s.ph n = .live then ({ s with c := c' }, a) else t).1 := by
  by_cases e : s.ph n = .live
  · rw [if_pos e]; exact rinv_act h n hc hfr (by rw [e]; trivial)
  · rw [if_neg e]; exact ht

theorem rinv_apply {s : PState} (h : RInv s) (op : Lbl) : RInv (s.apply true op).1 := by
  cases op with
  | login n rid => exact rinv_login h n rid
  | start n => exact rinv_start h n
  | «begin» n name keys k =>
    exact rinv_ifLive h n (Conc.inv_begin h.conc n name keys k) (begin_frame s.c n name keys k) _ h
  | step n =>
    refine rinv_ifLive h n (Conc.inv_step h.conc n) (step_frame s.c n) _ ?_
    by_cases e2 : s.ph n = .ending
    · rw [if_pos e2]
      have base : RInv ({ s with c := (s.c.step n).1 } : PState) :=
        rinv_act h n (Conc.inv_step h.conc n) (step_frame s.c n) (by rw [e2]; trivial)
      by_cases bz : (s.c.step n).1.busy n = true
      · simp only [bz, if_true]; exact base
      · simp only [bz, Bool.false_eq_true, if_false]
        exact rinv_setPh_started base n .parked (Conc.not_busy_iff.mp (Bool.eq_false_iff.mpr bz)) e2 rfl
          (by decide)
    · rw [if_neg e2]; exact h
  | close n name =>
    exact rinv_ifLive h n (Conc.inv_close h.conc n name) (close_frame s.c n name) _ h
  | drop n => exact rinv_closeConn h n
  | walk n =>
    simp only [PState.apply]
    by_cases e : s.ph n = .parked
    · rw [if_pos e]
      have hq : Quiet s.c n := h.phokAt e
      have hq' : Quiet (s.c.sessionEnd n).1 n := fun f hf => hq f (Conc.sessionEnd_flights h.conc n ▸ hf)
      refine rinv_setPh_started
        (rinv_act h n (Conc.inv_sessionEnd h.conc n) (end_frame h.conc n) (by rw [e]; exact hq')) n .walked
        ⟨fun o ho => ?_, hq'⟩ e rfl (by decide)
      have : o ∈ (s.c.sessionEnd n).1.own := ho
      rw [Conc.sessionEnd_own h.conc n (Conc.not_busy_iff.mpr hq)] at this
      simpa using (List.mem_filter.mp this).2
    · rw [if_neg e]; exact h
  | done n =>
    simp only [PState.apply]
    by_cases e : s.ph n = .walked
    · rw [if_pos e]
      exact rinv_setPh_started h n .gone (h.phokAt e : Absent s.c n) e rfl (by decide)
    · rw [if_neg e]; exact h

/-- **every history**: logins with any run ids (chains of replacements), attempts to end the wait at any moment,
    registrations of all sessions section by section, closes, dropped connections, walks, done-s -/
theorem rinv_reachable (m : Nat) (ops : List Lbl) : RInv (run true (PState.init m) ops) :=
  foldl_invariant (P := RInv) (rinv_init m) fun _ op _ h => rinv_apply h op

/-- an attempt to end the wait before the replaced session has closed its doneCh changes nothing — at any moment,
    after any number of other labels: there is no duration after which the new session starts anyway -/
theorem start_pending_until_gone (s : PState) (n o : Nat) (b : Bool) (hw : s.ph n = .waiting b)
    (ho : s.old n = some o) (hg : s.ph o ≠ .gone) : s.start true n = (s, .pending) := by
  unfold PState.start
  rw [hw]
  simp [PState.mayStart, ho, hg]

/-- **released before the new session handles anything**: in every reachable state in which a session that replaced
    `o` is started, `o` has closed its doneCh and NOTHING of it is left: no proxy in its table, no name in the name
    table, no key (port, route, listener) in any resource table, no registration in flight, quota counter 0 -/
theorem replaced_released {s : PState} (h : RInv s) {n o : Nat} (ho : s.old n = some o)
    (hs : (s.ph n).started = true) :
    s.ph o = .gone ∧ (∀ x ∈ s.c.own, x.sid ≠ o) ∧ (∀ e ∈ s.c.names, e.2 ≠ o) ∧
    (∀ e ∈ s.c.held, e.2.sid ≠ o) ∧ (∀ f ∈ s.c.flights, f.sid ≠ o) ∧ s.c.quotaOf o = 0 := by
  have hg : s.ph o = .gone := by
    rcases h.wait n o ho with ⟨b, a⟩ | a
    · rw [a] at hs; cases hs
    · exact a
  have ha : Absent s.c o := h.phokAt hg
  refine ⟨hg, ha.1, fun e he x => ?_, fun e he x => ?_, ha.2, ?_⟩
  · obtain ⟨w, hw, a, _⟩ := h.conc.struct.namesOwned e he
    exact ha.1 w hw (a.trans x)
  · rcases h.conc.struct.holderKnown e he with ⟨w, hw, a, _⟩ | ⟨f, hf, a, _⟩
    · exact ha.1 w hw (a.trans x)
    · exact ha.2 f hf (a.trans x)
  · rw [h.conc.quota o, ownSum_none _ _ ha.1, flightSum_none _ _ ha.2, amt_zero]

/-- **the identical registration on the new session succeeds**: the new session is live and idle; nobody but (as far
    as the hypotheses go) the replaced session has the name or one of the keys; the ports fit on top of what the new
    session owns.  Then the registration passes all three sections. -/
theorem reregister_after_replace {s : PState} (h : RInv s) {n o : Nat} (ho : s.old n = some o)
    (hl : s.ph n = .live) (hb : s.c.busy n = false) (name : Str) (keys : List Key) (k : Nat) (hnd : keys.Nodup)
    (hname : ∀ e ∈ s.c.names, e.1 = name → e.2 = o)
    (hkeys : ∀ e ∈ s.c.held, e.1 ∈ keys → e.2.sid = o)
    (hfit : s.c.maxPorts = 0 ∨ ownSum s.c.own n + k ≤ s.c.maxPorts) :
    (s.c.begin n name keys k).2 = .parked .checked ∧
    ((s.c.begin n name keys k).1.step n).2 = .parked .ran ∧
    (((s.c.begin n name keys k).1.step n).1.step n).2 = .ok := by
  obtain ⟨_, _, r2, r3, _, _⟩ := replaced_released h ho (by rw [hl]; rfl)
  apply Conc.retry_succeeds h.conc n name keys k hb _ hnd _ hfit
  · exact Conc.nameTaken_eq_false.mpr fun e he en => r2 e he (hname e he en)
  · intro key hk hm
    obtain ⟨e, he, ek⟩ := List.mem_map.mp hm
    exact r3 e he (hkeys e he (ek ▸ hk))

/-! ### non-vacuity: the slow teardown -/

def pxA : Str := C10.s "a"

/-- session 1 (run id 7) registers tcp proxy `a`; session 2 logs in with run id 7; session 1's worker is held before
    its walk while other sessions go on working; the wait is attempted to end; session 2 re-submits `a` -/
def slowTeardown : List Lbl :=
  [.login 1 7, .begin 1 pxA [Conc.pA] 1, .step 1, .step 1, .login 2 7,
   .login 3 8, .begin 3 (C10.s "b") [Conc.pB] 1, .step 3, .step 3, .close 3 (C10.s "b"),
   .start 2, .begin 2 pxA [Conc.pA] 1]

/-- a wait that may give up: the new session is answered while the old one still holds everything, and its
    identical registration is refused -/
theorem bounded_wait_refuses : lastAns false (PState.init 0) slowTeardown = .r .exists_ := by decide +kernel

/-- the code's wait: the attempt to start is `pending`, the registration is not handled at all -/
theorem slow_teardown_pending :
    lastAns true (PState.init 0) (slowTeardown.take 11) = .pending ∧
    lastAns true (PState.init 0) slowTeardown = .notlive := by decide +kernel

/-- … and once the old worker has walked and closed doneCh the new session starts and the identical registration
    goes through -/
theorem slow_teardown_then_ok :
    lastAns true (PState.init 0)
      (slowTeardown.take 10 ++ [.walk 1, .done 1, .start 2, .begin 2 pxA [Conc.pA] 1, .step 2, .step 2]) = .r .ok := by
  decide +kernel

end Replace
end C10
end Frp
