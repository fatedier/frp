import Frp.Props.C07Conn
import Frp.Model.HttpAuthHand
import Frp.Lemmas.Router
import Frp.Gen.CredFacts
/-
  C07, two further clauses (model: Frp/Model/HttpAuthHand.lean).

  (1) Hand-off in `Muxer.handle`: over EVERY history of listeners made and closed, connections arriving and
      waiting, owners accepting, a connection comes out of a listener only if that listener is the one its
      credentials were checked against, and — when the listener has a user name — only if it carried exactly
      that listener's user name and password.
  (2) http load-balancing groups: over EVERY history of joins and leaves, the credentials `CheckAuth` reads for
      a group's route, the group's own `username` / `password` and the httpUser / httpPassword every member is
      configured with are the same; so a request handed to member m carried m's OWN credentials.
-/
namespace Frp
namespace C07
open Str Router HttpAuth

/-! ### route tables whose payload numbers stay below a bound -/

def Bounded (R : Routers) (k : Nat) : Prop := ∀ d u r, r ∈ R d u → r.payload < k

theorem bounded_empty (k : Nat) : Bounded Router.empty k := by
  intro d u r h
  simp [Router.empty, Routers.bucket] at h

theorem bounded_add {R : Routers} {k : Nat} (h : Bounded R k) (domain location user : Str) :
    Bounded (add R domain location user k).1 (k + 1) := by
  intro d u r hr
  rcases mem_add_sub R domain location user k hr with hr | rfl
  · exact Nat.lt_succ_of_lt (h d u r hr)
  · exact Nat.lt_succ_self k

theorem bounded_del {R : Routers} {k : Nat} (h : Bounded R k) (domain location user : Str) :
    Bounded (del R domain location user) k :=
  fun d u r hr => h d u r ((mem_del R domain location user d u r).mp hr).1

theorem get_mem {R : Routers} {host path user : Str} {r : Route} (h : Router.get R host path user = some r) :
    r ∈ R (toLower host) user := by
  unfold Router.get at h
  exact List.mem_of_find?_eq_some h

theorem getVhost_mem {R : Routers} {host path user : Str} {r : Route} (h : getVhost R host path user = some r) :
    ∃ d u, r ∈ R d u := by
  obtain ⟨d, u, hu⟩ := getVhost_get h
  exact ⟨_, _, get_mem hu⟩

theorem credsOf_R (R R' : Routers) (cs : List (Nat × Creds)) (n : Nat) :
    Table.credsOf { R := R, creds := cs } n = Table.credsOf { R := R', creds := cs } n := rfl

/-! ### (1) hand-off -/

/-- the CONNECT carried exactly the credentials `c` (or `c` has no user name: `handle` makes no check) -/
def CredsFor (c : Creds) (q : ConnectReq) : Prop := c.user ≠ [] → q.pauth = some (c.user, c.pass)

theorem muxHandle_lookup {T : Table} {q : ConnectReq} {n : Nat} (h : muxHandle T q = .accept n) :
    muxLookup T q = some n := by
  obtain ⟨⟨r, hr, rfl⟩, _⟩ := muxHandle_accept h
  exact congrArg (Option.map (·.payload)) hr

theorem muxLookup_bounded {T : Table} {q : ConnectReq} {n k : Nat} (hb : Bounded T.R k)
    (h : muxLookup T q = some n) : n < k := by
  unfold muxLookup at h
  simp only [Option.map_eq_some_iff] at h
  obtain ⟨r, hr, rfl⟩ := h
  obtain ⟨d, u, hm⟩ := getVhost_mem hr
  exact hb d u r hm

/-- invariant of every reachable muxer state (code as it is) -/
structure HoInv (S : HoState) : Prop where
  bounded : Bounded S.T.R S.next
  agree   : ∀ n l, S.ls.lookup n = some l → S.T.credsOf n = ⟨l.username, l.password⟩
  parked  : ∀ x ∈ S.parked, x.dst = x.chk ∧ x.dst < S.next ∧ CredsFor (S.T.credsOf x.dst) x.q
  deliv   : ∀ x ∈ S.delivered, x.dst = x.chk ∧ x.dst < S.next ∧ CredsFor (S.T.credsOf x.dst) x.q

theorem hoInv_empty : HoInv HoState.empty :=
  ⟨bounded_empty 0, fun n l h => by simp [HoState.empty] at h,
   fun x h => by simp [HoState.empty] at h, fun x h => by simp [HoState.empty] at h⟩

theorem hoListen_inv (S : HoState) (l : TmListener) (h : HoInv S) : HoInv (hoListen S l).1 := by
  unfold hoListen
  split
  · rename_i R' hadd
    have hb := bounded_add h.bounded l.name [] l.routeByHTTPUser
    rw [hadd] at hb
    refine ⟨hb, ?_, fun x hx => ?_, fun x hx => ?_⟩
    · intro n l' hn
      rcases lookup_cons_cases hn with ⟨rfl, rfl⟩ | ⟨e, hn⟩
      · exact credsOf_cons_self ..
      · exact (credsOf_cons_ne _ _ _ _ _ e).trans (h.agree n l' hn)
    -- a connection checked against an older listener still is: that listener keeps its number
    · obtain ⟨h1, h2, h3⟩ := h.parked x hx
      exact ⟨h1, Nat.lt_succ_of_lt h2, (credsOf_cons_ne _ _ _ _ _ (Nat.ne_of_lt h2)).symm ▸ h3⟩
    · obtain ⟨h1, h2, h3⟩ := h.deliv x hx
      exact ⟨h1, Nat.lt_succ_of_lt h2, (credsOf_cons_ne _ _ _ _ _ (Nat.ne_of_lt h2)).symm ▸ h3⟩
  · exact h

theorem hoArrive_inv (S : HoState) (cid : Nat) (q : ConnectReq) (h : HoInv S) : HoInv (hoArrive S cid q).1 := by
  unfold hoArrive
  split
  · rename_i n hacc
    exact ⟨h.bounded, h.agree, forall_mem_snoc h.parked
      ⟨rfl, muxLookup_bounded h.bounded (muxHandle_lookup hacc), muxHandle_sound S.T q n hacc⟩, h.deliv⟩
  · exact h

theorem hoClose_inv (S : HoState) (n : Nat) (h : HoInv S) : HoInv (hoClose false S n) := by
  unfold hoClose
  split
  · exact h
  · rename_i l hl
    split
    · exact h
    · simp only [Bool.false_eq_true, if_false, List.append_nil]
      refine ⟨bounded_del h.bounded _ _ _, h.agree, ?_, h.deliv⟩
      intro x hx
      exact h.parked x (List.mem_filter.mp hx).1

theorem hoAccept_inv (S : HoState) (n cid : Nat) (h : HoInv S) : HoInv (hoAccept S n cid) := by
  unfold hoAccept
  split
  · rename_i x hf
    exact ⟨h.bounded, h.agree, fun y hy => h.parked y (List.mem_filter.mp hy).1,
      forall_mem_snoc h.deliv (h.parked _ (List.mem_of_find?_eq_some hf))⟩
  · exact h

theorem hoStep_inv (S : HoState) (op : HoOp) (h : HoInv S) : HoInv (hoStep false S op) := by
  cases op with
  | listen l => exact hoListen_inv S l h
  | close n => exact hoClose_inv S n h
  | arrive cid q => exact hoArrive_inv S cid q h
  | accept n cid => exact hoAccept_inv S n cid h

theorem hoInv_reach (ops : List HoOp) : HoInv (hoRun false ops) :=
  foldl_invariant hoInv_empty fun S op _ => hoStep_inv S op

theorem HoInv.checked {S : HoState} (inv : HoInv S) {x : HoConn} {l : TmListener}
    (hc : CredsFor (S.T.credsOf x.dst) x.q) (hl : S.ls.lookup x.dst = some l) (hu : l.username ≠ []) :
    x.q.pauth = some (l.username, l.password) := by
  rw [inv.agree x.dst l hl] at hc
  exact hc hu

/-- **one lookup, one check, one destination**: after any history, a connection that came out of a listener
    came out of the listener its credentials were checked against -/
theorem ho_delivered_same_listener (ops : List HoOp) :
    ∀ x ∈ (hoRun false ops).delivered, x.dst = x.chk :=
  fun x hx => ((hoInv_reach ops).deliv x hx).1

/-- **hand-off, end to end**: after any history of listeners made and closed (also while connections wait at
    them), connections arriving and owners accepting, a connection that came out of listener object `x.dst`,
    made by `Listen` from configuration `l` with a user name, carried exactly `l`'s user name and password -/
theorem ho_delivered_checked (ops : List HoOp) (x : HoConn) (l : TmListener)
    (hx : x ∈ (hoRun false ops).delivered) (hl : (hoRun false ops).ls.lookup x.dst = some l)
    (hu : l.username ≠ []) : x.q.pauth = some (l.username, l.password) :=
  (hoInv_reach ops).checked ((hoInv_reach ops).deliv x hx).2.2 hl hu

/-- a connection that still waits was checked against the listener it waits at -/
theorem ho_parked_checked (ops : List HoOp) (x : HoConn) (l : TmListener)
    (hx : x ∈ (hoRun false ops).parked) (hl : (hoRun false ops).ls.lookup x.dst = some l)
    (hu : l.username ≠ []) : x.q.pauth = some (l.username, l.password) :=
  (hoInv_reach ops).checked ((hoInv_reach ops).parked x hx).2.2 hl hu

/-- a failed hand-off ends the connection: closing a listener leaves nobody waiting at it -/
theorem hoClose_drops (S : HoState) (n : Nat) (l : TmListener) (hl : S.ls.lookup n = some l)
    (hc : S.closed.contains n = false) : ∀ x ∈ (hoClose false S n).parked, x.dst ≠ n := by
  unfold hoClose
  rw [hl]
  simp only [hc, Bool.false_eq_true, if_false, List.append_nil]
  intro x hx
  simpa using (List.mem_filter.mp hx).2

/-- non-vacuity and the excluded design: alice's user-routed listener (alice / pw1) and the unrestricted one
    on the same name (bob / pw2); a CONNECT with alice / pw1 waits at the first, which is closed -/
def hoA : TmListener := ⟨s "h.example.com", s "alice", s "alice", s "pw1"⟩
def hoB : TmListener := ⟨s "h.example.com", [], s "bob", s "pw2"⟩
def hoQ : ConnectReq := { host := s "h.example.com", pauth := some (s "alice", s "pw1") }
def hoOps : List HoOp := [.listen hoA, .listen hoB, .arrive 1 hoQ, .close 0, .accept 1 1]

/-- the code as it is: the connection is closed, listener 1 has nothing to accept -/
theorem ho_head_example :
    ((hoRun false (hoOps.take 3)).parked.map (fun x => (x.cid, x.dst))) = [(1, 0)] ∧
    (hoRun false hoOps).parked.isEmpty = true ∧ (hoRun false hoOps).delivered.isEmpty = true := by
  decide +kernel

/-- **witness for the second lookup**: a `handle` that looks the route up again after the failed send hands
    the connection checked against listener 0 (alice / pw1) to listener 1 (bob / pw2) -/
theorem ho_retry_witness :
    ((hoRun true hoOps).delivered.map (fun x => (x.cid, x.chk, x.dst, decide (x.q.pauth = some (hoB.username, hoB.password))))) =
      [(1, 0, 1, false)] := by
  decide +kernel

/-- executable predicate: a connection carrying `pauth` came out of a listener made from configuration `l` -/
def hoHoldsOn (l : TmListener) (pauth : Option (Str × Str)) : Bool :=
  decide (l.username ≠ [] → pauth = some (l.username, l.password))

theorem hoHoldsOn_sound (l : TmListener) (pauth : Option (Str × Str)) :
    hoHoldsOn l pauth = true ↔ (l.username ≠ [] → pauth = some (l.username, l.password)) := by
  simp only [hoHoldsOn, decide_eq_true_eq]

theorem model_hoHoldsOn (ops : List HoOp) (x : HoConn) (l : TmListener)
    (hx : x ∈ (hoRun false ops).delivered) (hl : (hoRun false ops).ls.lookup x.dst = some l) :
    hoHoldsOn l x.q.pauth = true :=
  (hoHoldsOn_sound _ _).mpr (ho_delivered_checked ops x l hx hl)

/-! ### (2) http load-balancing groups -/

/-- invariant of every reachable group table (joins compare credentials) -/
structure HgInv (S : HgState) : Prop where
  fresh   : ∀ g ∈ S.groups, g.routeId < S.next
  fields  : ∀ g ∈ S.groups, S.T.credsOf g.routeId = ⟨g.username, g.password⟩
  uniform : ∀ g ∈ S.groups, ∀ m ∈ g.members, m.creds = ⟨g.username, g.password⟩

theorem hgInv_empty : HgInv HgState.empty :=
  ⟨fun g h => by simp [HgState.empty] at h, fun g h => by simp [HgState.empty] at h,
   fun g h => by simp [HgState.empty] at h⟩

theorem forall_hgPut {P : HgGroup → Prop} {gs : List HgGroup} {g : HgGroup} (hg : P g)
    (h : ∀ x ∈ gs, P x) : ∀ x ∈ hgPut gs g, P x := by
  intro x hx
  rcases List.mem_cons.mp hx with rfl | hx
  · exact hg
  · exact h x (List.mem_filter.mp hx).1

theorem hgFind_mem {gs : List HgGroup} {name : Str} {g : HgGroup} (h : hgFind gs name = some g) : g ∈ gs :=
  List.mem_of_find?_eq_some h

theorem hgInv_setMembers {S : HgState} (h : HgInv S) {g : HgGroup} (hg : g ∈ S.groups)
    (ms : List HgMember) (hms : ∀ m ∈ ms, m.creds = ⟨g.username, g.password⟩) :
    HgInv { S with groups := hgPut S.groups { g with members := ms } } :=
  ⟨forall_hgPut (h.fresh g hg) h.fresh, forall_hgPut (h.fields g hg) h.fields,
   forall_hgPut hms h.uniform⟩

theorem hgJoin_inv (S : HgState) (j : HgJoin) (h : HgInv S) : HgInv (hgJoin true S j).1 := by
  unfold hgJoin
  split
  · -- the first member: the route copy and the group's fields are written from the same configuration
    split
    · rename_i R' hadd
      refine ⟨forall_hgPut (Nat.lt_succ_self _) fun g hg => Nat.lt_succ_of_lt (h.fresh g hg),
        forall_hgPut (credsOf_cons_self ..) fun g hg => ?_,
        forall_hgPut (fun m hm => by rw [List.mem_singleton.mp hm]) h.uniform⟩
      exact (credsOf_cons_ne _ _ _ _ _ (Nat.ne_of_lt (h.fresh g hg))).trans (h.fields g hg)
    · exact h
  · rename_i g hfind
    have hg := hgFind_mem hfind
    split
    · exact h
    · rename_i hcmp
      split
      · exact h
      · split
        · exact h
        · -- a joiner that passed the comparison is configured as the group is
          have hcr : g.username = j.user ∧ g.password = j.pass :=
            ⟨Decidable.byContradiction fun hne => hcmp (Or.inr (Or.inr (Or.inr ⟨rfl, Or.inl hne⟩))),
             Decidable.byContradiction fun hne => hcmp (Or.inr (Or.inr (Or.inr ⟨rfl, Or.inr hne⟩)))⟩
          exact hgInv_setMembers h hg _ (forall_mem_snoc (h.uniform g hg) (by rw [hcr.1, hcr.2]))

theorem hgLeave_inv (S : HgState) (name : Str) (pid : Nat) (h : HgInv S) : HgInv (hgLeave S name pid) := by
  unfold hgLeave
  split
  · exact h
  · rename_i g hfind
    have hg := hgFind_mem hfind
    simp only
    split
    · exact ⟨fun x hx => h.fresh x (List.mem_filter.mp hx).1,
             fun x hx => h.fields x (List.mem_filter.mp hx).1,
             fun x hx => h.uniform x (List.mem_filter.mp hx).1⟩
    · exact hgInv_setMembers h hg _ fun m hm => h.uniform g hg m (List.mem_filter.mp hm).1

theorem hgStep_inv (S : HgState) (op : HgOp) (h : HgInv S) : HgInv (hgStep true S op) := by
  cases op with
  | join j => exact hgJoin_inv S j h
  | leave name pid => exact hgLeave_inv S name pid h

theorem hgInv_reach (ops : List HgOp) : HgInv (hgRun true ops) :=
  foldl_invariant hgInv_empty fun S op _ => hgStep_inv S op

/-- **the two copies agree**: in every reachable state the credentials of the route copy `CheckAuth` reads
    equal the group's own `username` / `password` -/
theorem hg_fields_agree (ops : List HgOp) :
    ∀ g ∈ (hgRun true ops).groups, (hgRun true ops).T.credsOf g.routeId = ⟨g.username, g.password⟩ :=
  (hgInv_reach ops).fields

/-- **CheckAuth's credentials = the member's own**: for every reachable group state and every member m of a
    group, the credentials checked for the group's route are the httpUser / httpPassword m is configured with -/
theorem hg_member_checked (ops : List HgOp) :
    ∀ g ∈ (hgRun true ops).groups, ∀ m ∈ g.members, (hgRun true ops).T.credsOf g.routeId = m.creds := by
  intro g hg m hm
  rw [(hgInv_reach ops).fields g hg, (hgInv_reach ops).uniform g hg m hm]

/-- **http groups, end to end**: after any history of joins and leaves, a request that `ServeHTTP` forwards
    along a group's route — to be handed to ANY member m of that group — carried exactly the user name and
    password m itself is configured with (or m is configured with none) -/
theorem hg_serve_sound (ops : List HgOp) (q : Req) (g : HgGroup) (m : HgMember)
    (h : serve (hgRun true ops).T q = .forward g.routeId) (hg : g ∈ (hgRun true ops).groups)
    (hm : m ∈ g.members) :
    (m.creds.user = [] ∧ m.creds.pass = []) ∨ q.auth = some (m.creds.user, m.creds.pass) := by
  have hs := serve_sound _ q _ h
  unfold CredsOK at hs
  simp only at hs
  rw [hg_member_checked ops g hg m hm] at hs
  exact hs

/-- non-vacuity and the excluded design: an unprotected proxy opens the group, a protected one joins -/
def hgJ (pid : Nat) (u p : String) : HgJoin :=
  { pid := pid, group := s "g", key := s "k", domain := s "p.example.com", location := [], routeUser := [],
    user := s u, pass := s p }

/-- the code as it is refuses the protected joiner (and serves the group without credentials: its only
    member has none) -/
theorem hg_head_example :
    (hgJoin true (hgRun true [.join (hgJ 1 "" "")]) (hgJ 2 "carol" "s3cret")).2 = .params ∧
    (hgJoin true (hgRun true [.join (hgJ 1 "carol" "s3cret")]) (hgJ 2 "carol" "s3cret")).2 = .ok := by
  decide +kernel

/-- **witness for joins that do not compare credentials**: the protected member is in the group, the route
    copy has no credentials -/
theorem hg_unchecked_witness :
    ((hgRun false [.join (hgJ 1 "" ""), .join (hgJ 2 "carol" "s3cret")]).groups.map
      (fun g => (g.members.map (fun m => (m.pid, decide (m.creds = ⟨g.username, g.password⟩))),
                 decide ((hgRun false [.join (hgJ 1 "" ""), .join (hgJ 2 "carol" "s3cret")]).T.credsOf g.routeId = ⟨[], []⟩)))) =
      [([(1, true), (2, false)], true)] := by
  decide +kernel

/-- executable predicate: a request with basic-auth pair `auth` was answered by the backend of a member
    configured with `own` -/
def hgHoldsOn (own : Creds) (auth : Option (Str × Str)) : Bool :=
  decide ((own.user = [] ∧ own.pass = []) ∨ auth = some (own.user, own.pass))

theorem hgHoldsOn_sound (own : Creds) (auth : Option (Str × Str)) :
    hgHoldsOn own auth = true ↔ ((own.user = [] ∧ own.pass = []) ∨ auth = some (own.user, own.pass)) := by
  simp only [hgHoldsOn, decide_eq_true_eq]

theorem model_hgHoldsOn (ops : List HgOp) (q : Req) (g : HgGroup) (m : HgMember)
    (h : serve (hgRun true ops).T q = .forward g.routeId) (hg : g ∈ (hgRun true ops).groups)
    (hm : m ∈ g.members) : hgHoldsOn m.creds q.auth = true :=
  (hgHoldsOn_sound _ _).mpr (hg_serve_sound ops q g m h hg hm)

/-! ### ties to the source (regenerated on every run by translate/gen_credfacts.go) -/

def increasing : List Nat → Bool
  | a :: b :: rest => a < b && increasing (b :: rest)
  | _ => true

/-- `Muxer.handle` as the model has it: exactly ONE call of `getListener`, bound to `l`, never reassigned; the only
    `checkAuth` call compares `l.username` / `l.password`, under the guard the model uses, and its failure branch
    returns; the only send on a listener's accept channel is on `l.accept`; they come in this order at the top
    level of the function; the branch after a failed send closes the connection -/
def handleCodeShape : Bool :=
  Gen.CredFacts.handleEvents.map (fun e => (e.1, e.2.1)) == [("lookup", "l"), ("check", "l"), ("send", "l")] &&
  increasing (Gen.CredFacts.handleEvents.map (·.2.2)) &&
  Gen.CredFacts.checkGuard == "l.mux.checkAuth != nil && l.username != \"\"" &&
  Gen.CredFacts.checkFail.getLast? == some "return" &&
  Gen.CredFacts.sendFail.contains "_ = c.Close()"

theorem handle_code_shape : handleCodeShape = true := by decide +kernel

/-- `HTTPGroup.Register` as the model has it: `g.username` / `g.password` are written in the first-member branch
    only, from `routeConfig.Username` / `.Password`; the route registered there is `&tmp` with `tmp := routeConfig`,
    whose `Username` / `Password` are not assigned afterwards (the route copy and the group's fields start equal and
    neither is written again); the join branch refuses (`ErrGroupParamsInvalid`) a `routeConfig` whose `Username` or
    `Password` differs from the group's -/
def groupCodeShape : Bool :=
  Gen.CredFacts.credWrites == [("first", "g.username", "routeConfig.Username"), ("first", "g.password", "routeConfig.Password")] &&
  Gen.CredFacts.routeAdds == [("first", "&tmp")] && Gen.CredFacts.tmpInit == "tmp := routeConfig" &&
  !Gen.CredFacts.tmpWrites.contains "Username" && !Gen.CredFacts.tmpWrites.contains "Password" &&
  Gen.CredFacts.joinCompares.contains ("g.username", "routeConfig.Username") &&
  Gen.CredFacts.joinCompares.contains ("g.password", "routeConfig.Password")

theorem group_code_shape : groupCodeShape = true := by decide +kernel

end C07
end Frp
