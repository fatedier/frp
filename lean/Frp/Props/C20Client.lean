import Frp.Props.C20
import Frp.Model.NatSign
import Frp.Gen.NatClientFacts
/-
  C20 — two places where the model is tied to the code as text: the signature check and the probed addresses.

  §A the signature a visitor supplies, as a string (Model/NatSign.lean).  `HandleVisitor` compares the WHOLE supplied
     SignKey with the whole expected one — hex(md5(secret ++ timestamp)), computed here with a real MD5 — through
     `subtle.ConstantTimeCompare`, whose first step is the length test.  For EVERY supplied string: accepted ⇔ equal
     byte for byte (`sigOk_iff`); a proper prefix (down to one character), an extension, any string whose length is not
     32 is refused (`sig_prefix_or_extension_refused`, `sig_wrong_length_refused`); a session is stored only for the
     exact signature, over all histories of wire-level messages (`session_created_only_exact_signature`,
     `sessions_exact_signature_all_histories`); the wire-level critical section refines the abstract one, so every
     theorem about `NatHole.step` carries over (`visitorLookupW_refines`).  A comparison of the overlapping part only
     is NOT enough: `overlap_compare_witness`.
     Regenerated tie: `sig_compare_shape`, `visitor_critical_shape` (Gen/NatClientFacts.lean, from controller.go / util.go).

  §B which addresses of the instruction `MakeHole` probes one by one.  The model's `detectAddrs` IS the term
     regenerated from nathole.go by symbolic execution (`makehole_plan_shape`, `detectAddrs_is_source`): no slicing,
     no truncation, no early exit between the instruction and the send loop; hence for address lists of ANY length
     every address the instruction names is sent to, from every socket (`instructed_addrs_all_probed`,
     `send_plan_complete`), and every candidate IP x every port of every range (`range_addrs_complete`).  A plan that
     keeps a bounded number of addresses loses the peer's mapped address: `truncated_plan_witness`.
-/
namespace Frp
namespace C20
open NatBeh NatHole NatPunch NatSign

/-! ## A. The signature, byte for byte -/

theorem nat_xor_eq_zero (a b : Nat) : a ^^^ b = 0 ↔ a = b := by
  constructor
  · intro h
    apply Nat.eq_of_testBit_eq
    intro i
    have := congrArg (fun n => n.testBit i) h
    simp only [Nat.testBit_xor, Nat.zero_testBit] at this
    cases ha : a.testBit i <;> cases hb : b.testBit i <;> simp_all
  · intro h; subst h; exact Nat.xor_self a

theorem ctAcc_eq_zero_iff : ∀ (x y : Str) (v : Nat), x.length = y.length →
    (ctAcc x y v = 0 ↔ v = 0 ∧ x = y)
  | [], [], v, _ => by simp [ctAcc]
  | a :: x, b :: y, v, h => by
    have hl : x.length = y.length := by simpa using h
    simp only [ctAcc]
    rw [ctAcc_eq_zero_iff x y _ hl, Nat.or_eq_zero_iff, nat_xor_eq_zero]
    constructor
    · intro ⟨⟨hv, hab⟩, hxy⟩
      exact ⟨hv, by rw [hab, hxy]⟩
    · intro ⟨hv, hc⟩
      cases hc
      exact ⟨⟨hv, rfl⟩, rfl⟩
  | [], _ :: _, _, h => by simp at h
  | _ :: _, [], _, h => by simp at h

/-- `subtle.ConstantTimeCompare` answers 1 exactly for equal byte strings — of ANY lengths -/
theorem ctCompare_eq_one_iff (x y : Str) : ctCompare x y = 1 ↔ x = y := by
  unfold ctCompare
  by_cases hl : x.length = y.length
  · simp only [hl, ne_eq, not_true_eq_false, if_false]
    have := ctAcc_eq_zero_iff x y 0 hl
    by_cases hz : ctAcc x y 0 = 0
    · simp only [hz, if_true, true_iff]; exact (this.mp hz).2
    · simp only [hz, if_false]
      constructor
      · intro h; cases h
      · intro h; exact absurd (this.mpr ⟨rfl, h⟩) hz
  · simp only [ne_eq, hl, not_false_eq_true, if_true]
    constructor
    · intro h; cases h
    · intro h; subst h; exact absurd rfl hl

/-- for EVERY supplied string: HandleVisitor's test passes ⇔ the string is the expected signature, byte for byte -/
theorem sigOk_iff (k sk : Str) (ts : Int) : sigOk k sk ts = true ↔ k = authKey sk ts := by
  simp only [sigOk, ctEqString, beq_iff_eq]
  exact ctCompare_eq_one_iff _ _

theorem flatMap_pair_length (f g : Nat → Nat) : ∀ l : List Nat, (l.flatMap (fun b => [f b, g b])).length = 2 * l.length
  | [] => rfl
  | a :: l => by
    simp only [List.flatMap_cons, List.length_append, List.length_cons, List.length_nil, flatMap_pair_length f g l]
    omega

/-- `util.GetAuthKey` always returns 32 bytes (hex of the 16-byte md5) -/
theorem authKey_length (sk : Str) (ts : Int) : (authKey sk ts).length = 32 := by
  have hd : (Md5.digest (authInput sk ts)).length = 16 := by
    simp only [Md5.digest, Md5.leBytes, List.length_append, List.length_cons, List.length_nil]
  simp only [authKey, Md5.hexDigest]
  rw [flatMap_pair_length, hd]

/-- no signature, a signature of another length: refused, whatever its content -/
theorem sig_wrong_length_refused (k sk : Str) (ts : Int) (h : k.length ≠ 32) : sigOk k sk ts = false := by
  cases hs : sigOk k sk ts
  · rfl
  · have := (sigOk_iff k sk ts).mp hs
    rw [this, authKey_length] at h
    exact absurd rfl h

/-- every proper prefix of the right signature (down to one character, and the empty one) and the right signature
    followed by anything are refused -/
theorem sig_prefix_or_extension_refused (k x sk : Str) (ts : Int) :
    (k <+: authKey sk ts → k ≠ authKey sk ts → sigOk k sk ts = false) ∧
    (x ≠ [] → sigOk (authKey sk ts ++ x) sk ts = false) := by
  constructor
  · intro _ hne
    cases hs : sigOk k sk ts
    · rfl
    · exact absurd ((sigOk_iff k sk ts).mp hs) hne
  · intro hx
    apply sig_wrong_length_refused
    rw [List.length_append, authKey_length]
    have : x.length ≠ 0 := fun h => hx (List.length_eq_zero_iff.mp h)
    omega

/-- the comparison of the overlapping part only accepts a ONE-character prefix of the right signature, which the
    code's comparison refuses: the length test inside ConstantTimeCompare is what the clause rests on -/
theorem overlap_compare_witness (sk : Str) (ts : Int) :
    overlapOk ((authKey sk ts).take 1) (authKey sk ts) = true ∧ sigOk ((authKey sk ts).take 1) sk ts = false := by
  have hl := authKey_length sk ts
  constructor
  · match h : authKey sk ts with
    | [] => rw [h] at hl; cases hl
    | a :: rest =>
      have hr : 1 ≤ (a :: rest).length := by simp
      simp only [overlapOk, List.take_succ_cons, List.take_zero, List.length_cons, List.length_nil]
      have hm : min (0 + 1) (rest.length + 1) = 1 := by omega
      simp only [hm, List.take_succ_cons, List.take_zero, Bool.and_eq_true, beq_iff_eq]
      exact ⟨by simp, (ctCompare_eq_one_iff _ _).mpr rfl⟩
  · apply sig_wrong_length_refused
    rw [List.length_take, hl]
    omega

/-- the abstraction keeps exactly what the signature test decides -/
theorem abs_signed_iff {cfgs : List (Str × Cfg)} {m : WVMsg} {cfg : Cfg} (h : aget cfgs m.proxyName = some cfg) :
    (m.abs cfgs).signed = authInput cfg.sk m.timestamp ↔ m.signKey = authKey cfg.sk m.timestamp := by
  simp only [WVMsg.abs, h]
  split
  · next hk => simp only [hk]
  · next hk =>
    simp only [hk, iff_false]
    intro hc
    have := congrArg List.length hc
    simp at this

/-- the wire-level critical section is the abstract one on the abstracted message: every theorem about `NatHole.step`
    (`session_created_only_signed`, addressing, rank, progress …) holds for messages as they arrive -/
theorem visitorLookupW_refines (s : State) (sid : Str) (m : WVMsg) (t : Nat) (u : Str) :
    visitorLookupW s sid m t u = step s (.visitorLookup sid (m.abs s.cfgs) t u) := by
  simp only [visitorLookupW, step]
  cases aget s.sessions sid with
  | some x => rfl
  | none =>
    show (match aget s.cfgs m.proxyName with | none => _ | some cfg => _) =
      (match aget s.cfgs m.proxyName with | none => _ | some cfg => _)
    cases hcfg : aget s.cfgs m.proxyName with
    | none => rfl
    | some cfg =>
      have hsig : (!sigOk m.signKey cfg.sk m.timestamp) = true ↔
          (m.abs s.cfgs).signed ≠ authInput cfg.sk (m.abs s.cfgs).timestamp := by
        rw [Bool.not_eq_true', ← Bool.not_eq_true, sigOk_iff]
        exact not_congr (abs_signed_iff hcfg).symm
      simp only [hsig]
      rfl

/-- messages as they arrive: a visitor request carries its SignKey string, everything else is a label of the
    abstract model (an abstract `visitorLookup` is not a wire-level event) -/
inductive WLabel
  | visit (sid : Str) (m : WVMsg) (t : Nat) (user : Str)
  | other (l : Label)

def stepW (s : State) : WLabel → Option (State × Out)
  | .visit sid m t u => visitorLookupW s sid m t u
  | .other (.visitorLookup _ _ _ _) => none
  | .other l => step s l

def runW : State → List WLabel → Option (State × Out)
  | s, [] => some (s, [])
  | s, l :: ls =>
    match stepW s l with
    | none => none
    | some (s', o) =>
      match runW s' ls with
      | none => none
      | some (s'', o') => some (s'', o ++ o')

/-- THE CLAUSE, one step: a session appears only through a visitor request for a registered proxy whose SignKey equals
    hex(md5(secret ++ timestamp)) BYTE FOR BYTE, from an allowed user; nothing is sent at that moment -/
theorem session_created_only_exact_signature (s s' : State) (l : WLabel) (o : Out) (sid : Str)
    (h : stepW s l = some (s', o)) (hnew : aget s.sessions sid = none) (hs' : aget s'.sessions sid ≠ none) :
    ∃ m t u cfg, l = .visit sid m t u ∧ aget s.cfgs m.proxyName = some cfg ∧
      m.signKey = authKey cfg.sk m.timestamp ∧ userAllowed cfg.allow u = true ∧ o = [] := by
  cases l with
  | visit sid' m t u =>
    simp only [stepW] at h
    rw [visitorLookupW_refines] at h
    obtain ⟨m', t', u', cfg, hl, hcfg, hsig, hallow, ho⟩ := session_created_only_signed s s' _ o sid h hnew hs'
    cases hl
    exact ⟨m, t, u, cfg, rfl, hcfg, (abs_signed_iff hcfg).mp hsig, hallow, ho⟩
  | other l' =>
    -- an abstract `visitorLookup` is not a wire-level event; on every other label `stepW` is `step`
    have hstep : step s l' = some (s', o) := by
      cases l' <;> first | exact h | cases h
    obtain ⟨m, t, u, cfg, hl, _⟩ := session_created_only_signed s s' l' o sid hstep hnew hs'
    subst hl
    cases h

/-- THE CLAUSE, all histories: whatever wire-level messages and handler steps happen in whatever order, a session
    that is stored at the end and was not at the start was created by a request whose SignKey was exactly the
    signature for the secret registered under that proxy name AT THAT MOMENT -/
theorem sessions_exact_signature_all_histories (sid : Str) : ∀ (ls : List WLabel) (s s' : State) (o : Out),
    runW s ls = some (s', o) → aget s.sessions sid = none → aget s'.sessions sid ≠ none →
    ∃ pre m t u post sMid oMid cfg, ls = pre ++ WLabel.visit sid m t u :: post ∧ runW s pre = some (sMid, oMid) ∧
      aget sMid.cfgs m.proxyName = some cfg ∧ m.signKey = authKey cfg.sk m.timestamp ∧
      userAllowed cfg.allow u = true := by
  intro ls
  induction ls with
  | nil =>
    intro s s' o h hnew hs'
    simp only [runW] at h
    cases h
    exact absurd hnew hs'
  | cons l rest ih =>
    intro s s' o h hnew hs'
    simp only [runW] at h
    split at h
    · cases h
    · next s1 o1 h1 =>
      split at h
      · cases h
      · next s2 o2 h2 =>
        cases h
        by_cases hmid : aget s1.sessions sid = none
        · obtain ⟨pre, m, t, u, post, sMid, oMid, cfg, hls, hpre, hcfg, hsig, hal⟩ := ih s1 s' o2 h2 hmid hs'
          refine ⟨l :: pre, m, t, u, post, sMid, o1 ++ oMid, cfg, by rw [hls]; rfl, ?_, hcfg, hsig, hal⟩
          simp only [runW, h1, hpre]
        · obtain ⟨m, t, u, cfg, hl, hcfg, hsig, hal, _⟩ := session_created_only_exact_signature s s1 l o1 sid h1 hnew hmid
          exact ⟨[], m, t, u, rest, s, [], cfg, by rw [hl]; rfl, rfl, hcfg, hsig, hal⟩

/-- non-vacuity: the right signature creates the session, its 31-character prefix and its extension by "0" do not -/
example :
    let s0 : State := { cfgs := [([112], { sk := [115, 107], allow := [[Str.star]], chan := 0 })], nextChan := 1 }
    let good := authKey [115, 107] 12
    let m (k : Str) : WVMsg := { tid := [118], proxyName := [112], signKey := k, timestamp := 12 }
    ((visitorLookupW s0 [1] (m good) 0 []).map (fun p => (aget p.1.sessions [1]).isSome && p.2.isEmpty)) = some true ∧
    ((visitorLookupW s0 [1] (m (good.take 31)) 0 []).map (fun p => (aget p.1.sessions [1]).isSome)) = some false ∧
    ((visitorLookupW s0 [1] (m (good ++ [48])) 0 []).map (fun p => (aget p.1.sessions [1]).isSome)) = some false ∧
    ((visitorLookupW s0 [1] (m (good.take 1)) 0 []).map (fun p => p.2.map (·.2.error))) = some [ErrKind.authFailed] := by
  intro s0 good m
  -- no MD5 is computed: the right key passes by `sigOk_iff`, the others fail on their length
  have hlen : good.length = 32 := authKey_length _ _
  have ok : sigOk good [115, 107] 12 = true := (sigOk_iff _ _ _).mpr rfl
  have bad : ∀ k : Str, k.length ≠ 32 → sigOk k [115, 107] 12 = false := fun k => sig_wrong_length_refused k _ _
  have b31 := bad (good.take 31) (by rw [List.length_take, hlen]; decide)
  have b33 := bad (good ++ [48]) (by rw [List.length_append, hlen]; decide)
  have b1 := bad (good.take 1) (by rw [List.length_take, hlen]; decide)
  simp [visitorLookupW, s0, m, aget, ok, b31, b33, b1, userAllowed, aget_aput, errResp]

/-- REGENERATED tie (controller.go, util.go): the condition guarding the "auth failed" return compares the whole
    supplied SignKey with the whole `util.GetAuthKey(clientCfg.sk, m.Timestamp)`; GetAuthKey is md5 over the token
    followed by the decimal timestamp, in lower-case hex -/
theorem sig_compare_shape :
    Gen.NatClientFacts.sigCompare = .whole "m.SignKey" "util.GetAuthKey(clientCfg.sk, m.Timestamp)" ∧
    Gen.NatClientFacts.authKeyBody =
      ["(token string, timestamp int64)", "md5Ctx := md5.New()", "md5Ctx.Write([]byte(token))",
       "md5Ctx.Write([]byte(strconv.FormatInt(timestamp, 10)))", "data := md5Ctx.Sum(nil)",
       "return hex.EncodeToString(data)"] :=
  ⟨rfl, rfl⟩

/-- REGENERATED tie: the critical section of HandleVisitor is lookup, signature, allow list, store — in this order,
    each failure returning before the store (what `visitorLookupW` mirrors) -/
theorem visitor_critical_shape :
    Gen.NatClientFacts.critical =
      ["c.mu.Lock()", "defer c.mu.Unlock()", "clientCfg, ok = c.clientCfgs[m.ProxyName]",
       "if !ok { return fmt.Errorf(\"xtcp server for [%s] doesn't exist\", m.ProxyName) }",
       "if " ++ Gen.NatClientFacts.sigGuard ++ " { return fmt.Errorf(\"xtcp connection of [%s] auth failed\", m.ProxyName) }",
       "if !slices.Contains(clientCfg.allowUsers, visitorUser) && !slices.Contains(clientCfg.allowUsers, \"*\") { return fmt.Errorf(\"xtcp visitor user [%s] not allowed for [%s]\", visitorUser, m.ProxyName) }",
       "c.sessions[sid] = session", "return nil"] := by
  -- only the line spliced from `sigGuard` needs evaluating; the literal lines are matched as they stand
  have hguard : "if " ++ Gen.NatClientFacts.sigGuard ++ " { return fmt.Errorf(\"xtcp connection of [%s] auth failed\", m.ProxyName) }" =
      Gen.NatClientFacts.critical[4] := by decide +kernel
  rw [hguard]
  rfl

/-! ## B. What MakeHole probes -/

/-- the regenerated term for the instruction at hand -/
def planOf (r : Resp) : AddrExpr :=
  if r.role = .sender then
    (if r.candidatePorts.isEmpty then Gen.NatClientFacts.detectSenderNoPorts else Gen.NatClientFacts.detectSenderPorts)
  else
    (if r.candidatePorts.isEmpty then Gen.NatClientFacts.detectReceiverNoPorts else Gen.NatClientFacts.detectReceiverPorts)

/-- REGENERATED tie (nathole.go MakeHole): `detectAddrs` at the send loop is Compact(assisted ++ candidate) for a
    sender, Compact(candidate) for the other role without candidate ports, empty with them — no slice expression, no
    guarded truncation, nothing the translator has no term for; the send loop ranges over exactly that slice and over
    every listening socket, with no break / continue / return; the instruction is never written to; the range probing
    gets m.CandidateAddrs and m.DetectBehavior.CandidatePorts as they are and walks every IP, range and port -/
theorem makehole_plan_shape :
    Gen.NatClientFacts.detectSenderNoPorts = .compact (.app .assisted .candidate) ∧
    Gen.NatClientFacts.detectSenderPorts = .compact (.app .assisted .candidate) ∧
    Gen.NatClientFacts.detectReceiverNoPorts = .compact .candidate ∧
    Gen.NatClientFacts.detectReceiverPorts = .compact .nil ∧
    Gen.NatClientFacts.sendLoop =
      ["range detectAddrs", "range listenConns",
       "sendSidMessage(ctx, conn, m.Sid, transactionID, detectAddr, key, m.DetectBehavior.TTL)"] ∧
    Gen.NatClientFacts.sendLoopExits = 0 ∧
    Gen.NatClientFacts.instrWrites = [] ∧
    Gen.NatClientFacts.rangeCall =
      "sendSidMessageToRangePorts(ctx, conn, m.CandidateAddrs, m.DetectBehavior.CandidatePorts, sendToRangePortsFunc)" ∧
    Gen.NatClientFacts.rangeLoops.drop 1 =
      ["range slices.Compact(parseIPs(addrs))", "range ports", "for i := portsRange.From; i <= portsRange.To; i++",
       "detectAddr := net.JoinHostPort(ip, strconv.Itoa(i))", "sendFunc(conn, detectAddr)"] ∧
    Gen.NatClientFacts.rangeLoopExits = 0 :=
  ⟨rfl, rfl, rfl, rfl, rfl, rfl, rfl, rfl, rfl, rfl⟩

/-- the model's `detectAddrs` is the regenerated term, for every instruction -/
theorem detectAddrs_is_source (r : Resp) : detectAddrs r = (planOf r).eval r := by
  obtain ⟨h1, h2, h3, h4, _⟩ := makehole_plan_shape
  simp only [planOf, detectAddrs]
  by_cases hs : r.role = .sender
  · simp only [hs, if_true]
    by_cases hp : r.candidatePorts.isEmpty = true
    · simp only [hp, if_true, h1, AddrExpr.eval]
    · simp only [hp, if_false, h2, AddrExpr.eval, Bool.false_eq_true]
  · simp only [hs, if_false]
    by_cases hp : r.candidatePorts.isEmpty = true
    · simp only [hp, if_true, h3, AddrExpr.eval]
    · simp only [hp, if_false, h4, AddrExpr.eval, Bool.false_eq_true]

/-- for address lists of ANY length: a sender probes every assisted and every candidate address the server named, the
    other role (when no port range is prescribed) every candidate address -/
theorem instructed_addrs_all_probed (r : Resp) (a : Str) :
    (r.role = .sender → a ∈ r.assistedAddrs ++ r.candidateAddrs → a ∈ probes r) ∧
    (r.role ≠ .sender → r.candidatePorts = [] → a ∈ r.candidateAddrs → a ∈ probes r) := by
  constructor
  · intro hs ha
    simp only [probes, detectAddrs, hs, if_true, List.mem_append]
    left
    exact (mem_compact a _).mpr ha
  · intro hs hp ha
    simp only [probes, detectAddrs, hs, if_false, hp, List.isEmpty_nil, if_true, List.mem_append]
    left
    exact (mem_compact a _).mpr ha

/-- the send loop reaches every address of the slice from every listening socket -/
theorem send_plan_complete (addrs : List Str) (n : Nat) (a : Str) (c : Nat) (ha : a ∈ addrs) (hc : c < n) :
    (a, c) ∈ sendPlan addrs n := by
  simp only [sendPlan, List.mem_flatMap, List.mem_map, List.mem_range]
  exact ⟨a, ha, c, hc, rfl⟩

theorem mem_portsOf (rg : Int × Int) (p : Int) (h1 : rg.1 ≤ p) (h2 : p ≤ rg.2) : p ∈ portsOf rg := by
  simp only [portsOf, List.mem_map, List.mem_range]
  have e1 : ((p - rg.1).toNat : Int) = p - rg.1 := Int.toNat_of_nonneg (by omega)
  have e2 : ((rg.2 - rg.1 + 1).toNat : Int) = rg.2 - rg.1 + 1 := Int.toNat_of_nonneg (by omega)
  refine ⟨(p - rg.1).toNat, ?_, ?_⟩
  · omega
  · simp only [Int.ofNat_eq_natCast]; omega

/-- `sendSidMessageToRangePorts`: every candidate IP x every port of every prescribed range is probed -/
theorem range_addrs_complete (r : Resp) (ip : Str) (rg : Int × Int) (p : Int)
    (hip : ip ∈ compact (parseIPs r.candidateAddrs)) (hrg : rg ∈ r.candidatePorts) (h1 : rg.1 ≤ p) (h2 : p ≤ rg.2) :
    joinHostPort ip p ∈ probes r := by
  simp only [probes, rangeAddrs, List.mem_append, List.mem_flatMap, List.mem_map]
  right
  exact ⟨ip, hip, rg, hrg, p, mem_portsOf rg p h1 h2, rfl⟩

/-- a plan that keeps a bounded number of addresses (`detectAddrs[:3]` here) never probes the peer's mapped address
    once the peer announced that many assisted addresses — and then the peers do not meet: both time out -/
theorem truncated_plan_witness :
    let a (k : Nat) : Str := [49, 58, 48 + k]
    let s : Resp := { sid := [115], role := .sender, assistedAddrs := [a 1, a 2, a 3], candidateAddrs := [a 9] }
    a 9 ∈ (AddrExpr.compact (.app .assisted .candidate)).eval s ∧
    a 9 ∉ (AddrExpr.take 3 (.compact (.app .assisted .candidate))).eval s := by
  decide

end C20
end Frp
