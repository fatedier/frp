import Frp.Model.Teardown
import Frp.Gen.SessFacts
/-
  C14, part H (imported by Frp/Props/C14.lean): the client's teardown always finishes, so that the next
  login can happen — `Control.worker()` → `pm.Close()` → `Wrapper.Stop()` for every wrapper, whatever phase
  its check goroutine is in and however many wrappers there are (model: Frp/Model/Teardown.lean).

  In the pinned tree nobody receives from the send channel during the teardown (`drains = false`):
  `Wrapper.Stop` pushes one CloseProxy per wrapper into the dispatcher's send channel (capacity 100) after
  the send loop has exited; with more queued messages than the channel holds the push blocks for ever with
  `pw.mu` and `pm.mu` held, `ctl.doneCh` is never closed and frpc never logs in again (`overflow_reachable`,
  `overflow_stuck`, `teardown_full_fails_asis`).  The repaired code (12f7eaf: `worker()` discards what is
  queued, `drains = true`) satisfies the full clause (`teardown_full_fixed`); without a receiver the clause
  holds under the explicit hypothesis that the queue has room (`teardown_completes`).  Which of the two the
  source at hand is, is read from it (`codeTeardown`, `teardown_code`).
-/
namespace Frp
namespace C14

section PartH
open Teardown

/-! ## Part H — the client's teardown reaches `close(doneCh)` (client/control.go worker, proxy_manager.go, proxy_wrapper.go) -/

theorem td_drainBuf_le (c : Cfg) (buf : Nat) : drainBuf c buf ≤ buf := by
  unfold drainBuf; split <;> omega

theorem td_step_drain (c : Cfg) (s : St) : step c s .drain = { s with buf := drainBuf c s.buf } := rfl

theorem td_step_closer_lock {c : Cfg} {buf : Nat} {pre : List Wr} {w : Wr} {rest : List Wr} (h : isCrit w.wk = false) :
    step c ⟨buf, pre, w :: rest, .lock, false⟩ .closer =
      ⟨buf, pre, { w with held := true, closeCh := true } :: rest, if c.stopWaits then .waitWorker else .send, false⟩ := by
  simp only [step, h, Bool.false_eq_true, if_false]

theorem td_step_closer_send {c : Cfg} {buf : Nat} {pre : List Wr} {w : Wr} {rest : List Wr} (h : buf < c.cap) :
    step c ⟨buf, pre, w :: rest, .send, false⟩ .closer =
      ⟨buf + 1, pre ++ [{ w with held := false, stopped := true }], rest, .lock, false⟩ := by
  simp only [step, h, Bool.false_eq_true, if_false, if_true]

theorem td_step_closer_nil (c : Cfg) (buf : Nat) (pre : List Wr) (ph : Ph) :
    (step c ⟨buf, pre, [], ph, false⟩ .closer).fin = true := by
  simp only [step, Bool.false_eq_true, if_false]

theorem td_run_append (c : Cfg) : ∀ (a b : List Lbl) (s : St), run c s (a ++ b) = run c (run c s a) b := by
  intro a
  induction a with
  | nil => intro b s; rfl
  | cons x xs ih => intro b s; simp only [List.cons_append, run]; exact ih b _

theorem td_run_inv (c : Cfg) (P : St → Prop) (hstep : ∀ s l, P s → P (step c s l)) :
    ∀ (ls : List Lbl) (s : St), P s → P (run c s ls) := by
  intro ls
  induction ls with
  | nil => intro s h; exact h
  | cons l ls ih => intro s h; exact ih _ (hstep s l h)

/-! ### a schedule that finishes, from every state -/

/-- what stopping this wrapper may still put into the send channel: its CloseProxy, and the message of a
    check goroutine that is inside its critical section with one to push -/
def tdCost (w : Wr) : Nat := if w.wk = .crit true then 2 else 1

def tdCosts : List Wr → Nat
  | [] => 0
  | w :: ws => tdCost w + tdCosts ws

/-- the send channel cannot fill up: somebody receives from it, or it has room for everything that is
    still to be pushed -/
def TdRoom (c : Cfg) (buf : Nat) (ws : List Wr) : Prop := c.drains = true ∨ buf + tdCosts ws ≤ c.cap

/-- finish `Stop()` of wrapper `j` from its lock phase: let its check goroutine leave the critical
    section (it holds pw.mu), lock, push -/
def tdFinishOne (j : Nat) (w : Wr) : List Lbl :=
  (if isCrit w.wk then [.drain, .worker j false] else []) ++ [.closer, .drain, .closer]

def tdFinishFrom (j : Nat) : List Wr → List Lbl
  | [] => [.closer]
  | w :: ws => tdFinishOne j w ++ tdFinishFrom (j + 1) ws

/-- the finishing schedule of a state -/
def tdFinish (s : St) : List Lbl :=
  match s.todo, s.ph with
  | [], _ => [.closer]
  | w :: ws, .lock => tdFinishFrom s.pre.length (w :: ws)
  | _ :: ws, _ => [.drain, .closer] ++ tdFinishFrom (s.pre.length + 1) ws

theorem td_finishFrom_length (j : Nat) (ws : List Wr) : (tdFinishFrom j ws).length ≤ 5 * ws.length + 1 := by
  induction ws generalizing j with
  | nil => simp [tdFinishFrom]
  | cons w ws ih =>
    have := ih (j + 1)
    simp only [tdFinishFrom, tdFinishOne, List.length_append, List.length_cons, List.length_nil]
    split <;> simp <;> omega

theorem td_room_tail (c : Cfg) (buf buf' : Nat) (w : Wr) (ws : List Wr) (h : TdRoom c buf (w :: ws))
    (hb : buf' ≤ buf + tdCost w) : TdRoom c buf' ws := by
  rcases h with h | h
  · exact Or.inl h
  · right; simp only [tdCosts] at h; omega

theorem td_lt_of_room (c : Cfg) (buf : Nat) (hc : 0 < c.cap) (hb : buf ≤ c.cap) (extra : Nat)
    (h : c.drains = true ∨ buf + extra ≤ c.cap) (he : 0 < extra) : drainBuf c buf < c.cap := by
  rcases h with h | h
  · -- a receiver takes a message if there is one
    unfold drainBuf
    by_cases h0 : 0 < buf
    · simp only [h, h0, decide_true, Bool.and_self, if_true]; omega
    · simp only [h, h0, decide_false, Bool.and_false, Bool.false_eq_true, if_false]; omega
  · have := td_drainBuf_le c buf; omega

theorem tdCost_pos (w : Wr) : 1 ≤ tdCost w := by
  unfold tdCost; split <;> omega

theorem td_leave_crit (c : Cfg) (buf : Nat) (pre : List Wr) (w : Wr) (rest : List Wr) (hcr : isCrit w.wk = true)
    (h : tdCost w = 2 → drainBuf c buf < c.cap) :
    run c ⟨buf, pre, w :: rest, .lock, false⟩ [.drain, .worker pre.length false]
      = ⟨drainBuf c buf + (tdCost w - 1), pre, { w with wk := .sel } :: rest, .lock, false⟩ := by
  -- it pushes its message, if it has one: there is room
  have hst : wkStep c (drainBuf c buf) w false = some (drainBuf c buf + (tdCost w - 1), { w with wk := .sel }) := by
    cases hwk : w.wk with
    | crit sb =>
      cases sb with
      | true =>
        have := h (by simp only [tdCost, hwk, if_true])
        simp only [wkStep, hwk, this, if_true, tdCost]
      | false => simp [wkStep, hwk, tdCost]
    | _ => rw [hwk] at hcr; cases hcr
  simp only [run, step, Nat.lt_irrefl, if_false, Nat.sub_self, List.getElem?_cons_zero, hst, List.set_cons_zero]

/-- `Stop()` of a wrapper whose check goroutine is outside its critical section: lock, push (a receiver may have
    taken a message in between) -/
theorem td_stop_one (c : Cfg) (hw : c.stopWaits = false) (buf : Nat) (pre : List Wr) (w : Wr) (rest : List Wr)
    (hcr : isCrit w.wk = false) (hlt : drainBuf c buf < c.cap) :
    ∃ w', run c ⟨buf, pre, w :: rest, .lock, false⟩ [.closer, .drain, .closer]
      = ⟨drainBuf c buf + 1, pre ++ [w'], rest, .lock, false⟩ := by
  simp only [run, td_step_closer_lock hcr, hw, Bool.false_eq_true, if_false, td_step_drain]
  exact ⟨_, td_step_closer_send hlt⟩

/-- from the lock phase of the first wrapper still to stop -/
theorem td_finish_from_lock (c : Cfg) (hw : c.stopWaits = false) (hc : 0 < c.cap) :
    ∀ (ws pre : List Wr) (buf : Nat), buf ≤ c.cap → TdRoom c buf ws →
      (run c ⟨buf, pre, ws, .lock, false⟩ (tdFinishFrom pre.length ws)).fin = true := by
  intro ws
  induction ws with
  | nil => intro pre buf _ _; simp only [tdFinishFrom, run]; exact td_step_closer_nil c buf pre .lock
  | cons w rest ih =>
    intro pre buf hb hr
    have hd := td_drainBuf_le c buf
    have hcost := tdCost_pos w
    -- once the check goroutine is outside its critical section
    have key : ∀ (buf1 : Nat) (w1 : Wr), isCrit w1.wk = false → buf1 ≤ c.cap → TdRoom c (buf1 + 1) rest →
        (run c ⟨buf1, pre, w1 :: rest, .lock, false⟩ ([.closer, .drain, .closer] ++ tdFinishFrom (pre.length + 1) rest)).fin
          = true := by
      intro buf1 w1 hcr hb1 hroom
      have hd1 := td_drainBuf_le c buf1
      have hlt : drainBuf c buf1 < c.cap :=
        td_lt_of_room c buf1 hc hb1 (1 + tdCosts rest) (Or.imp_right (fun h => by omega) hroom) (by omega)
      obtain ⟨w', hrun⟩ := td_stop_one c hw buf1 pre w1 rest hcr hlt
      rw [td_run_append, hrun, show pre.length + 1 = (pre ++ [w']).length by simp]
      exact ih _ _ (by omega) (Or.imp_right (fun h => by omega) hroom)
    show (run c _ (tdFinishOne pre.length w ++ tdFinishFrom (pre.length + 1) rest)).fin = true
    unfold tdFinishOne
    by_cases hcrit : isCrit w.wk = true
    · have hlt : tdCost w = 2 → drainBuf c buf < c.cap := fun _ =>
        td_lt_of_room c buf hc hb (tdCosts (w :: rest)) hr (by simp only [tdCosts]; omega)
      rw [if_pos hcrit, List.append_assoc, td_run_append, td_leave_crit c buf pre w rest hcrit hlt]
      refine key _ _ rfl ?_ (td_room_tail c buf _ w rest hr (by omega))
      by_cases h2 : tdCost w = 2
      · have := hlt h2; omega
      · have : tdCost w ≤ 2 := by unfold tdCost; split <;> omega
        omega
    · rw [if_neg hcrit, List.nil_append]
      exact key buf w (by simpa using hcrit) hb (td_room_tail c buf _ w rest hr (by omega))

def TdInv (c : Cfg) (s : St) : Prop :=
  s.buf ≤ c.cap ∧ (s.ph = .waitWorker → c.stopWaits = true)

theorem td_wkStep_buf (c : Cfg) (buf : Nat) (w : Wr) (b : Bool) (buf' : Nat) (w' : Wr)
    (h : wkStep c buf w b = some (buf', w')) : (buf' = buf ∨ (buf < c.cap ∧ buf' = buf + 1)) := by
  cases hwk : w.wk with
  | sleep => simp only [wkStep, hwk] at h; cases h; exact Or.inl rfl
  | top =>
    simp only [wkStep, hwk] at h
    split at h
    · cases h
    · cases h; exact Or.inl rfl
  | crit sb =>
    cases sb with
    | true =>
      -- the one step that pushes a message, and only if there is room
      simp only [wkStep, hwk] at h
      split at h
      · cases h; exact Or.inr ⟨‹_›, rfl⟩
      · cases h
    | false => simp only [wkStep, hwk] at h; cases h; exact Or.inl rfl
  | sel =>
    simp only [wkStep, hwk] at h
    split at h
    · cases h; exact Or.inl rfl
    · split at h
      · cases h; exact Or.inl rfl
      · cases h
  | gone => simp only [wkStep, hwk] at h; cases h

/-- a step of a check goroutine touches only the channel (at most one message more, if there is room) and that
    goroutine's wrapper -/
theorem td_worker_frame (c : Cfg) (s : St) (j : Nat) (b : Bool) :
    (step c s (.worker j b)).fin = s.fin ∧ (step c s (.worker j b)).ph = s.ph ∧
      ((step c s (.worker j b)).todo = [] ↔ s.todo = []) ∧
      ((step c s (.worker j b)).buf = s.buf ∨ (s.buf < c.cap ∧ (step c s (.worker j b)).buf = s.buf + 1)) := by
  simp only [step]
  split
  · -- the goroutine of a wrapper already stopped
    split
    · split
      · exact ⟨rfl, rfl, Iff.rfl, td_wkStep_buf c _ _ _ _ _ ‹_›⟩
      · exact ⟨rfl, rfl, Iff.rfl, Or.inl rfl⟩
    · exact ⟨rfl, rfl, Iff.rfl, Or.inl rfl⟩
  · -- the goroutine of a wrapper still to stop
    split
    · split
      · exact ⟨rfl, rfl, List.set_eq_nil_iff _ _, td_wkStep_buf c _ _ _ _ _ ‹_›⟩
      · exact ⟨rfl, rfl, Iff.rfl, Or.inl rfl⟩
    · exact ⟨rfl, rfl, Iff.rfl, Or.inl rfl⟩

theorem td_inv_init (c : Cfg) (buf : Nat) (ws : List Wr) (h : buf ≤ c.cap) : TdInv c (init buf ws) :=
  ⟨h, fun hh => by cases hh⟩

theorem td_inv_step (c : Cfg) (s : St) (l : Lbl) (h : TdInv c s) : TdInv c (step c s l) := by
  obtain ⟨h1, h2⟩ := h
  cases l with
  | drain => exact ⟨Nat.le_trans (td_drainBuf_le c s.buf) h1, h2⟩
  | worker j b =>
    obtain ⟨_, hph, _, hb⟩ := td_worker_frame c s j b
    exact ⟨by omega, by rw [hph]; exact h2⟩
  | closer =>
    obtain ⟨buf, pre, todo, ph, fin⟩ := s
    cases fin with
    | true => exact ⟨h1, h2⟩
    | false =>
      cases todo with
      | nil => exact ⟨h1, h2⟩
      | cons w rest =>
        cases ph with
        | lock =>
          -- `Stop()` takes pw.mu unless the check goroutine holds it; it waits for that goroutine only with `stopWaits`
          simp only [step, Bool.false_eq_true, if_false]
          split
          · exact ⟨h1, h2⟩
          · refine ⟨h1, fun hh => ?_⟩
            cases hsw : c.stopWaits with
            | true => rfl
            | false => simp only [hsw, Bool.false_eq_true, if_false] at hh; cases hh
        | waitWorker =>
          simp only [step, Bool.false_eq_true, if_false]
          split
          · exact ⟨h1, nofun⟩
          · exact ⟨h1, h2⟩
        | send =>
          -- the push needs room
          simp only [step, Bool.false_eq_true, if_false]
          split
          · exact ⟨by show buf + 1 ≤ c.cap; omega, nofun⟩
          · exact ⟨h1, h2⟩

theorem td_inv_run (c : Cfg) : ∀ (ls : List Lbl) (s : St), TdInv c s → TdInv c (run c s ls) :=
  td_run_inv c (TdInv c) (td_inv_step c)

theorem td_fin_step (c : Cfg) (s : St) (l : Lbl) (h : s.fin = true) : (step c s l).fin = true := by
  cases l with
  | drain => exact h
  | closer => simp only [step, h, if_true]
  | worker j b => rw [(td_worker_frame c s j b).1]; exact h

theorem td_finish_length (s : St) : (tdFinish s).length ≤ 5 * s.todo.length + 3 := by
  obtain ⟨buf, pre, todo, ph, fin⟩ := s
  cases todo with
  | nil => simp [tdFinish]
  | cons w ws =>
    have h1 := td_finishFrom_length pre.length (w :: ws)
    have h2 := td_finishFrom_length (pre.length + 1) ws
    cases ph <;> simp only [tdFinish, List.length_append, List.length_cons, List.length_nil] at * <;> omega

/-- **The teardown can always finish (room in the queue, or a receiver).**  From EVERY state — any
    wrapper stopped or not, `Stop()` in any phase, every check goroutine anywhere (asleep before its first
    round, about to lock, inside its critical section with or without a message to push, in its select,
    gone) — if `Stop` does not wait for the check goroutine and the send channel cannot fill up (`TdRoom`),
    the schedule `tdFinish s` (at most 5 steps per wrapper still to stop) ends with `close(doneCh)`. -/
theorem teardown_completes (c : Cfg) (hw : c.stopWaits = false) (hc : 0 < c.cap) (s : St) (hi : TdInv c s)
    (hr : TdRoom c s.buf s.todo) :
    (run c s (tdFinish s)).fin = true ∧ (tdFinish s).length ≤ 5 * s.todo.length + 3 := by
  refine ⟨?_, td_finish_length s⟩
  obtain ⟨buf, pre, todo, ph, fin⟩ := s
  cases fin with
  | true => exact td_run_inv c (fun s => s.fin = true) (td_fin_step c) _ _ rfl
  | false =>
    cases todo with
    | nil => simp only [tdFinish, run]; exact td_step_closer_nil c buf pre ph
    | cons w ws =>
      cases ph with
      | lock => exact td_finish_from_lock c hw hc (w :: ws) pre buf hi.1 hr
      | waitWorker => have := hi.2 rfl; rw [hw] at this; cases this
      | send =>
        have hcost := tdCost_pos w
        have hlt : drainBuf c buf < c.cap :=
          td_lt_of_room c buf hc hi.1 (tdCosts (w :: ws)) hr (by simp only [tdCosts]; omega)
        have hd := td_drainBuf_le c buf
        simp only [tdFinish, td_run_append, run, td_step_drain]
        rw [td_step_closer_send hlt, show pre.length + 1 = (pre ++ [_]).length by simp]
        exact td_finish_from_lock c hw hc ws _ _ (by omega) (td_room_tail c buf _ w ws hr (by omega))

/-- the clause at full strength: whatever was still queued, however many wrappers there are, whatever
    the session's goroutines have done so far, the teardown can still reach `close(doneCh)` -/
def teardownFull (c : Cfg) : Prop :=
  ∀ (buf : Nat) (ws : List Wr) (ls : List Lbl), buf ≤ c.cap →
    ∃ ls', (run c (run c (init buf ws) ls) ls').fin = true

/-- **Repaired code: the full clause.**  With a receiver on the send channel while `pm.Close()` runs
    (`hooks/C14-fix-teardown-drain.patch`, in /repo as 12f7eaf) the teardown finishes from every reachable state, for any
    number of wrappers and any number of messages still queued, in at most 5 steps per wrapper. -/
theorem teardown_full_fixed (c : Cfg) (hd : c.drains = true) (hw : c.stopWaits = false) (hc : 0 < c.cap) :
    teardownFull c ∧
    ∀ (buf : Nat) (ws : List Wr) (ls : List Lbl), buf ≤ c.cap →
      (tdFinish (run c (init buf ws) ls)).length ≤ 5 * (run c (init buf ws) ls).todo.length + 3 := by
  refine ⟨?_, ?_⟩
  · intro buf ws ls hb
    exact ⟨_, (teardown_completes c hw hc _ (td_inv_run c ls _ (td_inv_init c buf ws hb)) (Or.inl hd)).1⟩
  · intro buf ws ls hb
    exact (teardown_completes c hw hc _ (td_inv_run c ls _ (td_inv_init c buf ws hb)) (Or.inl hd)).2

/-! ### the pinned tree: more messages than the send channel holds -/

/-- `Stop()` is pushing its CloseProxy into a full channel -/
def TdStuck (c : Cfg) (s : St) : Prop := s.fin = false ∧ s.ph = .send ∧ s.todo ≠ [] ∧ c.cap ≤ s.buf

theorem td_stuck_step (c : Cfg) (hd : c.drains = false) (s : St) (l : Lbl) (h : TdStuck c s) : TdStuck c (step c s l) := by
  obtain ⟨h1, h2, h3, h4⟩ := h
  cases l with
  | drain => exact ⟨h1, h2, h3, by simp only [td_step_drain, drainBuf, hd, Bool.false_and, Bool.false_eq_true, if_false]; exact h4⟩
  | closer =>
    obtain ⟨buf, pre, todo, ph, fin⟩ := s
    simp only at h1 h2 h3 h4
    subst h1; subst h2
    cases todo with
    | nil => exact absurd rfl h3
    | cons w rest =>
      have : ¬ buf < c.cap := by omega
      simp only [step, this, Bool.false_eq_true, if_false]
      exact ⟨rfl, rfl, h3, h4⟩
  | worker j b =>
    obtain ⟨hfin, hph, htodo, hb⟩ := td_worker_frame c s j b
    exact ⟨by rw [hfin]; exact h1, by rw [hph]; exact h2, fun h => h3 (htodo.1 h), by omega⟩

/-- **Without a receiver a full send channel is the end.**  Once `Stop()` pushes into a full channel
    NO schedule — whatever the check goroutines and everybody else do — ever reaches `close(doneCh)`:
    the client stays without a session for ever. -/
theorem overflow_stuck (c : Cfg) (hd : c.drains = false) : ∀ (ls : List Lbl) (s : St), TdStuck c s →
    (run c s ls).fin = false :=
  fun ls s h => (td_run_inv c (TdStuck c) (td_stuck_step c hd) ls s h).1

/-- a wrapper whose check goroutine sits in its select (a running proxy between two 3 s rounds) -/
def tdParked : Wr := { wk := .sel }

/-- **… and it is reached as soon as there are more wrappers than free slots.**  `k + 1` parked
    wrappers (`tdParked`), `k` free slots: the closer alone runs into the full channel. -/
theorem overflow_reachable (c : Cfg) (hw : c.stopWaits = false) : ∀ (k : Nat) (pre : List Wr) (buf : Nat),
    buf + k = c.cap →
      ∃ m, TdStuck c (run c ⟨buf, pre, List.replicate (k + 1) tdParked, .lock, false⟩ (List.replicate m .closer)) := by
  intro k
  induction k with
  | zero =>
    intro pre buf hb
    refine ⟨1, ?_⟩
    simp only [List.replicate, run]
    rw [td_step_closer_lock rfl]
    simp only [hw, Bool.false_eq_true, if_false]
    exact ⟨rfl, rfl, by simp, by show c.cap ≤ buf; omega⟩
  | succ k ih =>
    intro pre buf hb
    obtain ⟨m, hm⟩ := ih (pre ++ [{ ({ tdParked with held := true, closeCh := true } : Wr) with held := false, stopped := true }])
      (buf + 1) (by omega)
    refine ⟨m + 2, ?_⟩
    have hrep : List.replicate (k + 1 + 1) tdParked = tdParked :: List.replicate (k + 1) tdParked := rfl
    have hrep2 : List.replicate (m + 2) Lbl.closer = .closer :: .closer :: List.replicate m .closer := rfl
    rw [hrep, hrep2]
    simp only [run]
    rw [td_step_closer_lock rfl]
    simp only [hw, Bool.false_eq_true, if_false]
    rw [td_step_closer_send (by omega)]
    exact hm

/-- **The pinned tree violates the full clause** (finding `C14-client-teardown-sendch-overflow`): an frpc
    with more proxies than the send channel has slots never finishes the teardown after a loss of the
    control connection, hence never logs in again. -/
theorem teardown_full_fails_asis (c : Cfg) (hd : c.drains = false) (hw : c.stopWaits = false) : ¬ teardownFull c := by
  intro hfull
  obtain ⟨m, hm⟩ := overflow_reachable c hw c.cap [] 0 (by omega)
  obtain ⟨ls', hfin⟩ := hfull 0 (List.replicate (c.cap + 1) tdParked) (List.replicate m .closer) (by omega)
  have := overflow_stuck c hd ls' _ hm
  simp only [init] at hfin
  rw [this] at hfin
  cases hfin

/-- the finding in frp's numbers: 101 running proxies, an empty queue of capacity 100 -/
theorem overflow_witness :
    let c : Cfg := { cap := 100, stopWaits := false, drains := false }
    ∃ m, ∀ ls, (run c (run c (init 0 (List.replicate 101 tdParked)) (List.replicate m .closer)) ls).fin = false := by
  intro c
  obtain ⟨m, hm⟩ := overflow_reachable c rfl 100 [] 0 rfl
  exact ⟨m, fun ls => overflow_stuck c rfl ls _ hm⟩

/-! ### `Stop` must not wait for the check goroutine while it holds pw.mu -/

/-- `Stop()` holds pw.mu and waits for a check goroutine that has yet to take pw.mu -/
def TdWedged (s : St) : Prop :=
  s.fin = false ∧ s.ph = .waitWorker ∧ ∃ w rest, s.todo = w :: rest ∧ w.held = true ∧ (w.wk = .sleep ∨ w.wk = .top)

theorem td_wedged_step (c : Cfg) (s : St) (l : Lbl) (h : TdWedged s) : TdWedged (step c s l) := by
  obtain ⟨h1, h2, w, rest, h3, h4, h5⟩ := h
  obtain ⟨buf, pre, todo, ph, fin⟩ := s
  simp only at h1 h2 h3
  subst h1; subst h2; subst h3
  cases l with
  | drain => exact ⟨rfl, rfl, w, rest, rfl, h4, h5⟩
  | closer =>
    have hg : ¬ w.wk = .gone := by rcases h5 with h | h <;> rw [h] <;> intro hh <;> cases hh
    simp only [step, hg, Bool.false_eq_true, if_false]
    exact ⟨rfl, rfl, w, rest, rfl, h4, h5⟩
  | worker j b =>
    simp only [step]
    split
    · -- the goroutine of a wrapper already stopped: `todo` is untouched
      split
      · split
        · exact ⟨rfl, rfl, w, rest, rfl, h4, h5⟩
        · exact ⟨rfl, rfl, w, rest, rfl, h4, h5⟩
      · exact ⟨rfl, rfl, w, rest, rfl, h4, h5⟩
    · cases hk : j - pre.length with
      | zero =>
        -- the goroutine `Stop()` waits for: it wakes up, then blocks on pw.mu
        simp only [List.getElem?_cons_zero]
        rcases h5 with h | h
        · have hst : wkStep c buf w b = some (buf, { w with wk := .top }) := by simp only [wkStep, h]
          simp only [hst, List.set_cons_zero]
          exact ⟨rfl, rfl, _, rest, rfl, h4, Or.inr rfl⟩
        · have hst : wkStep c buf w b = none := by simp only [wkStep, h, h4, if_true]
          simp only [hst]
          exact ⟨rfl, rfl, w, rest, rfl, h4, Or.inr h⟩
      | succ k =>
        -- the goroutine of a later wrapper
        simp only [List.getElem?_cons_succ]
        split
        · split
          · simp only [List.set_cons_succ]
            exact ⟨rfl, rfl, w, _, rfl, h4, h5⟩
          · exact ⟨rfl, rfl, w, rest, rfl, h4, h5⟩
        · exact ⟨rfl, rfl, w, rest, rfl, h4, h5⟩

/-- **A `Stop` that waits for its check goroutine with pw.mu held deadlocks** whenever that goroutine
    has not yet taken pw.mu for its next round — in particular during the 500 ms a health-checked
    wrapper sleeps after every login: no schedule ever reaches `close(doneCh)`. -/
theorem stop_waits_stuck (c : Cfg) (hw : c.stopWaits = true) (buf : Nat) (w : Wr) (rest : List Wr)
    (hwk : w.wk = .sleep ∨ w.wk = .top) : ∀ ls, (run c (init buf (w :: rest)) (.closer :: ls)).fin = false := by
  have hcr : isCrit w.wk = false := by rcases hwk with h | h <;> rw [h] <;> rfl
  have h0 : TdWedged (step c (init buf (w :: rest)) .closer) := by
    simp only [init]
    rw [td_step_closer_lock hcr]
    simp only [hw, if_true]
    exact ⟨rfl, rfl, _, rest, rfl, rfl, hwk⟩
  intro ls
  exact (td_run_inv c TdWedged (td_wedged_step c) ls _ h0).1

/-! ### tie to the source (translate/gen_sessfacts_clock.go, regenerated on every run) -/

/-- the parameters as the code has them: the capacity of the dispatcher's send channel; whether
    `Wrapper.Stop` blocks (receive / select / Wait) with pw.mu held; whether somebody receives from the
    send channel while `pm.Close()` runs — `worker()` starts a draining goroutine before it, or the
    transporter's `Send` is not a bare channel send, or the send loop outlives the read loop -/
def codeTeardown : Cfg :=
  { cap := Gen.SessFacts.sendChCap, stopWaits := Gen.SessFacts.wrapperStopWaits,
    drains := Gen.SessFacts.workerDrainsSendCh ||
      !(Gen.SessFacts.transportSendBare && Gen.SessFacts.sendLoopStopsOnDone && Gen.SessFacts.workerClosesAfterDone) }

/-- in the pinned tree and in the repaired code alike: `Stop` takes pw.mu first and never waits while
    holding it, the check goroutine takes pw.mu and sleeps before its first round when there is a
    monitor, `Stop` pushes a CloseProxy through the handler, the channel has room for 100 messages -/
theorem code_teardown_shape :
    codeTeardown.stopWaits = false ∧ codeTeardown.cap = 100 ∧ Gen.SessFacts.wrapperStopLocks = true ∧
      Gen.SessFacts.checkWorkerLocks = true ∧ Gen.SessFacts.checkWorkerSleepsFirst = true ∧
      Gen.SessFacts.stopSendsClose = true := by
  decide +kernel

/-- **The clause for the code at hand**: it holds exactly if the source has a receiver on the send
    channel during the teardown ("violated" for the pinned tree, "holds" for the repaired code) -/
theorem teardown_code : (codeTeardown.drains = true → teardownFull codeTeardown) ∧
    (codeTeardown.drains = false → ¬ teardownFull codeTeardown) :=
  ⟨fun hd => (teardown_full_fixed codeTeardown hd code_teardown_shape.1 (by rw [code_teardown_shape.2.1]; decide)).1,
   fun hd => teardown_full_fails_asis codeTeardown hd code_teardown_shape.1⟩

/-! ### non-vacuity -/

-- `teardown_completes` without a receiver: 3 wrappers in different phases (one inside its critical section
-- with a message to push), 95 messages queued, capacity 100: room for the 4 pushes
example :
    let c : Cfg := { cap := 100, stopWaits := false, drains := false }
    let s : St := { buf := 95, todo := [{ wk := .crit true }, { wk := .sleep }, { wk := .sel }] }
    TdInv c s ∧ TdRoom c s.buf s.todo ∧ (run c s (tdFinish s)).fin = true ∧ (run c s (tdFinish s)).buf = 99 := by
  refine ⟨⟨by decide, fun h => by cases h⟩, Or.inr (by decide), by decide, by decide⟩

-- the same three wrappers with 97 queued: no room, and indeed the finishing schedule gets stuck …
example :
    let c : Cfg := { cap := 100, stopWaits := false, drains := false }
    let s : St := { buf := 97, todo := [{ wk := .crit true }, { wk := .sleep }, { wk := .sel }] }
    ¬ TdRoom c s.buf s.todo ∧ TdStuck c (run c s (tdFinish s)) := by
  refine ⟨by intro h; rcases h with h | h; cases h; revert h; decide, by decide, by decide, by decide, by decide⟩

-- … while with a receiver it finishes
example :
    let c : Cfg := { cap := 100, stopWaits := false, drains := true }
    let s : St := { buf := 100, todo := [{ wk := .crit true }, { wk := .sleep }, { wk := .sel }] }
    (run c s (tdFinish s)).fin = true := by decide

-- `stop_waits_stuck`: a health-checked wrapper within 500 ms of the login
example :
    let c : Cfg := { cap := 100, stopWaits := true, drains := false }
    TdWedged (run c (init 0 [{ wk := .sleep }]) [.closer, .worker 0 false, .worker 0 true, .closer]) := by
  exact ⟨by decide, by decide, _, _, rfl, by decide, by decide⟩

end PartH

end C14
end Frp
