import Frp.Model.GroupPorts
import Frp.Lemmas.Ports
import Frp.Gen.PortFacts
/-
  C13 — tcp groups over the REAL port manager tables (Frp/Model/GroupPorts.lean).

  Clauses: "the group's endpoint exists exactly as long as it has members: it disappears with the last member and
  can be created again immediately … with fixed and server-chosen ports"; and, because the endpoint is a port
  of a shared manager: one owner's bookkeeping never damages another owner's port.
-/
namespace Frp
namespace C13Ports
open Ports GroupPorts

/-! ## Executable predicates evaluated by the driver on the implementation's own results -/

/-- an ACCEPTED join / plain registration that reports port `p`, judged on the state before it.
    `grpPort` = the port of the populated group it joined (none: it creates the listener).
    A creator is given an allowed port that is the requested one (unless the server was to choose), that
    nobody holds and that NO OTHER OWNER IS ACCOUNTED FOR (nothing is overwritten); a later member is told the
    port its group listens on. -/
def grantHolds (allowed : List Nat) (s : St) (grpPort : Option Nat) (req p : Nat) : Bool :=
  match grpPort with
  | some q => p == q
  | none => decide (p ∈ allowed) && (req == 0 || req == p) && !s.bound p && (s.pm.usedBy p).isNone

/-- a REFUSED creation (first member of a group without members / plain proxy), judged on the state before it:
    "can be created (again) immediately".  Fixed port: it must be granted if it is free and nobody holds it.
    Server-chosen port: it must be granted iff some allowed port is free — the only legitimate refusal is
    "no available port", and only when the (at most five) random tries could all hit ports held by somebody
    and the caller's reserved port is held as well.  `grab` (a process bound the port between Acquire and Listen)
    excuses everything. -/
def refusalHolds (s : St) (name : Str) (req : Nat) (grab : Bool) (cls : String) : Bool :=
  if grab then true
  else if req = 0 then
    if s.pm.free.any s.avail then
      cls == "noavailable" && s.pm.randomMayFail s.avail &&
        !(match s.pm.reserved.lookup name with | some rp => s.avail rp | none => false)
    else true
  else !(decide (req ∈ s.pm.free) && s.avail req)

/-- one dump of the real manager (`free`, `used` with owner names, and the ports of the block that are bound at
    the OS level): every used entry names THE owner of the listener frps holds on that port, every listener of
    frps is accounted for under its owner, accounted = bound by frps, free / used partition the allowed set -/
def viewHolds (allowed : List Nat) (s : St) (free : List Nat) (used : List (Nat × String)) (bound : List Nat) : Bool :=
  let own := bound.filter (fun p => !s.ext.contains p)
  used.all (fun e => s.lns.any (fun l => l.port == e.1 && Str.toString l.owner == e.2)) &&
  s.lns.all (fun l => used.any (fun e => e.1 == l.port && e.2 == Str.toString l.owner)) &&
  own.all (fun p => used.any (fun e => e.1 == p)) && used.all (fun e => own.contains e.1) &&
  allowed.all (fun p => free.contains p != used.any (fun e => e.1 == p)) &&
  free.all (fun p => decide (p ∈ allowed)) && used.all (fun e => decide (e.1 ∈ allowed))

/-- a user connection to port `p`: answered by a member of the listener that sits there, by the foreign
    process that holds it, or refused when nobody does -/
def connHolds (s : St) (p : Nat) (got : Option Str) (squat refused : Bool) : Bool :=
  match s.lns.find? (fun l => l.port == p) with
  | some l => (match got with | some m => l.members.contains m | none => false)
  | none => if s.ext.contains p then squat else refused


/-! ## The invariant: the manager's books and the sockets agree, owner by owner -/

structure Inv (A : List Nat) (s : St) : Prop where
  pmInv : PMInv A s.pm
  /-- every listener of frps is accounted for, under the name of ITS owner -/
  own   : ∀ l ∈ s.lns, s.pm.usedBy l.port = some l.owner
  /-- every used entry names the owner of a listener that exists -/
  acct  : ∀ p n, s.pm.usedBy p = some n → ∃ l ∈ s.lns, l.port = p ∧ l.owner = n
  /-- one listener per port -/
  excl  : s.lns.Pairwise (fun a b => a.port ≠ b.port)
  /-- the OS never lets a foreign process and frps hold the same port -/
  os    : ∀ p ∈ s.ext, ∀ l ∈ s.lns, l.port ≠ p
  /-- a listener exists only as long as it has members -/
  pop   : ∀ l ∈ s.lns, l.members ≠ []


theorem avail_iff (s : St) (p : Nat) :
    s.avail p = true ↔ p ∉ s.ext ∧ ∀ l ∈ s.lns, l.port ≠ p := by
  simp [St.avail, St.bound]

theorem bound_false_of_avail {s : St} {p : Nat} (h : s.avail p = true) : s.bound p = false := by
  simpa [St.avail] using h

/-- a port nobody holds has no owner in the books (no stale entry) -/
theorem unused_of_avail {A : List Nat} {s : St} (h : Inv A s) {q : Nat} (ha : s.avail q = true) :
    s.pm.usedBy q = none := by
  cases hu : s.pm.usedBy q with
  | none => rfl
  | some n =>
    obtain ⟨l, hl, hp, _⟩ := h.acct q n hu
    exact absurd hp (((avail_iff s q).mp ha).2 l hl)

/-- an allowed port nobody holds is in the free table -/
theorem free_of_avail {A : List Nat} {s : St} (h : Inv A s) {q : Nat} (hq : q ∈ A) (ha : s.avail q = true) :
    q ∈ s.pm.free := by
  rcases h.pmInv.cover q hq with hf | hu
  · exact hf
  · obtain ⟨n, hn⟩ := mem_usedKeys_iff.mp hu
    cases (unused_of_avail h ha).symm.trans hn

/-- shape of every outcome of the creator's path (`TCPGroup.Listen` first member / `TCPProxy.Run`): refused by the
    manager with nothing changed; or port `q` — probed free of any holder, and free in the books or the caller's
    own reservation — was acquired and either lost to a process that bound it before the owner's Listen (released
    again) or is now listened on by the new owner.  Without a grab the owner's Listen never fails. -/
theorem openLn_cases (s : St) (name : Str) (req : Nat) (grp : Option GInfo) (choice : Option Nat) (grab : Bool) :
    (∃ e, s.openLn name req grp choice grab = (s, .error (.acquire e))) ∨
    (∃ q, s.avail q = true ∧
        ((q ∈ s.pm.free ∧ (req = 0 ∨ req = q)) ∨ (req = 0 ∧ s.pm.reserved.lookup name = some q)) ∧
        ((grab = true ∧ s.openLn name req grp choice grab =
            ({ s with pm := (s.pm.take name q).release q, ext := q :: s.ext }, .error .listen)) ∨
         (grab = false ∧ s.openLn name req grp choice grab =
            ({ s with pm := s.pm.take name q,
                      lns := { port := q, owner := name, grp := grp, members := [name] } :: s.lns }, .ok q)))) := by
  unfold St.openLn
  rcases acquire_cases s.pm name req s.avail choice with ⟨e, he⟩ | ⟨q, hq, ha, hsrc⟩
  · left; exact ⟨e, by rw [he]⟩
  · right
    refine ⟨q, ha, hsrc, ?_⟩
    rw [hq]
    have hb := bound_false_of_avail ha
    cases grab with
    | true => left; simp
    | false => right; simp [hb]

theorem inv_new (A : List Nat) : Inv A (St.new A) := by
  refine ⟨new_inv A, ?_, ?_, ?_, ?_, ?_⟩
  · intro l hl; simp [St.new] at hl
  · intro p n hu; simp [St.new, PM.new, PM.usedBy] at hu
  · simp [St.new]
  · intro p hp; simp [St.new] at hp
  · intro l hl; simp [St.new] at hl

theorem inv_openLn {A : List Nat} {s : St} (h : Inv A s) (name : Str) (req : Nat) (grp : Option GInfo)
    (choice : Option Nat) (grab : Bool) : Inv A (s.openLn name req grp choice grab).1 := by
  rcases openLn_cases s name req grp choice grab with ⟨e, he⟩ | ⟨q, ha, hsrc, hres⟩
  · rw [he]
    exact h
  · have hqA : q ∈ A := granted_mem h.pmInv hsrc
    obtain ⟨hne, hnl⟩ := (avail_iff s q).mp ha
    rcases hres with ⟨_, hr⟩ | ⟨_, hr⟩
    · -- acquired, lost, released: every owner is as before, and the port now belongs to the other process
      rw [hr]
      have hused := usedBy_take_release name (unused_of_avail h ha)
      refine ⟨release_inv (take_inv h.pmInv name hqA) q, fun l hl => (hused _).trans (h.own l hl),
        fun p n hu => h.acct p n ((hused p).symm.trans hu), h.excl, ?_, h.pop⟩
      exact List.forall_mem_cons.mpr ⟨hnl, h.os⟩
    · -- the new listener sits on a port that nobody held
      rw [hr]
      refine ⟨take_inv h.pmInv name hqA, ?_, ?_, ?_, ?_, ?_⟩
      · exact List.forall_mem_cons.mpr ⟨usedBy_take_self _ _ _,
          fun l hl => (usedBy_take_other _ _ (hnl l hl)).trans (h.own l hl)⟩
      · intro p n hu
        by_cases e : p = q
        · rw [e] at hu ⊢
          exact ⟨_, List.mem_cons_self, rfl, Option.some.inj ((usedBy_take_self _ _ _).symm.trans hu)⟩
        · obtain ⟨l, hl, hh⟩ := h.acct p n ((usedBy_take_other _ _ e).symm.trans hu)
          exact ⟨l, List.mem_cons_of_mem _ hl, hh⟩
      · exact List.pairwise_cons.mpr ⟨fun l hl e => hnl l hl e.symm, h.excl⟩
      · intro p hp
        exact List.forall_mem_cons.mpr ⟨fun (e : q = p) => hne (e ▸ hp), h.os p hp⟩
      · exact List.forall_mem_cons.mpr ⟨List.cons_ne_nil _ _, h.pop⟩

/-- replacing the member list of one listener (a later member joins, a member that is not the last leaves):
    ports, owners and the manager are untouched -/
theorem inv_setMembers {A : List Nat} {s : St} (h : Inv A s) {l : Ln} (hl : l ∈ s.lns) (ms : List Str)
    (hms : ms ≠ []) :
    Inv A { s with lns := { l with members := ms } :: s.lns.filter (fun x => x.port ≠ l.port) } := by
  have hsub : ∀ x ∈ s.lns.filter (fun x => x.port ≠ l.port), x ∈ s.lns := fun x hx => (List.mem_filter.mp hx).1
  refine ⟨h.pmInv, ?_, ?_, ?_, ?_, ?_⟩
  · exact List.forall_mem_cons.mpr ⟨h.own l hl, fun x hx => h.own x (hsub x hx)⟩
  · intro p n hu
    obtain ⟨x, hx, hp, ho⟩ := h.acct p n hu
    by_cases e : x.port = l.port
    · cases eq_of_pairwise_ne h.excl hx hl e
      exact ⟨_, List.mem_cons_self, hp, ho⟩
    · exact ⟨x, List.mem_cons_of_mem _ (List.mem_filter.mpr ⟨hx, by simpa using e⟩), hp, ho⟩
  · refine List.pairwise_cons.mpr ⟨fun x hx e => ?_, h.excl.filter _⟩
    have : x.port ≠ l.port := by simpa using (List.mem_filter.mp hx).2
    exact this e.symm
  · intro p hp
    exact List.forall_mem_cons.mpr ⟨h.os p hp l hl, fun x hx => h.os p hp x (hsub x hx)⟩
  · exact List.forall_mem_cons.mpr ⟨hms, fun x hx => h.pop x (hsub x hx)⟩

/-- outcome of a join: refused with nothing changed; or the creator's path; or one more name in the member
    list of a listener that exists, the manager untouched -/
theorem join_cases (s : St) (m : Str) (gi : GInfo) (choice : Option Nat) (grab : Bool) :
    (∃ e, s.join m gi choice grab = (s, .error e)) ∨
    s.join m gi choice grab = s.openLn m gi.req (some gi) choice grab ∨
    (∃ l ∈ s.lns, s.join m gi choice grab =
      ({ s with lns := { l with members := l.members ++ [m] } :: s.lns.filter (fun x => x.port ≠ l.port) },
        .ok l.port)) := by
  generalize hr : s.join m gi choice grab = r
  unfold St.join at hr
  by_cases hlive : s.isLive m = true
  · rw [if_pos hlive] at hr
    exact Or.inl ⟨_, hr.symm⟩
  rw [if_neg hlive] at hr
  split at hr
  · exact Or.inr (Or.inl hr.symm)
  · rename_i l hg
    split at hr
    · exact Or.inl ⟨_, hr.symm⟩
    · split at hr
      · exact Or.inl ⟨_, hr.symm⟩
      · split at hr
        · exact Or.inl ⟨_, hr.symm⟩
        · exact Or.inr (Or.inr ⟨l, List.mem_of_find?_eq_some hg, hr.symm⟩)

theorem inv_join {A : List Nat} {s : St} (h : Inv A s) (m : Str) (gi : GInfo) (choice : Option Nat) (grab : Bool) :
    Inv A (s.join m gi choice grab).1 := by
  rcases join_cases s m gi choice grab with ⟨e, he⟩ | he | ⟨l, hl, he⟩
  · rw [he]
    exact h
  · rw [he]
    exact inv_openLn h _ _ _ _ _
  · rw [he]
    exact inv_setMembers h hl _ (by simp)

theorem inv_take {A : List Nat} {s : St} (h : Inv A s) (n : Str) (req : Nat) (choice : Option Nat) (grab : Bool) :
    Inv A (s.take n req choice grab).1 := by
  unfold St.take
  split
  · exact h
  · exact inv_openLn h _ _ _ _ _

/-- the last member out: socket closed, `Release(realPort)` -/
theorem inv_dissolve {A : List Nat} {s : St} (h : Inv A s) (l : Ln) :
    Inv A { s with pm := s.pm.release l.port, lns := s.lns.filter (fun x => x.port ≠ l.port) } := by
  have hsub : ∀ x ∈ s.lns.filter (fun x => x.port ≠ l.port), x ∈ s.lns ∧ x.port ≠ l.port :=
    fun x hx => by simpa using List.mem_filter.mp hx
  refine ⟨release_inv h.pmInv _, ?_, ?_, h.excl.filter _, ?_, ?_⟩
  · intro x hx
    exact (usedBy_release_other _ (hsub x hx).2).trans (h.own x (hsub x hx).1)
  · intro p n hu
    by_cases e : p = l.port
    · rw [e] at hu
      cases (usedBy_release_self _ _).symm.trans hu
    · obtain ⟨x, hx, hp, ho⟩ := h.acct p n ((usedBy_release_other _ e).symm.trans hu)
      exact ⟨x, List.mem_filter.mpr ⟨hx, by simpa [hp] using e⟩, hp, ho⟩
  · intro p hp x hx
    exact h.os p hp x (hsub x hx).1
  · intro x hx
    exact h.pop x (hsub x hx).1

theorem close_eq (s : St) (m : Str) :
    (s.lnOf m = none ∧ s.close m = s) ∨
    (∃ l, s.lnOf m = some l ∧ l.members.erase m = [] ∧
        s.close m = { s with pm := s.pm.release l.port, lns := s.lns.filter (fun x => x.port ≠ l.port) }) ∨
    (∃ l, s.lnOf m = some l ∧ l.members.erase m ≠ [] ∧
        s.close m = { s with lns := { l with members := l.members.erase m } ::
                                      s.lns.filter (fun x => x.port ≠ l.port) }) := by
  unfold St.close
  cases hf : s.lnOf m with
  | none => exact Or.inl ⟨rfl, rfl⟩
  | some l =>
    by_cases hms : l.members.erase m = []
    · exact Or.inr (Or.inl ⟨l, rfl, hms, by simp [hms]⟩)
    · exact Or.inr (Or.inr ⟨l, rfl, hms, by simp [hms]⟩)

theorem inv_close {A : List Nat} {s : St} (h : Inv A s) (m : Str) : Inv A (s.close m) := by
  rcases close_eq s m with ⟨_, e⟩ | ⟨l, hf, _, e⟩ | ⟨l, hf, hms, e⟩
  · rw [e]
    exact h
  · rw [e]
    exact inv_dissolve h l
  · rw [e]
    exact inv_setMembers h (List.mem_of_find?_eq_some hf) _ hms

theorem inv_squat {A : List Nat} {s : St} (h : Inv A s) (p : Nat) : Inv A (s.squat p) := by
  unfold St.squat
  split
  · exact h
  · rename_i hb
    -- the bind succeeded, so no listener is on the port
    have ha : s.avail p = true := by simpa [St.avail] using hb
    exact ⟨h.pmInv, h.own, h.acct, h.excl, List.forall_mem_cons.mpr ⟨((avail_iff s p).mp ha).2, h.os⟩, h.pop⟩

theorem inv_unsquat {A : List Nat} {s : St} (h : Inv A s) (p : Nat) : Inv A (s.unsquat p) :=
  ⟨h.pmInv, h.own, h.acct, h.excl, fun q hq => h.os q (List.mem_filter.mp hq).1, h.pop⟩

theorem inv_apply {A : List Nat} {s : St} (h : Inv A s) (op : Op) : Inv A (apply s op) := by
  cases op with
  | join m gi c g => exact inv_join h m gi c g
  | take n r c g => exact inv_take h n r c g
  | close m => exact inv_close h m
  | squat p => exact inv_squat h p
  | unsquat p => exact inv_unsquat h p

/-- the invariant holds after EVERY history -/
theorem inv_run (A : List Nat) (ops : List Op) : Inv A (run A ops) :=
  foldl_invariant (inv_new A) fun _ op _ h => inv_apply h op


/-! ## The property, for every history

  `run A ops` ranges over every history of group joins / leaves (fixed and server-chosen ports), plain
  proxies, foreign processes, failed listens and random choices. -/

/-- `usedPorts[p]` ALWAYS NAMES THE ONE OWNER THAT HOLDS THE LISTENER ON p: an entry exists iff frps listens
    there, and the name is that listener's owner (the group's founder / the plain proxy) -/
theorem used_names_the_holder (A : List Nat) (ops : List Op) (p : Nat) (n : Str) :
    (run A ops).pm.usedBy p = some n ↔ ∃ l ∈ (run A ops).lns, l.port = p ∧ l.owner = n := by
  have h := inv_run A ops
  constructor
  · exact h.acct p n
  · rintro ⟨l, hl, hp, ho⟩
    rw [← hp, ← ho]
    exact h.own l hl

/-- one listener per port: two listeners on the same port are the same listener -/
theorem one_listener_per_port (A : List Nat) (ops : List Op) {x y : Ln}
    (hx : x ∈ (run A ops).lns) (hy : y ∈ (run A ops).lns) (e : x.port = y.port) : x = y :=
  eq_of_pairwise_ne (inv_run A ops).excl hx hy e

theorem listener_not_foreign (A : List Nat) (ops : List Op) {l : Ln} (hl : l ∈ (run A ops).lns) :
    l.port ∉ (run A ops).ext :=
  fun hm => (inv_run A ops).os _ hm l hl rfl

/-- a group exists only while it has members (the endpoint disappears with the last one) -/
theorem listener_has_members (A : List Nat) (ops : List Op) {l : Ln} (hl : l ∈ (run A ops).lns) :
    l.members ≠ [] := (inv_run A ops).pop l hl

/-- NO OVERWRITE: whatever a creator (group founder or plain proxy) asks for — a number, the server's choice, its
    own old reservation — and whatever becomes of its Listen, the entry of a port that has an owner is unchanged -/
theorem openLn_no_overwrite {A : List Nat} {s : St} (h : Inv A s) (name : Str) (req : Nat) (grp : Option GInfo)
    (choice : Option Nat) (grab : Bool) {p : Nat} {n : Str} (hu : s.pm.usedBy p = some n) :
    (s.openLn name req grp choice grab).1.pm.usedBy p = some n := by
  rcases openLn_cases s name req grp choice grab with ⟨e, he⟩ | ⟨q, ha, _, hres⟩
  · rw [he]
    exact hu
  · -- the port taken passed the probe, so it had no owner: it is not `p`
    have hq := unused_of_avail h ha
    have hpq : p ≠ q := fun e => by cases (e ▸ hu).symm.trans hq
    rcases hres with ⟨_, hr⟩ | ⟨_, hr⟩
    · rw [hr]
      exact (usedBy_take_release name hq p).trans hu
    · rw [hr]
      exact (usedBy_take_other _ _ hpq).trans hu

theorem join_no_overwrite {A : List Nat} {s : St} (h : Inv A s) (m : Str) (gi : GInfo) (choice : Option Nat)
    (grab : Bool) {p : Nat} {n : Str} (hu : s.pm.usedBy p = some n) :
    (s.join m gi choice grab).1.pm.usedBy p = some n := by
  rcases join_cases s m gi choice grab with ⟨e, he⟩ | he | ⟨l, _, he⟩
  · rw [he]
    exact hu
  · rw [he]
    exact openLn_no_overwrite h _ _ _ _ _ hu
  · rw [he]
    exact hu

theorem take_no_overwrite {A : List Nat} {s : St} (h : Inv A s) (nm : Str) (req : Nat) (choice : Option Nat)
    (grab : Bool) {p : Nat} {n : Str} (hu : s.pm.usedBy p = some n) :
    (s.take nm req choice grab).1.pm.usedBy p = some n := by
  unfold St.take
  split
  · exact hu
  · exact openLn_no_overwrite h _ _ _ _ _ hu

/-- ONE OWNER'S BOOKKEEPING DOES NOT DAMAGE ANOTHER OWNER'S PORT: after any join (accepted or refused, also with
    a failed listen) every listener that existed is still there on its port, under its owner, and accounted -/
theorem join_keeps_owners {A : List Nat} {s : St} (h : Inv A s) (m : Str) (gi : GInfo) (choice : Option Nat)
    (grab : Bool) {l : Ln} (hl : l ∈ s.lns) :
    (s.join m gi choice grab).1.pm.usedBy l.port = some l.owner ∧
    ∃ l' ∈ (s.join m gi choice grab).1.lns, l'.port = l.port ∧ l'.owner = l.owner := by
  have hu := join_no_overwrite h m gi choice grab (h.own l hl)
  exact ⟨hu, (inv_join h m gi choice grab).acct _ _ hu⟩

/-- a leave (`close`) releases at most the port of the leaver's own listener -/
theorem close_touches_own_port_only (s : St) (m : Str) {p : Nat} (hp : ∀ l, s.lnOf m = some l → p ≠ l.port) :
    (s.close m).pm.usedBy p = s.pm.usedBy p := by
  rcases close_eq s m with ⟨_, e⟩ | ⟨l, hf, _, e⟩ | ⟨l, _, _, e⟩
  · rw [e]
  · rw [e]
    exact usedBy_release_other _ (hp l hf)
  · rw [e]

/-- the last member out: the port is free in the books at once, has no owner, nobody listens on it -/
theorem last_leave_frees {A : List Nat} {s : St} (h : Inv A s) {m : Str} {l : Ln} (hf : s.lnOf m = some l)
    (hlast : l.members.erase m = []) :
    l.port ∈ (s.close m).pm.free ∧ (s.close m).pm.usedBy l.port = none ∧ (s.close m).avail l.port = true := by
  have hl : l ∈ s.lns := List.mem_of_find?_eq_some hf
  rcases close_eq s m with ⟨hn, _⟩ | ⟨l', hf', _, e⟩ | ⟨l', hf', hne, _⟩
  · cases hf.symm.trans hn
  · cases hf.symm.trans hf'
    rw [e]
    refine ⟨release_free (by rw [h.own l hl]; rfl), usedBy_release_self _ _, ?_⟩
    rw [avail_iff]
    refine ⟨fun hm => h.os _ hm l hl rfl, fun x hx => ?_⟩
    simpa using (List.mem_filter.mp hx).2
  · cases hf.symm.trans hf'
    exact absurd hlast hne

/-- what a creator is granted: an allowed port that was free in the books, held by nobody, owned by nobody,
    and the one it asked for unless the server was to choose -/
theorem create_granted_free {A : List Nat} {s : St} (h : Inv A s) (name : Str) (req : Nat) (grp : Option GInfo)
    (choice : Option Nat) (grab : Bool) {rp : Nat} (hr : (s.openLn name req grp choice grab).2 = .ok rp) :
    rp ∈ A ∧ rp ∈ s.pm.free ∧ s.avail rp = true ∧ s.pm.usedBy rp = none ∧ (req = 0 ∨ req = rp) := by
  rcases openLn_cases s name req grp choice grab with ⟨e, he⟩ | ⟨q, ha, hsrc, ⟨_, hq⟩ | ⟨_, hq⟩⟩
  · rw [he] at hr
    cases hr
  · rw [hq] at hr
    cases hr
  · rw [hq] at hr
    cases hr
    have hqA : rp ∈ A := granted_mem h.pmInv hsrc
    exact ⟨hqA, free_of_avail h hqA ha, ha, unused_of_avail h ha, granted_fixed hsrc⟩

/-- server-chosen port: with a random pick that lands on a free port nobody holds, the creation succeeds
    (whatever the caller's reservation says: a reservation that somebody else holds by now is skipped) -/
theorem create_port0_good_choice (s : St) (name : Str) (grp : Option GInfo) {k : Nat} (hk : k ∈ s.pm.free)
    (ha : s.avail k = true) : ∃ rp, (s.openLn name 0 grp (some k) false).2 = .ok rp := by
  obtain ⟨q, hq, haq⟩ := acquire_zero_ok s.pm name s.avail hk ha
  refine ⟨q, ?_⟩
  unfold St.openLn
  rw [hq]
  simp [bound_false_of_avail haq]

/-- SERVER-CHOSEN PORT: a creation (nobody grabs the port in between) can succeed IFF some allowed port is free
    and held by nobody — in every state the invariant describes, i.e. after the last leave plus ANY history of
    other owners -/
theorem create_port0_iff {A : List Nat} {s : St} (h : Inv A s) (name : Str) (grp : Option GInfo) :
    (∃ choice rp, (s.openLn name 0 grp choice false).2 = .ok rp) ↔ ∃ p ∈ s.pm.free, s.avail p = true := by
  constructor
  · rintro ⟨choice, rp, hr⟩
    obtain ⟨_, hf, ha, _, _⟩ := create_granted_free h name 0 grp choice false hr
    exact ⟨rp, hf, ha⟩
  · rintro ⟨p, hf, ha⟩
    exact ⟨some p, create_port0_good_choice s name grp hf ha⟩

/-- FIXED PORT: granted iff it is free in the books and held by nobody -/
theorem create_fixed_iff {A : List Nat} {s : St} (h : Inv A s) (name : Str) (grp : Option GInfo)
    (choice : Option Nat) {req : Nat} (hreq : req ≠ 0) :
    (s.openLn name req grp choice false).2 = .ok req ↔ (req ∈ s.pm.free ∧ s.avail req = true) := by
  constructor
  · intro hr
    obtain ⟨_, hf, ha, _, _⟩ := create_granted_free h name req grp choice false hr
    exact ⟨hf, ha⟩
  · rintro ⟨hf, ha⟩
    unfold St.openLn
    rw [acquire_fixed_ok s.pm name s.avail choice hreq hf ha]
    simp [bound_false_of_avail ha]

/-- a join that meets no populated group of that name is the creator's path -/
theorem join_creates {s : St} {m : Str} {gi : GInfo} (hl : s.isLive m = false) (hg : s.groupOf gi.g = none)
    (choice : Option Nat) (grab : Bool) :
    s.join m gi choice grab = s.openLn m gi.req (some gi) choice grab := by
  unfold St.join
  simp [hl, hg]

/-- RE-CREATION, SERVER-CHOSEN PORT, AFTER ANY HISTORY: a group without members can be created (again) with
    remotePort 0 iff some allowed port is free — whoever took the group's old port meanwhile -/
theorem recreate_port0 (A : List Nat) (ops : List Op) (m : Str) (gi : GInfo) (hreq : gi.req = 0)
    (hl : (run A ops).isLive m = false) (hg : (run A ops).groupOf gi.g = none) :
    (∃ choice rp, ((run A ops).join m gi choice false).2 = .ok rp) ↔
      ∃ p ∈ (run A ops).pm.free, (run A ops).avail p = true := by
  have e : ∀ choice, (run A ops).join m gi choice false = (run A ops).openLn m 0 (some gi) choice false := by
    intro choice; rw [join_creates hl hg, hreq]
  simp only [e]
  exact create_port0_iff (inv_run A ops) m (some gi)

/-- RE-CREATION, FIXED PORT, AFTER ANY HISTORY -/
theorem recreate_fixed (A : List Nat) (ops : List Op) (m : Str) (gi : GInfo) (choice : Option Nat)
    (hreq : gi.req ≠ 0) (hl : (run A ops).isLive m = false) (hg : (run A ops).groupOf gi.g = none) :
    ((run A ops).join m gi choice false).2 = .ok gi.req ↔
      (gi.req ∈ (run A ops).pm.free ∧ (run A ops).avail gi.req = true) := by
  rw [join_creates hl hg]
  exact create_fixed_iff (inv_run A ops) m (some gi) choice hreq

/-- IMMEDIATELY after the last member has left, the very port the group had can be acquired again by number -/
theorem recreate_after_last_leave {A : List Nat} {s : St} (h : Inv A s) {m : Str} {l : Ln}
    (hf : s.lnOf m = some l) (hlast : l.members.erase m = []) (hp : l.port ≠ 0)
    (name : Str) (grp : Option GInfo) (choice : Option Nat) :
    ((s.close m).openLn name l.port grp choice false).2 = .ok l.port := by
  obtain ⟨hfree, _, ha⟩ := last_leave_frees h hf hlast
  exact (create_fixed_iff (inv_close h m) name grp choice hp).mpr ⟨hfree, ha⟩


/-! ## Why the bind probe on the reserved-port path is needed (witness)

  A reservation is NOT set aside: `Release` returns the port to the free table and anybody may take it by number.
  `openLnR true` is the creator's path over a manager whose reserved-port path hands the caller's old port back
  without `isPortAvailable`.  History: m1 founds G with remotePort 0 and gets port 1; the last member leaves;
  proxy h takes port 1 by number; m1 creates G again with remotePort 0. -/

/-- `Acquire(name, 0)` with the reserved-port path taken WITHOUT the bind probe when `unprobed` -/
def acquireR (unprobed : Bool) (pm : PM) (name : Str) (avail : Nat → Bool) (choice : Option Nat) :
    PM × Except AcqErr Nat :=
  match pm.reserved.lookup name with
  | some rp => if unprobed || avail rp then (pm.take name rp, .ok rp) else pm.acquire name 0 avail choice
  | none => pm.acquire name 0 avail choice

/-- with the probe it is the modelled `Acquire` -/
theorem acquireR_probed (pm : PM) (name : Str) (avail : Nat → Bool) (choice : Option Nat) :
    acquireR false pm name avail choice = pm.acquire name 0 avail choice := by
  unfold acquireR PM.acquire
  rw [if_pos rfl]
  cases hr : pm.reserved.lookup name with
  | none => rfl
  | some rp =>
    cases ha : avail rp with
    | true => simp [ha]
    | false => simp [ha]

/-- the creator's path (server-chosen port) over `acquireR` -/
def openLnR (unprobed : Bool) (s : St) (name : Str) (grp : Option GInfo) (choice : Option Nat) :
    St × Except RegErr Nat :=
  match acquireR unprobed s.pm name s.avail choice with
  | (_, .error e) => (s, .error (.acquire e))
  | (pm', .ok p) =>
    if s.bound p = true then ({ s with pm := pm'.release p }, .error .listen)
    else ({ s with pm := pm', lns := { port := p, owner := name, grp := grp, members := [name] } :: s.lns }, .ok p)

def wM1 : Str := [109, 49]
def wH : Str := [104]
def wG : GInfo := { g := [71], key := [107], req := 0 }

/-- m1 founds G (port 1), leaves, h takes port 1 by number -/
def wBefore : St :=
  (((St.new [1, 2, 3]).join wM1 wG (some 1) false).1.close wM1).take wH 1 none false |>.1

def isListen (r : Except RegErr Nat) : Bool := match r with | .error .listen => true | _ => false
def isOkNe (r : Except RegErr Nat) (p : Nat) : Bool := match r with | .ok q => q != p | _ => false

/-- the unprobed reserved path: m1's re-creation of G with remotePort 0 is refused (listen on h's port), h's port
    is afterwards FREE in the books and has NO owner while h listens on it, and a retry is refused the same way —
    although two allowed ports are free; with the probe m1 is given another port and h's entry is untouched -/
theorem unprobed_reservation_witness :
    let r1 := openLnR true wBefore wM1 (some wG) (some 2)
    let r2 := openLnR true r1.1 wM1 (some wG) (some 2)
    let r := openLnR false wBefore wM1 (some wG) (some 2)
    wBefore.pm.usedBy 1 = some wH ∧
    isListen r1.2 = true ∧ r1.1.pm.usedBy 1 = none ∧ (1 ∈ r1.1.pm.free) ∧ r1.1.lns.any (fun l => l.port == 1) = true ∧
    isListen r2.2 = true ∧
    isOkNe r.2 1 = true ∧ r.1.pm.usedBy 1 = some wH := by
  decide


/-! ## The tie to the source: the shape of `Manager.Acquire` (Frp/Gen/PortFacts.lean, regenerated from
    server/ports/ports.go by translate/gen_portfacts.go) -/

/-- **every write to `usedPorts` sits directly under the bind probe of the very port it writes** — the model's
    `avail q = true` in every successful outcome (`Ports.acquire_cases`), on which `unused_of_avail` (no owner is
    overwritten) and `create_granted_free` rest -/
theorem code_take_probed :
    Gen.PortFacts.takeSites.all (fun s => s.2.1.getLast? == some ("pm.isPortAvailable(" ++ s.1 ++ ")")) = true := by
  decide +kernel

/-- **and the three writes are the three paths of `PM.acquire`**: the caller's reservation (server-chosen port
    only; no look at the free table), a port ranged over the free table, the requested port found in the free table -/
theorem code_take_paths :
    (Gen.PortFacts.takeSites.map (fun s => (s.1, s.2.1.dropLast)) ==
      [("ctx.Port", ["port == 0", "ctx, ok := pm.reservedPorts[name]; ok"]),
       ("k", ["port == 0", "k := range pm.freePorts"]),
       ("port", ["!(port == 0)", "_, ok = pm.freePorts[port]; ok"])]) = true := by
  decide +kernel

end C13Ports
end Frp
