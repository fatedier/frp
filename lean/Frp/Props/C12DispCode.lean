import Frp.Props.C12Disp
import Frp.Gen.DispFacts
/-
  C12 — the tie between the dispatcher model (Model/SessDisp.lean, Props/C12Disp.lean) and pkg/msg/handler.go:
  the regenerated facts Frp/Gen/DispFacts.lean (translate/gen_dispfacts.go, go/ast) have exactly the shape the model
  mirrors, and the model's two parameters, READ OFF THE FACTS, are frp's.  A dispatcher whose send loop can
  close the done channel, whose done channel is closed anywhere but at the top of the read loop after a failed ReadMsg,
  whose done channel escapes to somebody who could close it, or whose handlers are started with `go` / handed to another
  loop makes these two theorems fail (the theorems of Props/C12Disp.lean then say nothing about such code).
-/
namespace Frp
namespace C12
open Sess SessDisp

/-! ### the facts about the source -/

/-- the shape of pkg/msg/handler.go the model `SessDisp` mirrors, statement by statement -/
def dispatcherCodeShape : Bool :=
  Gen.DispFacts.doneChUses ==
    [("NewDispatcher", "init"), ("sendLoop", "recv"), ("readLoop", "close"), ("Send", "recv"), ("Done", "return")] &&
  Gen.DispFacts.doneCallers.all (fun e => e.2 == "recv") &&
  Gen.DispFacts.runSpawns == ["sendLoop", "readLoop"] && Gen.DispFacts.runOther.isEmpty &&
  Gen.DispFacts.readLoopStmts ==
    ["m, err := ReadMsg(d.rw)",
     "if err != nil { close(d.doneCh) return }",
     "if handler, ok := d.msgHandlers[reflect.TypeOf(m)]; ok { handler(m) } else if d.defaultHandler != nil { d.defaultHandler(m) }"] &&
  Gen.DispFacts.readLoopOuter.isEmpty && Gen.DispFacts.readLoopSpawns.isEmpty &&
  Gen.DispFacts.handlerCalls == [("handler", "stmt"), ("d.defaultHandler", "stmt")] &&
  Gen.DispFacts.sendLoopStmts ==
    ["for { select { case <-d.doneCh: return case m := <-d.sendCh: _ = WriteMsg(d.rw, m) } }"] &&
  Gen.DispFacts.sendLoopCalls == ["WriteMsg"] && Gen.DispFacts.writeErrDropped &&
  Gen.DispFacts.sendStmts == ["select { case <-d.doneCh: return io.EOF case d.sendCh <- m: return nil }"] &&
  Gen.DispFacts.doneStmts == ["return d.doneCh"]

theorem dispatcher_code_shape : dispatcherCodeShape = true := by decide +kernel

/-- the two parameters of the model, read off the facts: handlers are called by the read loop itself (every call of a
    handler in readLoop is a plain statement, readLoop spawns nothing, Run starts nothing but the two loops); the send
    loop can close the done channel (some function other than readLoop closes `doneCh`, the channel escapes, or the
    write error is looked at) -/
def codeCfg : Cfg :=
  { inline := Gen.DispFacts.readLoopSpawns.isEmpty && !Gen.DispFacts.handlerCalls.isEmpty &&
      Gen.DispFacts.handlerCalls.all (fun e => e.2 == "stmt") && Gen.DispFacts.runSpawns == ["sendLoop", "readLoop"],
    sendErrStops := Gen.DispFacts.doneChUses.any (fun e => (e.2 == "close" && e.1 != "readLoop") || e.2 == "other") ||
      Gen.DispFacts.doneCallers.any (fun e => e.2 != "recv") || !Gen.DispFacts.writeErrDropped }

theorem code_cfg_is_frp : codeCfg = Cfg.frp := by decide +kernel

/-- `disp_refines_sess` for the configuration read off the regenerated facts -/
theorem code_disp_refines_sess {D : SessDisp.St} (hR : SessDisp.Reachable codeCfg D) : Sess.Reachable D.S := by
  rw [code_cfg_is_frp] at hR
  exact disp_refines_sess rfl rfl hR

theorem code_no_handler_after_done {D : SessDisp.St} (hR : SessDisp.Reachable codeCfg D) {n : Nat}
    (hd : (D.dr n).done = true) : (D.dr n).rdRet = true ∧ (D.S.s n).hp = .idle := by
  rw [code_cfg_is_frp] at hR
  exact ⟨done_only_after_read_loop rfl rfl hR hd, (no_handler_after_done rfl rfl hR hd).1⟩

end C12
end Frp
