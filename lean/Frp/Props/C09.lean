import Frp.Lemmas.Ports
import Frp.Model.AllowPorts
/-
  C09 — Remote ports: whitelisted, exclusive, truthfully reported, quota-bounded.

  Model: Frp/Model/Ports.lean (ports.Manager with its three tables; TCP/UDP proxy registration and
  closure incl. the failed-listen rollback; quota; the OS as part of the state).
  All theorems are for EVERY allow set, quota and history of register / close / forwarder-exit /
  foreign bind / foreign unbind operations, with every outcome of the random port choice.
-/
namespace Frp
namespace C09
open Ports

inductive Op
  | register (sid : Nat) (name : Str) (pr : Proto) (port : Nat) (choice : Option Nat) (grab : Bool)
  | registerG (sid : Nat) (name : Str) (gi : GInfo) (choice : Option Nat) (grab : Bool)
  | close (sid : Nat) (name : Str)
  | forwarderExit (name : Str)
  | squat (pr : Proto) (p : Nat)
  | unsquat (pr : Proto) (p : Nat)

def apply (s : Srv) : Op → Srv
  | .register sid name pr port choice grab => (s.register sid name pr port choice grab).1
  | .registerG sid name gi choice grab => (s.registerG sid name gi choice grab).1
  | .close sid name => s.close sid name
  | .forwarderExit name => Srv.forwarderExit true s name
  | .squat pr p => s.squat pr p
  | .unsquat pr p => s.unsquat pr p

def run (AT AU : List Nat) (maxPorts : Nat) (ops : List Op) : Srv :=
  ops.foldl apply (Srv.new AT AU maxPorts)

def allowed (AT AU : List Nat) : Proto → List Nat
  | .tcp => AT
  | .udp => AU

/-- members of one tcp load-balancing group (they share one listener by design) -/
def sameGrp (x y : Pxy) : Prop := ∃ i j, x.grp = some i ∧ y.grp = some j ∧ i.g = j.g

/-- the server invariant -/
structure SrvInv (AT AU : List Nat) (s : Srv) : Prop where
  pmInv : ∀ pr, PMInv (allowed AT AU pr) (s.pm pr)
  names : s.live.Pairwise (fun a b => a.name ≠ b.name)
  /-- every live proxy's port is recorded as used; a plain proxy is the recorded owner of its port
      (a group's port is recorded under the name of the member that founded the group) -/
  owns  : ∀ x ∈ s.live, ∃ n, (s.pm x.proto).usedBy x.port = some n ∧ (x.grp = none → n = x.name)
  /-- every port accounted as used is really held by a live proxy (a plain one: of that name) -/
  acct  : ∀ pr p n, (s.pm pr).usedBy p = some n →
            ∃ x ∈ s.live, x.proto = pr ∧ x.port = p ∧ (x.grp = none → x.name = n)
  /-- two live proxies on one port of one protocol are the same proxy or members of one group -/
  excl  : ∀ x ∈ s.live, ∀ y ∈ s.live, x.proto = y.proto → x.port = y.port → x.name = y.name ∨ sameGrp x y
  /-- all members of a group sit on the same port (`TCPGroup.realPort`) -/
  agree : ∀ x ∈ s.live, ∀ y ∈ s.live, sameGrp x y → x.port = y.port
  /-- groups exist for tcp only -/
  gtcp  : ∀ x ∈ s.live, x.grp ≠ none → x.proto = .tcp
  /-- a group asked for with a fixed remote port sits on that port -/
  greq  : ∀ x ∈ s.live, ∀ i, x.grp = some i → i.req ≠ 0 → x.port = i.req
  /-- the OS never lets a foreign process and frp hold the same port -/
  os    : ∀ pr p, (pr, p) ∈ s.ext → ¬ ∃ x ∈ s.live, x.proto = pr ∧ x.port = p
  quota : s.maxPorts > 0 → ∀ sid,
            s.quotaOf sid = (s.live.filter (fun x => x.sid = sid)).length ∧ s.quotaOf sid ≤ s.maxPorts

/-! ### projections of the state updates -/

@[simp] theorem pm_setPm (s : Srv) (pr pr' : Proto) (pm : PM) :
    (s.setPm pr pm).pm pr' = if pr' = pr then pm else s.pm pr' := by
  cases pr <;> cases pr' <;> simp [Srv.setPm, Srv.pm]
@[simp] theorem live_setPm (s : Srv) (pr : Proto) (pm : PM) : (s.setPm pr pm).live = s.live := by
  cases pr <;> rfl
@[simp] theorem ext_setPm (s : Srv) (pr : Proto) (pm : PM) : (s.setPm pr pm).ext = s.ext := by
  cases pr <;> rfl
@[simp] theorem max_setPm (s : Srv) (pr : Proto) (pm : PM) : (s.setPm pr pm).maxPorts = s.maxPorts := by
  cases pr <;> rfl
@[simp] theorem quotaOf_setPm (s : Srv) (pr : Proto) (pm : PM) (sid : Nat) :
    (s.setPm pr pm).quotaOf sid = s.quotaOf sid := by
  cases pr <;> rfl
@[simp] theorem lingering_setPm (s : Srv) (pr : Proto) (pm : PM) : (s.setPm pr pm).lingering = s.lingering := by
  cases pr <;> rfl

@[simp] theorem pm_setQuota (s : Srv) (sid n : Nat) (pr : Proto) : (s.setQuota sid n).pm pr = s.pm pr := by
  cases pr <;> rfl
@[simp] theorem live_setQuota (s : Srv) (sid n : Nat) : (s.setQuota sid n).live = s.live := rfl
@[simp] theorem ext_setQuota (s : Srv) (sid n : Nat) : (s.setQuota sid n).ext = s.ext := rfl
@[simp] theorem max_setQuota (s : Srv) (sid n : Nat) : (s.setQuota sid n).maxPorts = s.maxPorts := rfl
@[simp] theorem lingering_setQuota (s : Srv) (sid n : Nat) : (s.setQuota sid n).lingering = s.lingering := rfl

@[simp] theorem pm_setExt (s : Srv) (e : List (Proto × Nat)) (pr : Proto) : (s.setExt e).pm pr = s.pm pr := by
  cases pr <;> rfl
@[simp] theorem live_setExt (s : Srv) (e : List (Proto × Nat)) : (s.setExt e).live = s.live := rfl
@[simp] theorem ext_setExt (s : Srv) (e : List (Proto × Nat)) : (s.setExt e).ext = e := rfl
@[simp] theorem max_setExt (s : Srv) (e : List (Proto × Nat)) : (s.setExt e).maxPorts = s.maxPorts := rfl
@[simp] theorem quotaOf_setExt (s : Srv) (e : List (Proto × Nat)) (sid : Nat) :
    (s.setExt e).quotaOf sid = s.quotaOf sid := rfl

@[simp] theorem pm_setLive (s : Srv) (l : List Pxy) (pr : Proto) : (s.setLive l).pm pr = s.pm pr := by
  cases pr <;> rfl
@[simp] theorem live_setLive (s : Srv) (l : List Pxy) : (s.setLive l).live = l := rfl
@[simp] theorem ext_setLive (s : Srv) (l : List Pxy) : (s.setLive l).ext = s.ext := rfl
@[simp] theorem max_setLive (s : Srv) (l : List Pxy) : (s.setLive l).maxPorts = s.maxPorts := rfl
@[simp] theorem quotaOf_setLive (s : Srv) (l : List Pxy) (sid : Nat) :
    (s.setLive l).quotaOf sid = s.quotaOf sid := rfl
@[simp] theorem lingering_setLive (s : Srv) (l : List Pxy) : (s.setLive l).lingering = s.lingering := rfl

@[simp] theorem pm_setLingering (s : Srv) (l : List Pxy) (pr : Proto) : (s.setLingering l).pm pr = s.pm pr := by
  cases pr <;> rfl
@[simp] theorem live_setLingering (s : Srv) (l : List Pxy) : (s.setLingering l).live = s.live := rfl
@[simp] theorem ext_setLingering (s : Srv) (l : List Pxy) : (s.setLingering l).ext = s.ext := rfl
@[simp] theorem max_setLingering (s : Srv) (l : List Pxy) : (s.setLingering l).maxPorts = s.maxPorts := rfl
@[simp] theorem quotaOf_setLingering (s : Srv) (l : List Pxy) (sid : Nat) :
    (s.setLingering l).quotaOf sid = s.quotaOf sid := rfl

@[simp] theorem quotaOf_setQuota (s : Srv) (sid n sid' : Nat) :
    (s.setQuota sid n).quotaOf sid' = if sid' = sid then n else s.quotaOf sid' := by
  unfold Srv.quotaOf Srv.setQuota
  by_cases h : sid' = sid
  · simp [h]
  · have hk : (sid' == sid) = false := by simpa using h
    simp only [List.lookup_cons, hk, if_neg h, filter_key_ne, lookup_filter_ne h]

/-- the last step of every successful registration: `x` goes live and its session is charged one port -/
def enrol (s : Srv) (x : Pxy) : Srv :=
  let s2 := s.setLive (x :: s.live)
  if s.maxPorts > 0 then s2.setQuota x.sid (s.quotaOf x.sid + 1) else s2

@[simp] theorem pm_enrol (s : Srv) (x : Pxy) (pr : Proto) : (enrol s x).pm pr = s.pm pr := by
  unfold enrol
  split <;> simp
@[simp] theorem live_enrol (s : Srv) (x : Pxy) : (enrol s x).live = x :: s.live := by
  unfold enrol
  split <;> rfl
@[simp] theorem ext_enrol (s : Srv) (x : Pxy) : (enrol s x).ext = s.ext := by
  unfold enrol
  split <;> rfl
@[simp] theorem max_enrol (s : Srv) (x : Pxy) : (enrol s x).maxPorts = s.maxPorts := by
  unfold enrol
  split <;> rfl
theorem quotaOf_enrol {s : Srv} (hm : s.maxPorts > 0) (x : Pxy) (sid : Nat) :
    (enrol s x).quotaOf sid = if sid = x.sid then s.quotaOf x.sid + 1 else s.quotaOf sid := by
  simp [enrol, hm]

theorem bound_iff (s : Srv) (pr : Proto) (p : Nat) :
    s.bound pr p = true ↔ (pr, p) ∈ s.ext ∨ ∃ x ∈ s.live, x.proto = pr ∧ x.port = p := by
  simp [Srv.bound]

theorem avail_iff (s : Srv) (pr : Proto) (p : Nat) :
    s.avail pr p = true ↔ (pr, p) ∉ s.ext ∧ ¬ ∃ x ∈ s.live, x.proto = pr ∧ x.port = p := by
  rw [Srv.avail, Bool.not_eq_true', ← Bool.not_eq_true, bound_iff, not_or]

/-! ### groups: small facts -/

theorem sameGrp_symm {x y : Pxy} (h : sameGrp x y) : sameGrp y x := by
  obtain ⟨i, j, h1, h2, h3⟩ := h
  exact ⟨j, i, h2, h1, h3.symm⟩

theorem sameGrp_trans {x y z : Pxy} (h1 : sameGrp x y) (h2 : sameGrp y z) : sameGrp x z := by
  obtain ⟨i, j, a1, a2, a3⟩ := h1
  obtain ⟨j', k, b1, b2, b3⟩ := h2
  cases a2.symm.trans b1
  exact ⟨i, k, a1, b2, a3.trans b3⟩

theorem not_sameGrp_of_none {x y : Pxy} (h : x.grp = none) : ¬ sameGrp x y := by
  rintro ⟨i, _, h1, _, _⟩
  cases h.symm.trans h1

theorem inGroup_iff (x : Pxy) (g : Str) : x.inGroup g = true ↔ ∃ i, x.grp = some i ∧ i.g = g := by
  unfold Pxy.inGroup
  cases x.grp <;> simp

theorem sameGrp_iff_inGroup {x y : Pxy} {gi : GInfo} (hx : x.grp = some gi) :
    sameGrp x y ↔ y.inGroup gi.g = true := by
  rw [inGroup_iff]
  constructor
  · rintro ⟨i, j, h1, h2, h3⟩
    cases hx.symm.trans h1
    exact ⟨j, h2, h3.symm⟩
  · rintro ⟨j, h2, h3⟩
    exact ⟨gi, j, hx, h2, h3.symm⟩

/-! ## Invariant preservation -/

/-- the invariant reads the managers through `PMInv` and `usedBy` only, and besides them `live`,
    `maxPorts`, `quotaOf`, and of `ext` that no live proxy sits on a port in it -/
theorem inv_congr {AT AU : List Nat} {s s' : Srv} (h : SrvInv AT AU s)
    (hpm : ∀ pr, PMInv (allowed AT AU pr) (s'.pm pr))
    (hused : ∀ pr p, (s'.pm pr).usedBy p = (s.pm pr).usedBy p) (hl : s'.live = s.live)
    (hos : ∀ pr p, (pr, p) ∈ s'.ext → ¬ ∃ x ∈ s.live, x.proto = pr ∧ x.port = p)
    (hm : s'.maxPorts = s.maxPorts) (hq : ∀ sid, s'.quotaOf sid = s.quotaOf sid) : SrvInv AT AU s' := by
  refine ⟨hpm, ?_, ?_, ?_, ?_, ?_, ?_, ?_, ?_, ?_⟩
  · rw [hl]; exact h.names
  · intro x hx; rw [hl] at hx; rw [hused]; exact h.owns x hx
  · intro pr p n hu; rw [hused] at hu; rw [hl]; exact h.acct pr p n hu
  · rw [hl]; exact h.excl
  · rw [hl]; exact h.agree
  · rw [hl]; exact h.gtcp
  · rw [hl]; exact h.greq
  · rw [hl]; exact hos
  · intro hpos sid; rw [hm] at hpos; rw [hq, hl, hm]; exact h.quota hpos sid

theorem inv_frame {AT AU : List Nat} {s s' : Srv} (h : SrvInv AT AU s)
    (hpm : ∀ pr, s'.pm pr = s.pm pr) (hl : s'.live = s.live)
    (hos : ∀ pr p, (pr, p) ∈ s'.ext → ¬ ∃ x ∈ s.live, x.proto = pr ∧ x.port = p)
    (hm : s'.maxPorts = s.maxPorts) (hq : ∀ sid, s'.quotaOf sid = s.quotaOf sid) : SrvInv AT AU s' :=
  inv_congr h (fun pr => hpm pr ▸ h.pmInv pr) (fun pr p => by rw [hpm]) hl hos hm hq

theorem inv_new (AT AU : List Nat) (m : Nat) : SrvInv AT AU (Srv.new AT AU m) := by
  refine ⟨?_, List.Pairwise.nil, ?_, ?_, ?_, ?_, ?_, ?_, ?_, ?_⟩
  · intro pr; cases pr <;> exact new_inv _
  · intro x hx; cases hx
  · intro pr p n h; cases pr <;> cases h
  · intro x hx; cases hx
  · intro x hx; cases hx
  · intro x hx; cases hx
  · intro x hx; cases hx
  · intro pr p h; cases h
  · intro _ sid; simp [Srv.new, Srv.quotaOf]

theorem inv_squat {AT AU : List Nat} {s : Srv} (h : SrvInv AT AU s) (pr : Proto) (p : Nat) :
    SrvInv AT AU (s.squat pr p) := by
  unfold Srv.squat
  split
  · exact h
  · rename_i hb
    refine inv_frame h (pm_setExt s _) rfl ?_ rfl (fun _ => rfl)
    -- the bind succeeded, so no live proxy is on the port
    intro pr' p' hm hx
    rcases List.mem_cons.mp hm with e | e
    · cases e
      exact hb ((bound_iff s pr p).mpr (Or.inr hx))
    · exact h.os pr' p' e hx

theorem inv_unsquat {AT AU : List Nat} {s : Srv} (h : SrvInv AT AU s) (pr : Proto) (p : Nat) :
    SrvInv AT AU (s.unsquat pr p) :=
  inv_frame h (pm_setExt s _) rfl (fun pr' p' hm => h.os pr' p' (List.mem_filter.mp hm).1) rfl (fun _ => rfl)

theorem inv_forwarderExit {AT AU : List Nat} {s : Srv} (h : SrvInv AT AU s) (name : Str) :
    SrvInv AT AU (Srv.forwarderExit true s name) := by
  unfold Srv.forwarderExit
  split
  · exact h
  · exact inv_frame h (pm_setLingering s _) rfl h.os rfl (fun _ => rfl)

/-! ### one more live proxy -/

/-- `x` joins the live proxies.  Away from `x`'s port the managers' owners are as before; on it there
    is an owner (`x` itself if `x` is a plain proxy), and whoever else sits there is in `x`'s group. -/
theorem inv_add {AT AU : List Nat} {s s' : Srv} (h : SrvInv AT AU s) {x : Pxy}
    (hl : s'.live = x :: s.live) (hext : s'.ext = s.ext) (hmax : s'.maxPorts = s.maxPorts)
    (hq' : s.maxPorts > 0 → ∀ sid, s'.quotaOf sid = if sid = x.sid then s.quotaOf x.sid + 1 else s.quotaOf sid)
    (hroom : ¬ (s.maxPorts > 0 ∧ s.quotaOf x.sid + 1 > s.maxPorts))
    (hname : ∀ y ∈ s.live, y.name ≠ x.name)
    (hpm : ∀ pr, PMInv (allowed AT AU pr) (s'.pm pr))
    (hused : ∀ pr p, ¬ (pr = x.proto ∧ p = x.port) → (s'.pm pr).usedBy p = (s.pm pr).usedBy p)
    (hx : ∃ n, (s'.pm x.proto).usedBy x.port = some n ∧ (x.grp = none → n = x.name))
    (hexcl : ∀ y ∈ s.live, y.proto = x.proto → y.port = x.port → sameGrp x y)
    (hagree : ∀ y ∈ s.live, sameGrp x y → x.port = y.port)
    (hgtcp : x.grp ≠ none → x.proto = .tcp)
    (hgreq : ∀ i, x.grp = some i → i.req ≠ 0 → x.port = i.req)
    (hos : (x.proto, x.port) ∉ s.ext) : SrvInv AT AU s' := by
  -- a clause about every live proxy: the hypothesis for `x`, `h` for the others
  have all : ∀ {P : Pxy → Prop}, P x → (∀ y ∈ s.live, P y) → ∀ y ∈ s'.live, P y := by
    intro P hPx hP y hy
    rw [hl] at hy
    rcases List.mem_cons.mp hy with e | hy
    · exact e ▸ hPx
    · exact hP y hy
  obtain ⟨n, hn, hnx⟩ := hx
  refine ⟨hpm, ?_, all ⟨n, hn, hnx⟩ ?_, ?_, ?_, ?_, all hgtcp h.gtcp, all hgreq h.greq, ?_, ?_⟩
  · rw [hl]
    exact List.pairwise_cons.mpr ⟨fun y hy => (hname y hy).symm, h.names⟩
  · intro y hy
    by_cases e : y.proto = x.proto ∧ y.port = x.port
    · -- `y` shares `x`'s port, so it is a group member and any owner will do
      refine ⟨n, by rw [e.1, e.2]; exact hn, fun hg => ?_⟩
      exact absurd (sameGrp_symm (hexcl y hy e.1 e.2)) (not_sameGrp_of_none hg)
    · rw [hused _ _ e]
      exact h.owns y hy
  · intro pr p n' hu
    rw [hl]
    by_cases e : pr = x.proto ∧ p = x.port
    · rw [e.1, e.2, hn] at hu
      exact ⟨x, List.mem_cons_self, e.1.symm, e.2.symm, fun hg => (hnx hg).symm.trans (Option.some.inj hu)⟩
    · rw [hused _ _ e] at hu
      obtain ⟨y, hy, hh⟩ := h.acct pr p n' hu
      exact ⟨y, List.mem_cons_of_mem _ hy, hh⟩
  · intro y hy z hz hp hq
    rw [hl] at hy hz
    rcases List.mem_cons.mp hy with ey | hy' <;> rcases List.mem_cons.mp hz with ez | hz'
    · left; rw [ey, ez]
    · subst ey; exact Or.inr (hexcl z hz' hp.symm hq.symm)
    · subst ez; exact Or.inr (sameGrp_symm (hexcl y hy' hp hq))
    · exact h.excl y hy' z hz' hp hq
  · intro y hy z hz hs
    rw [hl] at hy hz
    rcases List.mem_cons.mp hy with ey | hy' <;> rcases List.mem_cons.mp hz with ez | hz'
    · rw [ey, ez]
    · subst ey; exact hagree z hz' hs
    · subst ez; exact (hagree y hy' (sameGrp_symm hs)).symm
    · exact h.agree y hy' z hz' hs
  · intro pr p hm
    rw [hext] at hm
    refine fun ⟨y, hy, h1, h2⟩ => all (P := fun y => y.proto = pr → y.port = p → False) ?_ ?_ y hy h1 h2
    · intro h1 h2
      exact hos (h1 ▸ h2 ▸ hm)
    · intro y hy h1 h2
      exact h.os pr p hm ⟨y, hy, h1, h2⟩
  · -- the count of `x.sid` and its counter both go up by one, and there was room for it
    intro hm sid
    rw [hmax] at hm
    rw [hq' hm, hl, hmax, List.filter_cons]
    have hq0 := h.quota hm
    by_cases e : sid = x.sid
    · subst e
      simp only [↓reduceIte, decide_true, List.length_cons]
      have := hq0 x.sid
      omega
    · have hne : ¬ (x.sid = sid) := fun h => e h.symm
      simp only [e, ↓reduceIte, hne, decide_false, Bool.false_eq_true]
      exact hq0 sid

/-! ### the holder of a new socket: a plain proxy, or the member that founds a group -/

/-- what `Acquire` inside a registration has established when it grants `x.port` to the request for
    `port` under `x.name`: room in the quota, a fresh name, a port that passed the probe and came from
    the free table or the name's reservation -/
structure Grants (s : Srv) (x : Pxy) (port : Nat) : Prop where
  room  : ¬ (s.maxPorts > 0 ∧ s.quotaOf x.sid + 1 > s.maxPorts)
  fresh : ∀ y ∈ s.live, y.name ≠ x.name
  avail : s.avail x.proto x.port = true
  src   : (x.port ∈ (s.pm x.proto).free ∧ (port = 0 ∨ port = x.port)) ∨
          (port = 0 ∧ (s.pm x.proto).reserved.lookup x.name = some x.port)

/-- the proxy's own `net.Listen` after the Acquire: lost to a process that grabbed the port in between
    (deferred Release), or `x` goes live -/
def listenOn (s : Srv) (x : Pxy) (grab : Bool) : Srv × Except RegErr Nat :=
  if grab then
    ((s.setPm x.proto (((s.pm x.proto).take x.name x.port).release x.port)).setExt ((x.proto, x.port) :: s.ext),
      .error .listen)
  else (enrol (s.setPm x.proto ((s.pm x.proto).take x.name x.port)) x, .ok x.port)

theorem unused_of_no_live {AT AU : List Nat} {s : Srv} (h : SrvInv AT AU s) {pr : Proto} {q : Nat}
    (hnolive : ¬ ∃ x ∈ s.live, x.proto = pr ∧ x.port = q) : (s.pm pr).usedBy q = none := by
  cases hu : (s.pm pr).usedBy q with
  | none => rfl
  | some n =>
    obtain ⟨x, hx, h1, h2, _⟩ := h.acct pr q n hu
    exact absurd ⟨x, hx, h1, h2⟩ hnolive

/-- free and used partition the allow set -/
theorem free_iff_not_used {AT AU : List Nat} {s : Srv} (h : SrvInv AT AU s) (pr : Proto) {p : Nat}
    (hp : p ∈ allowed AT AU pr) : p ∈ (s.pm pr).free ↔ p ∉ (s.pm pr).usedKeys := by
  constructor
  · exact (h.pmInv pr).disj p
  · intro hn
    rcases (h.pmInv pr).cover p hp with hf | hu
    · exact hf
    · exact absurd hu hn

/-- a failed listen (acquire, foreign process grabs the port, release) leaves live proxies, recorded
    owners, quotas and free sets exactly as before -/
theorem listen_failed_unchanged {AT AU : List Nat} {s : Srv} (h : SrvInv AT AU s) {pr : Proto} {name : Str}
    {port q : Nat}
    (hsrc : (q ∈ (s.pm pr).free ∧ (port = 0 ∨ port = q)) ∨ (port = 0 ∧ (s.pm pr).reserved.lookup name = some q))
    (hnolive : ¬ ∃ x ∈ s.live, x.proto = pr ∧ x.port = q) :
    ((s.setPm pr (((s.pm pr).take name q).release q)).setExt ((pr, q) :: s.ext)).live = s.live ∧
    (∀ pr' p, (((s.setPm pr (((s.pm pr).take name q).release q)).setExt ((pr, q) :: s.ext)).pm pr').usedBy p =
        (s.pm pr').usedBy p) ∧
    (∀ sid', ((s.setPm pr (((s.pm pr).take name q).release q)).setExt ((pr, q) :: s.ext)).quotaOf sid' =
        s.quotaOf sid') ∧
    (∀ pr' p, p ∈ (((s.setPm pr (((s.pm pr).take name q).release q)).setExt ((pr, q) :: s.ext)).pm pr').free ↔
        p ∈ (s.pm pr').free) := by
  have hnone := unused_of_no_live h hnolive
  -- nobody holds `q`, so it has no owner and, being allowed, is free
  have hqf : q ∈ (s.pm pr).free := by
    apply (free_iff_not_used h pr (granted_mem (h.pmInv pr) hsrc)).mpr
    intro hm
    obtain ⟨n, hn⟩ := mem_usedKeys_iff.mp hm
    cases hnone.symm.trans hn
  refine ⟨by simp, ?_, fun _ => by simp, ?_⟩
  · intro pr' p
    simp only [pm_setExt, pm_setPm]
    split
    · rename_i e
      subst e
      exact usedBy_take_release name hnone p
    · rfl
  · intro pr' p
    simp only [pm_setExt, pm_setPm]
    split
    · rename_i e
      subst e
      exact mem_free_take_release name hqf p
    · rfl

theorem inv_listenOn {AT AU : List Nat} {s : Srv} (h : SrvInv AT AU s) {x : Pxy} {port : Nat}
    (hg : Grants s x port) (hfresh : ∀ y ∈ s.live, ¬ sameGrp x y) (hgtcp : x.grp ≠ none → x.proto = .tcp)
    (hreq : ∀ i, x.grp = some i → i.req = port) (grab : Bool) : SrvInv AT AU (listenOn s x grab).1 := by
  obtain ⟨hnext, hnolive⟩ := (avail_iff s x.proto x.port).mp hg.avail
  have hqA : x.port ∈ allowed AT AU x.proto := granted_mem (h.pmInv x.proto) hg.src
  cases grab with
  | true =>
    -- acquired, lost, released: every owner is as before, and the port now belongs to the other process
    obtain ⟨hl, hused, hq, _⟩ := listen_failed_unchanged h hg.src hnolive
    refine inv_congr h ?_ hused hl ?_ (by simp [listenOn]) hq
    · intro pr
      simp only [listenOn, ↓reduceIte, pm_setExt, pm_setPm]
      split
      · rename_i e
        subst e
        exact release_inv (take_inv (h.pmInv _) x.name hqA) x.port
      · exact h.pmInv pr
    · intro pr p hm
      rcases List.mem_cons.mp hm with e | e
      · cases e
        exact hnolive
      · exact h.os pr p e
  | false =>
    refine inv_add h (x := x) (by simp [listenOn]) (by simp [listenOn]) (by simp [listenOn])
      (fun hm sid => by simp [listenOn, quotaOf_enrol, hm]) hg.room hg.fresh ?_ ?_ ?_ ?_ ?_ hgtcp ?_ hnext
    · intro pr
      simp only [listenOn, Bool.false_eq_true, ↓reduceIte, pm_enrol, pm_setPm]
      split
      · rename_i e
        subst e
        exact take_inv (h.pmInv _) x.name hqA
      · exact h.pmInv pr
    · intro pr p hne
      simp only [listenOn, Bool.false_eq_true, ↓reduceIte, pm_enrol, pm_setPm]
      split
      · rename_i e
        subst e
        exact usedBy_take_other _ _ (fun e => hne ⟨rfl, e⟩)
      · rfl
    · exact ⟨x.name, by simp [listenOn, usedBy_take_self], fun _ => rfl⟩
    · intro y hy h1 h2
      exact absurd ⟨y, hy, h1, h2⟩ hnolive
    · intro y hy hs
      exact absurd hs (hfresh y hy)
    · intro i hi hne
      rcases granted_fixed hg.src with h0 | h0
      · exact absurd (hreq i hi ▸ h0) hne
      · rw [hreq i hi, h0]

/-- the two checks every registration starts with: room in the session's quota, and a name not in use -/
theorem admission_cases {s : Srv} {sid : Nat} {name : Str} {body r : Srv × Except RegErr Nat}
    (hr : (if s.maxPorts > 0 ∧ s.quotaOf sid + 1 > s.maxPorts then (s, .error .quota)
      else if s.live.any (fun x => x.name = name) then (s, .error .exists_) else body) = r) :
    (∃ e, r = (s, .error e)) ∨
    (¬ (s.maxPorts > 0 ∧ s.quotaOf sid + 1 > s.maxPorts) ∧ (∀ x ∈ s.live, x.name ≠ name) ∧ body = r) := by
  split at hr
  · exact Or.inl ⟨_, hr.symm⟩
  · rename_i hroom
    split at hr
    · exact Or.inl ⟨_, hr.symm⟩
    · rename_i hex
      refine Or.inr ⟨hroom, fun x hx hn => hex (List.any_eq_true.mpr ⟨x, hx, by simpa using hn⟩), hr⟩

/-- outcome of `register`: refused with the state untouched, or some port was acquired for the name
    and the proxy's own Listen follows -/
theorem register_cases (s : Srv) (sid : Nat) (name : Str) (pr : Proto) (port : Nat)
    (choice : Option Nat) (grab : Bool) :
    (∃ e, s.register sid name pr port choice grab = (s, .error e)) ∨
    (∃ q, Grants s { name := name, sid := sid, proto := pr, port := q } port ∧
        s.register sid name pr port choice grab =
          listenOn s { name := name, sid := sid, proto := pr, port := q } grab) := by
  generalize hr : s.register sid name pr port choice grab = r
  unfold Srv.register at hr
  rcases admission_cases hr with hrefused | ⟨hroom, hfresh, hr⟩
  · exact Or.inl hrefused
  rcases acquire_cases (s.pm pr) name port (s.avail pr) choice with ⟨e, he⟩ | ⟨q, hacq, hav, hsrc⟩
  · simp only [he] at hr
    exact Or.inl ⟨_, hr.symm⟩
  · simp only [hacq] at hr
    refine Or.inr ⟨q, ⟨hroom, hfresh, hav, hsrc⟩, hr.symm.trans ?_⟩
    cases grab <;> cases pr <;> rfl

theorem inv_register {AT AU : List Nat} {s : Srv} (h : SrvInv AT AU s) (sid : Nat) (name : Str)
    (pr : Proto) (port : Nat) (choice : Option Nat) (grab : Bool) :
    SrvInv AT AU (s.register sid name pr port choice grab).1 := by
  rcases register_cases s sid name pr port choice grab with ⟨e, he⟩ | ⟨q, hg, hr⟩
  · rw [he]
    exact h
  · rw [hr]
    exact inv_listenOn h hg (fun y _ => not_sameGrp_of_none rfl) (fun hc => absurd rfl hc)
      (fun i hi => by cases hi) grab

/-! ### a further member of a group -/

theorem groupOf_some {s : Srv} {g : Str} {m : Pxy} (h : s.groupOf g = some m) :
    m ∈ s.live ∧ m.inGroup g = true :=
  ⟨List.mem_of_find?_eq_some h, by simpa using List.find?_some h⟩

/-- outcome of `registerG`: refused with the state untouched; or the founding member's Acquire
    granted a port and its own Listen follows; or a later member was taken into the group of live
    member `m` on `m.port`, the managers untouched -/
theorem registerG_cases (s : Srv) (sid : Nat) (name : Str) (gi : GInfo) (choice : Option Nat) (grab : Bool) :
    (∃ e, s.registerG sid name gi choice grab = (s, .error e)) ∨
    (∃ q, s.groupOf gi.g = none ∧
        Grants s { name := name, sid := sid, proto := .tcp, port := q, grp := some gi } gi.req ∧
        s.registerG sid name gi choice grab =
          listenOn s { name := name, sid := sid, proto := .tcp, port := q, grp := some gi } grab) ∨
    (∃ m mi, s.groupOf gi.g = some m ∧ m.grp = some mi ∧ mi.req = gi.req ∧ mi.key = gi.key ∧
        ¬ (s.maxPorts > 0 ∧ s.quotaOf sid + 1 > s.maxPorts) ∧ (∀ x ∈ s.live, x.name ≠ name) ∧
        s.registerG sid name gi choice grab =
          (enrol s { name := name, sid := sid, proto := .tcp, port := m.port, grp := some gi }, .ok m.port)) := by
  generalize hr : s.registerG sid name gi choice grab = r
  unfold Srv.registerG at hr
  rcases admission_cases hr with hrefused | ⟨hroom, hfresh, hr⟩
  · exact Or.inl hrefused
  cases hgo : s.groupOf gi.g with
  | none =>
    rw [hgo] at hr
    rcases acquire_cases s.tcp name gi.req (s.avail .tcp) choice with ⟨e, he⟩ | ⟨q, hacq, hav, hsrc⟩
    · simp only [he] at hr
      exact Or.inl ⟨_, hr.symm⟩
    · simp only [hacq] at hr
      refine Or.inr (Or.inl ⟨q, rfl, ⟨hroom, hfresh, hav, hsrc⟩, hr.symm.trans ?_⟩)
      cases grab <;> rfl
  | some m =>
    rw [hgo] at hr
    cases hmi : m.grp with
    | none =>
      simp only [hmi] at hr
      exact Or.inl ⟨_, hr.symm⟩
    | some mi =>
      simp only [hmi] at hr
      by_cases hreq : mi.req = gi.req
      · by_cases hkey : mi.key = gi.key
        · simp only [hreq, hkey, ne_eq, not_true_eq_false, ↓reduceIte] at hr
          exact Or.inr (Or.inr ⟨m, mi, rfl, hmi, hreq, hkey, hroom, hfresh, hr.symm⟩)
        · simp only [hreq, hkey, ne_eq, not_true_eq_false, not_false_eq_true, ↓reduceIte] at hr
          exact Or.inl ⟨_, hr.symm⟩
      · simp only [hreq, ne_eq, not_false_eq_true, ↓reduceIte] at hr
        exact Or.inl ⟨_, hr.symm⟩

/-- `x` joins the group of live member `m` on `m`'s port: no new socket, the managers are not touched -/
theorem inv_joined {AT AU : List Nat} {s : Srv} (h : SrvInv AT AU s) {x m : Pxy} (hm : m ∈ s.live)
    (hxm : sameGrp x m) (hproto : x.proto = .tcp) (hport : x.port = m.port)
    (hgreq : ∀ i, x.grp = some i → i.req ≠ 0 → x.port = i.req)
    (hroom : ¬ (s.maxPorts > 0 ∧ s.quotaOf x.sid + 1 > s.maxPorts))
    (hname : ∀ y ∈ s.live, y.name ≠ x.name) : SrvInv AT AU (enrol s x) := by
  have ⟨hxg, hmg⟩ : x.grp ≠ none ∧ m.grp ≠ none := by
    obtain ⟨i, mi, hxi, hmi, _⟩ := hxm
    simp [hxi, hmi]
  have hmtcp : m.proto = .tcp := h.gtcp m hm hmg
  refine inv_add h (live_enrol s x) (ext_enrol s x) (max_enrol s x) (fun hpos => quotaOf_enrol hpos x)
    hroom hname (fun pr => by simpa using h.pmInv pr) (fun pr p _ => by simp) ?_ ?_ ?_ (fun _ => hproto) hgreq ?_
  · obtain ⟨n, hn, _⟩ := h.owns m hm
    exact ⟨n, by simpa [hproto, hport, hmtcp] using hn, fun hc => absurd hc hxg⟩
  · -- whoever sits on `m`'s port is `m` or in `m`'s group
    intro y hy h1 h2
    rcases h.excl m hm y hy (hmtcp.trans (h1.trans hproto).symm) (hport.symm.trans h2.symm) with e | e
    · exact eq_of_pairwise_ne h.names hm hy e ▸ hxm
    · exact sameGrp_trans hxm e
  · intro y hy hs
    exact hport.trans (h.agree m hm y hy (sameGrp_trans (sameGrp_symm hxm) hs))
  · rw [hproto, hport, ← hmtcp]
    exact fun hme => h.os _ _ hme ⟨m, hm, rfl, rfl⟩

theorem inv_registerG {AT AU : List Nat} {s : Srv} (h : SrvInv AT AU s) (sid : Nat) (name : Str)
    (gi : GInfo) (choice : Option Nat) (grab : Bool) :
    SrvInv AT AU (s.registerG sid name gi choice grab).1 := by
  rcases registerG_cases s sid name gi choice grab with ⟨e, he⟩ | ⟨q, hgo, hg, hr⟩ |
      ⟨m, mi, hgo, hmi, hreq, _, hroom, hname, hr⟩
  · rw [he]
    exact h
  · rw [hr]
    refine inv_listenOn h hg ?_ (fun _ => rfl) (fun i hi => by cases hi; rfl) grab
    -- the group has no live member
    intro y hy hs
    have := List.find?_eq_none.mp hgo y hy
    exact this ((sameGrp_iff_inGroup rfl).mp hs)
  · rw [hr]
    obtain ⟨hml, hmg⟩ := groupOf_some hgo
    refine inv_joined h hml ((sameGrp_iff_inGroup rfl).mpr hmg) rfl rfl ?_ hroom hname
    intro i hi hne
    cases hi
    exact h.greq m hml mi hmi (hreq ▸ hne) |>.trans hreq

/-! ### one live proxy less -/

/-- removing the one proxy called `x.name` lowers the per-session count by one for its session -/
theorem count_after_remove {l : List Pxy} (hn : l.Pairwise (fun a b => a.name ≠ b.name)) {x : Pxy}
    (hx : x ∈ l) (sid : Nat) :
    ((l.filter (fun y => y.name ≠ x.name)).filter (fun y => y.sid = sid)).length +
      (if x.sid = sid then 1 else 0) = (l.filter (fun y => y.sid = sid)).length := by
  induction l with
  | nil => cases hx
  | cons z zs ih =>
    have hp := List.pairwise_cons.mp hn
    rcases List.mem_cons.mp hx with e | hx'
    · subst e
      have hall : zs.filter (fun y => y.name ≠ x.name) = zs :=
        List.filter_eq_self.mpr fun y hy => by simpa using (hp.1 y hy).symm
      simp only [List.filter_cons, ne_eq, not_true_eq_false, decide_false, Bool.false_eq_true,
        ↓reduceIte, hall]
      by_cases hs : x.sid = sid <;> simp [hs]
    · have hzx : z.name ≠ x.name := hp.1 x hx'
      have := ih hp.2 hx'
      simp only [ne_eq] at this
      simp only [List.filter_cons, ne_eq, hzx, not_false_eq_true, decide_true, ↓reduceIte]
      by_cases hs : z.sid = sid
      · simp only [hs, decide_true, ↓reduceIte, List.length_cons]; omega
      · simp only [hs, decide_false, Bool.false_eq_true, ↓reduceIte]; exact this

/-- live proxy `x` goes.  The clauses about live proxies alone hold of the fewer proxies all the more;
    what is left to show is that the managers' books match those that remain. -/
theorem inv_remove {AT AU : List Nat} {s s' : Srv} (h : SrvInv AT AU s) {x : Pxy} (hxl : x ∈ s.live)
    (hl : s'.live = s.live.filter (fun y => y.name ≠ x.name)) (hext : s'.ext = s.ext)
    (hmax : s'.maxPorts = s.maxPorts)
    (hq' : s.maxPorts > 0 → ∀ sid, s'.quotaOf sid = if sid = x.sid then s.quotaOf x.sid - 1 else s.quotaOf sid)
    (hpm : ∀ pr, PMInv (allowed AT AU pr) (s'.pm pr))
    (howns : ∀ y ∈ s.live, y.name ≠ x.name →
      ∃ n, (s'.pm y.proto).usedBy y.port = some n ∧ (y.grp = none → n = y.name))
    (hacct : ∀ pr p n, (s'.pm pr).usedBy p = some n →
      ∃ y ∈ s.live, y.name ≠ x.name ∧ y.proto = pr ∧ y.port = p ∧ (y.grp = none → y.name = n)) :
    SrvInv AT AU s' := by
  have hsub : ∀ y, y ∈ s'.live ↔ y ∈ s.live ∧ y.name ≠ x.name := by
    intro y
    rw [hl]
    simp
  refine ⟨hpm, ?_, ?_, ?_, ?_, ?_, ?_, ?_, ?_, ?_⟩
  · rw [hl]
    exact h.names.filter _
  · intro y hy
    exact howns y ((hsub y).mp hy).1 ((hsub y).mp hy).2
  · intro pr p n hu
    obtain ⟨y, hy, hyn, hh⟩ := hacct pr p n hu
    exact ⟨y, (hsub y).mpr ⟨hy, hyn⟩, hh⟩
  · intro y hy z hz
    exact h.excl y ((hsub y).mp hy).1 z ((hsub z).mp hz).1
  · intro y hy z hz
    exact h.agree y ((hsub y).mp hy).1 z ((hsub z).mp hz).1
  · intro y hy
    exact h.gtcp y ((hsub y).mp hy).1
  · intro y hy
    exact h.greq y ((hsub y).mp hy).1
  · intro pr p hm ⟨y, hy, hh⟩
    exact h.os pr p (hext ▸ hm) ⟨y, ((hsub y).mp hy).1, hh⟩
  · -- the count of `x.sid` and its counter both go down by one
    intro hm sid
    rw [hmax] at hm
    rw [hq' hm, hl, hmax]
    have hq0 := h.quota hm
    have hcount := count_after_remove h.names hxl sid
    by_cases e : sid = x.sid
    · subst e
      simp only [↓reduceIte] at hcount ⊢
      have := hq0 x.sid
      omega
    · have hxs : ¬ x.sid = sid := fun h => e h.symm
      simp only [e, hxs, ↓reduceIte, Nat.add_zero] at hcount ⊢
      rw [hcount]
      exact hq0 sid

theorem closesSocket_iff (s : Srv) (x : Pxy) :
    s.closesSocket x = true ↔ ∀ y ∈ s.live, y.name ≠ x.name → ¬ sameGrp x y := by
  unfold Srv.closesSocket
  cases hx : x.grp with
  | none => simp [not_sameGrp_of_none hx]
  | some i => simp [sameGrp_iff_inGroup hx]

theorem closesSocket_false {s : Srv} {x : Pxy} (hc : s.closesSocket x = false) :
    ∃ z ∈ s.live, z.name ≠ x.name ∧ sameGrp x z := by
  have hno : ¬ ∀ y ∈ s.live, y.name ≠ x.name → ¬ sameGrp x y := fun hall => by
    rw [(closesSocket_iff s x).mpr hall] at hc
    cases hc
  simpa using hno

theorem find_self {AT AU : List Nat} {s : Srv} (h : SrvInv AT AU s) {x : Pxy} (hx : x ∈ s.live) :
    s.live.find? (fun y => y.name = x.name ∧ y.sid = x.sid) = some x := by
  cases hf : s.live.find? (fun y => y.name = x.name ∧ y.sid = x.sid) with
  | none => simpa using List.find?_eq_none.mp hf x hx
  | some y =>
    have hy : y.name = x.name := (by simpa using List.find?_some hf : _ ∧ _).1
    rw [eq_of_pairwise_ne h.names (List.mem_of_find?_eq_some hf) hx hy]

theorem close_spec {s : Srv} {sid : Nat} {name : Str} {x : Pxy}
    (hf : s.live.find? (fun y => y.name = name ∧ y.sid = sid) = some x) :
    (s.close sid name).live = s.live.filter (fun y => y.name ≠ name) ∧
    (s.close sid name).ext = s.ext ∧ (s.close sid name).maxPorts = s.maxPorts ∧
    (∀ pr, (s.close sid name).pm pr =
      if pr = x.proto then (if s.closesSocket x then (s.pm x.proto).release x.port else s.pm x.proto)
      else s.pm pr) ∧
    (s.maxPorts > 0 → ∀ sid', (s.close sid name).quotaOf sid' =
      if sid' = sid then s.quotaOf sid - 1 else s.quotaOf sid') := by
  unfold Srv.close
  rw [hf]
  dsimp only
  split <;> simp [*]

theorem pm_close_member {s : Srv} {sid : Nat} {name : Str} {x : Pxy}
    (hf : s.live.find? (fun y => y.name = name ∧ y.sid = sid) = some x) (hc : s.closesSocket x = false)
    (pr : Proto) : (s.close sid name).pm pr = s.pm pr := by
  obtain ⟨_, _, _, hpm, _⟩ := close_spec hf
  rw [hpm, hc]
  split
  · rename_i e
    rw [e]
    rfl
  · rfl

theorem inv_close {AT AU : List Nat} {s : Srv} (h : SrvInv AT AU s) (sid : Nat) (name : Str) :
    SrvInv AT AU (s.close sid name) := by
  cases hf : s.live.find? (fun x => x.name = name ∧ x.sid = sid) with
  | none =>
    unfold Srv.close
    rw [hf]
    exact h
  | some x =>
    obtain ⟨hl, hext, hmax, hpm, hq⟩ := close_spec hf
    have hxl : x ∈ s.live := List.mem_of_find?_eq_some hf
    obtain ⟨rfl, rfl⟩ : x.name = name ∧ x.sid = sid := by simpa using List.find?_some hf
    cases hc : s.closesSocket x with
    | true =>
      -- `x` takes its socket with it: a plain proxy, or the last member of its group
      simp only [hc, ↓reduceIte] at hpm
      have hlast := (closesSocket_iff s x).mp hc
      have hne : ∀ y ∈ s.live, y.name ≠ x.name → y.proto = x.proto → y.port ≠ x.port := by
        intro y hy hyn e1 e2
        rcases h.excl x hxl y hy e1.symm e2.symm with e | e
        · exact hyn e.symm
        · exact hlast y hy hyn e
      refine inv_remove h hxl hl hext hmax hq ?_ ?_ ?_
      · intro pr
        rw [hpm]
        split
        · rename_i e
          subst e
          exact release_inv (h.pmInv _) _
        · exact h.pmInv pr
      · intro y hy hyn
        rw [hpm]
        split
        · rename_i e
          rw [usedBy_release_other _ (hne y hy hyn e), ← e]
          exact h.owns y hy
        · exact h.owns y hy
      · intro pr p n hu
        rw [hpm] at hu
        have hpx : pr = x.proto → p ≠ x.port := by
          intro e e2
          rw [if_pos e, e2, usedBy_release_self] at hu
          cases hu
        have hu' : (s.pm pr).usedBy p = some n := by
          split at hu
          · rename_i e
            rwa [usedBy_release_other _ (hpx e), ← e] at hu
          · exact hu
        obtain ⟨y, hy, h1, h2, h3⟩ := h.acct pr p n hu'
        refine ⟨y, hy, fun hyn => ?_, h1, h2, h3⟩
        cases eq_of_pairwise_ne h.names hy hxl hyn
        exact hpx h1.symm h2.symm
    | false =>
      -- another member `z` of the group remains on the shared socket; the managers are not touched
      have hpm := pm_close_member hf hc
      obtain ⟨z, hzl, hzx, hzg⟩ := closesSocket_false hc
      refine inv_remove h hxl hl hext hmax hq (fun pr => hpm pr ▸ h.pmInv pr) ?_ ?_
      · intro y hy _
        rw [hpm]
        exact h.owns y hy
      · intro pr p n hu
        rw [hpm] at hu
        obtain ⟨y, hy, h1, h2, h3⟩ := h.acct pr p n hu
        by_cases hyn : y.name = x.name
        · -- the port was accounted through `x`: `z` sits there as well
          cases eq_of_pairwise_ne h.names hy hxl hyn
          have hzgrp : z.grp ≠ none := fun hc => not_sameGrp_of_none hc (sameGrp_symm hzg)
          have hxgrp : x.grp ≠ none := fun hc => not_sameGrp_of_none hc hzg
          refine ⟨z, hzl, hzx, ?_, ?_, fun hc => absurd hc hzgrp⟩
          · rw [h.gtcp z hzl hzgrp, ← h1, h.gtcp x hxl hxgrp]
          · rw [← h2]
            exact (h.agree x hxl z hzl hzg).symm
        · exact ⟨y, hy, hyn, h1, h2, h3⟩

theorem inv_apply {AT AU : List Nat} {s : Srv} (h : SrvInv AT AU s) (op : Op) :
    SrvInv AT AU (apply s op) := by
  cases op with
  | register sid name pr port choice grab => exact inv_register h sid name pr port choice grab
  | registerG sid name gi choice grab => exact inv_registerG h sid name gi choice grab
  | close sid name => exact inv_close h sid name
  | forwarderExit name => exact inv_forwarderExit h name
  | squat pr p => exact inv_squat h pr p
  | unsquat pr p => exact inv_unsquat h pr p

/-- **Every reachable state satisfies the invariant**, for every allow set, quota and history. -/
theorem inv_reachable (AT AU : List Nat) (m : Nat) (ops : List Op) : SrvInv AT AU (run AT AU m ops) :=
  foldl_invariant (inv_new AT AU m) fun _ op _ h => inv_apply h op

/-! ## The property clauses, as consequences of the invariant -/

/-- **whitelisted**: every port frp accepts traffic on — for a plain tcp/udp proxy or for a member
    of a tcp group — lies in the operator's allow set -/
theorem whitelisted {AT AU : List Nat} {s : Srv} (h : SrvInv AT AU s) {x : Pxy} (hx : x ∈ s.live) :
    x.port ∈ allowed AT AU x.proto := by
  obtain ⟨n, hn, _⟩ := h.owns x hx
  exact (h.pmInv x.proto).usedA _ (mem_usedKeys_iff.mpr ⟨n, hn⟩)

/-- **exclusive**: two live proxies of one protocol on the same port are the same proxy, or members
    of one load-balancing group (which share their listener by design) -/
theorem exclusive {AT AU : List Nat} {s : Srv} (h : SrvInv AT AU s) {x y : Pxy}
    (hx : x ∈ s.live) (hy : y ∈ s.live) (hp : x.proto = y.proto) (hq : x.port = y.port) :
    x = y ∨ sameGrp x y := by
  rcases h.excl x hx y hy hp hq with e | e
  · exact Or.inl (eq_of_pairwise_ne h.names hx hy e)
  · exact Or.inr e

/-- exclusive, for plain proxies: nobody else is on a plain proxy's port -/
theorem exclusive_plain {AT AU : List Nat} {s : Srv} (h : SrvInv AT AU s) {x y : Pxy}
    (hx : x ∈ s.live) (hy : y ∈ s.live) (hg : x.grp = none) (hp : x.proto = y.proto) (hq : x.port = y.port) :
    x = y := by
  rcases exclusive h hx hy hp hq with e | e
  · exact e
  · exact absurd e (not_sameGrp_of_none hg)

/-- **one port per group**: all members of a group were told, and sit on, the same port -/
theorem group_one_port {AT AU : List Nat} {s : Srv} (h : SrvInv AT AU s) {x y : Pxy}
    (hx : x ∈ s.live) (hy : y ∈ s.live) (hg : sameGrp x y) : x.port = y.port ∧ x.proto = y.proto := by
  refine ⟨h.agree x hx y hy hg, ?_⟩
  obtain ⟨i, j, h1, h2, _⟩ := hg
  rw [h.gtcp x hx (by rw [h1]; simp), h.gtcp y hy (by rw [h2]; simp)]

/-- **accounting = what is really bound**: a port is accounted as used iff a live proxy holds it -/
theorem accounting_eq_bound {AT AU : List Nat} {s : Srv} (h : SrvInv AT AU s) (pr : Proto) (p : Nat) :
    p ∈ (s.pm pr).usedKeys ↔ ∃ x ∈ s.live, x.proto = pr ∧ x.port = p := by
  rw [mem_usedKeys_iff]
  constructor
  · rintro ⟨n, hu⟩
    obtain ⟨x, hx, h1, h2, _⟩ := h.acct pr p n hu
    exact ⟨x, hx, h1, h2⟩
  · rintro ⟨x, hx, rfl, rfl⟩
    obtain ⟨n, hn, _⟩ := h.owns x hx
    exact ⟨n, hn⟩

/-- **quota**: with a quota configured no session holds more ports than allowed (every group member
    counts one port) -/
theorem quota_bounded {AT AU : List Nat} {s : Srv} (h : SrvInv AT AU s) (hm : s.maxPorts > 0) (sid : Nat) :
    (s.live.filter (fun x => x.sid = sid)).length ≤ s.maxPorts := by
  have := h.quota hm sid
  omega

/-- **truthful report**: a successful registration returns port `p`; afterwards a live proxy of that
    name holds exactly `p`, `p` is allowed, was not held by anybody before, and respects the quota -/
theorem register_ok {AT AU : List Nat} {s : Srv} (h : SrvInv AT AU s) (sid : Nat) (name : Str)
    (pr : Proto) (port : Nat) (choice : Option Nat) (grab : Bool) (p : Nat)
    (hr : (s.register sid name pr port choice grab).2 = .ok p) :
    p ∈ allowed AT AU pr ∧ s.avail pr p = true ∧ (port ≠ 0 → p = port) ∧
    { name := name, sid := sid, proto := pr, port := p : Pxy } ∈ (s.register sid name pr port choice grab).1.live ∧
    ¬ (s.maxPorts > 0 ∧ s.quotaOf sid + 1 > s.maxPorts) := by
  rcases register_cases s sid name pr port choice grab with ⟨e, he⟩ | ⟨q, hg, hreg⟩
  · rw [he] at hr
    cases hr
  · rw [hreg] at hr ⊢
    cases grab with
    | true => cases hr
    | false =>
      cases hr
      exact ⟨granted_mem (h.pmInv pr) hg.src, hg.avail, fun hne => ((granted_fixed hg.src).resolve_left hne).symm,
        by simp [listenOn], hg.room⟩

/-- **truthful report, groups**: a tcp proxy with a load-balancing group is told port `p`; afterwards
    it is a live member sitting on exactly `p`, `p` is allowed and equals the requested port unless
    the server was to choose, the quota is respected, and `p` IS THE PORT THE GROUP LISTENS ON: either
    this member founded the group on a port nobody held (and `p` is now accounted to it), or the
    group's live members already hold `p` (and the manager is not touched) -/
theorem registerG_ok {AT AU : List Nat} {s : Srv} (h : SrvInv AT AU s) (sid : Nat) (name : Str)
    (gi : GInfo) (choice : Option Nat) (grab : Bool) (p : Nat)
    (hr : (s.registerG sid name gi choice grab).2 = .ok p) :
    p ∈ allowed AT AU .tcp ∧ (gi.req ≠ 0 → p = gi.req) ∧
    { name := name, sid := sid, proto := .tcp, port := p, grp := some gi : Pxy } ∈
      (s.registerG sid name gi choice grab).1.live ∧
    ¬ (s.maxPorts > 0 ∧ s.quotaOf sid + 1 > s.maxPorts) ∧
    p ∈ ((s.registerG sid name gi choice grab).1.pm .tcp).usedKeys ∧
    ((s.groupOf gi.g = none ∧ s.avail .tcp p = true) ∨
     (∃ m ∈ s.live, m.inGroup gi.g = true ∧ m.port = p ∧
        ∀ pr, (s.registerG sid name gi choice grab).1.pm pr = s.pm pr)) := by
  -- the new member is live on `p`, so by the invariant afterwards `p` is accounted as used
  have hused : { name := name, sid := sid, proto := .tcp, port := p, grp := some gi : Pxy } ∈
        (s.registerG sid name gi choice grab).1.live →
      p ∈ ((s.registerG sid name gi choice grab).1.pm .tcp).usedKeys :=
    fun hx => (accounting_eq_bound (inv_registerG h sid name gi choice grab) .tcp p).mpr ⟨_, hx, rfl, rfl⟩
  revert hused
  rcases registerG_cases s sid name gi choice grab with ⟨e, he⟩ | ⟨q, hgo, hg, hreg⟩ |
      ⟨m, mi, hgo, hmi, hreq, _, hroom, _, hreg⟩
  · rw [he] at hr
    cases hr
  · rw [hreg] at hr ⊢
    cases grab with
    | true => cases hr
    | false =>
      cases hr
      intro hused
      refine ⟨granted_mem (h.pmInv .tcp) hg.src, fun hne => ((granted_fixed hg.src).resolve_left hne).symm,
        ?_, hg.room, hused ?_, Or.inl ⟨hgo, hg.avail⟩⟩
      · simp [listenOn]
      · simp [listenOn]
  · rw [hreg] at hr ⊢
    cases hr
    intro hused
    obtain ⟨hml, hmg⟩ := groupOf_some hgo
    have hmtcp : m.proto = .tcp := h.gtcp m hml (by simp [hmi])
    refine ⟨hmtcp ▸ whitelisted h hml, ?_, ?_, hroom, hused ?_, Or.inr ⟨m, hml, hmg, rfl, pm_enrol s _⟩⟩
    · intro hne
      rw [← hreq] at hne ⊢
      exact h.greq m hml mi hmi hne
    · simp
    · simp

/-- **a refused request disturbs nobody**: on any error the live proxies, every port's recorded
    owner (both protocols), all quotas and the free sets are exactly as before -/
theorem register_err_unchanged {AT AU : List Nat} {s : Srv} (h : SrvInv AT AU s) (sid : Nat) (name : Str)
    (pr : Proto) (port : Nat) (choice : Option Nat) (grab : Bool) (e : RegErr)
    (hr : (s.register sid name pr port choice grab).2 = .error e) :
    (s.register sid name pr port choice grab).1.live = s.live ∧
    (∀ pr' p, (((s.register sid name pr port choice grab).1).pm pr').usedBy p = (s.pm pr').usedBy p) ∧
    (∀ sid', ((s.register sid name pr port choice grab).1).quotaOf sid' = s.quotaOf sid') ∧
    (∀ pr' p, p ∈ (((s.register sid name pr port choice grab).1).pm pr').free ↔ p ∈ (s.pm pr').free) := by
  rcases register_cases s sid name pr port choice grab with ⟨e', he⟩ | ⟨q, hg, hreg⟩
  · rw [he]
    exact ⟨rfl, fun _ _ => rfl, fun _ => rfl, fun _ _ => Iff.rfl⟩
  · rw [hreg] at hr ⊢
    cases grab with
    | true => exact listen_failed_unchanged h hg.src ((avail_iff s pr q).mp hg.avail).2
    | false => cases hr

/-- **released ports are immediately available**: right after its owner closes a proxy whose socket
    goes with it — a plain proxy, or the LAST member of a group (`closesSocket`) — its port is free -/
theorem close_frees_port {AT AU : List Nat} {s : Srv} (h : SrvInv AT AU s) {x : Pxy} (hx : x ∈ s.live)
    (hc : s.closesSocket x = true) :
    x.port ∈ ((s.close x.sid x.name).pm x.proto).free := by
  obtain ⟨_, _, _, hpm, _⟩ := close_spec (find_self h hx)
  obtain ⟨n, hn, _⟩ := h.owns x hx
  rw [hpm, if_pos rfl, hc]
  exact release_free (by rw [hn]; rfl)

/-- a plain proxy always takes its socket with it -/
theorem closesSocket_plain (s : Srv) {x : Pxy} (hg : x.grp = none) : s.closesSocket x = true := by
  unfold Srv.closesSocket; rw [hg]

/-- **a leaving member disturbs nobody**: while another member of the group remains, closing one
    member changes neither port manager (the group's port stays accounted as used) and the remaining
    members stay live on their port -/
theorem close_member_keeps_port {AT AU : List Nat} {s : Srv} (h : SrvInv AT AU s) {x : Pxy} (hx : x ∈ s.live)
    (hc : s.closesSocket x = false) :
    (∀ pr, (s.close x.sid x.name).pm pr = s.pm pr) ∧
    (∀ y ∈ s.live, y.name ≠ x.name → y ∈ (s.close x.sid x.name).live) ∧
    x.port ∈ ((s.close x.sid x.name).pm x.proto).usedKeys ∧
    (∃ z ∈ (s.close x.sid x.name).live, z.proto = x.proto ∧ z.port = x.port) := by
  have hl := (close_spec (find_self h hx)).1
  have hlive : ∀ y ∈ s.live, y.name ≠ x.name → y ∈ (s.close x.sid x.name).live := by
    intro y hy hyn
    rw [hl]
    exact List.mem_filter.mpr ⟨hy, by simpa using hyn⟩
  -- the member `z` that remains sits on `x`'s port
  obtain ⟨z, hzl, hzx, hzg⟩ := closesSocket_false hc
  obtain ⟨hp, hpr⟩ := group_one_port h hx hzl hzg
  have hz : ∃ z ∈ (s.close x.sid x.name).live, z.proto = x.proto ∧ z.port = x.port :=
    ⟨z, hlive z hzl hzx, hpr.symm, hp.symm⟩
  exact ⟨pm_close_member (find_self h hx) hc, hlive,
    (accounting_eq_bound (inv_close h x.sid x.name) x.proto x.port).mpr hz, hz⟩

/-- **a refused group registration disturbs nobody** (wrong port, wrong key, quota, duplicate name,
    refused or failed acquisition by the founding member): live proxies, recorded owners, quotas and
    free sets are exactly as before -/
theorem registerG_err_unchanged {AT AU : List Nat} {s : Srv} (h : SrvInv AT AU s) (sid : Nat) (name : Str)
    (gi : GInfo) (choice : Option Nat) (grab : Bool) (e : RegErr)
    (hr : (s.registerG sid name gi choice grab).2 = .error e) :
    (s.registerG sid name gi choice grab).1.live = s.live ∧
    (∀ pr' p, (((s.registerG sid name gi choice grab).1).pm pr').usedBy p = (s.pm pr').usedBy p) ∧
    (∀ sid', ((s.registerG sid name gi choice grab).1).quotaOf sid' = s.quotaOf sid') ∧
    (∀ pr' p, p ∈ (((s.registerG sid name gi choice grab).1).pm pr').free ↔ p ∈ (s.pm pr').free) := by
  rcases registerG_cases s sid name gi choice grab with ⟨e', he⟩ | ⟨q, _, hg, hreg⟩ |
      ⟨m, mi, _, _, _, _, _, _, hreg⟩
  · rw [he]
    exact ⟨rfl, fun _ _ => rfl, fun _ => rfl, fun _ _ => Iff.rfl⟩
  · rw [hreg] at hr ⊢
    cases grab with
    | true => exact listen_failed_unchanged (pr := .tcp) h hg.src ((avail_iff s .tcp q).mp hg.avail).2
    | false => cases hr
  · rw [hreg] at hr
    cases hr

/-- **previous port back**: a name whose reserved port is still free gets it again when it asks for
    a server-chosen port (whatever the random choice would have been) -/
theorem reacquire_same (pm : PM) (name : Str) (p : Nat) (avail : Nat → Bool) (choice : Option Nat)
    (hres : pm.reserved.lookup name = some p) (hav : avail p = true) :
    (pm.acquire name 0 avail choice).2 = .ok p := by
  simp [PM.acquire, hres, hav]

/-- after a successful Acquire the name's reserved port is the acquired port -/
theorem take_reserves (pm : PM) (name : Str) (p : Nat) :
    (pm.take name p).reserved.lookup name = some p := by
  simp [PM.take]

/-- Release keeps the reservation -/
theorem release_keeps_reserved (pm : PM) (p : Nat) : (pm.release p).reserved = pm.reserved := by
  unfold PM.release; split <;> rfl

/-! ## The pinned tree (c9fd674) violated "accounting = bound": witness for the unguarded second Release -/

def s (x : String) : Str := Str.ofString x

/-- udp proxy `a` takes port 3 and is closed; `b` takes port 3; then `a`'s forwarder goroutine runs
    its deferred Close -/
def wOps (s0 : Srv) (guarded : Bool) : Srv :=
  let s1 := (s0.register 1 (s "a") .udp 3 none false).1
  let s2 := s1.close 1 (s "a")
  let s3 := (s2.register 2 (s "b") .udp 3 none false).1
  Srv.forwarderExit guarded s3 (s "a")

/-- with the unguarded Release, port 3 is marked free while `b` is bound to it -/
theorem udp_double_release_witness :
    let st := wOps (Srv.new [1, 2, 3] [1, 2, 3] 0) false
    (3 ∈ st.udp.free) ∧ (st.live.any (fun x => x.proto = .udp ∧ x.port = 3) = true) := by
  decide +kernel

/-- with the repaired (guarded) Close the same history keeps accounting = bound -/
theorem udp_double_release_fixed :
    let st := wOps (Srv.new [1, 2, 3] [1, 2, 3] 0) true
    (3 ∉ st.udp.free) ∧ (st.udp.usedBy 3 = some (s "b")) := by
  decide +kernel

/-! ## The allow set: from the operator's configuration to the managers' seed set -/

section Config
open AllowPorts
open ConfNum (PortsRange)

theorem mem_intRange (lo hi p : Int) : p ∈ intRange lo hi ↔ lo ≤ p ∧ p ≤ hi := by
  unfold intRange
  simp only [List.mem_map, List.mem_range]
  constructor
  · rintro ⟨k, hk, rfl⟩
    omega
  · intro ⟨h1, h2⟩
    refine ⟨(p - lo).toNat, ?_, ?_⟩ <;> omega

/-- one iteration of NewManager's loop writes exactly the ports the entry means -/
theorem mem_entryPorts (e : PortsRange) (p : Int) : p ∈ entryPorts e ↔ covers e p := by
  unfold entryPorts covers
  split
  · simp
  · exact mem_intRange _ _ _

/-- **the seed set is exactly the union of the entries** — for every list of entries: single ports
    and ranges, overlapping, touching, repeated, empty (`start > end`), in any order; and every port
    1 … 65535 when there is no entry -/
theorem seed_exact (a : List PortsRange) (p : Int) : p ∈ seed a ↔ allowedBy a p := by
  unfold seed allowedBy
  cases a with
  | nil => simp [mem_intRange]
  | cons e es => simp [mem_entryPorts]

/-- `Complete()` neither adds nor drops nor rewrites an entry -/
theorem complete_exact (a : List PortsRange) (p : Int) : allowedBy (complete a) p ↔ allowedBy a p := Iff.rfl

theorem seedNat_exact (a : List PortsRange) (p : Nat) : p ∈ seedNat a ↔ allowedBy a (p : Int) := by
  rw [← seed_exact, seedNat, List.mem_filterMap]
  constructor
  · rintro ⟨i, hi, hp⟩
    split at hp
    · cases hp
      rwa [Int.toNat_of_nonneg ‹_›]
    · cases hp
  · intro hp
    exact ⟨(p : Int), hp, by simp⟩

/-- reachable states of a server built by `NewService` from the operator's entries -/
def runCfg (a : List PortsRange) (maxPorts : Nat) (ops : List Op) : Srv :=
  ops.foldl apply (newService a maxPorts)

theorem inv_runCfg (a : List PortsRange) (m : Nat) (ops : List Op) :
    SrvInv (seedNat (complete a)) (seedNat (complete a)) (runCfg a m ops) :=
  inv_reachable _ _ m ops

/-- both managers are seeded from the same entries: allowed means covered by one of them -/
theorem allowed_cfg (a : List PortsRange) (pr : Proto) (p : Nat) :
    p ∈ allowed (seedNat (complete a)) (seedNat (complete a)) pr ↔ allowedBy a (p : Int) := by
  cases pr <;> exact seedNat_exact a p

/-- **whitelisted, end to end**: whatever the operator wrote as allowPorts and whatever happened since,
    every port on which frps accepts traffic for a tcp or udp proxy or a tcp group is covered by one
    of the operator's entries (or is any port 1 … 65535 if there is no entry) -/
theorem whitelisted_config (a : List PortsRange) (m : Nat) (ops : List Op) {x : Pxy}
    (hx : x ∈ (runCfg a m ops).live) : allowedBy a (x.port : Int) :=
  (allowed_cfg a x.proto x.port).mp (whitelisted (inv_runCfg a m ops) hx)

/-- **outside the allowed set ⇒ refused**: a request (plain or as a group member) that is answered
    with a port was answered with an allowed one; so a fixed request for a port no entry covers is
    always refused -/
theorem outside_config_refused (a : List PortsRange) (m : Nat) (ops : List Op) (sid : Nat) (name : Str)
    (pr : Proto) (port : Nat) (choice : Option Nat) (grab : Bool)
    (hport : port ≠ 0) (hout : ¬ allowedBy a (port : Int)) :
    ∃ e, ((runCfg a m ops).register sid name pr port choice grab).2 = .error e := by
  cases hr : ((runCfg a m ops).register sid name pr port choice grab).2 with
  | error e => exact ⟨e, rfl⟩
  | ok p =>
    obtain ⟨hA, _, hfix, _⟩ := register_ok (inv_runCfg a m ops) sid name pr port choice grab p hr
    exact absurd ((allowed_cfg a pr p).mp hA) (hfix hport ▸ hout)

theorem outside_config_refusedG (a : List PortsRange) (m : Nat) (ops : List Op) (sid : Nat) (name : Str)
    (gi : GInfo) (choice : Option Nat) (grab : Bool)
    (hport : gi.req ≠ 0) (hout : ¬ allowedBy a (gi.req : Int)) :
    ∃ e, ((runCfg a m ops).registerG sid name gi choice grab).2 = .error e := by
  cases hr : ((runCfg a m ops).registerG sid name gi choice grab).2 with
  | error e => exact ⟨e, rfl⟩
  | ok p =>
    obtain ⟨hA, hfix, _⟩ := registerG_ok (inv_runCfg a m ops) sid name gi choice grab p hr
    exact absurd ((allowed_cfg a .tcp p).mp hA) (hfix hport ▸ hout)

/-- the shape a "merge adjacent entries" rewrite gets wrong: a single port followed by the range that
    starts right after it means the ports 6000 … 6010 and nothing else -/
example : ∀ p : Int, allowedBy [⟨0, 0, 6000⟩, ⟨6001, 6010, 0⟩] p ↔ 6000 ≤ p ∧ p ≤ 6010 := by
  intro p
  simp [allowedBy, covers]
  omega

end Config

/-! ## Groups: a history with a server-chosen port, run on the model -/

def gA : GInfo := { g := s "g", key := s "k", req := 0 }

def isOk (r : Except RegErr Nat) (p : Nat) : Bool := match r with | .ok q => q == p | _ => false
def isErr (r : Except RegErr Nat) (e : RegErr) : Bool := match r with | .error e' => decide (e' = e) | _ => false

/-- two members join a group with a server-chosen port (the founder's random choice is 2), both
    leave, and a third proxy then asks for port 2 explicitly -/
def gOps (s0 : Srv) : Srv × List (Except RegErr Nat) :=
  let r1 := s0.registerG 1 (s "a") gA (some 2) false
  let r2 := r1.1.registerG 2 (s "b") gA none false
  let s3 := (r2.1.close 1 (s "a")).close 2 (s "b")
  let r4 := s3.register 3 (s "c") .tcp 2 none false
  (r4.1, [r1.2, r2.2, r4.2])

/-- both members are told the port the group listens on; after the last one left the port is handed
    out again at once -/
example : (gOps (Srv.new [1, 2, 3] [1, 2, 3] 0)).2.all (isOk · 2) = true := by decide +kernel

/-- while one member remains, the port stays used and a plain request for it is refused -/
example :
    let r1 := (Srv.new [1, 2, 3] [1, 2, 3] 0).registerG 1 (s "a") gA (some 2) false
    let r2 := r1.1.registerG 2 (s "b") gA none false
    let s3 := r2.1.close 1 (s "a")
    isErr (s3.register 3 (s "c") .tcp 2 none false).2 (.acquire .alreadyUsed) = true ∧ 2 ∉ s3.tcp.free := by
  decide +kernel

/-- a member asking for another port or presenting another key is refused -/
example :
    let r1 := (Srv.new [1, 2, 3] [1, 2, 3] 0).registerG 1 (s "a") gA (some 2) false
    isErr (r1.1.registerG 2 (s "b") { gA with req := 2 } none false).2 .grpPort = true ∧
    isErr (r1.1.registerG 2 (s "b") { gA with key := s "x" } none false).2 .grpAuth = true := by
  decide +kernel

/-! the hypotheses of `register_ok` can be met, and `alreadyUsed` / `quota` refusals occur -/
example : (((Srv.new [1, 2, 3] [1, 2, 3] 2).register 1 (s "a") .tcp 0 (some 2) false).2).toOption = some 2 := by
  decide +kernel
example : (match ((((Srv.new [1, 2, 3] [1, 2, 3] 2).register 1 (s "a") .tcp 2 none false).1.register 2 (s "b") .tcp 2 none false).2) with
    | .error (.acquire .alreadyUsed) => true | _ => false) = true := by decide +kernel
example : (match ((((Srv.new [1, 2, 3] [1, 2, 3] 1).register 1 (s "a") .tcp 2 none false).1.register 1 (s "b") .tcp 3 none false).2) with
    | .error .quota => true | _ => false) = true := by decide +kernel

end C09
end Frp
