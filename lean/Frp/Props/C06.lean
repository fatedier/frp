import Frp.Lemmas.Router
import Frp.Lemmas.VhostReg
import Frp.Model.Host
/-
  C06 — Virtual-host routing always picks the most specific matching route.

  Five parts, each about every history and every request:
  the route table itself (Frp/Model/Router.lean: pkg/util/vhost/router.go, getVhost / getListener) with the
  executable predicate `HoldsOn` the driver evaluates; the server-side registration layer that feeds the
  table (Frp/Model/VhostReg.lean); traffic interleaved with registration changes; the credentials of the
  route an http load-balancing group stores (a clause of C07 / C13 that the same engine exercises); host
  spellings (Frp/Model/Host.lean).
-/
namespace Frp
namespace C06
open Str Router

/-! ## Reachable tables -/

inductive Op
  | add (domain location user : Str) (payload : Nat)
  | del (domain location user : Str)

def apply (R : Routers) : Op → Routers
  | .add d l u p => (add R d l u p).1
  | .del d l u => del R d l u

def run (ops : List Op) : Routers := ops.foldl apply empty

/-- every table reachable by any history of registrations and removals satisfies the invariant
    (buckets strictly sorted by location descending — hence no duplicate triple —, routes filed
    under their own lower-cased domain and user). -/
theorem inv_reachable (ops : List Op) : Router.Inv (run ops) := by
  refine foldl_invariant (P := Router.Inv) inv_empty fun R op _ h => ?_
  cases op with
  | add d l u p => exact inv_add h d l u p
  | del d l u => exact inv_del h d l u

/-! ## Specification, written independently of the lookup walk -/

/-- `r` is registered in table `R` -/
def Registered (R : Routers) (r : Route) : Prop := r ∈ R r.domain r.user

/-- the host patterns that match a (lower-cased) host, most specific first -/
def hostPatterns (host : Str) : List Str := (levels host).map toLower

/-- a route matches a request -/
def Matches (r : Route) (host path user : Str) : Prop :=
  r.domain ∈ hostPatterns host ∧ (r.user = user ∨ r.user = []) ∧ r.location <+: path

def hostRank (host : Str) (r : Route) : Nat := (hostPatterns host).idxOf r.domain
def userRank (user : Str) (r : Route) : Nat := if r.user = user then 0 else 1

/-- lexicographic specificity: host pattern first, then user restriction, then location length -/
def AtLeastAsSpecific (host user : Str) (a b : Route) : Prop :=
  hostRank host a < hostRank host b ∨
  (hostRank host a = hostRank host b ∧
    (userRank user a < userRank user b ∨
     (userRank user a = userRank user b ∧ b.location.length ≤ a.location.length)))

/-! ### what the pattern list looks like (so that `hostRank` means what the property says) -/

/-- the i-th wildcard pattern replaces the first i+1 labels by `*` and keeps ≥ 2 fixed labels;
    longer kept suffixes come first. -/
theorem wildLevels_eq (labels : List Str) :
    wildLevels labels =
      (List.range (labels.length - 2)).map (fun i => joinWith dot ([star] :: labels.drop (i + 1))) := by
  induction labels with
  | nil => simp [wildLevels]
  | cons l rest ih =>
    unfold wildLevels
    split
    · rename_i h
      simp only [List.length_cons] at h
      have : rest.length + 1 - 2 = (rest.length - 2) + 1 := by omega
      rw [List.length_cons, this, List.range_succ_eq_map, List.map_cons, ih]
      simp [List.map_map, Function.comp_def]
    · rename_i h
      simp only [List.length_cons] at h
      have : rest.length + 1 - 2 = 0 := by omega
      simp [this]

theorem levels_head (host : Str) : (levels host).head? = some host := rfl
theorem levels_last (host : Str) : (levels host).getLast? = some [star] := by
  simp [levels, List.getLast?_cons, List.getLast?_append]

/-! ## Theorems -/

/-- `Get`: the result is in the bucket, its location is a prefix of the path, and no route of that
    bucket with a longer location is a prefix of the path. -/
theorem get_longest {R : Routers} (hR : Router.Inv R) {host path user : Str} {r : Route}
    (h : get R host path user = some r) :
    r ∈ R (toLower host) user ∧ r.location <+: path ∧
    ∀ r' ∈ R (toLower host) user, r'.location <+: path → r'.location.length ≤ r.location.length :=
  find_longest (hR.desc _ _) h

theorem get_none {R : Routers} {host path user : Str} (h : get R host path user = none) :
    ∀ r' ∈ R (toLower host) user, ¬ r'.location <+: path :=
  find_none h

private theorem findRouter_lower (R : Routers) (d path user : Str) :
    findRouter R (toLower d) path user = findRouter R d path user := by
  simp [findRouter, Router.get, toLower_idem]

private theorem mem_bucket {R : Routers} {r : Route} {d u : Str} (h : Registered R r) (hd : r.domain = d)
    (hu : r.user = u) : r ∈ R d u := by
  rw [← hd, ← hu]; exact h

/-- what `findRouter` returns for one host pattern is filed under that pattern, matches, and is the best
    such route: the user's own before the unrestricted ones, then the longest location -/
private theorem findRouter_some {R : Routers} (hR : Router.Inv R) {d path user : Str} {r : Route}
    (h : findRouter R d path user = some r) :
    Registered R r ∧ r.domain = toLower d ∧ (r.user = user ∨ r.user = []) ∧ r.location <+: path ∧
    ∀ r', Registered R r' → r'.domain = toLower d → (r'.user = user ∨ r'.user = []) →
      r'.location <+: path →
      userRank user r < userRank user r' ∨
        (userRank user r = userRank user r' ∧ r'.location.length ≤ r.location.length) := by
  unfold findRouter at h
  split at h
  · rename_i r0 hg
    cases h
    obtain ⟨hm, hp, hall⟩ := get_longest hR hg
    obtain ⟨kd, ku⟩ := hR.keyed _ _ _ hm
    refine ⟨by unfold Registered; rw [kd, ku]; exact hm, kd, Or.inl ku, hp, ?_⟩
    intro r' hreg' hd' _ hp'
    by_cases hru' : r'.user = user
    · exact Or.inr ⟨by simp [userRank, ku, hru'], hall r' (mem_bucket hreg' hd' hru') hp'⟩
    · exact Or.inl (by simp [userRank, ku, hru'])
  · rename_i hg1
    obtain ⟨hm, hp, hall⟩ := get_longest hR h
    obtain ⟨kd, ku⟩ := hR.keyed _ _ _ hm
    refine ⟨by unfold Registered; rw [kd, ku]; exact hm, kd, Or.inr ku, hp, ?_⟩
    intro r' hreg' hd' hu' hp'
    rcases hu' with hu' | hu'
    · exact absurd hp' (get_none hg1 r' (mem_bucket hreg' hd' hu'))
    · exact Or.inr ⟨by simp [userRank, ku, hu'], hall r' (mem_bucket hreg' hd' hu') hp'⟩

private theorem findRouter_none {R : Routers} {d path user : Str} (h : findRouter R d path user = none) :
    ∀ r', Registered R r' → r'.domain = toLower d → (r'.user = user ∨ r'.user = []) →
      ¬ r'.location <+: path := by
  intro r' hreg' hd' hu'
  unfold findRouter at h
  split at h
  · cases h
  · rename_i hg1
    rcases hu' with hu' | hu'
    · exact get_none hg1 r' (mem_bucket hreg' hd' hu')
    · exact get_none h r' (mem_bucket hreg' hd' hu')

/-- the pattern that answered comes no later than one that is not among those tried before it -/
private theorem idxOf_le_of_not_mem {l₁ l₂ : List Str} {a b : Str} (hb : b ∉ l₁) :
    (l₁ ++ a :: l₂).idxOf a ≤ (l₁ ++ a :: l₂).idxOf b := by
  rw [List.idxOf_append, List.idxOf_append, if_neg hb]
  split
  · have := @List.idxOf_le_length _ _ _ l₁ a
    omega
  · rw [List.idxOf_cons_self]
    omega

/-- **Most specific match.**  If the lookup returns `r`, then `r` is registered, matches the
    request, and is at least as specific as every registered matching route. -/
theorem getVhost_some {R : Routers} (hR : Router.Inv R) {host path user : Str} {r : Route}
    (h : getVhost R host path user = some r) :
    Registered R r ∧ Matches r host path user ∧
    ∀ r', Registered R r' → Matches r' host path user → AtLeastAsSpecific host user r r' := by
  unfold getVhost at h
  obtain ⟨l₁, a, l₂, hlev, hfa, hnone⟩ := List.findSome?_eq_some_iff.mp h
  obtain ⟨hreg, hrd, hru, hrp, hbest⟩ := findRouter_some hR hfa
  have hpat : hostPatterns host = l₁.map toLower ++ toLower a :: l₂.map toLower := by
    simp [hostPatterns, hlev]
  have hmr : r.domain ∈ hostPatterns host := by rw [hpat, hrd]; simp
  refine ⟨hreg, ⟨hmr, hru, hrp⟩, ?_⟩
  intro r' hreg' ⟨hd', hu', hp'⟩
  -- r' cannot sit at an earlier pattern
  have hnot : r'.domain ∉ l₁.map toLower := by
    intro hmem
    obtain ⟨x, hx, hxe⟩ := List.mem_map.mp hmem
    exact findRouter_none (hnone x hx) r' hreg' hxe.symm hu' hp'
  have hle : hostRank host r ≤ hostRank host r' := by
    unfold hostRank; rw [hpat, hrd]
    exact idxOf_le_of_not_mem hnot
  rcases Nat.lt_or_eq_of_le hle with hlt | heq
  · exact Or.inl hlt
  · refine Or.inr ⟨heq, hbest r' hreg' ?_ hu' hp'⟩
    -- same rank ⇒ same domain
    unfold hostRank at heq
    have h1 := List.getElem_idxOf (List.idxOf_lt_length_of_mem hmr)
    have h2 := List.getElem_idxOf (List.idxOf_lt_length_of_mem hd')
    rw [← hrd, ← h1, ← h2]
    simp only [heq]

/-- **Never a non-matching proxy / unmatched is refused.**  The lookup fails exactly when no
    registered route matches. -/
theorem getVhost_none {R : Routers} {host path user : Str}
    (h : getVhost R host path user = none) :
    ∀ r', Registered R r' → ¬ Matches r' host path user := by
  intro r' hreg' ⟨hd', hu', hp'⟩
  unfold getVhost at h
  rw [List.findSome?_eq_none_iff] at h
  obtain ⟨x, hx, hxe⟩ := List.mem_map.mp hd'
  exact findRouter_none (h x hx) r' hreg' hxe.symm hu' hp'

/-- Host comparison ignores letter case. -/
theorem getVhost_case (R : Routers) (host path user : Str) :
    hostPatterns host = hostPatterns (toLower host) →
    getVhost R (toLower host) path user = getVhost R host path user := by
  intro hp
  unfold getVhost
  have key : ∀ l : List Str, l.findSome? (fun d => findRouter R d path user)
      = (l.map toLower).findSome? (fun d => findRouter R d path user) := by
    intro l
    induction l with
    | nil => rfl
    | cons x xs ih => simp only [List.map_cons, List.findSome?_cons, findRouter_lower, ih]
  rw [key (levels host), key (levels (toLower host))]
  unfold hostPatterns at hp
  rw [hp]

/-- **Exactly a duplicate triple is refused.** -/
theorem add_conflict_iff (R : Routers) (domain location user : Str) (payload : Nat) :
    (add R domain location user payload).2 = .conflict ↔
      ∃ r ∈ R (toLower domain) user, r.location = location :=
  add_refused_iff R domain location user payload

/-- a refused `Add` leaves the table unchanged -/
theorem add_conflict_unchanged (R : Routers) (domain location user : Str) (payload : Nat)
    (h : (add R domain location user payload).2 = .conflict) :
    (add R domain location user payload).1 = R :=
  add_refused_fst R domain location user payload h

/-- after a successful Add the new route is registered and every other route is as before -/
theorem add_ok_mem (R : Routers) (domain location user : Str) (payload : Nat)
    (h : (add R domain location user payload).2 = .ok) (d u : Str) (x : Route) :
    x ∈ (add R domain location user payload).1 d u ↔
      x ∈ R d u ∨ (d = toLower domain ∧ u = user ∧
        x = { domain := toLower domain, location := location, user := user, payload := payload }) :=
  mem_add_ok R domain location user payload h d u x

/-- **Removing a route affects only that triple**: membership of every other route, in every
    bucket, is unchanged, and the removed triple is gone. -/
theorem del_mem (R : Routers) (domain location user : Str) (d u : Str) (x : Route) :
    x ∈ (del R domain location user) d u ↔
      x ∈ R d u ∧ ¬ (d = toLower domain ∧ u = user ∧ x.location = location) :=
  mem_del R domain location user d u x

/-- lookups in other buckets are literally unchanged by a removal (effective from the next Get) -/
theorem del_get_other (R : Routers) (domain location user host path u : Str)
    (h : ¬ (toLower host = toLower domain ∧ u = user)) :
    Router.get (del R domain location user) host path u = Router.get R host path u := by
  unfold Router.get del
  rw [upd_other _ _ _ _ _ _ h]

/-- once removed, a route is never returned again until re-registered -/
theorem del_not_returned {R : Routers} (hR : Router.Inv R) (domain location user host path u : Str) (r : Route)
    (h : getVhost (del R domain location user) host path u = some r) :
    ¬ (r.domain = toLower domain ∧ r.user = user ∧ r.location = location) := by
  have hinv := inv_del hR domain location user
  have hreg := (getVhost_some hinv h).1
  unfold Registered at hreg
  exact ((del_mem R domain location user _ _ r).mp hreg).2

/-! ## Non-vacuity: a concrete overlapping table -/

def s (x : String) : Str := Str.ofString x

def demo : Routers := run
  [ .add (s "A.Example.com") (s "/") [] 1
  , .add (s "a.example.com") (s "/ab") [] 2
  , .add (s "a.example.com") (s "/a") [] 3
  , .add (s "a.example.com") (s "/a") (s "alice") 4
  , .add (s "*.example.com") (s "/") [] 5
  , .add (s "*") (s "/") [] 6
  , .del (s "a.example.com") (s "/ab") [] ]

example : Router.Inv demo := inv_reachable _
example : (getVhost demo (s "a.example.com") (s "/ab/x") []).map (·.payload) = some 3 := by decide +kernel
example : (getVhost demo (s "a.example.com") (s "/ab/x") (s "alice")).map (·.payload) = some 4 := by decide +kernel
example : (getVhost demo (s "a.example.com") (s "/x") (s "alice")).map (·.payload) = some 1 := by decide +kernel
example : (getVhost demo (s "b.a.example.com") (s "/x") []).map (·.payload) = some 5 := by decide +kernel
example : (getVhost demo (s "example.org") (s "/x") []).map (·.payload) = some 6 := by decide +kernel
example : (add demo (s "A.example.COM") (s "/a") [] 9).2 = .conflict := by decide +kernel

end C06
end Frp

/-! ## Executable property predicate (run by the driver on implementation traces) -/
namespace Frp
namespace C06
open Str Router

instance (r : Route) (host path user : Str) : Decidable (Matches r host path user) := by
  unfold Matches; infer_instance
instance (host user : Str) (a b : Route) : Decidable (AtLeastAsSpecific host user a b) := by
  unfold AtLeastAsSpecific; infer_instance

/-- `res` (payload of the route the implementation chose, or none) is a correct answer for the
    request against the registered routes `all`. -/
def HoldsOn (all : List Route) (host path user : Str) (res : Option Nat) : Prop :=
  match res with
  | none => ∀ r ∈ all, ¬ Matches r host path user
  | some p => ∃ r ∈ all, r.payload = p ∧ Matches r host path user ∧
      ∀ r' ∈ all, Matches r' host path user → AtLeastAsSpecific host user r r'

instance (all : List Route) (host path user : Str) (res : Option Nat) :
    Decidable (HoldsOn all host path user res) := by
  unfold HoldsOn; cases res <;> infer_instance

def holdsOn (all : List Route) (host path user : Str) (res : Option Nat) : Bool :=
  decide (HoldsOn all host path user res)

theorem holdsOn_sound (all : List Route) (host path user : Str) (res : Option Nat) :
    holdsOn all host path user res = true ↔ HoldsOn all host path user res := by
  simp [holdsOn]

/-- the model's own answer always satisfies the predicate, for any list `all` that enumerates
    exactly the registered routes of a reachable table -/
theorem model_holdsOn {R : Routers} (hR : Router.Inv R) (all : List Route)
    (hall : ∀ r, r ∈ all ↔ Registered R r) (host path user : Str) :
    HoldsOn all host path user ((getVhost R host path user).map (·.payload)) := by
  unfold HoldsOn
  cases h : getVhost R host path user with
  | none =>
    simp only [Option.map_none]
    intro r hr
    exact getVhost_none h r ((hall r).mp hr)
  | some r =>
    simp only [Option.map_some]
    obtain ⟨hreg, hm, hbest⟩ := getVhost_some hR h
    exact ⟨r, (hall r).mpr hreg, rfl, hm, fun r' hr' hm' => hbest r' ((hall r').mp hr') hm'⟩

end C06
end Frp

/-! ## The server-side registration layer (server/proxy/http.go, https.go, tcpmux.go,
       server/group/http.go) that feeds the route tables

  Model: Frp/Model/VhostReg.lean, invariant and step lemmas: Frp/Lemmas/VhostReg.lean.
  All statements are about every history of proxy `Run` / `Close` with arbitrary configurations
  (any custom domains, subdomain, locations, route user, group and group key, proxy names). -/
namespace Frp
namespace C06
open Str Router VhostReg

inductive ROp
  | run (id : Nat) (c : Cfg)
  | close (id : Nat)

def rapply (sh : Str) (S : St) : ROp → St
  | .run id c => (VhostReg.run sh S id c).1
  | .close id => VhostReg.close S id

/-- the state after any history of `Run` / `Close` (`sh` = the server's subDomainHost) -/
def rrun (sh : Str) (ops : List ROp) : St := ops.foldl (rapply sh) St.empty

/-- every reachable state of the registration layer satisfies the ownership invariant `InvL` -/
theorem reg_inv_reachable (sh : Str) (ops : List ROp) : InvL (rrun sh ops).tab (rrun sh ops).hs := by
  refine foldl_invariant (P := fun S : St => InvL S.tab S.hs) invL_empty fun S op _ h => ?_
  cases op with
  | run id c => exact inv_run sh h id c
  | close id => exact inv_close h id

/-- proxy instance `id` is one of those a route with this payload hands requests to: the proxy that
    registered it, or a member of the group that registered it -/
def Serves (T : Tab) (payload id : Nat) : Prop :=
  payload = 2 * id ∨
  ∃ n g, T.G.get n = some g ∧ payload = 2 * g.gid + 1 ∧ ∃ nm, (nm, id) ∈ g.members

/-- whoever a stored route hands requests to is a running instance that holds a pair for that route -/
theorem holder_of_served {T : Tab} {hs : List Holder} (hI : InvL T hs) {r : Route} (hr : Registered T.R r)
    {id : Nat} (hs' : Serves T r.payload id) :
    ∃ h ∈ hs, h.id = id ∧ h.user = r.user ∧ ∃ k ∈ h.keys, toLower k.1 = r.domain ∧ k.2 = r.location := by
  rcases hs' with hp | ⟨n, g, hget, hp, nm, hm⟩
  · obtain ⟨h, hh, _, k, hk, rfl⟩ := hI.owned r hr (by omega)
    exact ⟨h, hh, by dsimp only [pr] at hp; omega, rfl, k, hk, rfl, rfl⟩
  · obtain ⟨n', g', hget', _, rfl⟩ := hI.gowned r hr (by omega)
    -- the group that registered the route is the one `id` is a member of: same object number
    have hn : n' = n := hI.ginj n' n g' g hget' hget (by dsimp only [gr] at hp; omega)
    rw [hn, hget] at hget'
    cases hget'
    obtain ⟨h, hh, e1, _, _, e4, e5⟩ := hI.gholder _ g hget _ hm
    exact ⟨h, hh, e1, e5, (g.domain, g.location), by rw [e4]; exact List.mem_singleton.mpr rfl, rfl, rfl⟩

/-- **The route table is exactly the union of what the live proxies stand for.**  `liveRoutes hs`
    is computed from the live proxies alone (their (domain, location) pairs, lower-cased domain,
    route user); each of its entries is a stored route served by that proxy, and every stored
    route together with each proxy serving it is one of its entries. -/
theorem reg_table_eq_live {T : Tab} {hs : List Holder} (hI : InvL T hs) (x : Route) :
    x ∈ liveRoutes hs ↔
      ∃ r, Registered T.R r ∧ r.domain = x.domain ∧ r.location = x.location ∧ r.user = x.user ∧
        Serves T r.payload x.payload := by
  constructor
  · intro hx
    obtain ⟨h, hh, hx'⟩ := List.mem_flatMap.mp hx
    obtain ⟨k, hk, rfl⟩ := List.mem_map.mp hx'
    obtain ⟨ro, hro, a1, a2, a3, a4⟩ := route_of_holder hI hh hk
    refine ⟨ro, hro, a1, a2, a3, ?_⟩
    rcases a4 with ⟨_, pa⟩ | ⟨_, g, hget, pa, hm, _, _⟩
    · exact Or.inl pa
    · exact Or.inr ⟨_, g, hget, pa, _, hm⟩
  · rintro ⟨r, hr, e1, e2, e3, hs'⟩
    obtain ⟨h, hh, e4, hu, k, hk, ek1, ek2⟩ := holder_of_served hI hr hs'
    refine List.mem_flatMap.mpr ⟨h, hh, List.mem_map.mpr ⟨k, hk, ?_⟩⟩
    rw [ek1, ek2, hu, e1, e2, e3, e4]

private theorem matches_congr {a b : Route} (e1 : a.domain = b.domain) (e2 : a.location = b.location)
    (e3 : a.user = b.user) (host path user : Str) : Matches a host path user ↔ Matches b host path user := by
  unfold Matches; rw [e1, e2, e3]

private theorem als_congr {a a' b b' : Route} (a1 : a.domain = a'.domain) (a2 : a.location = a'.location)
    (a3 : a.user = a'.user) (b1 : b.domain = b'.domain) (b2 : b.location = b'.location)
    (b3 : b.user = b'.user) (host user : Str) :
    AtLeastAsSpecific host user a b ↔ AtLeastAsSpecific host user a' b' := by
  unfold AtLeastAsSpecific hostRank userRank; rw [a1, a2, a3, b1, b2, b3]

/-- every stored route has somebody serving it -/
theorem reg_served {T : Tab} {hs : List Holder} (hI : InvL T hs) {r : Route} (hr : Registered T.R r) :
    ∃ id, Serves T r.payload id := by
  rcases Nat.mod_two_eq_zero_or_one r.payload with he | ho
  · obtain ⟨h, _, _, k, _, hrk⟩ := hI.owned r hr he
    exact ⟨h.id, Or.inl (by rw [hrk]; rfl)⟩
  · obtain ⟨n, g, hget, hne, hrg⟩ := hI.gowned r hr ho
    obtain ⟨m, hm⟩ := List.exists_mem_of_ne_nil _ hne
    exact ⟨m.2, Or.inr ⟨n, g, hget, by rw [hrg]; rfl, m.1, hm⟩⟩

/-- **Requests go to the most specific LIVE proxy.**  In every state satisfying the invariant (so:
    after every history of Run / Close) the lookup, read as "which proxy instance gets the request",
    is a correct answer — in the sense of the C06 predicate `HoldsOn` — with respect to the routes
    the live proxies stand for: some live proxy serves the chosen route, every proxy serving it is
    a live proxy whose route matches and is at least as specific as every live matching route; and a
    lookup fails only if no live proxy's route matches. -/
theorem reg_lookup_most_specific {T : Tab} {hs : List Holder} (hI : InvL T hs) (host path user : Str) :
    match getVhost T.R host path user with
    | none => HoldsOn (liveRoutes hs) host path user none
    | some r => (∃ id, Serves T r.payload id) ∧
        ∀ id, Serves T r.payload id → HoldsOn (liveRoutes hs) host path user (some id) := by
  split
  · rename_i hnone
    intro x hx hm
    obtain ⟨r, hr, e1, e2, e3, _⟩ := (reg_table_eq_live hI x).mp hx
    exact getVhost_none hnone r hr ((matches_congr e1 e2 e3 host path user).mpr hm)
  · rename_i r hsome
    obtain ⟨hreg, hm, hbest⟩ := getVhost_some hI.rinv hsome
    refine ⟨reg_served hI hreg, ?_⟩
    intro id hs'
    have hx : ({ domain := r.domain, location := r.location, user := r.user, payload := id } : Route)
        ∈ liveRoutes hs := (reg_table_eq_live hI _).mpr ⟨r, hreg, rfl, rfl, rfl, hs'⟩
    refine ⟨_, hx, rfl, (matches_congr rfl rfl rfl host path user).mp hm, ?_⟩
    intro r' hr' hm'
    obtain ⟨r'', hr'', e1, e2, e3, _⟩ := (reg_table_eq_live hI r').mp hr'
    have := hbest r'' hr'' ((matches_congr e1 e2 e3 host path user).mpr hm')
    exact (als_congr rfl rfl rfl e1 e2 e3 host user).mp this

/-- When `Run` succeeds the proxy is live with exactly the (domain, location) pairs its configuration
    stands for (customDomains × locations, then subdomain.subDomainHost × locations). -/
theorem reg_run_ok {sh : Str} {S : St} (hI : InvL S.tab S.hs) (id : Nat) (c : Cfg)
    (h : (VhostReg.run sh S id c).2 = .ok) :
    (VhostReg.run sh S id c).1.hs = holderOf id c (triples sh c) :: S.hs :=
  run_ok_hs hI id c h

/-- When `Run` is refused (duplicate triple, group parameter / key mismatch, name repeated in the group,
    instance already running) **the set of live proxies is unchanged** — by
    `reg_table_eq_live` / `reg_lookup_most_specific` (the invariant still holds: `reg_inv_reachable`)
    so is everything a request can observe: a refused registration changes nothing. -/
theorem reg_refused_unchanged (sh : Str) (S : St) (id : Nat) (c : Cfg)
    (h : (VhostReg.run sh S id c).2 ≠ .ok) : (VhostReg.run sh S id c).1.hs = S.hs :=
  run_refused_hs sh S id c h

/-- **After `Close` the live set is the live set before minus that proxy** (so, by `reg_table_eq_live`,
    exactly its own routes are gone). -/
theorem reg_close_hs (S : St) (id : Nat) (h : Holder) :
    h ∈ (VhostReg.close S id).hs ↔ h ∈ S.hs ∧ h.id ≠ id :=
  mem_close_hs S id h

/-- **`Close` takes effect from the next request on**: after `Close id`, in any reachable state, no
    lookup hands a request to proxy instance `id` (until an instance with that number runs again). -/
theorem reg_close_effective (sh : Str) (ops : List ROp) (id : Nat) (host path user : Str) (r : Route)
    (h : getVhost (VhostReg.close (rrun sh ops) id).tab.R host path user = some r) :
    ¬ Serves (VhostReg.close (rrun sh ops) id).tab r.payload id := by
  intro hs'
  have hI := inv_close (reg_inv_reachable sh ops) id
  obtain ⟨h', hh', e, _⟩ := holder_of_served hI (getVhost_some hI.rinv h).1 hs'
  exact ((reg_close_hs _ id h').mp hh').2 e

/-! ### non-vacuity: a history with multi-domain, multi-location, subdomain and group proxies -/

def shDemo : Str := s "sub.example.com"

def cfgDemo (name : String) (domains : List String) (sub : String) (locs : List String)
    (user group key : String) : Cfg :=
  { name := s name, domains := domains.map s, sub := s sub, locations := locs.map s, user := s user,
    group := s group, groupKey := s key }

def regDemo : St := rrun shDemo
  [ .run 1 (cfgDemo "multi" ["A.example.com", "b.example.com"] "t" ["/", "/api"] "" "" "")
  , .run 2 (cfgDemo "g1" ["c.example.com"] "" [] "" "grp" "k")
  , .run 3 (cfgDemo "g2" ["c.example.com"] "" [] "" "grp" "k")
  , .run 4 (cfgDemo "dup" ["x.example.com", "a.example.com"] "" ["/api"] "" "" "")   -- refused, rolled back
  , .run 5 (cfgDemo "g3" ["b.example.com"] "" ["/"] "" "new" "k")                    -- refused first member
  , .close 2 ]

example : InvL regDemo.tab regDemo.hs := reg_inv_reachable _ _
example : regDemo.hs.map (·.id) = [3, 1] := by decide +kernel
example : (liveRoutes regDemo.hs).length = 7 := by decide +kernel
example : (getVhost regDemo.tab.R (s "a.example.com") (s "/api/x") []).map (·.payload) = some 2 := by
  decide +kernel
example : (getVhost regDemo.tab.R (s "x.example.com") (s "/api") []).map (·.payload) = none := by
  decide +kernel
example : (getVhost regDemo.tab.R (s "t.sub.example.com") (s "/") []).map (·.payload) = some 2 := by
  decide +kernel
example : ((getVhost regDemo.tab.R (s "c.example.com") (s "/") []).map (·.payload)).map
    (servers regDemo.tab) = some [3] := by decide +kernel

end C06
end Frp

/-! ## Traffic interleaved with registration changes

  The property quantifies over "all register / unregister / re-register histories INTERLEAVED WITH TRAFFIC".
  The code keeps no memory of earlier lookups: `HTTPReverseProxy.getVhost` (pkg/util/vhost/http.go) and
  `Muxer.getListener` (pkg/util/vhost/vhost.go) read the route index and nothing else, and a request writes
  nothing a later lookup reads.  So a request is an event that leaves the state alone, and its answer is a
  function of the table at that moment — whatever the same (host, path, user) was resolved to earlier, however
  often, and whichever kind of change (plain proxy, group member joining or leaving, first or last member of a
  group) happened in between. -/
namespace Frp
namespace C06
open Str Router VhostReg

/-- a request as the lookup sees it -/
structure Query where
  host : Str
  path : Str
  user : Str
deriving DecidableEq, Repr

/-- one event at the server: a registration change (`Run` / `Close` of a proxy) or a request -/
inductive TOp
  | chg (o : ROp)
  | req (q : Query)

/-- the lookup of the code: the walk over the route table as it is NOW; nothing else is read -/
def lookup (S : St) (q : Query) : Option Route := getVhost S.tab.R q.host q.path q.user

/-- one event: a change moves the state and answers nothing, a request is answered and moves nothing -/
def tstep (sh : Str) (S : St) : TOp → St × List (Option Route)
  | .chg o => (rapply sh S o, [])
  | .req q => (S, [lookup S q])

/-- the server run over a history with traffic: final state and the answers given, in order -/
def trun (sh : Str) (S : St) : List TOp → St × List (Option Route)
  | [] => (S, [])
  | op :: ops => ((trun sh (tstep sh S op).1 ops).1, (tstep sh S op).2 ++ (trun sh (tstep sh S op).1 ops).2)

/-- the registration changes of a history, traffic erased -/
def changes : List TOp → List ROp
  | [] => []
  | .chg o :: ops => o :: changes ops
  | .req _ :: ops => changes ops

/-- every request of a history together with everything that happened before it -/
def reqPoints : List TOp → List (List TOp × Query)
  | [] => []
  | .chg o :: ops => (reqPoints ops).map (fun e => (.chg o :: e.1, e.2))
  | .req q :: ops => ([], q) :: (reqPoints ops).map (fun e => (.req q :: e.1, e.2))

/-- the state reached from `S` by the registration changes alone -/
def rfrom (sh : Str) (S : St) (ops : List ROp) : St := ops.foldl (rapply sh) S

/-- **Traffic leaves no trace**: the state after a history with requests is the state after the same
    history with the requests erased. -/
theorem traffic_leaves_no_trace (sh : Str) (ops : List TOp) :
    ∀ S : St, (trun sh S ops).1 = rfrom sh S (changes ops) := by
  induction ops with
  | nil => intro S; rfl
  | cons op ops ih =>
    intro S
    cases op with
    | chg o => simp only [trun, tstep, changes, rfrom, List.foldl_cons]; exact ih _
    | req q => simp only [trun, tstep, changes]; exact ih _

/-- **The lookup depends on the current table only.**  For every history of registration changes with
    requests interleaved anywhere (the same request any number of times, before and after any change), the
    answers given are, request by request, the lookup in the table produced by the registration changes that
    precede the request — the requests that precede it (what they asked, what they were answered) do not
    enter. -/
theorem lookup_depends_only_on_table (sh : Str) (ops : List TOp) :
    ∀ S : St, (trun sh S ops).2 = (reqPoints ops).map (fun e => lookup (rfrom sh S (changes e.1)) e.2) := by
  induction ops with
  | nil => intro S; rfl
  | cons op ops ih =>
    intro S
    cases op with
    | chg o =>
      simp only [trun, tstep, reqPoints, List.nil_append, List.map_map]
      rw [ih]
      apply List.map_congr_left
      intro e _
      simp only [Function.comp, changes, rfrom, List.foldl_cons]
    | req q =>
      simp only [trun, tstep, reqPoints, List.map_cons, List.map_map, List.singleton_append]
      rw [ih]
      congr 1

/-- two histories with the same registration changes — their traffic may differ in any way — answer a
    further request alike -/
theorem same_changes_same_answer (sh : Str) (S : St) (h1 h2 : List TOp) (q : Query)
    (h : changes h1 = changes h2) : lookup (trun sh S h1).1 q = lookup (trun sh S h2).1 q := by
  rw [traffic_leaves_no_trace, traffic_leaves_no_trace, h]

/-- two states whose route tables are equal answer a request alike -/
theorem same_table_same_answer (S S' : St) (q : Query) (h : S.tab.R = S'.tab.R) : lookup S q = lookup S' q := by
  unfold lookup; rw [h]

/-- `a` is a correct answer to `q` in state `S`: the C06 predicate with respect to the routes the proxies
    live in `S` stand for, for every proxy instance the chosen route hands the request to -/
def Good (S : St) (q : Query) (a : Option Route) : Prop :=
  match a with
  | none => HoldsOn (liveRoutes S.hs) q.host q.path q.user none
  | some r => (∃ id, Serves S.tab r.payload id) ∧
      ∀ id, Serves S.tab r.payload id → HoldsOn (liveRoutes S.hs) q.host q.path q.user (some id)

/-- **Most specific live route for every request of every history with traffic.**  The i-th answer given
    during any history (from the empty server) belongs to the i-th request and is correct with respect to the
    proxies live after exactly the registration changes that precede that request: a route closed before it
    is not used (from the next request on), a route registered before it — by a plain proxy or as a group's
    first member — is, however the same request was answered earlier. -/
theorem traffic_most_specific (sh : Str) (ops : List TOp) (i : Nat) (a : Option Route)
    (h : (trun sh St.empty ops).2[i]? = some a) :
    ∃ e, (reqPoints ops)[i]? = some e ∧ Good (rrun sh (changes e.1)) e.2 a := by
  rw [lookup_depends_only_on_table, List.getElem?_map] at h
  cases he : (reqPoints ops)[i]? with
  | none => rw [he] at h; cases h
  | some e =>
    rw [he] at h
    refine ⟨e, rfl, ?_⟩
    have ha : a = lookup (rrun sh (changes e.1)) e.2 := (Option.some.inj h).symm
    subst ha
    have hI := reg_inv_reachable sh (changes e.1)
    have := reg_lookup_most_specific hI e.2.host e.2.path e.2.user
    unfold Good lookup
    exact this

/-! ### non-vacuity: the same request before and after a plain proxy, a group's first member, a second
       member, a member leaving, the last member leaving -/

def qDemo : Query := { host := s "c.example.com", path := s "/api/users", user := [] }

def trafficDemo : List TOp :=
  [ .chg (.run 1 (cfgDemo "wild" ["*.example.com"] "" [] "" "" "")), .req qDemo
  , .chg (.run 2 (cfgDemo "g1" ["c.example.com"] "" ["/api"] "" "grp" "k")), .req qDemo, .req qDemo
  , .chg (.run 3 (cfgDemo "g2" ["c.example.com"] "" ["/api"] "" "grp" "k")), .req qDemo
  , .chg (.close 2), .req qDemo
  , .chg (.close 3), .req qDemo
  , .chg (.close 1), .req qDemo ]

example : (reqPoints trafficDemo).length = 7 := by decide +kernel
example : ((trun shDemo St.empty trafficDemo).2.map (fun a => a.map (·.payload))) =
    [some 2, some 1, some 1, some 1, some 1, some 2, none] := by decide +kernel

end C06
end Frp

/-! ## Credentials of the route a request is forwarded along (http load-balancing groups)

  Not a clause of C06 (which proxy gets the request) but of C07 ("no request is forwarded to the protected
  backend unless it presents exactly that user name and password") and C13 ("joins only with the same public
  endpoint parameters"); it lives here because the `vreg` engine is where real http groups meet the real
  `HTTPReverseProxy`.  `cstep` takes a switch: with `false` a join is not compared in its credentials (the
  pinned tree before commit c7cd280), and the clause is FALSE for groups whose members are configured with
  different credentials (`httpGroup_creds_witness`) but holds when all joins carry the same
  (`httpGroup_creds_partial`); with `true` joins compare them (server/group/http.go since c7cd280,
  hooks/C06-fix-httpgroup-credentials.patch; `VhostReg.groupChecksCreds`) and the clause holds for all
  histories (`httpGroup_creds_checked_sound`). -/
namespace Frp
namespace C06
open Str VhostReg

/-- whoever is handed a request was configured with exactly the credentials it carries, or with none -/
def CredsSound (g : Option CGroup) : Prop :=
  ∀ u p id, id ∈ cserve g u p → ∀ m ∈ cmembers g, m.1 = id → checkAuth m.2 u p = true

/-- every member is configured with the credentials of the group's route -/
def Uniform : Option CGroup → Prop
  | none => True
  | some g => ∀ m ∈ g.members, m.2 = g.route

theorem uniform_sound {g : Option CGroup} (h : Uniform g) : CredsSound g := by
  intro u p id hid m hm _
  cases g with
  | none => cases hm
  | some g =>
    simp only [cserve] at hid
    split at hid
    · rename_i hc
      rw [h m hm]; exact hc
    · cases hid

/-- one join / leave keeps the group uniform if the join compares credentials or happens to carry the route's -/
theorem uniform_step {chk : Bool} {g : Option CGroup} (h : Uniform g) (op : GOp)
    (hop : chk = true ∨ ∀ id c, op = .join id c → ∀ g', g = some g' → c = g'.route) :
    Uniform (cstep chk g op) := by
  cases g with
  | none =>
    cases op with
    | join id c => simp [cstep, Uniform]
    | leave id => simp [cstep, Uniform]
  | some g =>
    cases op with
    | join id c =>
      simp only [cstep]
      split
      · exact h
      · rename_i hne
        intro m hm
        rcases List.mem_append.mp hm with hm | hm
        · exact h m hm
        · simp only [List.mem_singleton] at hm
          subst hm
          rcases hop with hchk | hsame
          · apply Decidable.byContradiction
            intro hc
            exact hne ⟨hchk, fun e => hc e.symm⟩
          · exact hsame id c rfl g rfl
    | leave id =>
      simp only [cstep]
      split
      · trivial
      · intro m hm
        exact h m (List.mem_filter.mp hm).1

/-- **With the comparison** every group reachable by any history of joins and leaves is uniform. -/
theorem httpGroup_checked_uniform (ops : List GOp) : Uniform (crun true ops) :=
  foldl_invariant (P := Uniform) trivial fun _ op _ h => uniform_step h op (Or.inl rfl)

/-- **With the comparison**, after every history, nobody is handed a request that does not carry his own
    credentials. -/
theorem httpGroup_creds_checked_sound (ops : List GOp) : CredsSound (crun true ops) :=
  uniform_sound (httpGroup_checked_uniform ops)

/-- all joins of a history carry the credentials `c` -/
def JoinsWith (c : Creds) (ops : List GOp) : Prop := ∀ id c', GOp.join id c' ∈ ops → c' = c

/-- the credentials of a group's route are those of the join that created the group -/
theorem cstep_route {chk : Bool} {g : Option CGroup} {op : GOp} {g' : CGroup}
    (h : cstep chk g op = some g') :
    (∃ g0, g = some g0 ∧ g'.route = g0.route) ∨ (g = none ∧ ∃ id, op = .join id g'.route) := by
  cases g with
  | none =>
    cases op with
    | join id c => cases h; exact Or.inr ⟨rfl, id, rfl⟩
    | leave id => cases h
  | some g0 =>
    refine Or.inl ⟨g0, rfl, ?_⟩
    cases op with
    | join id c =>
      simp only [cstep] at h
      split at h <;> cases h <;> rfl
    | leave id =>
      simp only [cstep] at h
      split at h <;> cases h
      rfl

/-- **Without the comparison**: sound for the histories in which all members are configured alike -/
theorem httpGroup_creds_partial (c : Creds) (ops : List GOp) (hj : JoinsWith c ops) :
    CredsSound (crun false ops) := by
  apply uniform_sound
  -- along such a history the group stays uniform and its route carries `c`
  refine (foldl_invariant (P := fun g => Uniform g ∧ ∀ g', g = some g' → g'.route = c) (s := none)
    ⟨trivial, fun _ e => nomatch e⟩ ?_).1
  intro g op hop h
  refine ⟨uniform_step h.1 op (Or.inr fun id c' e g' eg => ?_), fun g' eg => ?_⟩
  · rw [h.2 g' eg]; exact hj id c' (e ▸ hop)
  · rcases cstep_route eg with ⟨g0, e0, er⟩ | ⟨_, id, e⟩
    · rw [er]; exact h.2 g0 e0
    · exact hj id _ (e ▸ hop)

/-- **Witness (without the comparison)**: an unprotected proxy opens the group, a protected one joins; a request
    without credentials passes `CheckAuth` (the route is the first member's) and may be handed to the protected
    member. -/
def credsWitness : List GOp := [.join 1 ([], []), .join 2 (s "u", s "pw")]

theorem httpGroup_creds_witness : ¬ CredsSound (crun false credsWitness) := by
  intro h
  have := h [] [] 2 (by decide +kernel) (2, (s "u", s "pw")) (by decide +kernel) rfl
  revert this
  decide +kernel

/-- with the comparison the same history is refused at the join -/
example : crun true credsWitness = some { route := ([], []), members := [(1, ([], []))] } := by decide +kernel

/-- `checkAuth` under the name the `vreg` engine calls: a proxy configured with `c` was handed a request
    carrying (u, p) -/
def credsOk (c : Creds) (u p : Str) : Bool := checkAuth c u p

end C06
end Frp

/-! ## Host spellings: letter case, port suffix and trailing dot are ignored
       (pkg/util/http/http.go `CanonicalHost`, model Frp/Model/Host.lean) -/
namespace Frp
namespace C06
open Str Router Host

/-- a way to write a host name in a request: the name (in any letter case), optionally the trailing
    dot of a fully qualified name, optionally a port suffix -/
def spell (name : Str) (dotted : Bool) (port : Option Str) : Str :=
  name ++ (if dotted then [dot] else []) ++ (match port with | none => [] | some p => colon :: p)

/-- no colon, no bracket -/
def Plain (s : Str) : Prop := colon ∉ s ∧ lbr ∉ s ∧ rbr ∉ s

/-- a plain host name (not an IP literal in brackets) that does not itself end in a dot -/
def PlainName (n : Str) : Prop := Plain n ∧ n.getLast? ≠ some dot

instance (s : Str) : Decidable (Plain s) := by unfold Plain; infer_instance
instance (n : Str) : Decidable (PlainName n) := by unfold PlainName; infer_instance

/-- lower-casing maps only letters to letters -/
private theorem lowerB_eq_iff (c : Nat) {x : Nat} (hx : x < 65 ∨ 90 < x ∧ x < 97) : lowerB c = x ↔ c = x := by
  unfold lowerB
  split <;> omega

private theorem not_mem_toLower {s : Str} {x : Nat} (hx : x < 65 ∨ 90 < x ∧ x < 97) (h : x ∉ s) :
    x ∉ toLower s := by
  intro hm
  obtain ⟨c, hc, e⟩ := List.mem_map.mp hm
  rw [(lowerB_eq_iff c hx).mp e] at hc
  exact h hc

private theorem plain_toLower {s : Str} (h : Plain s) : Plain (toLower s) :=
  ⟨not_mem_toLower (by decide) h.1, not_mem_toLower (by decide) h.2.1, not_mem_toLower (by decide) h.2.2⟩

private theorem plainName_toLower {n : Str} (h : PlainName n) : PlainName (toLower n) := by
  refine ⟨plain_toLower h.1, fun e => ?_⟩
  rw [toLower, List.getLast?_map, Option.map_eq_some_iff] at e
  obtain ⟨c, hl, e⟩ := e
  rw [(lowerB_eq_iff c (by decide)).mp e] at hl
  exact h.2 hl

private theorem toLower_spell (name : Str) (dotted : Bool) (port : Option Str) :
    toLower (spell name dotted port) = spell (toLower name) dotted (port.map toLower) := by
  unfold spell
  simp only [toLower, List.map_append]
  -- the name is lower-cased on both sides; the dot and the colon are their own lower case
  congr 1
  · congr 1
    cases dotted
    · rfl
    · exact congrArg (fun c => [c]) lowerB_dot
  · cases port with
    | none => rfl
    | some p => exact congrArg (· :: p.map lowerB) (by decide : lowerB colon = colon)

private theorem count_eq_zero {c : Nat} {s : Str} (h : c ∉ s) : count c s = 0 := by
  unfold count
  rw [List.length_eq_zero_iff, List.filter_eq_nil_iff]
  intro a ha e
  simp only [decide_eq_true_eq] at e
  exact h (e ▸ ha)

private theorem trimDot_dotted (n : Str) : trimDot (n ++ [dot]) = n := by
  unfold trimDot
  simp

private theorem trimDot_plain {n : Str} (h : n.getLast? ≠ some dot) : trimDot n = n := by
  unfold trimDot
  split
  · rename_i c rest hr
    split
    · rename_i hc
      exfalso; apply h
      rw [List.getLast?_eq_head?_reverse, hr, hc]; rfl
    · rfl
  · rfl

private theorem indexOf_append {c : Nat} {x y : Str} (h : c ∉ x) :
    indexOf c (x ++ c :: y) = some x.length := by
  induction x with
  | nil => simp [indexOf]
  | cons a xs ih =>
    have ha : a ≠ c := fun e => h (by simp [e])
    have hxs : c ∉ xs := fun e => h (by simp [e])
    simp [indexOf, ha, ih hxs]

private theorem lastIndexOf_append {c : Nat} {a b : Str} (h : c ∉ b) :
    lastIndexOf c (a ++ c :: b) = some a.length := by
  unfold lastIndexOf
  have hrev : (a ++ c :: b).reverse = b.reverse ++ c :: a.reverse := by simp
  rw [hrev, indexOf_append (by simpa using h)]
  simp only [Option.map_some, List.length_append, List.length_cons, List.length_reverse,
    Option.some.injEq]
  omega

/-! `hasPort` and `splitHostPort` on a plain host, without and with a plain port suffix -/

private theorem hasPort_plain {a : Str} (h : colon ∉ a) : hasPort a = false := by
  unfold hasPort
  simp [count_eq_zero h]

private theorem hasPort_plain_port {a p : Str} (ha : colon ∉ a) (hp : colon ∉ p) :
    hasPort (a ++ colon :: p) = true := by
  have hcount : count colon (a ++ colon :: p) = 1 := by
    have h1 := count_eq_zero ha
    have h2 := count_eq_zero hp
    unfold count at h1 h2 ⊢
    rw [List.filter_append, List.filter_cons]
    simp [List.length_append, h1, h2]
  unfold hasPort
  simp [hcount]

private theorem splitHostPort_plain_port {a p : Str} (ha : Plain a) (hp : Plain p) :
    splitHostPort (a ++ colon :: p) = some a := by
  have hnl : lbr ∉ a ++ colon :: p := by simp [ha.2.1, hp.2.1, show lbr ≠ colon by decide]
  have hnr : rbr ∉ a ++ colon :: p := by simp [ha.2.2, hp.2.2, show rbr ≠ colon by decide]
  unfold splitHostPort
  rw [lastIndexOf_append hp.1]
  simp only
  -- no bracket in front, so the host is what precedes the last colon; it has no colon, the whole no bracket
  rw [if_neg fun e : (a ++ colon :: p).head? = some lbr => hnl (List.mem_of_mem_head? e), List.take_left,
    if_neg (by simpa using ha.1), if_neg (by simpa using hnl), if_neg (by simpa using hnr)]

/-- a plain name with its optional trailing dot is still plain, and `trimDot` gives the name back -/
private theorem dotted_plain {n : Str} (hn : PlainName n) (dotted : Bool) :
    Plain (n ++ if dotted then [dot] else []) ∧ trimDot (n ++ if dotted then [dot] else []) = n := by
  obtain ⟨⟨hc, hlb, hrb⟩, hlast⟩ := hn
  cases dotted
  · simpa [Plain, hc, hlb, hrb] using trimDot_plain hlast
  · simpa [Plain, hc, hlb, hrb, show colon ≠ dot by decide, show lbr ≠ dot by decide,
      show rbr ≠ dot by decide] using trimDot_dotted n

/-- **Host comparison ignores letter case, a port suffix and a trailing dot**: every spelling of a
    plain name — any letter case, with or without the trailing dot, with or without a port — has the
    lower-case name as canonical host, so all spellings of one name are routed alike. -/
theorem canonicalHost_spell (name : Str) (dotted : Bool) (port : Option Str) (hn : PlainName name)
    (hp : ∀ p, port = some p → Plain p) :
    canonicalHost (spell name dotted port) = some (toLower name) := by
  obtain ⟨ha, hat⟩ := dotted_plain (plainName_toLower hn) dotted
  unfold canonicalHost
  simp only [toLower_spell]
  unfold spell
  cases port with
  | none => simp [hasPort_plain ha.1, hat]
  | some p =>
    have hp' := plain_toLower (hp p rfl)
    simp only [Option.map_some]
    rw [hasPort_plain_port ha.1 hp'.1, if_pos rfl, splitHostPort_plain_port ha hp', Option.map_some, hat]

/-- the port suffix, if any, has no colon and no bracket (digits in practice) -/
def PortPlain : Option Str → Prop
  | none => True
  | some p => Plain p

instance (port : Option Str) : Decidable (PortPlain port) := by
  cases port <;> unfold PortPlain <;> infer_instance

/-- the answer `res` (canonical host or error) of the implementation for a spelling of `name`
    (with or without the dot, with port suffix `port`) is what the property demands -/
def SpellHolds (name : Str) (port : Option Str) (res : Option Str) : Prop :=
  PlainName name → PortPlain port → res = some (toLower name)

instance (name : Str) (port : Option Str) (res : Option Str) :
    Decidable (SpellHolds name port res) := by
  unfold SpellHolds; infer_instance

def spellHoldsOn (name : Str) (port : Option Str) (res : Option Str) : Bool :=
  decide (SpellHolds name port res)

theorem spellHoldsOn_sound (name : Str) (port : Option Str) (res : Option Str) :
    spellHoldsOn name port res = true ↔ SpellHolds name port res := by
  simp [spellHoldsOn]

theorem model_spellHolds (name : Str) (dotted : Bool) (port : Option Str) :
    SpellHolds name port (canonicalHost (spell name dotted port)) :=
  fun hn hp => canonicalHost_spell name dotted port hn
    (fun p e => by subst e; exact hp)

/-- **Routed requests**: for every reachable route table, a request whose Host is any spelling of a
    plain name is answered as the C06 predicate demands for the lower-case name itself
    (`ServeHTTP` / `readHTTPConnectRequest` look up `CanonicalHost(req.Host)`). -/
theorem spelled_lookup_holds {R : Routers} (hR : Router.Inv R) (all : List Route)
    (hall : ∀ r, r ∈ all ↔ Registered R r) (name : Str) (dotted : Bool) (port : Option Str)
    (hn : PlainName name) (hp : ∀ p, port = some p → Plain p) (path user : Str) :
    HoldsOn all (toLower name) path user
      ((getVhost R ((canonicalHost (spell name dotted port)).getD []) path user).map (·.payload)) := by
  rw [canonicalHost_spell name dotted port hn hp]
  exact model_holdsOn hR all hall (toLower name) path user

example : canonicalHost (spell (s "App.Example.com") true (some (s "8080"))) = some (s "app.example.com") := by
  decide +kernel
example : PlainName (s "App.Example.com") := by decide +kernel

end C06
end Frp
