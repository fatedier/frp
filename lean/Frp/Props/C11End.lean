import Frp.Model.PoolEnd
import Frp.Lemmas.Pool
/-
  C11, the end of the pool — "when a session ends ALL its pooled connections are closed; a work connection
  arriving for an ending session is closed, not parked".

  For EVERY program of the worker that meets the decidable condition `willDrain` (a drain after the
  close), for ALL interleavings of RegisterWorkConn / GetWorkConn / other holders of ctl.mu / worker steps
  (`PoolEnd.Reach`): once the worker has finished, every connection ever offered is handed to a user connection
  or closed, the channel is closed and empty, and every later offer is closed.  The program of the frp source
  (regenerated: Frp/Gen/PoolFacts.lean) meets the condition (`source_program_drains`, by evaluation): a drain before the
  close, blocking or not, or no drain at all does not; after the close a non-blocking drain is as good as the
  blocking one (`other_orders_rejected`).  For the program
  "non-blocking drain, lock, close, unlock" a kernel-checked schedule leaves a connection parked for ever.
-/
namespace Frp
namespace C11
namespace End
open PoolEnd
open Pool (Tbl)

theorem willDrain_lock (c : Bool) (tl : List WI) : willDrain c (.lock :: tl) = willDrain c tl := by
  cases c <;> rfl
theorem willDrain_unlock (c : Bool) (tl : List WI) : willDrain c (.unlock :: tl) = willDrain c tl := by
  cases c <;> rfl
theorem willDrain_nbDrain (tl : List WI) : willDrain false (.nbDrain :: tl) = willDrain false tl := rfl
theorem willDrain_nil (c : Bool) : willDrain c [] = false := by cases c <;> rfl

inductive Step (cfg : Cfg) (s : St) : Label → St → Res → Prop
  | offerLate {c} : s.c.get c = none → s.closed = true → cfg.recoverErr = true →
      Step cfg s (.offer c) { s with c := s.c.set c .closed } .closedErr
  | offerLimbo {c} : s.c.get c = none → s.closed = true → cfg.recoverErr = false →
      Step cfg s (.offer c) { s with c := s.c.set c .limbo } .limbo
  | offerPooled {c} : s.c.get c = none → s.closed = false → s.buf.length < s.cap →
      Step cfg s (.offer c) { s with buf := s.buf ++ [c], c := s.c.set c .pooled } .pooled
  | offerFull {c} : s.c.get c = none → s.closed = false → ¬ s.buf.length < s.cap →
      Step cfg s (.offer c) { s with c := s.c.set c .closed } .refused
  | take {c r} : s.buf = c :: r → Step cfg s .take { s with buf := r, c := s.c.set c .handed } (.got c)
  | otherLock : s.mu = .free → Step cfg s .otherLock { s with mu := .other } .none
  | otherUnlock : s.mu = .other → Step cfg s .otherUnlock { s with mu := .free } .none
  | lock {tl} : s.rest = .lock :: tl → s.mu = .free → Step cfg s .worker { s with mu := .worker, rest := tl } .none
  | unlock {tl} : s.rest = .unlock :: tl → s.mu = .worker → Step cfg s .worker { s with mu := .free, rest := tl } .none
  | closeCh {tl} : s.rest = .closeCh :: tl → s.closed = false →
      Step cfg s .worker { s with closed := true, rest := tl } .none
  | drainOne {i tl c r} : s.rest = i :: tl → i = .rangeDrain ∨ i = .nbDrain → s.buf = c :: r →
      Step cfg s .worker { s with buf := r, c := s.c.set c .closed } (.drained c)
  | rangeDone {tl} : s.rest = .rangeDrain :: tl → s.buf = [] → s.closed = true →
      Step cfg s .worker { s with rest := tl } .none
  | nbDone {tl} : s.rest = .nbDrain :: tl → s.buf = [] → Step cfg s .worker { s with rest := tl } .none

theorem step_spec {cfg : Cfg} {s s' : St} {l : Label} {r : Res} (hs : step cfg s l = some (s', r)) :
    Step cfg s l s' r := by
  cases l with
  | offer c =>
    rw [step, Option.ite_none_left_eq_some] at hs
    obtain ⟨hn, hs⟩ := hs
    simp at hn
    by_cases hc : s.closed = true
    · rw [if_pos hc] at hs
      by_cases hre : cfg.recoverErr = true
      · rw [if_pos hre] at hs; cases hs; exact .offerLate hn hc hre
      · rw [if_neg hre] at hs; cases hs; exact .offerLimbo hn hc (Bool.eq_false_iff.2 hre)
    · rw [if_neg hc] at hs
      rw [Bool.not_eq_true] at hc
      by_cases hl : s.buf.length < s.cap
      · rw [if_pos hl] at hs; cases hs; exact .offerPooled hn hc hl
      · rw [if_neg hl] at hs; cases hs; exact .offerFull hn hc hl
  | take =>
    rw [step] at hs
    split at hs
    · next c r hb => cases hs; exact .take hb
    · cases hs
  | otherLock =>
    rw [step, Option.ite_none_right_eq_some] at hs
    cases hs.2; exact .otherLock hs.1
  | otherUnlock =>
    rw [step, Option.ite_none_right_eq_some] at hs
    cases hs.2; exact .otherUnlock hs.1
  | worker =>
    rw [step] at hs
    split at hs
    · cases hs
    · next tl hr =>
      rw [Option.ite_none_right_eq_some] at hs
      cases hs.2; exact .lock hr hs.1
    · next tl hr =>
      rw [Option.ite_none_right_eq_some] at hs
      cases hs.2; exact .unlock hr hs.1
    · next tl hr =>
      rw [Option.ite_none_left_eq_some] at hs
      cases hs.2; exact .closeCh hr (Bool.eq_false_iff.2 hs.1)
    · next tl hr =>
      split at hs
      · next c r hb => cases hs; exact .drainOne hr (.inl rfl) hb
      · next hb =>
        rw [Option.ite_none_right_eq_some] at hs
        cases hs.2; exact .rangeDone hr hb hs.1
    · next tl hr =>
      split at hs
      · next c r hb => cases hs; exact .drainOne hr (.inr rfl) hb
      · next hb => cases hs; exact .nbDone hr hb
    · cases hs

structure Inv (cfg : Cfg) (s : St) : Prop where
  pooledIn : ∀ c, s.c.get c = some .pooled → c ∈ s.buf
  drains : willDrain s.closed s.rest = true ∨ (s.closed = true ∧ s.buf = [])
  noLimbo : cfg.recoverErr = true → ∀ c, s.c.get c ≠ some .limbo

/-- a connection is rebound to a value that is neither pooled nor (with the recover) limbo: offered and
    closed on the spot, or the head of the buffer closed by a drain round or handed out by a take -/
theorem inv_set {cfg : Cfg} {s : St} {c : Nat} {v : C} (buf : List Nat) (hv : v ≠ .pooled)
    (hl : cfg.recoverErr = true → v ≠ .limbo) (h : Inv cfg s) (hb : ∀ c', c' ≠ c → c' ∈ s.buf → c' ∈ buf)
    (hd : s.buf = [] → buf = []) : Inv cfg { s with buf := buf, c := s.c.set c v } where
  pooledIn := Tbl.forall_get_set (fun e => absurd e hv) fun c' ec e => hb c' ec (h.pooledIn c' e)
  drains := h.drains.imp_right fun hc => ⟨hc.1, hd hc.2⟩
  noLimbo hr c' e := (Tbl.of_get_set_eq e).elim (hl hr) (h.noLimbo hr c')

theorem inv_step {cfg : Cfg} {s s' : St} {l : Label} {r : Res} (h : Inv cfg s)
    (hs : step cfg s l = some (s', r)) : Inv cfg s' := by
  -- the head of the buffer leaves it
  have pop : ∀ {c r}, s.buf = c :: r → (∀ c', c' ≠ c → c' ∈ s.buf → c' ∈ r) ∧ (s.buf = [] → r = []) :=
    fun hb => ⟨fun c' ec hm => by rw [hb] at hm; exact (List.mem_cons.1 hm).resolve_left ec,
      fun e => by rw [hb] at e; cases e⟩
  cases step_spec hs with
  | offerLate | offerFull => exact inv_set s.buf nofun (fun _ => nofun) h (fun _ _ => id) id
  | offerLimbo _ _ hre => exact inv_set s.buf nofun (fun x => by rw [hre] at x; cases x) h (fun _ _ => id) id
  | @offerPooled c _ hc _ =>
    exact {
      pooledIn := Tbl.forall_get_set (fun _ => by simp) fun c' _ e => List.mem_append_left _ (h.pooledIn c' e)
      drains := h.drains.imp_right fun hx => by rw [hc] at hx; cases hx.1
      noLimbo := fun hr c' e => (Tbl.of_get_set_eq e).elim nofun (h.noLimbo hr c') }
  | take hb | drainOne _ _ hb => exact inv_set _ nofun (fun _ => nofun) h (pop hb).1 (pop hb).2
  | otherLock | otherUnlock => exact { h with }
  | lock hr _ => exact { h with drains := h.drains.imp_left fun hd => by rw [hr, willDrain_lock] at hd; exact hd }
  | unlock hr _ => exact { h with drains := h.drains.imp_left fun hd => by rw [hr, willDrain_unlock] at hd; exact hd }
  | closeCh hr hc =>
    exact { h with
      drains := h.drains.elim (fun hd => by rw [hr, hc] at hd; exact .inl hd) fun hx => by rw [hc] at hx; cases hx.1 }
  | rangeDone _ hb hc => exact { h with drains := .inr ⟨hc, hb⟩ }
  | nbDone hr hb =>
    refine { h with drains := ?_ }
    cases hc : s.closed with
    | true => exact .inr ⟨rfl, hb⟩
    | false =>
      exact h.drains.imp (fun hd => by rw [hr, hc, willDrain_nbDrain] at hd; exact hd)
        fun hx => by rw [hc] at hx; cases hx.1

theorem inv_reach {cfg : Cfg} {cap : Nat} {prog : List WI} (hp : willDrain false prog = true) {s : St}
    (h : Reach cfg cap prog s) : Inv cfg s := by
  induction h with
  | init => exact ⟨nofun, .inl hp, fun _ _ => nofun⟩
  | step _ hs ih => exact inv_step ih hs

/-- the worker has finished ⇒ the channel is closed and empty — in every interleaving -/
theorem closed_and_empty_at_end {cfg : Cfg} {cap : Nat} {prog : List WI} (hp : willDrain false prog = true)
    {s : St} (h : Reach cfg cap prog s) (hend : s.rest = []) : s.closed = true ∧ s.buf = [] := by
  cases (inv_reach hp h).drains with
  | inl hw => rw [hend, willDrain_nil] at hw; exact absurd hw (by decide)
  | inr hx => exact hx

/-- in every state of every interleaving in which the worker has finished, every connection ever
    offered has been handed to a user connection or closed -/
theorem none_parked_at_end {cfg : Cfg} {cap : Nat} {prog : List WI} (hp : willDrain false prog = true)
    (hre : cfg.recoverErr = true) {s : St} (h : Reach cfg cap prog s) (hend : s.rest = []) :
    ∀ c v, s.c.get c = some v → v = .handed ∨ v = .closed := by
  intro c v hv
  have inv := inv_reach hp h
  have he := closed_and_empty_at_end hp h hend
  cases v with
  | pooled => have := inv.pooledIn c hv; rw [he.2] at this; cases this
  | handed => exact Or.inl rfl
  | closed => exact Or.inr rfl
  | limbo => exact absurd hv (inv.noLimbo hre c)

/-- a work connection that arrives after the end is closed, not parked -/
theorem late_offer_closed {cfg : Cfg} {cap : Nat} {prog : List WI} (hp : willDrain false prog = true)
    (hre : cfg.recoverErr = true) {s s' : St} {c : Nat} {r : Res} (h : Reach cfg cap prog s) (hend : s.rest = [])
    (hs : step cfg s (.offer c) = some (s', r)) : s'.c.get c = some .closed ∧ s'.buf = [] := by
  have he := closed_and_empty_at_end hp h hend
  cases step_spec hs with
  | offerLate => exact ⟨Tbl.get_set_self _ c _, he.2⟩
  | offerLimbo _ _ hr => rw [hre] at hr; cases hr
  | offerPooled _ hc | offerFull _ hc => rw [he.1] at hc; cases hc

/-! ### progress: the worker is never stuck -/

/-- running a drain loop (blocking or not) to the empty buffer: worker steps only -/
theorem drain_rounds (cfg : Cfg) (i : WI) (hi : i = .rangeDrain ∨ i = .nbDrain) (tl : List WI) :
    ∀ (buf : List Nat) (s : St), s.buf = buf → s.rest = i :: tl →
      ∃ n s', run cfg s (List.replicate n .worker) = some s' ∧ s'.buf = [] ∧ s'.rest = i :: tl ∧
        s'.closed = s.closed ∧ s'.mu = s.mu := by
  intro buf
  induction buf with
  | nil => intro s hb hr; exact ⟨0, s, rfl, hb, hr, rfl, rfl⟩
  | cons c r ih =>
    intro s hb hr
    have hstep : step cfg s .worker =
        some ({ s with buf := r, c := s.c.set c .closed }, .drained c) := by
      cases hi with
      | inl h => subst h; simp only [step, hr, hb]
      | inr h => subst h; simp only [step, hr, hb]
    obtain ⟨n, s', hrun, h1, h2, h3, h4⟩ := ih { s with buf := r, c := s.c.set c .closed } rfl hr
    exact ⟨n + 1, s', by simp only [List.replicate_succ, run, hstep]; exact hrun, h1, h2, h3, h4⟩

theorem run_append (cfg : Cfg) (l1 l2 : List Label) (s : St) :
    run cfg s (l1 ++ l2) = (run cfg s l1).bind fun s1 => run cfg s1 l2 := by
  induction l1 generalizing s with
  | nil => rfl
  | cons a t ih =>
    simp only [List.cons_append, run]
    cases step cfg s a with
    | none => rfl
    | some x => exact ih x.1

/-- the worker's position agrees with the channel and the mutex: what is left of the program still runs through -/
def RT (s : St) : Prop := runsThrough s.closed (decide (s.mu = .worker)) s.rest = true

theorem rt_step {cfg : Cfg} {s s' : St} {l : Label} {r : Res} (h : RT s)
    (hs : step cfg s l = some (s', r)) : RT s' := by
  unfold RT at h ⊢
  cases step_spec hs with
  | otherLock hm | otherUnlock hm => rw [hm] at h; exact h
  | lock hr hm | unlock hr hm => rw [hr, hm] at h; simpa [runsThrough] using h
  | closeCh hr hc | rangeDone hr _ hc => rw [hr, hc] at h; simpa [runsThrough, hc] using h
  | nbDone hr _ => rw [hr] at h; simpa [runsThrough] using h
  | _ => exact h

/-- what `runsThrough` asks of the channel (`c`: closed) and the mutex (`w`: held by the worker) in front of a step -/
theorem runsThrough_cons {c w : Bool} {i : WI} {tl : List WI} (h : runsThrough c w (i :: tl) = true) :
    match i with
    | .lock => w = false
    | .unlock => w = true
    | .closeCh => c = false
    | .rangeDrain => c = true
    | .nbDrain => True
    | .unknown => False := by
  cases i <;> cases c <;> cases w <;> simp [runsThrough] at h ⊢

/-- a program that `runsThrough` is never stuck — from any state in which nobody else holds ctl.mu
    the worker alone (whatever was offered or taken before) reaches its end -/
theorem worker_finishes (cfg : Cfg) : ∀ (rest : List WI) (s : St), s.rest = rest → s.mu ≠ .other →
    runsThrough s.closed (decide (s.mu = .worker)) rest = true →
    ∃ n s', run cfg s (List.replicate n .worker) = some s' ∧ s'.rest = [] := by
  intro rest
  induction rest with
  | nil => intro s hr _ _; exact ⟨0, s, rfl, hr⟩
  | cons i tl ih =>
    intro s hr hmu hgo
    -- after `k` drain rounds (for the two loops) one more worker step moves on to `tl`, which still runs through
    have one : ∀ {k : Nat} {s0 s1 : St}, run cfg s (List.replicate k .worker) = some s0 → RT s0 →
        step cfg s0 .worker = some (s1, .none) → s1.rest = tl → s1.mu ≠ .other →
        ∃ n s', run cfg s (List.replicate n .worker) = some s' ∧ s'.rest = [] := by
      intro k s0 s1 h0 rt0 h1 h2 h3
      have rt1 := rt_step rt0 h1
      rw [RT, h2] at rt1
      obtain ⟨n, s', hrun, hend⟩ := ih s1 h2 h3 rt1
      refine ⟨k + (1 + n), s', ?_, hend⟩
      rw [← List.replicate_append_replicate, run_append, h0, ← List.replicate_append_replicate]
      simp only [Option.bind_some, List.replicate_one, List.cons_append, List.nil_append, run, h1]
      exact hrun
    have rt : RT s := by rw [RT, hr]; exact hgo
    have pre := runsThrough_cons hgo
    cases i with
    | lock =>
      have hm : s.mu = .free := by
        cases hm : s.mu with
        | free => rfl
        | other => exact absurd hm hmu
        | worker => simp [hm] at pre
      exact one (k := 0) (s1 := { s with mu := .worker, rest := tl }) rfl rt (by simp [step, hr, hm]) rfl nofun
    | unlock =>
      have hm : s.mu = .worker := of_decide_eq_true pre
      exact one (k := 0) (s1 := { s with mu := .free, rest := tl }) rfl rt (by simp [step, hr, hm]) rfl nofun
    | closeCh =>
      exact one (k := 0) (s1 := { s with closed := true, rest := tl }) rfl rt (by simp [step, hr, pre]) rfl hmu
    | rangeDrain =>
      obtain ⟨k, s0, h0, hb0, hr0, hc0, hm0⟩ := drain_rounds cfg .rangeDrain (Or.inl rfl) tl s.buf s rfl hr
      exact one (s1 := { s0 with rest := tl }) h0 (by rw [RT, hr0, hc0, hm0]; exact hgo)
        (by simp [step, hr0, hb0, hc0, pre]) rfl (hm0 ▸ hmu)
    | nbDrain =>
      obtain ⟨k, s0, h0, hb0, hr0, hc0, hm0⟩ := drain_rounds cfg .nbDrain (Or.inr rfl) tl s.buf s rfl hr
      exact one (s1 := { s0 with rest := tl }) h0 (by rw [RT, hr0, hc0, hm0]; exact hgo)
        (by simp [step, hr0, hb0]) rfl (hm0 ▸ hmu)
    | unknown => exact pre.elim

theorem rt_reach {cfg : Cfg} {cap : Nat} {prog : List WI} (hp : runsThrough false false prog = true) {s : St}
    (h : Reach cfg cap prog s) : RT s := by
  induction h with
  | init => exact hp
  | step _ hs ih => exact rt_step ih hs

/-! ### the program of the frp source tree (regenerated on every run) -/

/-- the worker of the source closes the pool and THEN drains it with a blocking loop, runs through
    (lock discipline, one close), and the registration path turns the closed pool into an error on which the
    caller closes; the send is the non-blocking `select … default` -/
theorem source_program_drains :
    willDrain false sourceProg = true ∧ runsThrough false false sourceProg = true ∧
    sourceCfg.recoverErr = true ∧ Gen.PoolFacts.registerSend = "select-default" := by
  decide +kernel

theorem source_none_parked {cap : Nat} {s : St} (h : Reach sourceCfg cap sourceProg s) (hend : s.rest = []) :
    (s.closed = true ∧ s.buf = []) ∧ ∀ c v, s.c.get c = some v → v = .handed ∨ v = .closed :=
  ⟨closed_and_empty_at_end source_program_drains.1 h hend,
   none_parked_at_end source_program_drains.1 source_program_drains.2.2.1 h hend⟩

/-- the worker of the source always reaches its end: from every reachable state, once whoever else holds
    ctl.mu has released it, the worker's own steps reach the end (no interleaving leaves it stuck) -/
theorem source_worker_finishes {cap : Nat} {s : St} (h : Reach sourceCfg cap sourceProg s) :
    ∃ ls s', run sourceCfg s ls = some s' ∧ s'.rest = [] := by
  have rt := rt_reach source_program_drains.2.1 h
  by_cases hm : s.mu = .other
  · have hstep : step sourceCfg s .otherUnlock = some ({ s with mu := .free }, .none) := by simp [step, hm]
    have rt' : RT { s with mu := .free } := rt_step rt hstep
    obtain ⟨n, s', hr, he⟩ := worker_finishes sourceCfg _ { s with mu := .free } rfl (by simp) rt'
    exact ⟨.otherUnlock :: List.replicate n .worker, s', by simp only [run, hstep]; exact hr, he⟩
  · obtain ⟨n, s', hr, he⟩ := worker_finishes sourceCfg _ s rfl hm rt
    exact ⟨_, s', hr, he⟩

/-! ### why the order matters: kernel-checked schedules for other programs -/

/-- "release the pooled connections first, without the lock": drain (non-blocking), lock, close, unlock -/
def earlyDrainProg : List WI := [.nbDrain, .lock, .closeCh, .unlock]

theorem earlyDrain_not_willDrain : willDrain false earlyDrainProg = false := by decide

/-- connection 0 is pooled while the session lives; the worker drains; connection 1 is offered while somebody
    else holds ctl.mu (any time before the close does); the worker locks, closes, unlocks: finished, channel
    closed, connection 1 parked in it for ever -/
def earlyDrainSchedule : List Label :=
  [.offer 0, .otherLock, .worker, .worker, .offer 1, .otherUnlock, .worker, .worker, .worker]

theorem earlyDrain_strands_witness :
    ∃ s, run ⟨true⟩ (init 10 earlyDrainProg) earlyDrainSchedule = some s ∧ s.rest = [] ∧ s.closed = true ∧
      s.c.get 0 = some .closed ∧ s.c.get 1 = some .pooled ∧ noneParked s = false := by
  refine ⟨_, rfl, ?_⟩
  decide

/-- nothing ever takes the parked connection out: no label but `take` (GetWorkConn — which no user connection calls once the
    session's proxies are closed) changes the buffer of a finished session -/
theorem finished_buffer_stable {cfg : Cfg} {s s' : St} {l : Label} {r : Res} (hend : s.rest = [])
    (hc : s.closed = true) (hl : l ≠ .take) (hs : step cfg s l = some (s', r)) :
    s'.buf = s.buf ∧ s'.rest = [] ∧ s'.closed = true := by
  cases step_spec hs with
  | take => exact absurd rfl hl
  | offerPooled _ hc' | offerFull _ hc' => rw [hc] at hc'; cases hc'
  | offerLate | offerLimbo | otherLock | otherUnlock => exact ⟨rfl, hend, hc⟩
  | lock hr | unlock hr | closeCh hr | drainOne hr | rangeDone hr | nbDone hr => rw [hend] at hr; cases hr

/-- the same program with the blocking drain kept after the close is fine (the early drain is harmless) -/
theorem earlyDrain_plus_range_ok : willDrain false [.nbDrain, .lock, .closeCh, .rangeDrain, .unlock] = true := by
  decide

/-- a drain before the close that blocks never ends; a close without a drain parks what is pooled; a
    non-blocking drain AFTER the close is as good as the blocking one -/
theorem other_orders_rejected :
    willDrain false [.lock, .rangeDrain, .closeCh, .unlock] = false ∧
    willDrain false [.lock, .closeCh, .unlock] = false ∧
    willDrain false [.lock, .nbDrain, .closeCh, .unlock] = false ∧
    willDrain false [.lock, .closeCh, .nbDrain, .unlock] = true := by
  decide

end End
end C11
end Frp
