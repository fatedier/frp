import Frp.Model.LockDisc
import Frp.Model.Crash
import Frp.Gen.LockFacts
import Frp.Gen.NilFacts
import Frp.Gen.MsgSchema
import Frp.Model.LockOrder
import Frp.Gen.LockOrder
import Frp.Lemmas.RegCtl
import Frp.Lemmas.UserInput
import Frp.Gen.IndexFacts
import Frp.Gen.PluginClose
import Frp.Lemmas.SshGw
import Frp.Lemmas.LockBal
import Frp.Gen.LockBalance
import Frp.Gen.MapCensus
/-
  C16 — No input or interleaving crashes or wedges frps or frpc (partial).

  What the file proves, in the order of its sections.  "Regenerated" = a table under Frp/Gen that the translator
  extracts from /repo on every run; the theorems about such a table are evaluations that fail when the table changes.

  CRASHES
   * lock discipline: every access to a designated shared table happens under the table's own mutex
     (regenerated Gen/LockFacts.lean);
   * channels: every close site is guarded or a pinned single-owner site, every send on a channel that is closed
     somewhere is recover-wrapped or a pinned same-goroutine site (same table);
   * NewControl: message-derived numbers are validated before they size an allocation or bound the work-connection loop;
   * dispatcher: what one frame can do to the session it arrives on, and that it does nothing to any other;
   * the readers behind work / visitor connections: every use of a pointer-typed message field (regenerated
     Gen/NilFacts.lean) is nil-guarded or nil-tolerant; no frame on a udp work connection can kill frps or touch another
     connection (all histories);
   * RegisterWorkConn against the session teardown: with the deferred recover (regenerated fact) no interleaving of
     offers with the worker's closing steps kills frps; without it one does, whatever is tested up front;
   * the reader of a udp proxy's user socket against the proxy's Close; discoverConn on the client.

  WEDGES
   * lock order (regenerated Gen/LockOrder.lean): the graph "mutex b is acquired while mutex a is held" over all mutexes
     of client/ pkg/ server/ — acquisitions through calls included — has no cycle and no self-loop, no function locks an
     expression it holds;
   * RegisterControl: every control that enters the table is started (regenerated: no `return` between Add and Start),
     hence from every reachable state of any chain of overlapping logins with one run id every login is answered and
     every control closes; a control that is skipped when superseded wedges the run id for ever;
   * (client) StartWorkConn addresses: an address that does not resolve reaches go-proxyproto as a typed nil and kills
     frpc when the proxy has a proxyProtocolVersion (known finding, switch `Crash.startWorkAddrIsFixed`).

  The predicate that the engine `crash` (messages against a real frps / frpc in a sacrificial child) evaluates on
  what it observed.

  THE USER SIDE
   * the parsers behind the user-facing listeners (tcpmux CONNECT port, vhost http / https ports): every indexing /
     slicing expression of pkg/util/http, pkg/util/vhost, pkg/util/tcpmux (regenerated Gen/IndexFacts.lean) is a map
     lookup or dominated by a guard that implies Go's bounds check (judgement `IdxSite.ok`, soundness `index_ok_sound`
     for every assignment of lengths and integers); hasPort / CanonicalHost with Go's indexing explicit never panic
     and agree with the model `Host.canonicalHost` on every input;
   * frpc teardown against ACTIVE requests of the plugins that embed an http.Server: every `Close()` of
     pkg/plugin/client (regenerated Gen/PluginClose.lean) makes only calls that cannot wait for a user; with such a
     Close the worker reaches the next login under every interleaving with the users, whatever is active; with a
     Shutdown without deadline, tcpMux off and one request that does not end it never does;
   * the ssh tunnel gateway (pkg/ssh): the six indexing / slicing expressions (regenerated `sshSites`, with HOW each
     bound was computed) under the same judgement; the request loop of TunnelServer.handleNewChannel with Go's integer
     arithmetic explicit (`SshGw.handleReq`: the type `end` is computed in and the width of `int` are parameters):
     computed in uint32 it panics exactly for an `exec` payload of more than four bytes with a length prefix
     0xFFFFFFFC … 0xFFFFFFFF (known finding), computed in a 64-bit type never; x/crypto/ssh's Unmarshal of the
     forward request never slices out of range; one ssh connection as a fold over client events.
     Switch `sshExecArith` — NOT set by hand: read from the regenerated facts (`ssh_exec_shape`), the clauses
     `ssh_exec_code` / `ssh_conn_code` / `ssh_sites_guarded_code` are valid on both trees.

  LOCK BALANCE AND THE MAP CENSUS
   * lock balance (regenerated Gen/LockBalance.lean): no function body of client/ pkg/ server/ can be left with a mutex
     it locked still held (may-held set at every `return` and at the end of every body); what one such way out means for
     a session's `ctl.mu`: the session is never torn down (`LockBal`, all message sequences), while with balanced
     functions everything is handled and the teardown completes;
   * map census (regenerated Gen/MapCensus.lean): the lock discipline judges a designated list of shared tables — the
     census closes that list: every map-typed struct field that is written after construction is designated or pinned
     with its reason; in pkg/auth (one verifier object shared by all connection goroutines) no method assigns a map.

  Places where the code as it is in /repo violates the property are kept visible, each behind a
  switch that the integrator flips when the corresponding fix commit lands:
   * `precheckLockIsFixed`         — nathole.Controller.HandleVisitor reads clientCfgs without the mutex (§7 #6)
   * `Crash.poolCountIsFixed`      — Login.PoolCount < -10 ⇒ make(chan, negative) (§7 #4)
   * `Crash.discoverIsFixed`       — discoverConn.readLoop sends on a channel that Close closes
   * `Crash.startWorkAddrIsFixed`  — HandleTCPWorkConnection discards the error of net.ResolveTCPAddr
   * `Crash.udpForwardSendIsFixed` — ForwardUserConn hands a datagram over with a plain send on a channel that the udp
                                     proxy's Close closes
-/
namespace Frp
namespace C16
open LockDisc Crash
open Frp.Gen.LockFacts
open Frp.Gen.NilFacts

/-! ## Lock discipline of the shared tables -/

/-- `false` = /repo as it is (hooks/C16-fix-precheck-lock.patch not applied) -/
def precheckLockIsFixed : Bool := true

/-- §7 #6: the pre-check branch of HandleVisitor -/
def exc6 : String × String × String :=
  ("pkg/nathole/controller.go", "Controller.HandleVisitor", "pkg/nathole.Controller.clientCfgs")

/-- the full clause: every extracted access is synchronised -/
def AllGuardedFull : Prop := ∀ a ∈ accesses, a.ok = true

instance : Decidable AllGuardedFull := by unfold AllGuardedFull; infer_instance

def unguarded : List Access := accesses.filter (fun a => !a.ok)

/-- every access except (possibly) the known one is made under the table's mutex in a covering mode -/
theorem all_guarded_partial : ∀ a ∈ accesses, a.ok = true ∨ a.site = exc6 := by
  decide +kernel

/-- exactly which sites are not synchronised on this tree -/
theorem unguarded_exact :
    unguarded.map Access.site = if precheckLockIsFixed then [] else [exc6] := by
  decide +kernel

/-- the full clause holds exactly when the fix is in (so: it is FALSE on the unrepaired tree, and the
    statement to keep once `precheckLockIsFixed` is flipped is `all_guarded`) -/
theorem all_guarded_status : AllGuardedFull ↔ precheckLockIsFixed = true := by
  decide +kernel

theorem all_guarded (h : precheckLockIsFixed = true) : ∀ a ∈ accesses, a.ok = true :=
  all_guarded_status.mpr h

/-- witness on the unrepaired tree: an unlocked READ of clientCfgs in HandleVisitor while
    ListenClient / CloseClient write it under the lock -/
theorem all_guarded_witness (h : precheckLockIsFixed = false) :
    ∃ a ∈ accesses, a.site = exc6 ∧ a.kind = .read ∧ a.held = .none ∧ a.ok = false := by
  have hu := unguarded_exact
  simp only [h] at hu
  revert hu
  decide +kernel

/-! ### the extractor is not blind: pinned sites and counts -/

def Access.key (a : Access) : String × String × Kind := (a.fn, a.obj, a.kind)

def keys : List (String × String × Kind) := accesses.map Access.key

def objCount (o : String) : Nat := (accesses.filter (fun a => a.obj == o)).length

def guardedCount (o : String) (n : Need) : Nat :=
  (accesses.filter (fun a => a.obj == o && a.kind.need == n && a.ctx != .ctor && covers a.held a.kind.need)).length

/-- the lookup with the kind compared first: `decide` compares strings byte by byte -/
theorem keys_contains (k : String × String × Kind) :
    keys.contains k = accesses.any (fun a => a.kind == k.2.2 && a.obj == k.2.1 && a.fn == k.1) := by
  obtain ⟨fn, obj, kind⟩ := k
  rw [keys, List.contains_eq_any_beq, List.any_map]
  congr 1
  funext a
  show ((fn, obj, kind) == (a.fn, a.obj, a.kind)) = _
  rw [Bool.eq_iff_iff]
  simp only [beq_iff_eq, Prod.mk.injEq, Bool.and_eq_true]
  exact ⟨fun ⟨h1, h2, h3⟩ => ⟨⟨h3.symm, h2.symm⟩, h1.symm⟩, fun ⟨⟨h3, h2⟩, h1⟩ => ⟨h1.symm, h2.symm, h3.symm⟩⟩

/-- at least one known site per designated table, with the kind the code has there -/
theorem known_sites_present :
    [ ("ControlManager.Add", "server.ControlManager.ctlsByRunID", Kind.write),
      ("ControlManager.Del", "server.ControlManager.ctlsByRunID", .delete),
      ("ControlManager.GetByID", "server.ControlManager.ctlsByRunID", .read),
      ("ControlManager.Close", "server.ControlManager.ctlsByRunID", .range),
      ("Control.worker", "server.Control.proxies", .range),
      ("Control.RegisterProxy", "server.Control.proxies", .write),
      ("Control.CloseProxy", "server.Control.proxies", .delete),
      ("Manager.Add", "server/proxy.Manager.pxys", .write),
      ("Manager.Del", "server/proxy.Manager.pxys", .delete),
      ("Manager.GetByName", "server/proxy.Manager.pxys", .read),
      ("Routers.Add", "pkg/util/vhost.Routers.indexByDomain", .write),
      ("Routers.Get", "pkg/util/vhost.Routers.indexByDomain", .read),
      ("Routers.Add", "pkg/util/vhost.Routers.exist()", .callR),
      ("Manager.Listen", "server/visitor.Manager.listeners", .write),
      ("Manager.NewConn", "server/visitor.Manager.listeners", .read),
      ("Manager.CloseListener", "server/visitor.Manager.listeners", .delete),
      ("Controller.ListenClient", "pkg/nathole.Controller.clientCfgs", .write),
      ("Controller.CloseClient", "pkg/nathole.Controller.clientCfgs", .delete),
      ("Controller.HandleVisitor", "pkg/nathole.Controller.clientCfgs", .read),
      ("Controller.HandleVisitor", "pkg/nathole.Controller.sessions", .write),
      ("Controller.HandleVisitor", "pkg/nathole.Controller.sessions", .delete),
      ("Controller.HandleClient", "pkg/nathole.Controller.sessions", .read),
      ("Analyzer.GetRecommandBehaviors", "pkg/nathole.Analyzer.records", .write),
      ("Analyzer.Clean", "pkg/nathole.Analyzer.records", .delete),
      ("transporterImpl.DispatchWithType", "pkg/transport.transporterImpl.registry", .read),
      ("transporterImpl.registerMsgChan", "pkg/transport.transporterImpl.registry", .write),
      ("TCPGroupCtl.Listen", "server/group.TCPGroupCtl.groups", .write),
      ("TCPGroup.CloseListener", "server/group.?.groups", .delete),
      ("TCPGroup.CloseListener", "server/group.TCPGroup.lns", .assign),
      ("HTTPGroupController.Register", "server/group.HTTPGroupController.groups", .write),
      ("HTTPGroup.Register", "server/group.HTTPGroup.createFuncs", .write),
      ("HTTPGroup.createConn", "server/group.HTTPGroup.createFuncs", .read),
      ("TCPMuxGroupCtl.Listen", "server/group.TCPMuxGroupCtl.groups", .write),
      ("TCPMuxGroup.CloseListener", "server/group.TCPMuxGroup.lns", .assign),
      ("Manager.Acquire", "server/ports.Manager.usedPorts", .write),
      ("Manager.Acquire", "server/ports.Manager.freePorts", .delete),
      ("Manager.Release", "server/ports.Manager.usedPorts", .delete),
      ("Manager.cleanReservedPortsWorker", "server/ports.Manager.reservedPorts", .delete),
      ("Manager.UpdateAll", "client/proxy.Manager.proxies", .write),
      ("Manager.HandleWorkConn", "client/proxy.Manager.proxies", .read),
      ("Manager.UpdateAll", "client/visitor.Manager.cfgs", .write),
      ("Manager.startVisitor", "client/visitor.Manager.visitors", .write),
      ("Manager.UpdateAll", "client/visitor.Manager.startVisitor()", .callW),
      ("Manager.TransferConn", "client/visitor.Manager.visitors", .read)
    ].all (fun k => keys.contains k) = true := by
  simp only [keys_contains]
  decide +kernel

/-- `counts_pinned` and `tables_are_shared` in one evaluation: they ask about the same names in the same table, and
    `decide` compares strings byte by byte -/
theorem designated_tables_counted :
    (140 ≤ accesses.length ∧
      7 ≤ objCount "server.ControlManager.ctlsByRunID" ∧
      4 ≤ objCount "server.Control.proxies" ∧
      5 ≤ objCount "server/proxy.Manager.pxys" ∧
      5 ≤ objCount "pkg/util/vhost.Routers.indexByDomain" ∧
      4 ≤ objCount "server/visitor.Manager.listeners" ∧
      5 ≤ objCount "pkg/nathole.Controller.clientCfgs" ∧
      4 ≤ objCount "pkg/nathole.Controller.sessions" ∧
      6 ≤ objCount "pkg/nathole.Analyzer.records" ∧
      3 ≤ objCount "pkg/transport.transporterImpl.registry" ∧
      20 ≤ objCount "server/ports.Manager.freePorts" + objCount "server/ports.Manager.usedPorts"
            + objCount "server/ports.Manager.reservedPorts" ∧
      10 ≤ objCount "client/proxy.Manager.proxies" ∧
      11 ≤ objCount "client/visitor.Manager.cfgs" + objCount "client/visitor.Manager.visitors") ∧
    ([ "server.ControlManager.ctlsByRunID", "server.Control.proxies", "server/proxy.Manager.pxys",
        "pkg/util/vhost.Routers.indexByDomain", "server/visitor.Manager.listeners",
        "pkg/nathole.Controller.clientCfgs", "pkg/nathole.Controller.sessions", "pkg/nathole.Analyzer.records",
        "pkg/transport.transporterImpl.registry", "server/group.TCPGroupCtl.groups",
        "server/group.HTTPGroupController.groups", "server/group.TCPMuxGroupCtl.groups",
        "server/group.HTTPGroup.createFuncs", "server/ports.Manager.usedPorts", "server/ports.Manager.freePorts",
        "server/ports.Manager.reservedPorts", "client/proxy.Manager.proxies", "client/visitor.Manager.cfgs",
        "client/visitor.Manager.visitors"
      ].all (fun o => decide (1 ≤ guardedCount o .w) && decide (1 ≤ guardedCount o .r)) = true) := by
  decide +kernel

/-- pinned lower bounds: an extractor that loses sites makes this fail -/
theorem counts_pinned :
    140 ≤ accesses.length ∧
    7 ≤ objCount "server.ControlManager.ctlsByRunID" ∧
    4 ≤ objCount "server.Control.proxies" ∧
    5 ≤ objCount "server/proxy.Manager.pxys" ∧
    5 ≤ objCount "pkg/util/vhost.Routers.indexByDomain" ∧
    4 ≤ objCount "server/visitor.Manager.listeners" ∧
    5 ≤ objCount "pkg/nathole.Controller.clientCfgs" ∧
    4 ≤ objCount "pkg/nathole.Controller.sessions" ∧
    6 ≤ objCount "pkg/nathole.Analyzer.records" ∧
    3 ≤ objCount "pkg/transport.transporterImpl.registry" ∧
    20 ≤ objCount "server/ports.Manager.freePorts" + objCount "server/ports.Manager.usedPorts"
          + objCount "server/ports.Manager.reservedPorts" ∧
    10 ≤ objCount "client/proxy.Manager.proxies" ∧
    11 ≤ objCount "client/visitor.Manager.cfgs" + objCount "client/visitor.Manager.visitors" :=
  designated_tables_counted.1

/-- every designated map is both WRITTEN under the write lock and READ under a lock somewhere:
    `all_guarded` is not about tables nobody shares -/
theorem tables_are_shared :
    [ "server.ControlManager.ctlsByRunID", "server.Control.proxies", "server/proxy.Manager.pxys",
      "pkg/util/vhost.Routers.indexByDomain", "server/visitor.Manager.listeners",
      "pkg/nathole.Controller.clientCfgs", "pkg/nathole.Controller.sessions", "pkg/nathole.Analyzer.records",
      "pkg/transport.transporterImpl.registry", "server/group.TCPGroupCtl.groups",
      "server/group.HTTPGroupController.groups", "server/group.TCPMuxGroupCtl.groups",
      "server/group.HTTPGroup.createFuncs", "server/ports.Manager.usedPorts", "server/ports.Manager.freePorts",
      "server/ports.Manager.reservedPorts", "client/proxy.Manager.proxies", "client/visitor.Manager.cfgs",
      "client/visitor.Manager.visitors"
    ].all (fun o => decide (1 ≤ guardedCount o .w) && decide (1 ≤ guardedCount o .r)) = true :=
  designated_tables_counted.2

/-- the "caller holds the lock" table the extractor used, and the only constructor context -/
theorem helpers_pinned :
    helpers = [("pkg/util/vhost", "Routers.exist", "R"), ("client/visitor", "Manager.startVisitor", "W")] ∧
    ((accesses.filter (fun a => a.ctx == .ctor)).all (fun a => a.file == "server/ports/ports.go" && a.fn == "NewManager")) = true ∧
    ((accesses.filter (fun a => a.ctx == .helper)).all (fun a => a.fn == "Routers.exist" || a.fn == "Manager.startVisitor")) = true :=
  ⟨rfl, by decide +kernel⟩

/-! ## Channels: close sites and sends on closable channels -/

/-- close sites without a syntactic guard that are single-owner by construction (read from the code):
    the closing function runs once per object -/
def closeOwners : List (String × String × String) :=
  [ ("client/control.go", "Control.worker", "ctl.doneCh"),                 -- worker: one goroutine per Control (Run)
    ("client/proxy/proxy_wrapper.go", "Wrapper.Stop", "pw.closeCh"),       -- Stop: once, by Manager.Close/UpdateAll after removal from the map (under Manager.mu)
    ("client/proxy/proxy_wrapper.go", "Wrapper.Stop", "pw.healthNotifyCh"),
    ("pkg/msg/handler.go", "Dispatcher.readLoop", "d.doneCh"),             -- one readLoop per Dispatcher; closes and returns
    ("pkg/nathole/discovery.go", "discoverConn.Close", "c.messageChan"),   -- deferred once by Discover (but see sendExc)
    ("pkg/util/net/udp.go", "ListenUDP", "l.acceptCh"),                    -- the reader goroutine closes and returns
    ("pkg/util/net/udp.go", "ListenUDP", "l.writeCh"),
    ("pkg/util/vhost/vhost.go", "Listener.Close", "l.accept"),             -- once per proxy Close (BaseProxy.Close)
    ("server/control.go", "Control.worker", "ctl.workConnCh"),             -- worker: one goroutine per Control (Start)
    ("server/control.go", "Control.worker", "ctl.doneCh"),
    ("server/group/tcp.go", "TCPGroup.CloseListener", "tg.acceptCh"),      -- last member leaves, under ctl.mu+tg.mu, group removed in the same section (8556715)
    ("server/group/tcp.go", "TCPGroupListener.Close", "ln.closeCh"),       -- once per proxy Close
    ("server/group/tcpmux.go", "TCPMuxGroup.CloseListener", "tmg.acceptCh"),
    ("server/group/tcpmux.go", "TCPMuxGroupListener.Close", "ln.closeCh") ]

/-- sends without recover on a channel that is closed somewhere, where sender and closer are the
    same goroutine / the same function -/
def sendOwners : List (String × String × String) :=
  [ ("client/visitor/xtcp.go", "XTCPVisitor.openTunnel", "immediateTrigger"),  -- local, send precedes the deferred close
    ("pkg/util/net/kcp.go", "ListenKcp", "l.acceptCh"),                        -- the accept goroutine closes, then returns
    ("pkg/util/net/udp.go", "ListenUDP", "l.acceptCh") ]

/-- known finding: the reader goroutine's plain send races with (and, when blocked on the full buffer,
    deterministically loses against) the `close(c.messageChan)` of the deferred Close -/
def sendExc : String × String × String :=
  ("pkg/nathole/discovery.go", "discoverConn.readLoop", "c.messageChan")

/-- known finding: the reader of a udp proxy's user socket hands a datagram over with a plain send on the
    channel its caller closes (server/proxy/udp.go UDPProxy.Close, client/visitor/sudp.go SUDPVisitor.Close) -/
def sendExcUdp : String × String × String :=
  ("pkg/proto/udp/udp.go", "ForwardUserConn", "sendCh")

/-- the unguarded sends expected on this tree, by switch -/
def sendExcs : List (String × String × String) :=
  (if discoverIsFixed then [] else [sendExc]) ++ (if udpForwardSendIsFixed then [] else [sendExcUdp])

def ClosesOk : Prop := ∀ c ∈ closes, c.okWith closeOwners = true
def SendsOkFull : Prop := ∀ s ∈ sends, s.okWith sendOwners = true
instance : Decidable ClosesOk := by unfold ClosesOk; infer_instance
instance : Decidable SendsOkFull := by unfold SendsOkFull; infer_instance

/-- every close( site: once / closed-flag / select-default / local channel, or a pinned single owner -/
theorem closes_guarded : ∀ c ∈ closes, c.okWith closeOwners = true := by
  decide +kernel

theorem sends_guarded_partial : ∀ s ∈ sends, s.okWith sendOwners = true ∨ s.site = sendExc ∨ s.site = sendExcUdp := by
  decide +kernel

/-- exactly which sends are neither recover-wrapped nor same-goroutine on this tree -/
theorem sends_unguarded_exact :
    ((sends.filter (fun s => !s.okWith sendOwners)).map SendSite.site) = sendExcs := by
  decide +kernel

theorem sends_guarded_status : SendsOkFull ↔ (discoverIsFixed = true ∧ udpForwardSendIsFixed = true) := by
  decide +kernel

theorem sends_guarded (h : discoverIsFixed = true ∧ udpForwardSendIsFixed = true) : ∀ s ∈ sends, s.okWith sendOwners = true :=
  sends_guarded_status.mpr h

/-- the sites the property text names are there, with the guard the code has -/
theorem channel_sites_present :
    38 ≤ closes.length ∧ 20 ≤ sends.length ∧
    (closes.map CloseSite.site).contains ("server/control.go", "Control.worker", "ctl.workConnCh") = true ∧
    (closes.map CloseSite.site).contains ("server/group/tcp.go", "TCPGroup.CloseListener", "tg.acceptCh") = true ∧
    (closes.map CloseSite.site).contains ("pkg/util/vhost/vhost.go", "Listener.Close", "l.accept") = true ∧
    (closes.map (fun c => (c.site, c.guard))).contains
        (("server/proxy/xtcp.go", "XTCPProxy.Close", "pxy.closeCh"), CloseGuard.once) = true ∧
    (closes.map (fun c => (c.site, c.guard))).contains
        (("pkg/util/net/listener.go", "InternalListener.Close", "l.acceptCh"), CloseGuard.flag) = true ∧
    (sends.map (fun s => (s.site, s.guard))).contains
        (("server/control.go", "Control.RegisterWorkConn", "ctl.workConnCh"), SendGuard.deferRecover) = true ∧
    (sends.map (fun s => (s.site, s.guard))).contains
        (("server/group/tcp.go", "TCPGroup.worker", "tg.acceptCh"), SendGuard.panicToError) = true ∧
    (sends.map (fun s => (s.site, s.guard))).contains
        (("server/group/tcpmux.go", "TCPMuxGroup.worker", "tmg.acceptCh"), SendGuard.panicToError) = true ∧
    (sends.map (fun s => (s.site, s.guard))).contains
        (("pkg/util/vhost/vhost.go", "Muxer.handle", "l.accept"), SendGuard.panicToError) = true ∧
    (sends.map (fun s => (s.site, s.guard))).contains
        (("pkg/util/net/listener.go", "InternalListener.PutConn", "l.acceptCh"), SendGuard.panicToError) = true ∧
    (sends.map (fun s => (s.site, s.guard))).contains
        (("pkg/transport/message.go", "transporterImpl.DispatchWithType", "ch"), SendGuard.panicToError) = true ∧
    (sends.map (fun s => (s.site, s.guard))).contains
        (("pkg/proto/udp/udp.go", "Forwarder", "sendCh"), SendGuard.panicToError) = true ∧
    (sends.map SendSite.site).contains sendExcUdp = true := by
  decide +kernel

/-! ## Message-derived numbers are validated before they size an allocation (NewControl) -/

/-- the model is the code: the statements of NewControl in front of the allocation, as they are in /repo -/
theorem newcontrol_source :
    newControlPre =
      (if poolCountIsFixed then
        ["poolCount := loginMsg.PoolCount",
         "if poolCount > int(serverCfg.Transport.MaxPoolCount) { poolCount = int(serverCfg.Transport.MaxPoolCount) }",
         "if poolCount < 0 { poolCount = 0 }"]
      else
        ["poolCount := loginMsg.PoolCount",
         "if poolCount > int(serverCfg.Transport.MaxPoolCount) { poolCount = int(serverCfg.Transport.MaxPoolCount) }"]) ∧
    workConnChCap = "poolCount + 10" :=
  ⟨rfl, rfl⟩

/-- the full clause, for whichever variant `fixed` selects -/
def ChanCapFull (fixed : Bool) : Prop :=
  ∀ maxPool login : Int, 0 ≤ maxPool → 0 ≤ chanCap fixed maxPool login

theorem poolCount_false (maxPool login : Int) : poolCount false maxPool login = min login maxPool := by
  simp only [poolCount, Bool.false_and, Bool.false_eq_true, if_false]
  omega

theorem poolCount_true (maxPool login : Int) : poolCount true maxPool login = max 0 (min login maxPool) := by
  simp only [poolCount, Bool.true_and, decide_eq_true_eq]
  omega

theorem chanCap_le {fixed : Bool} {maxPool login : Int} (hmax : 0 ≤ maxPool) :
    chanCap fixed maxPool login ≤ maxPool + 10 := by
  cases fixed <;> simp only [chanCap, poolCount_false, poolCount_true] <;> omega

/-- as the code is: non-negative only for PoolCount ≥ -10 -/
theorem chanCap_nonneg_partial {maxPool login : Int} (hmax : 0 ≤ maxPool) (h : -10 ≤ login) :
    0 ≤ chanCap false maxPool login := by
  rw [chanCap, poolCount_false]
  omega

/-- §7 #4: every PoolCount below -10 makes the capacity negative, whatever maxPoolCount is -/
theorem chanCap_negative {maxPool login : Int} (hmax : 0 ≤ maxPool) (h : login < -10) :
    chanCap false maxPool login < 0 := by
  rw [chanCap, poolCount_false]
  omega

theorem chanCap_witness : ¬ ChanCapFull false := by
  intro h
  have := h 5 (-11) (by decide)
  revert this
  decide

/-- a negative capacity kills frps: `makechan` panics in a goroutine that has no recover -/
theorem login_kills_frps {maxPool login : Int} (hmax : 0 ≤ maxPool) :
    loginOutcome false maxPool login = .processDies ↔ login < -10 := by
  simp only [loginOutcome, makechanPanics, chanCap, poolCount_false, decide_eq_true_eq]
  split
  · exact ⟨fun _ => by omega, fun _ => rfl⟩
  · exact ⟨nofun, fun _ => by omega⟩

/-- repaired: non-negative (and bounded by maxPool + 10) for EVERY PoolCount -/
theorem chanCap_nonneg_fixed : ChanCapFull true := by
  intro maxPool login hmax
  rw [chanCap, poolCount_true]
  omega

theorem login_never_kills_fixed {maxPool login : Int} (hmax : 0 ≤ maxPool) :
    loginOutcome true maxPool login = .alive := by
  unfold loginOutcome makechanPanics
  have := chanCap_nonneg_fixed maxPool login hmax
  simp only [decide_eq_true_eq]
  rw [if_neg (by omega)]

/-- the statement for the tree as selected by the switch -/
theorem chanCap_status : ChanCapFull poolCountIsFixed ↔ poolCountIsFixed = true := by
  cases h : poolCountIsFixed
  · simp only [Bool.false_eq_true, iff_false]; exact chanCap_witness
  · simp only [iff_true]; exact chanCap_nonneg_fixed

/-! ### the same unvalidated number bounds the work-connection loop

  `GetWorkConnFromPool` tries `poolCount+1` connections; for a negative poolCount it tries none and
  returns `(nil, nil)`.  So PoolCount ∈ [-10, -1] does not trip `makechan` but kills frps at the first
  use of any proxy of that session. -/

theorem attempts_pos_partial {maxPool login : Int} (hmax : 0 ≤ maxPool) (h : 0 ≤ login) :
    1 ≤ workConnAttempts false maxPool login := by
  rw [workConnAttempts, poolCount_false]
  omega

theorem negative_pool_nil_workconn {maxPool login : Int} (hmax : 0 ≤ maxPool) (h : login < 0) :
    getWorkConnReturnsNil false maxPool login = true := by
  simp only [getWorkConnReturnsNil, workConnAttempts, poolCount_false, decide_eq_true_eq]
  omega

theorem attempts_pos_fixed {maxPool login : Int} (hmax : 0 ≤ maxPool) :
    1 ≤ workConnAttempts true maxPool login := by
  have := hmax  -- the bound holds for every `maxPool`
  rw [workConnAttempts, poolCount_true]
  omega

/-- every negative PoolCount is fatal for the unrepaired frps, at the login or at the first use of a proxy -/
theorem negative_pool_kills_frps {maxPool login : Int} (hmax : 0 ≤ maxPool) (h : login < 0) :
    loginOutcome false maxPool login = .processDies ∨ proxyUseOutcome false maxPool login = .processDies := by
  right
  unfold proxyUseOutcome
  rw [negative_pool_nil_workconn hmax h]
  rfl

/-- no PoolCount is fatal for the repaired frps -/
theorem pool_safe_fixed {maxPool login : Int} (hmax : 0 ≤ maxPool) :
    loginOutcome true maxPool login = .alive ∧ proxyUseOutcome true maxPool login = .alive := by
  refine ⟨login_never_kills_fixed hmax, ?_⟩
  unfold proxyUseOutcome getWorkConnReturnsNil
  have := attempts_pos_fixed (login := login) hmax
  simp only [decide_eq_true_eq]
  rw [if_neg (by omega)]

theorem pool_safe_partial {maxPool login : Int} (hmax : 0 ≤ maxPool) (h : 0 ≤ login) :
    loginOutcome false maxPool login = .alive ∧ proxyUseOutcome false maxPool login = .alive := by
  constructor
  · cases hl : loginOutcome false maxPool login with
    | alive => rfl
    | processDies => have := (login_kills_frps hmax).mp hl; omega
  · unfold proxyUseOutcome getWorkConnReturnsNil
    have := attempts_pos_partial hmax h
    simp only [decide_eq_true_eq]
    rw [if_neg (by omega)]

/-! ## Dispatcher totality: what one frame can do -/

/-- a type nobody registered is read and dropped without any effect on the session -/
theorem unhandled_no_effect {hs : List String} {s : Sess} {t : String} (h : hs.contains t = false) :
    readLoopStep hs s (.known t) = s := by
  unfold readLoopStep
  split
  · rfl
  · simp only [h, Bool.false_eq_true, if_false]

/-- only registered types ever reach a handler -/
theorem handled_only_registered {hs : List String} {s : Sess} {f : Frame} :
    ∀ t ∈ (readLoopStep hs s f).handled, t ∈ s.handled ∨ hs.contains t = true := by
  intro t ht
  unfold readLoopStep at ht
  split at ht
  · exact Or.inl ht
  · cases f with
    | bad => exact Or.inl ht
    | known u =>
      simp only at ht
      split at ht
      · rename_i hc
        simp only [List.mem_cons] at ht
        rcases ht with rfl | ht
        · exact Or.inr hc
        · exact Or.inl ht
      · exact Or.inl ht

/-- a malformed frame / unknown type byte ends the session it arrived on -/
theorem bad_ends_session {hs : List String} {s : Sess} :
    (readLoopStep hs s .bad).alive = false ∧ (readLoopStep hs s .bad).handled = s.handled := by
  unfold readLoopStep
  cases h : s.alive <;> simp [h]

theorem dead_stays_dead {hs : List String} {s : Sess} {f : Frame} (h : s.alive = false) :
    readLoopStep hs s f = s := by
  unfold readLoopStep
  simp [h]

theorem deliver_eq_modify {hs : List String} : ∀ (ss : List Sess) (i : Nat) (f : Frame),
    deliver hs ss i f = ss.modify i (readLoopStep hs · f)
  | [], _, _ => (List.modify_nil _ _).symm
  | _ :: _, 0, _ => rfl
  | s :: rest, i + 1, f => congrArg (s :: ·) (deliver_eq_modify rest i f)

theorem deliver_length {hs : List String} : ∀ (ss : List Sess) (i : Nat) (f : Frame),
    (deliver hs ss i f).length = ss.length :=
  fun ss i f => by rw [deliver_eq_modify, List.length_modify]

/-- whatever arrives on session i, every other session is untouched -/
theorem frame_confined {hs : List String} : ∀ (ss : List Sess) (i j : Nat) (f : Frame), i ≠ j →
    (deliver hs ss i f)[j]? = ss[j]? :=
  fun ss i j f h => by rw [deliver_eq_modify, List.getElem?_modify_ne _ _ h]

/-- for every history of frames: a session that received nothing is exactly as it was -/
theorem history_confined {hs : List String} (j : Nat) :
    ∀ (evs : List (Nat × Frame)) (ss : List Sess), (∀ e ∈ evs, e.1 ≠ j) → (run hs ss evs)[j]? = ss[j]? :=
  fun _ ss h => foldl_invariant (P := fun acc => acc[j]? = ss[j]?) rfl
    (fun acc e he hacc => (frame_confined acc e.1 j e.2 (h e he)).trans hacc)

/-- the first message of a connection: anything but the three session-opening types closes it -/
theorem firstMsg_total (f : Frame) :
    firstMsg f = .closed ∨ f = .known "Login" ∨ f = .known "NewWorkConn" ∨ f = .known "NewVisitorConn" := by
  unfold firstMsg
  split
  · exact Or.inr (Or.inl rfl)
  · exact Or.inr (Or.inr (Or.inl rfl))
  · exact Or.inr (Or.inr (Or.inr rfl))
  · exact Or.inl rfl

/-- the model's handler tables are the code's: regenerated facts, pinned -/
theorem dispatch_facts :
    serverHandlers = [("NewProxy", false), ("Ping", false), ("NatHoleVisitor", true), ("NatHoleClient", true),
                      ("NatHoleReport", true), ("CloseProxy", false)] ∧
    clientHandlers = [("ReqWorkConn", true), ("NewProxyResp", false), ("NatHoleResp", false), ("Pong", false)] ∧
    serverHandlersDefault = false ∧ clientHandlersDefault = false ∧
    firstMsgCases = ["Login", "NewWorkConn", "NewVisitorConn"] ∧ firstMsgDefaultCloses = true ∧
    (serverHandlers.all (fun h => (Frp.Gen.MsgSchema.registry.map Prod.snd).contains h.1)) = true ∧
    (clientHandlers.all (fun h => (Frp.Gen.MsgSchema.registry.map Prod.snd).contains h.1)) = true ∧
    (firstMsgCases.all (fun t => (Frp.Gen.MsgSchema.registry.map Prod.snd).contains t)) = true ∧
    Frp.Gen.MsgSchema.registry.length = 18 :=
  ⟨rfl, rfl, rfl, rfl, rfl, rfl, by decide +kernel⟩

/-- every registered message type is, on an established frps session, either handled or ignored
    without effect -/
theorem every_type_handled_or_ignored (s : Sess) (hs : s.alive = true) :
    ∀ t ∈ Frp.Gen.MsgSchema.registry.map Prod.snd,
      let s' := readLoopStep (serverHandlers.map Prod.fst) s (.known t)
      s'.alive = true ∧ (s' = s ∨ s'.handled = t :: s.handled) := by
  intro t _
  simp only [readLoopStep, hs, Bool.not_true, Bool.false_eq_true, if_false]
  split
  · refine ⟨?_, Or.inr rfl⟩
    rfl
  · exact ⟨hs, Or.inl rfl⟩

/-! ## Readers of work / visitor connections: pointer-typed message fields -/

/-- methods that are written for nil receivers, read from the Go source:
    net/udpsock.go `func (a *UDPAddr) String() string { if a == nil { return "<nil>" } … }` -/
def nilSafeMethods : List (String × String) := [("*net.UDPAddr", "String")]

/-- callees that test the address before using it, read from the Go source:
    net/udpsock_posix.go `func (c *UDPConn) writeTo(b, addr) { … if addr == nil { return 0, errMissingAddress } … }`
    (WriteToUDP passes its argument straight to writeTo) -/
def nilTolerantCallees : List String := ["udpConn.WriteToUDP"]

def PtrUsesOk : Prop := ∀ u ∈ ptrUses, u.okWith nilSafeMethods nilTolerantCallees = true
instance : Decidable PtrUsesOk := by unfold PtrUsesOk; infer_instance

/-- every use of a pointer-typed message field anywhere in client/ pkg/ server/ is under a nil guard,
    or is a nil-safe method / nil-tolerant callee / a copy / a comparison with nil — over the facts
    regenerated from the tree on this run -/
theorem ptr_uses_guarded : ∀ u ∈ ptrUses, u.okWith nilSafeMethods nilTolerantCallees = true := by
  decide +kernel

/-- the extractor is not blind: the pointer fields are the two addresses of UDPPacket and the known
    uses in both forwarders are there with the shape the code has -/
theorem ptr_sites_present :
    msgPtrFields = [("UDPPacket", "LocalAddr", "*net.UDPAddr"), ("UDPPacket", "RemoteAddr", "*net.UDPAddr")] ∧
    7 ≤ ptrUses.length ∧
    [ ("ForwardUserConn", "udpMsg.RemoteAddr", PtrUseKind.arg "udpConn.WriteToUDP" 1),
      ("Forwarder", "udpMsg.RemoteAddr", .method "String"),
      ("Forwarder", "udpMsg.RemoteAddr", .argFollowed "writerFn" 0),
      ("Forwarder>writerFn", "raddr <- writerFn", .method "String"),
      ("Forwarder>writerFn", "raddr <- writerFn", .argFollowed "NewUDPPacket" 2),
      ("Forwarder>writerFn>NewUDPPacket", "raddr <- NewUDPPacket", .store),
      ("SUDPProxy.InWorkConn", "m.RemoteAddr", .method "String"),
      ("SUDPProxy.InWorkConn", "m.LocalAddr", .method "String")
    ].all (fun k => (ptrUses.map (fun u => (u.fn, u.expr, u.kind))).contains k) = true :=
  ⟨rfl, by decide +kernel⟩

/-- an accepted use never kills, whatever the packet carries -/
theorem ok_use_never_kills {ns : List (String × String)} {tol : List String} {u : PtrUse}
    (h : u.okWith ns tol = true) (p : UdpPkt) : useOutcome ns tol u p = .alive := by
  unfold useOutcome
  unfold PtrUse.okWith at h
  cases hg : u.guarded <;> cases hd : u.derefs ns tol <;> simp_all

/-- a load through the field outside a guard kills, as soon as the peer leaves the field out
    (this is what `udpMsg.RemoteAddr.Port` in a reader amounts to) -/
theorem unguarded_deref_kills {ns : List (String × String)} {tol : List String} {u : PtrUse} {p : UdpPkt}
    (hd : u.derefs ns tol = true) (hg : u.guarded = false) (hn : p.isNil u.field = true) :
    useOutcome ns tol u p = .processDies := by
  unfold useOutcome
  simp [hd, hg, hn]

theorem consume_total {ns : List (String × String)} {tol : List String} {uses : List PtrUse}
    (h : ∀ u ∈ uses, u.okWith ns tol = true) (p : UdpPkt) : consume ns tol uses p = .alive := by
  unfold consume
  have : uses.any (fun u => useOutcome ns tol u p == .processDies) = false := by
    rw [List.any_eq_false]
    intro u hu
    rw [ok_use_never_kills (h u hu) p]
    decide
  rw [this]
  rfl

/-- for EVERY packet (absent / null / zero / out-of-range addresses, undecodable content): consuming it
    cannot kill the process — all listed uses taken as reached -/
theorem forward_total (p : UdpPkt) : consume nilSafeMethods nilTolerantCallees ptrUses p = .alive :=
  consume_total ptr_uses_guarded p

/-- ForwardUserConn as written: a packet without address is never written to the socket and never fatal -/
theorem forwardUserOne_nil (p : UdpPkt) (h : p.raddr = none) : forwardUserOne p ≠ .written := by
  unfold forwardUserOne
  rw [h]
  cases p.contentOk <;> simp

/-- the udp work-connection reader: a malformed frame closes THIS connection and asks for a new one;
    Ping and every other registered type are dropped; only UDPPacket is queued -/
theorem udp_reader_step (w : UdpWork) (h : w.open_ = true) (f : WFrame) :
    (f = .bad → (udpReaderStep w f).open_ = false ∧ (udpReaderStep w f).queued = w.queued ∧
                (udpReaderStep w f).renew = w.renew + 1) ∧
    (f = .ping → udpReaderStep w f = w) ∧
    (∀ t, f = .other t → udpReaderStep w f = w) ∧
    (∀ p, f = .udp p → (udpReaderStep w f).open_ = true ∧ (udpReaderStep w f).queued = w.queued ++ [p]) := by
  refine ⟨?_, ?_, ?_, ?_⟩
  · intro hf; subst hf; simp [udpReaderStep, h]
  · intro hf; subst hf; simp [udpReaderStep, h]
  · intro t hf; subst hf; simp [udpReaderStep, h]
  · intro p hf; subst hf; simp [udpReaderStep, h]

theorem udp_reader_closed_stays (w : UdpWork) (h : w.open_ = false) (f : WFrame) : udpReaderStep w f = w := by
  unfold udpReaderStep
  simp [h]

theorem deliverW_eq_modify : ∀ (ws : List UdpWork) (j : Nat) (f : WFrame),
    deliverW ws j f = ws.modify j (udpReaderStep · f)
  | [], _, _ => (List.modify_nil _ _).symm
  | _ :: _, 0, _ => rfl
  | w :: rest, j + 1, f => congrArg (w :: ·) (deliverW_eq_modify rest j f)

theorem deliverW_confined : ∀ (ws : List UdpWork) (j k : Nat) (f : WFrame), j ≠ k →
    (deliverW ws j f)[k]? = ws[k]? :=
  fun ws j k f h => by rw [deliverW_eq_modify, List.getElem?_modify_ne _ _ h]

section srv
variable {hs : List String} {ns : List (String × String)} {tol : List String} {uses : List PtrUse}

theorem srvStep_alive (hu : ∀ p, consume ns tol uses p = .alive) (s : Srv) (e : Ev) (h : s.alive = true) :
    (srvStep hs ns tol uses s e).alive = true := by
  cases e with
  | work j f =>
    cases f with
    | udp p => simp [srvStep, h, hu p]
    | _ => simp [srvStep, h]
  | _ => simp [srvStep, h]

/-- all histories of frames on control connections, udp work connections and relayed connections:
    the process stays alive, provided every listed use is accepted -/
theorem srvRun_alive (hu : ∀ p, consume ns tol uses p = .alive) :
    ∀ (evs : List Ev) (s : Srv), s.alive = true → (srvRun hs ns tol uses s evs).alive = true :=
  fun _ _ h => foldl_invariant (P := fun s => s.alive = true) h (fun s e _ => srvStep_alive hu s e)

/-- frames on work / relayed connections never touch a control session -/
theorem srvStep_work_keeps_ctls (s : Srv) (e : Ev) (he : ∀ i f, e ≠ .ctl i f) :
    (srvStep hs ns tol uses s e).ctls = s.ctls := by
  unfold srvStep
  split
  · rfl
  · cases e with
    | ctl i f => exact absurd rfl (he i f)
    | bytes k => rfl
    | work j f =>
      cases f with
      | udp p => simp only; split <;> rfl
      | _ => rfl

/-- frames on control connections never touch a work connection's reader -/
theorem srvStep_ctl_keeps_works (s : Srv) (i : Nat) (f : Frame) :
    (srvStep hs ns tol uses s (.ctl i f)).works = s.works := by
  unfold srvStep
  split <;> rfl

theorem srvRun_work_keeps_ctls :
    ∀ (evs : List Ev) (s : Srv), (∀ e ∈ evs, ∀ i f, e ≠ .ctl i f) → (srvRun hs ns tol uses s evs).ctls = s.ctls :=
  fun _ s h => foldl_invariant (P := fun s' => s'.ctls = s.ctls) rfl
    (fun s' e he hs' => (srvStep_work_keeps_ctls s' e (h e he)).trans hs')

/-- a frame on udp work connection j leaves every other work connection as it was -/
theorem srvStep_work_confined (s : Srv) (j k : Nat) (f : WFrame) (h : j ≠ k) :
    (srvStep hs ns tol uses s (.work j f)).works[k]? = s.works[k]? := by
  unfold srvStep
  split
  · rfl
  · cases f with
    | udp p => simp only; split <;> exact deliverW_confined s.works j k _ h
    | _ => exact deliverW_confined s.works j k _ h

end srv

/-- the statement for the tree as it is: no history of frames — on control sessions, on udp work
    connections (Ping, UDPPacket with any combination of absent addresses, other types, malformed frames),
    on pooled / relayed connections — kills frps -/
theorem frames_never_kill (evs : List Ev) (s : Srv) (h : s.alive = true) :
    (srvRun (serverHandlers.map Prod.fst) nilSafeMethods nilTolerantCallees ptrUses s evs).alive = true :=
  srvRun_alive forward_total evs s h

/-- what a single unguarded load would do (the model is not vacuous): with `udpMsg.RemoteAddr.Port` among
    the consumer's uses, ONE address-less packet on an open udp work connection ends the process -/
theorem unguarded_load_witness :
    (srvRun [] nilSafeMethods nilTolerantCallees
      [⟨"pkg/proto/udp/udp.go", "ForwardUserConn", 46, "udpMsg.RemoteAddr", "UDPPacket.RemoteAddr", "*net.UDPAddr", .fieldSel "Port", false⟩]
      { works := [{}] } [.work 0 (.udp ⟨true, none, none⟩)]).alive = false := by
  decide

/-! ## RegisterWorkConn against the session's teardown -/

theorem register_recover_never_panics (v : RegVariant) (h : v.recover_ = true) (c : Ctl) :
    (registerWorkConn v c).2 ≠ .panics := by
  simp only [registerWorkConn, h, if_true]
  (repeat' split) <;> nofun

theorem tstep_alive (v : RegVariant) (h : v.recover_ = true) (c : Ctl) (l : TLabel) :
    (tstep v (c, .alive) l).2 = .alive := by
  cases l with
  | offer =>
    simp only [tstep]
    have := register_recover_never_panics v h c
    simp [this]
  | _ => rfl

/-- ALL interleavings (every order of the worker's closing steps and any number of offers at any
    point — a superset of the real schedules): with the deferred recover frps survives -/
theorem teardown_offer_safe (v : RegVariant) (h : v.recover_ = true) (ls : List TLabel) (c : Ctl) :
    (trun v c ls).2 = .alive :=
  foldl_invariant (P := fun st : Ctl × Outcome => st.2 = .alive) rfl
    (fun st l _ hst => by obtain ⟨c, o⟩ := st; cases hst; exact tstep_alive v h c l)

/-- without it, an offer handled after `close(workConnCh)` and before `close(doneCh)` kills frps —
    whether or not doneCh is tested up front -/
theorem teardown_unrecovered_dies (doneCheck : Bool) (n : Nat) (c : Ctl) (hc : c.inTable = true) (hd : c.doneOpen = true) :
    (trun ⟨false, doneCheck⟩ c ([.closeCh, .offer] ++ List.replicate n .offer)).2 = .processDies := by
  have h2 : (trun ⟨false, doneCheck⟩ c [.closeCh, .offer]).2 = .processDies := by
    simp [trun, tstep, registerWorkConn, hc, hd]
  unfold trun at *
  rw [List.foldl_append]
  exact foldl_invariant (P := fun st : Ctl × Outcome => st.2 = .processDies) h2
    (fun st l _ hst => by cases l <;> simp only [tstep, hst])

theorem teardown_unrecovered_witness :
    (trun ⟨false, true⟩ {} (tearSchedule "drained" 1)).2 = .processDies ∧
    (trun ⟨false, true⟩ {} (tearSchedule "beforeDone" 1)).2 = .processDies ∧
    (trun ⟨false, true⟩ {} (tearSchedule "dispDone" 3)).2 = .alive ∧
    (trun ⟨false, true⟩ {} (tearSchedule "beforeDel" 3)).2 = .alive ∧
    (trun ⟨false, false⟩ {} (tearSchedule "beforeDel" 1)).2 = .processDies := by
  decide

/-- how RegisterWorkConn IS written, from the regenerated channel facts -/
def regRecover : Bool :=
  (sends.map (fun s => (s.site, s.guard))).contains
    (("server/control.go", "Control.RegisterWorkConn", "ctl.workConnCh"), SendGuard.deferRecover)

theorem register_recover_fact : regRecover = true := by
  -- the clause of `channel_sites_present` about Control.RegisterWorkConn
  obtain ⟨_, _, _, _, _, _, _, h, _⟩ := channel_sites_present
  exact h

/-- the tree as it is: no interleaving of work-connection offers with a session's teardown kills frps -/
theorem teardown_safe_as_is (doneCheck : Bool) (ls : List TLabel) (c : Ctl) :
    (trun ⟨regRecover, doneCheck⟩ c ls).2 = .alive :=
  teardown_offer_safe ⟨regRecover, doneCheck⟩ register_recover_fact ls c

/-! ## the reader of a udp proxy's user socket against the proxy's Close -/

theorem fstep_recovered_alive (f : Fwd) (l : FLabel) : (fstep true (f, .alive) l).2 = .alive := by
  cases l <;> simp only [fstep, ↓reduceIte] <;> (repeat' split) <;> rfl

/-- ALL interleavings of datagrams with the two closing steps: with the recover-wrapped send nothing dies -/
theorem forward_send_recovered_safe : ∀ (ls : List FLabel) (f : Fwd), (frun true f ls).2 = .alive :=
  fun _ _ => foldl_invariant (P := fun st : Fwd × Outcome => st.2 = .alive) rfl
    (fun st l _ hst => by obtain ⟨f, o⟩ := st; cases hst; exact fstep_recovered_alive f l)

/-- as the code is: a datagram read before the socket is closed and handed over after the channel is closed kills
    the process — whatever else happens in between or afterwards -/
theorem forward_send_unrecovered_dies (pre post : List FLabel) (f : Fwd)
    (hf : f.running = true ∧ f.inHand = false ∧ f.sockOpen = true)
    (hpre : ∀ l ∈ pre, l = .closeSock ∨ l = .closeCh) :
    (frun false f ([.recv] ++ pre ++ [.closeCh, .send] ++ post)).2 = .processDies := by
  unfold frun
  rw [List.foldl_append, List.foldl_append, List.foldl_append]
  -- once dead, dead for the rest of the run
  refine foldl_invariant (P := fun st : Fwd × Outcome => st.2 = .processDies) ?_
    (fun st l _ h => by cases l <;> simp only [fstep] <;> (repeat' split) <;> first | exact h | rfl)
  have h0 : List.foldl (fstep false) (f, Outcome.alive) [FLabel.recv] = ({ f with inHand := true }, .alive) := by
    simp [fstep, hf.1, hf.2.1, hf.2.2]
  rw [h0]
  -- the two closing steps leave the goroutine running with the datagram in hand
  have hm := foldl_invariant (f := fstep false) (l := pre)
    (P := fun st : Fwd × Outcome => st.1.running = true ∧ st.1.inHand = true ∧ st.2 = .alive)
    (s := ({ f with inHand := true }, .alive)) ⟨hf.1, rfl, rfl⟩
    (fun st l hl h => by rcases hpre l hl with rfl | rfl <;> exact h)
  generalize List.foldl (fstep false) ({ f with inHand := true }, Outcome.alive) pre = st at hm
  obtain ⟨c, o⟩ := st
  simp only at hm
  simp [fstep, hm.1, hm.2.1, hm.2.2]

theorem forward_send_witness : (frun false {} [.recv, .closeSock, .closeCh, .send]).2 = .processDies ∧
    (frun true {} [.recv, .closeSock, .closeCh, .send, .recv]) = ({ sockOpen := false, chOpen := false, inHand := false, running := false }, .alive) ∧
    (frun false {} [.closeSock, .closeCh, .recv, .send]).2 = .alive := by
  decide

/-- how the hand-over IS written, from the regenerated channel facts -/
def udpForwardRecovered : Bool :=
  (sends.map (fun s => (s.site, s.guard))).contains (sendExcUdp, SendGuard.panicToError)

theorem forward_send_fact : udpForwardRecovered = udpForwardSendIsFixed := by
  decide +kernel

/-- the statement for the tree as selected by the switch -/
theorem forward_send_status :
    (∀ (ls : List FLabel) (f : Fwd), (frun udpForwardSendIsFixed f ls).2 = .alive) ↔ udpForwardSendIsFixed = true := by
  cases h : udpForwardSendIsFixed
  · simp only [Bool.false_eq_true, iff_false]
    intro hall
    have := hall [.recv, .closeSock, .closeCh, .send] {}
    revert this
    decide
  · simp only [iff_true]
    exact forward_send_recovered_safe

/-! ## discoverConn (client side) -/

theorem discover_safe_partial {sent reqs : Nat} (h : sent ≤ reqs + discoverBuf) :
    discoverMayDie false sent reqs = false := by
  unfold discoverMayDie readerBlockedAtClose
  simp only [Bool.not_false, Bool.true_and, decide_eq_false_iff_not]
  omega

/-- one request, twelve datagrams in answer: the reader sits in its send when Close closes the channel -/
theorem discover_witness : discoverMayDie false 12 1 = true := by decide

theorem discover_fixed (sent reqs : Nat) : discoverMayDie true sent reqs = false := rfl

/-! ## Lock order: no cycle, no self-deadlock (facts regenerated by translate/gen_lockorder.go) -/

section lockorder
open LockOrd
open Frp.Gen.LockOrder

/-- `lock_order_respected` and `lock_sites_present` in one evaluation: both compare the same mutex names -/
theorem lock_order_judged :
    respects order edges = true ∧
    (120 ≤ lockSites ∧ 35 ≤ mutexes.length ∧ order.length = mutexes.length ∧
      (mutexes.all (fun m => order.contains m)) = true ∧
      [ ("server/group.TCPGroupCtl.mu", "server/group.TCPGroup.mu"),
        ("server/group.TCPGroup.mu", "server/ports.Manager.mu"),
        ("server/group.TCPMuxGroupCtl.mu", "server/group.TCPMuxGroup.mu"),
        ("server/group.TCPMuxGroup.mu", "pkg/util/vhost.Routers.mutex"),
        ("server/group.HTTPGroupController.mu", "server/group.HTTPGroup.mu"),
        ("server/group.HTTPGroup.mu", "pkg/util/vhost.Routers.mutex"),
        ("server.Control.mu", "server/proxy.Manager.mu"),
        ("client/proxy.Manager.mu", "client/proxy.Wrapper.mu"),
        ("client.Service.ctlMu", "client/proxy.Manager.mu")
      ].all (fun p => (edges.map Edge.pair).contains p) = true ∧
      [ "server.ControlManager.mu", "server.Control.mu", "pkg/nathole.Controller.mu", "pkg/transport.transporterImpl.mu",
        "server/visitor.Manager.mu", "server/ports.Manager.mu", "pkg/util/vhost.Routers.mutex", "client/visitor.Manager.mu"
      ].all (fun m => mutexes.contains m) = true) := by
  decide +kernel

/-- the extractor is not blind: the mutexes and the nestings the code is known to have are there -/
theorem lock_sites_present :
    120 ≤ lockSites ∧ 35 ≤ mutexes.length ∧ order.length = mutexes.length ∧
    (mutexes.all (fun m => order.contains m)) = true ∧
    [ ("server/group.TCPGroupCtl.mu", "server/group.TCPGroup.mu"),
      ("server/group.TCPGroup.mu", "server/ports.Manager.mu"),
      ("server/group.TCPMuxGroupCtl.mu", "server/group.TCPMuxGroup.mu"),
      ("server/group.TCPMuxGroup.mu", "pkg/util/vhost.Routers.mutex"),
      ("server/group.HTTPGroupController.mu", "server/group.HTTPGroup.mu"),
      ("server/group.HTTPGroup.mu", "pkg/util/vhost.Routers.mutex"),
      ("server.Control.mu", "server/proxy.Manager.mu"),
      ("client/proxy.Manager.mu", "client/proxy.Wrapper.mu"),
      ("client.Service.ctlMu", "client/proxy.Manager.mu")
    ].all (fun p => (edges.map Edge.pair).contains p) = true ∧
    [ "server.ControlManager.mu", "server.Control.mu", "pkg/nathole.Controller.mu", "pkg/transport.transporterImpl.mu",
      "server/visitor.Manager.mu", "server/ports.Manager.mu", "pkg/util/vhost.Routers.mutex", "client/visitor.Manager.mu"
    ].all (fun m => mutexes.contains m) = true :=
  lock_order_judged.2

/-- every "b acquired while a is held" goes forward in the emitted order — self-loops cannot -/
theorem lock_order_respected : respects order edges = true :=
  lock_order_judged.1

/-- no chain of goroutines, each holding a mutex and waiting for the next one's, closes into a cycle;
    in particular no call path re-acquires (at the level of the declared mutex) what it holds -/
theorem lock_order_acyclic (m : String) : ¬ Path edges m m :=
  no_cycle lock_order_respected m

/-- no function locks a lock expression it already holds, and every lock call was named -/
theorem no_relock : relocks = [] ∧ unresolved = [] :=
  ⟨rfl, rfl⟩

/-- a cycle defeats EVERY order: the check cannot be satisfied by a clever witness -/
theorem cycle_defeats_order {es : List Edge} {a : String} (p : Path es a a) (ord : List String) :
    respects ord es = false := by
  cases h : respects ord es with
  | false => rfl
  | true => exact absurd p (no_cycle h a)

/-- what a leave that takes the group lock before the controller lock amounts to (one reversed edge):
    no order exists any more -/
theorem reversed_edge_witness (ord : List String) :
    respects ord (⟨"server/group.TCPMuxGroup.mu", "server/group.TCPMuxGroupCtl.mu", "server/group/tcpmux.go",
                    "TCPMuxGroup.CloseListener", 0, "call TCPMuxGroupCtl.RemoveGroup"⟩ :: edges) = false := by
  apply cycle_defeats_order (a := "server/group.TCPMuxGroup.mu")
  refine .cons ⟨_, List.mem_cons_self .., rfl, rfl⟩ (.one ?_)
  -- the forward edge is the third nesting listed in `lock_sites_present`
  have h : (edges.map Edge.pair).contains ("server/group.TCPMuxGroupCtl.mu", "server/group.TCPMuxGroup.mu") = true :=
    List.all_eq_true.mp lock_sites_present.2.2.2.2.1 _ (.tail _ (.tail _ (.head _)))
  rcases List.mem_map.mp (List.contains_iff_mem.mp h) with ⟨e, he, hp⟩
  refine ⟨e, List.mem_cons_of_mem _ he, ?_, ?_⟩
  · exact congrArg Prod.fst hp
  · exact congrArg Prod.snd hp

/-- a callee that takes the controller lock under the controller lock (a self-loop): no order exists either -/
theorem self_loop_witness (ord : List String) :
    respects ord (⟨"server/group.TCPGroupCtl.mu", "server/group.TCPGroupCtl.mu", "server/group/tcp.go",
                    "TCPGroupCtl.Listen", 0, "call TCPGroup.Listen"⟩ :: edges) = false :=
  cycle_defeats_order (.one ⟨_, List.mem_cons_self .., rfl, rfl⟩) ord

end lockorder

/-! ## RegisterControl: every control that enters the table is started or closed -/

section regctl
open RegCtl
open Frp.Gen.LockOrder

/-- how RegisterControl IS written, from the regenerated fact: no way from `ctlManager.Add` around `ctl.Start()` -/
def startAlways : Bool := decide (regCtlReturnsBeforeStart = 0)

/-- the statements between Add and Start as they are in /repo (the model's `proceed` is this code) -/
theorem register_control_fact :
    regCtlReturnsBeforeStart = 0 ∧ startAlways = true ∧
    regCtlBetween =
      ["if oldCtl := svr.ctlManager.Add(loginMsg.RunID, ctl); oldCtl != nil { verifhook.At(\"ctl.beforeWait\", loginMsg.RunID, loginMsg.Hostname) oldCtl.WaitClosed() }",
       "verifhook.At(\"ctl.beforeStart\", loginMsg.RunID, loginMsg.Hostname)"] :=
  ⟨rfl, rfl, rfl⟩

/-- ALL chains of overlapping logins with one run id, all interleavings of the RegisterControl goroutines, the
    workers, the connection drops and the table removals: from every reachable state, once every peer has hung up
    and every goroutine has run, every login HAS BEEN ANSWERED and every control has closed its doneCh — no
    reachable state is a wedge -/
theorem every_login_answered (ls : List Label) :
    settled (run startAlways (run startAlways {} ls) (drain (run startAlways {} ls))) = true := by
  rw [register_control_fact.2.1]
  exact relogin_never_wedged ls

/-- a control only ever waits for an OLDER control (the wait-for relation of RegisterControl is well-founded) -/
theorem control_waits_on_older (b : Bool) (ls : List Label) (k j : Nat) (c : RegCtl.Ctl) :
    (run b {} ls).ctls[k]? = some c → c.stat = .waiting (some j) → j < k :=
  waits_on_older b ls k j c

/-- as the code is, no control is ever left in the table without having been started -/
theorem no_control_abandoned (ls : List Label) (k : Nat) (c : RegCtl.Ctl) :
    (run startAlways {} ls).ctls[k]? = some c → c.stat ≠ .abandoned := by
  rw [register_control_fact.2.1]
  exact startAlways_never_abandons ls k c

/-- the other way of writing it — a control that finds itself superseded after the wait returns without Start —
    wedges the run id FOR EVER once two logins overlap the closing session: login 2 and every later login with that run id is
    never answered, whatever happens afterwards -/
theorem superseded_skip_wedges_forever (ls : List Label) (k : Nat) (c : RegCtl.Ctl) :
    2 ≤ k → (run false {} (wedgeWitness ++ ls)).ctls[k]? = some c → c.answered = false :=
  superseded_skip_wedges ls k c

theorem superseded_skip_witness :
    (run false {} wedgeWitness).ctls.map RegCtl.Ctl.stat = [.closed, .abandoned, .waiting (some 1)] ∧
    (run true {} wedgeWitness).ctls.map RegCtl.Ctl.stat = [.closed, .started, .waiting (some 1)] := by
  decide

/-- with NOBODY hanging up: once the goroutines have run, every login of every reachable state is answered (the
    connections of superseded controls are closed by the server itself: Replaced) -/
theorem every_login_answered_unattended (ls : List Label) (i : Nat) (c : RegCtl.Ctl) :
    (run startAlways (run startAlways {} ls) (settleFrom 0 (run startAlways {} ls).ctls.length)).ctls[i]? = some c →
    c.answered = true := by
  rw [register_control_fact.2.1]
  exact settle_answers_all ls i c

/-- the schedules the engine op `relogin` forces — any number of overlapping logins, any release order: the last
    login, which nobody superseded, gets its LoginResp (the model's answer to every `relogin` op is `done`) -/
theorem relogin_op_answered (k : Nat) (order : List Nat) :
    lastAnswered (run startAlways {} (reloginSchedule k order)) = true := by
  rw [register_control_fact.2.1]
  exact relogin_schedule_answered k order

/-- with the skipping variant the last login of the `relogin` schedule never gets its LoginResp as soon as two logins
    overlap the closing session, whatever the release order -/
theorem relogin_op_wedged (k : Nat) (order : List Nat) (hk : 2 ≤ k) :
    lastAnswered (run false {} (reloginSchedule k order)) = false :=
  relogin_schedule_wedged k order hk

end regctl

/-! ## StartWorkConn addresses on the client (HandleTCPWorkConnection → go-proxyproto) -/

section startwork
open Frp.Gen.LockOrder

/-- the full clause: nothing the server puts into StartWorkConn kills frpc -/
def StartWorkSafeFull (fixed : Bool) : Prop :=
  ∀ (ver : PPVer) (srcGiven srcHasDot : Bool) (src dst : AddrRes),
    handleStartWork fixed ver srcGiven srcHasDot src dst ≠ .crash

/-- as the code is: frpc dies exactly when a header is to be written (v1 or v2, source given) and one of the two
    addresses did not resolve -/
theorem startwork_crash_iff (ver : PPVer) (srcGiven srcHasDot : Bool) (src dst : AddrRes) :
    handleStartWork false ver srcGiven srcHasDot src dst = .crash ↔
      srcGiven = true ∧ (ver = .v1 ∨ ver = .v2) ∧ (src = .bad ∨ dst = .bad) := by
  cases ver <;> cases srcGiven <;> cases srcHasDot <;> cases src <;> cases dst <;> decide

theorem startwork_safe_partial (ver : PPVer) (srcGiven srcHasDot : Bool) (src dst : AddrRes)
    (h : src ≠ .bad ∧ dst ≠ .bad) : handleStartWork false ver srcGiven srcHasDot src dst ≠ .crash := by
  intro hc
  have := (startwork_crash_iff ver srcGiven srcHasDot src dst).mp hc
  rcases this with ⟨_, _, h1 | h1⟩
  · exact h.1 h1
  · exact h.2 h1

theorem startwork_witness : ¬ StartWorkSafeFull false := by
  intro h
  exact h .v1 true true .bad .v4 (by decide)

/-- repaired: an unresolved address stays an untyped nil, the header is refused, the work connection closed -/
theorem startwork_fixed : StartWorkSafeFull true := by
  intro ver srcGiven srcHasDot src dst
  cases ver <;> cases srcGiven <;> cases srcHasDot <;> cases src <;> cases dst <;> decide

/-- the repair changes nothing for addresses that resolve -/
theorem startwork_fixed_agrees (ver : PPVer) (srcGiven srcHasDot : Bool) (src dst : AddrRes)
    (h : src ≠ .bad ∧ dst ≠ .bad) :
    handleStartWork true ver srcGiven srcHasDot src dst = handleStartWork false ver srcGiven srcHasDot src dst := by
  cases src <;> cases dst <;> first | rfl | (exfalso; first | exact h.1 rfl | exact h.2 rfl)

theorem startwork_status : StartWorkSafeFull startWorkAddrIsFixed ↔ startWorkAddrIsFixed = true := by
  cases h : startWorkAddrIsFixed
  · simp only [Bool.false_eq_true, iff_false]; exact startwork_witness
  · simp only [iff_true]; exact startwork_fixed

/-- the model is the code: both results of net.ResolveTCPAddr are stored, and the error is discarded exactly in the
    unrepaired variant (regenerated from client/proxy/proxy.go) -/
theorem startwork_resolve_fact :
    resolveCalls.map Prod.fst = ["srcAddr", "dstAddr"] ∧
    (resolveCalls.all (fun r => r.2 == !startWorkAddrIsFixed)) = true := by
  decide +kernel

end startwork

/-! ## The predicate the `crash` engine evaluates on the implementation's observation -/

/-- what the parent process saw after an operation against the sacrificial child -/
inductive Obs
  | alive          -- the child is running and answered
  | crash          -- the child exited: unrecovered panic or fatal runtime error
  | wedge          -- the child runs but the watchdog login + tunnel does not work any more
  deriving DecidableEq, Repr

def holdsOn : Obs → Bool
  | .alive => true
  | _ => false

theorem holdsOn_sound (o : Obs) : holdsOn o = true ↔ o = .alive := by
  cases o <;> simp [holdsOn]

/-- the model's verdict for a login, as an observation -/
def obsOfLogin (fixed : Bool) (maxPool login : Int) : Obs :=
  match loginOutcome fixed maxPool login with
  | .alive => .alive
  | .processDies => .crash

theorem model_holdsOn_login {maxPool login : Int} (hmax : 0 ≤ maxPool) :
    holdsOn (obsOfLogin false maxPool login) = true ↔ -10 ≤ login := by
  unfold obsOfLogin
  have h := login_kills_frps (login := login) hmax
  cases hl : loginOutcome false maxPool login with
  | alive =>
    simp only [holdsOn, true_iff]
    by_cases hc : login < -10
    · rw [h.mpr hc] at hl; cases hl
    · omega
  | processDies =>
    simp only [holdsOn, Bool.false_eq_true, false_iff]
    have := h.mp hl
    omega

theorem model_holdsOn_login_fixed {maxPool login : Int} (hmax : 0 ≤ maxPool) :
    holdsOn (obsOfLogin true maxPool login) = true := by
  unfold obsOfLogin
  rw [login_never_kills_fixed hmax]
  rfl


/-! ## User-facing parsers: index / slice sites, CanonicalHost -/

open Frp.UserIn in
/-- every `x[i]` / `x[a:b]` in pkg/util/http, pkg/util/vhost, pkg/util/tcpmux is a map lookup or is dominated by guards
    that the judgement accepts for its shape — over the facts regenerated from the tree on this run; an operand whose
    type the extractor cannot resolve, a bound it cannot read and a guard that was invalidated by an assignment all
    count as NOT guarded -/
theorem index_sites_guarded : ∀ s ∈ Frp.Gen.IndexFacts.sites, s.ok = true := by
  decide +kernel

open Frp.UserIn in
/-- what the judgement means: at an accepted site Go's run-time bounds check passes, for EVERY assignment of
    lengths and integers under which the extracted guards hold (in particular for every byte string a user sends) -/
theorem index_ok_sound : ∀ s ∈ Frp.Gen.IndexFacts.sites, s.opKind = .seq →
    ∀ ρ : Env, (∀ f ∈ s.facts, f.holds ρ) → s.shape.safe ρ s.operand :=
  fun s hs hk _ hf => IdxSite.ok_safe hk (index_sites_guarded s hs) hf

open Frp.UserIn in
/-- the extractor is not blind: hasPort's `host[0]` is there as an index 0 into a sequence under `1 ≤ len(host)`
    (two or more colons were counted), both basic-auth parsers and both wildcard walks are there, and the map
    lookups of the three host extractors are recognised as maps -/
theorem index_sites_present :
    [ ("hasPort", "host[0]", OpKind.seq, Shape.index (.const 0)),
      ("ParseBasicAuth", "auth[:len(prefix)]", .seq, .slice none (some (.lenOf "prefix"))),
      ("ParseBasicAuth", "cs[s+1:]", .seq, .slice (some (.varPlus "s" 1)) none),
      ("parseBasicAuth", "cs[:s]", .seq, .slice none (some (.var "s"))),
      ("Muxer.getListener", "domainSplit[0]", .seq, .index (.const 0)),
      ("HTTPReverseProxy.getVhost", "domainSplit[1:]", .seq, .slice (some (.const 1)) none),
      ("Muxer.handle", "reqInfoMap[\"Host\"]", .map, .index (.other "\"Host\"")),
      ("HTTPConnectTCPMuxer.getHostFromHTTPConnect", "reqInfoMap[\"Host\"]", .map, .index (.other "\"Host\"")),
      ("GetHTTPSHostname", "reqInfoMap[\"Host\"]", .map, .index (.other "\"Host\""))
    ].all (fun k => (Frp.Gen.IndexFacts.sites.map (fun s => (s.fn, s.expr, s.opKind, s.shape))).contains k) = true ∧
    13 ≤ (Frp.Gen.IndexFacts.sites.filter (fun s => s.opKind = .seq)).length := by
  decide +kernel

open Frp.UserIn in
/-- a site without its guard is rejected: `host[0]` with nothing known, and with a guard on ANOTHER variable -/
theorem index_unguarded_rejected :
    (IdxSite.mk "f.go" "f" 1 "host[0]" "host" .seq (.index (.const 0)) []).ok = false ∧
    (IdxSite.mk "f.go" "f" 1 "host[0]" "host" .seq (.index (.const 0)) [.lenGe "other" 1]).ok = false ∧
    (IdxSite.mk "f.go" "f" 1 "host[len(host)-1]" "host" .seq (.index (.lenMinus "host" 1)) []).ok = false ∧
    (IdxSite.mk "f.go" "f" 1 "m[k]" "m" .unknown (.index (.var "k")) []).ok = false ∧
    (IdxSite.mk "f.go" "f" 1 "host[0]" "host" .seq (.index (.const 0)) [.lenGe "host" 1]).ok = true := by
  decide

/-- rejecting `host[0]` without a guard is right: under the empty string Go panics -/
theorem index_unguarded_panics :
    ¬ UserIn.Shape.safe ⟨fun _ => 0, fun _ => 0⟩ "host" (.index (.const 0)) := by
  intro h
  simp only [UserIn.Shape.safe, UserIn.Bound.eval] at h
  obtain ⟨n, hn, h0, h1⟩ := h
  simp only [Option.some.injEq] at hn
  simp only [Int.natCast_zero] at h1
  omega

/-- pkg/util/http hasPort as written (with `host[0]` able to panic) never panics and is the model's hasPort -/
theorem hasPort_never_panics (h : Str) : UserIn.hasPortG h = .ok (Host.hasPort h) := UserIn.hasPortG_eq_model h

/-- CanonicalHost never panics, on any byte string, and computes `Host.canonicalHost` (the model C06 routes with) -/
theorem canonicalHost_never_panics (host : Str) : UserIn.canonicalHostG host = .ok (Host.canonicalHost host) :=
  UserIn.canonicalHostG_eq_model host

/-- why the extractor drops a guard at every assignment: a host that passed `host != ""` can be empty after
    strings.TrimSuffix(host, "."), and indexing it then panics -/
theorem guard_does_not_survive_trim : ∃ h : Str, h ≠ [] ∧ UserIn.goIndex (Host.trimDot h) 0 = .panic :=
  UserIn.guard_does_not_survive_trim

/-! ## frpc teardown against active plugin requests -/

/-- callees of a plugin's Close that were read by hand: pkg/vnet/controller.go UnregisterServerConn → serverRouter.delConn:
    a mutex and a map delete -/
def closeCalleesPinned : List String := ["VnetController.UnregisterServerConn"]

open Frp.UserIn in
/-- every `Close()` of pkg/plugin/client makes only calls that cannot wait for a user: (*http.Server).Close,
    the package's Listener.Close, mutexes, close(ch), pinned callees — no Shutdown without deadline, no receive, no
    Wait (regenerated on this run) -/
theorem plugin_close_nonblocking : ∀ f ∈ Frp.Gen.PluginClose.closeFacts, f.nonBlocking closeCalleesPinned = true := by
  decide +kernel

open Frp.UserIn in
/-- the extractor is not blind: the six plugins that embed an http.Server stop it in Close -/
theorem plugin_close_present :
    ["HTTP2HTTPPlugin", "HTTP2HTTPSPlugin", "HTTPS2HTTPPlugin", "HTTPS2HTTPSPlugin", "HTTPProxy", "StaticFilePlugin"].all
      (fun r => Frp.Gen.PluginClose.closeFacts.any (fun f => f.recv = r &&
        f.calls.any (fun c => c = .srvClose || c = .shutdown true || c = .shutdown false))) = true := by
  decide +kernel

open Frp.UserIn in
/-- with a Close that cannot wait, frpc logs in again after at most four turns of the worker goroutine — for every
    number of active requests, tcpMux on or off, and EVERY interleaving with requests that end by themselves -/
theorem teardown_relogs {cs : List CloseCall} (h : ∀ c ∈ cs, c.mayWait closeCalleesPinned = false)
    (mux : Bool) (active : Nat) (ls : List PLabel) (hw : 4 ≤ workerTicks ls) :
    (prun mux cs { active := active } ls).pc = 4 := by
  rw [prun_pc h mux ls _ (Nat.zero_le _)]
  simp only
  omega

open Frp.UserIn in
/-- `teardown_relogs` for every Close method of the tree as it is -/
theorem teardown_relogs_as_is : ∀ f ∈ Frp.Gen.PluginClose.closeFacts, ∀ (mux : Bool) (active : Nat) (ls : List PLabel),
    4 ≤ workerTicks ls → (prun mux f.calls { active := active } ls).pc = 4 := by
  intro f hf mux active ls hw
  have hnb := plugin_close_nonblocking f hf
  unfold CloseFact.nonBlocking at hnb
  rw [List.all_eq_true] at hnb
  apply teardown_relogs (cs := f.calls) _ mux active ls hw
  intro c hc
  have := hnb c hc
  simpa using this

open Frp.UserIn in
/-- a Close that calls Shutdown without a deadline: with tcpMux off (work connections outlive the session) and one
    request that does not end, the worker never leaves pm.Close(), however often it is scheduled: no close(doneCh),
    no login, for ever -/
theorem shutdown_wedges_forever (pre post : List CloseCall) (hpre : ∀ c ∈ pre, c ≠ .srvClose)
    (active : Nat) (ha : 0 < active) (n : Nat) :
    (prun false (pre ++ .shutdown false :: post) { active := active } (List.replicate n .worker)).pc ≤ 1 := by
  -- a call other than (*http.Server).Close either does not return or leaves the active requests as they are
  have hstep : ∀ c, c ≠ .srvClose → ∀ a, 0 < a → callStep a c = none ∨ callStep a c = some a := by
    intro c hne a h0
    cases c with
    | srvClose => exact absurd rfl hne
    | shutdown dl => cases dl <;> simp [callStep, Nat.ne_of_gt h0]
    | wait w => exact Or.inl rfl
    | _ => exact Or.inr rfl
  have hc : ∀ a, 0 < a → closeRun (pre ++ .shutdown false :: post) a = none := by
    intro a h0
    induction pre with
    | nil => simp [closeRun, callStep, Nat.ne_of_gt h0]
    | cons c cs ih =>
      rw [List.cons_append, closeRun]
      rcases hstep c (hpre c (List.mem_cons_self ..)) a h0 with e | e <;> rw [e]
      exact ih (fun c hc => hpre c (List.mem_cons_of_mem _ hc))
  exact (prun_wedged hc (List.replicate n .worker) (fun l hl => (List.mem_replicate.mp hl).2)
    { active := active } (Nat.zero_le _) ha).1

open Frp.UserIn in
/-- the same Close with tcpMux ON: closeSession takes the work connections down first, Shutdown finds nothing active -/
theorem shutdown_mux_relogs (active : Nat) :
    (prun true [.shutdown false] { active := active } [.worker, .worker, .worker, .worker]).pc = 4 := by
  simp [prun, pstep, closeRun, callStep]

open Frp.UserIn in
theorem shutdown_witness :
    (prun false [.shutdown false, .lnClose] { active := 1 } (List.replicate 12 .worker)).pc = 1 ∧
    (prun false [.srvClose, .lnClose] { active := 1 } (List.replicate 4 .worker)).pc = 4 ∧
    (prun false [.shutdown false] { active := 1 } [.worker, .worker, .userFinishes, .worker, .worker, .worker]).pc = 4 := by
  decide

/-! ## The ssh tunnel gateway: request payloads chosen by the ssh client (pkg/ssh) -/

section sshgw
open Frp.UserIn Frp.SshGw Frp.Gen.IndexFacts

/-- the type `end` is computed in, AS THE SOURCE HAS IT (regenerated on every run): `.u32` while handleNewChannel adds
    the peer's uint32 to 4 in uint32, `.wide` once the sum is made in a 64-bit type.  An extractor that finds no such
    definition leaves `.u32` — and `ssh_exec_shape` fails -/
def sshExecArith : NumT :=
  match sshExecEnd with
  | [.defPlus _ _ t] => t
  | _ => .u32

/-- tie: `end := 4 + E` with E a big-endian uint32 of the payload, one definition, in the type the model runs with -/
theorem ssh_exec_shape : sshExecEnd = [.defPlus "end" 4 sshExecArith] :=
  rfl

/-- the extractor is not blind: the six indexing / slicing expressions of pkg/ssh, three of them on sequences -/
theorem ssh_sites_present :
    sshSites.map (fun s => (s.fn, s.expr, s.opKind)) =
      [ ("NewGateway>func", "authorizedKeysMap[string(key.Marshal())]", .map),
        ("loadAuthorizedKeysFromFile", "authorizedKeysMap[string(pubKey.Marshal())]", .map),
        ("TunnelServer.Run", "sshConn.Permissions.Extensions[\"user\"]", .map),
        ("TunnelServer.parseClientAndProxyConfigurer", "args[0]", .seq),
        ("TunnelServer.handleNewChannel", "req.Payload[:4]", .seq),
        ("TunnelServer.handleNewChannel", "req.Payload[4:end]", .seq) ] :=
  rfl

/-- which sites of pkg/ssh the judgement does NOT accept: none once `end` is computed without wrap-around, exactly
    `req.Payload[4:end]` while it is computed in uint32 (`4 ≤ end` does not follow from `end := 4 + E`) -/
theorem ssh_sites_unguarded_exact :
    (sshSites.filter (fun s => !s.ok)).map (·.expr) =
      if sshExecArith = .wide then [] else ["req.Payload[4:end]"] := by
  decide +kernel

/-- **the clause for the code at hand** (valid on the unchanged tree, where it says "violated", and on the repaired one,
    where it says "holds"): every index / slice expression of pkg/ssh is a map lookup or dominated by guards that imply
    Go's bounds check -/
theorem ssh_sites_guarded_code :
    (sshExecArith = .wide → ∀ s ∈ sshSites, s.ok = true) ∧
    (sshExecArith = .u32 → ¬ ∀ s ∈ sshSites, s.ok = true) := by
  decide +kernel

/-- what acceptance means (same soundness lemma as for the user-facing parsers) -/
theorem ssh_index_ok_sound : ∀ s ∈ sshSites, s.opKind = .seq → s.ok = true →
    ∀ ρ : Env, (∀ f ∈ s.facts, f.holds ρ) → s.shape.safe ρ s.operand :=
  fun _ _ hk hok _ hf => IdxSite.ok_safe hk hok hf

/-- rejecting `req.Payload[4:end]` is right: the guards of the unchanged code (`end := 4 + E` in uint32, `len ≥ 5`,
    `end ≤ len`) are satisfied by len = 5, E = 0xFFFFFFFC, end = 0 — and `p[4:0]` fails Go's check -/
theorem ssh_end_rejection_right :
    ∃ ρ : Env, (∀ f ∈ [GFact.defPlus "end" 4 .u32, .lenGe "req.Payload" 5, .varLeLen "end" "req.Payload"], f.holds ρ) ∧
      ¬ Shape.safe ρ "req.Payload" (.slice (some (.const 4)) (some (.var "end"))) := by
  refine ⟨⟨fun _ => 5, fun _ => 0⟩, ?_, ?_⟩
  · intro f hf
    simp only [List.mem_cons, List.mem_nil_iff, or_false] at hf
    rcases hf with rfl | rfl | rfl
    · exact ⟨4294967292, by decide, by decide⟩
    · simp [GFact.holds]
    · simp [GFact.holds]
  · intro h
    simp only [Shape.safe, Bound.eval] at h
    obtain ⟨a, b, ha, hb, _, hab, _⟩ := h
    simp only [Option.some.injEq] at ha hb
    omega

/-- the same judgement with the sum made in a 64-bit type accepts the site -/
theorem ssh_end_wide_accepted :
    (IdxSite.mk "pkg/ssh/server.go" "TunnelServer.handleNewChannel" 316 "req.Payload[4:end]" "req.Payload" .seq
      (.slice (some (.const 4)) (some (.var "end")))
      [.defPlus "end" 4 .wide, .lenGe "req.Payload" 5, .varLeLen "end" "req.Payload"]).ok = true ∧
    (IdxSite.mk "pkg/ssh/server.go" "TunnelServer.handleNewChannel" 316 "req.Payload[4:end]" "req.Payload" .seq
      (.slice (some (.const 4)) (some (.var "end")))
      [.defPlus "end" 4 .u32, .lenGe "req.Payload" 5, .varLeLen "end" "req.Payload"]).ok = false ∧
    (IdxSite.mk "pkg/ssh/server.go" "TunnelServer.handleNewChannel" 316 "req.Payload[4:end]" "req.Payload" .seq
      (.slice (some (.const 4)) (some (.var "end")))
      [.defPlus "end" 4 .wide, .lenGe "req.Payload" 5]).ok = false := by
  decide

/-- the full clause for the request loop: no payload of any request makes a slice expression fail Go's check -/
def SshExecSafeFull (t : NumT) : Prop :=
  ∀ (typ p : Str) (cap : Nat), p.length ≤ cap → handleReq t .i64 typ p cap ≠ .panic

/-- repaired arithmetic: holds for every request type, payload and buffer capacity (and on 32-bit builds as well) -/
theorem ssh_exec_wide_never_panics (w : IntW) (typ p : Str) (cap : Nat) (h : p.length ≤ cap) :
    handleReq .wide w typ p cap ≠ .panic := handleReq_wide_never_panics w typ p cap h

/-- as the code is: frps dies exactly for an `exec` request of more than four bytes whose length prefix is
    0xFFFFFFFC … 0xFFFFFFFF -/
theorem ssh_exec_u32_panics_iff (typ p : Str) (cap : Nat) (h : p.length ≤ cap) :
    handleReq .u32 .i64 typ p cap = .panic ↔ (typ = execType ∧ 4 < p.length ∧ 4294967292 ≤ be32 p) :=
  handleReq_u32_panics_iff typ p cap h

/-- the same code on a 32-bit build: from 0x7FFFFFFC on -/
theorem ssh_exec_u32_int32_panics_iff (typ p : Str) (cap : Nat) (h : p.length ≤ cap) (h31 : p.length < 2147483648) :
    handleReq .u32 .i32 typ p cap = .panic ↔ (typ = execType ∧ 4 < p.length ∧ 2147483644 ≤ be32 p) :=
  handleReq_u32_int32_panics_iff typ p cap h h31

theorem ssh_exec_safe_partial (typ p : Str) (cap : Nat) (h : p.length ≤ cap) (hn : be32 p < 4294967292) :
    handleReq .u32 .i64 typ p cap ≠ .panic := by
  intro hc
  have := (handleReq_u32_panics_iff typ p cap h).mp hc
  omega

/-- five bytes: FF FF FF FC 'x' -/
theorem ssh_exec_witness : ¬ SshExecSafeFull .u32 := by
  intro h
  exact h execType [255, 255, 255, 252, 120] 5 (by decide) (by decide)

theorem ssh_exec_fixed : SshExecSafeFull .wide :=
  fun typ p cap h => handleReq_wide_never_panics .i64 typ p cap h

/-- the repair changes nothing for prefixes below the wrap -/
theorem ssh_exec_agree (typ p : Str) (cap : Nat) (hn : be32 p < 4294967292) :
    handleReq .u32 .i64 typ p cap = handleReq .wide .i64 typ p cap := handleReq_agree typ p cap hn

theorem ssh_exec_extra_spec (w : IntW) (typ p : Str) (cap : Nat) (s : Str) (h : handleReq .wide w typ p cap = .extra s) :
    typ = execType ∧ s = (p.drop 4).take (be32 p) ∧ s.length = be32 p := handleReq_extra_spec w typ p cap s h

/-- **the clause for the code at hand**, with the arithmetic read from the source -/
theorem ssh_exec_code :
    (sshExecArith = .wide → SshExecSafeFull sshExecArith) ∧ (sshExecArith = .u32 → ¬ SshExecSafeFull sshExecArith) := by
  cases h : sshExecArith
  · exact ⟨fun hc => (by cases hc), fun _ => ssh_exec_witness⟩
  · exact ⟨fun _ => ssh_exec_fixed, fun hc => (by cases hc)⟩

/-- ssh.Unmarshal into tcpipForward{Host string; Port uint32} (x/crypto/ssh's parseString / parseUint32 with their
    slice expressions explicit) returns a value or an error for every payload -/
theorem ssh_unmarshal_never_panics (data : Str) : unmarshalForwardG data ≠ .panic := unmarshalForwardG_ne_panic data

/-- tie: the one Unmarshal call of pkg/ssh has exactly this target, and its error is tested and leaves; the loop of
    handleNewChannel is started with `go` and no function of the package calls recover() -/
theorem ssh_unmarshal_fact :
    sshUnmarshals = [("TunnelServer.waitForwardAddrAndExtraPayload", "tcpipForward", ["string", "uint32"], true)] ∧
    sshGoStmts.contains ("TunnelServer.waitForwardAddrAndExtraPayload", "s.handleNewChannel") = true ∧
    sshGoStmts.contains ("Gateway.Run", "g.handleConn") = true ∧ sshRecoverCalls = 0 :=
  ⟨rfl, by decide +kernel⟩

/-- one ssh connection, ANY sequence of global requests, channel opens of any type, channel requests with any payload,
    closes and a disconnect: with the repaired arithmetic the process is alive after it -/
theorem ssh_conn_never_dies_fixed (evs : List SshGw.Ev) (c : SshGw.Conn) : (runConn .wide c evs).2 = .alive :=
  run_wide_alive evs (c, .alive) rfl

/-- as the code is: alive as long as no exec request carries a wrapping prefix -/
theorem ssh_conn_alive_partial (evs : List SshGw.Ev) (c : SshGw.Conn) (hw : ∀ e ∈ evs, wrapsReq e = false) :
    (runConn .u32 c evs).2 = .alive :=
  run_u32_alive evs (c, .alive) rfl hw

/-- as the code is: one channel of any type and one request end the process, whatever else is sent before or after
    (NoClientAuth: no key needed) -/
theorem ssh_conn_witness :
    (runConn .u32 {} [.openCh [120], .chanReq 0 execType [255, 255, 255, 252, 120] 0]).2 = .processDies ∧
    (runConn .u32 {} [.global forwardType [0, 0, 0, 0, 0, 0, 0, 80], .openCh [115], .chanReq 0 execType [0, 0, 0, 1, 116] 3,
      .chanReq 0 execType [255, 255, 255, 255, 0, 0, 0, 0, 0] 0, .disconnect]).2 = .processDies ∧
    (runConn .wide {} [.openCh [120], .chanReq 0 execType [255, 255, 255, 252, 120] 0]) = ({ chans := 1 }, .alive) ∧
    (runConn .u32 {} [.openCh [120], .disconnect, .chanReq 0 execType [255, 255, 255, 252, 120] 0]).2 = .alive := by
  decide

theorem ssh_conn_code :
    (sshExecArith = .wide → ∀ (evs : List SshGw.Ev) (c : SshGw.Conn), (runConn sshExecArith c evs).2 = .alive) ∧
    (sshExecArith = .u32 → ∃ evs : List SshGw.Ev, (runConn sshExecArith {} evs).2 = .processDies) := by
  cases h : sshExecArith
  · exact ⟨fun hc => (by cases hc), fun _ => ⟨_, ssh_conn_witness.1⟩⟩
  · exact ⟨fun _ => ssh_conn_never_dies_fixed, fun hc => (by cases hc)⟩

end sshgw

/-! ## Lock balance: every function that takes a mutex gives it back on every way out -/

section lockbal

/-- functions whose contract is "returns with the lock held" (file, function, lock) — none in the tree -/
def lockHandOvers : List (String × String × String) := []

def lockLeaksOpen : List (String × String × Nat × String × String) :=
  Frp.Gen.LockBalance.leaks.filter (fun l => !lockHandOvers.contains (l.1, l.2.1, l.2.2.2.1))

/-- over the facts regenerated on this run: no function body of client/ pkg/ server/ can be left — by a `return` or by
    running off its end, on ANY path — with a mutex it locked still held (may-held analysis: a lock held on one branch
    counts) -/
theorem lock_balance : lockLeaksOpen = [] := by
  decide +kernel

/-- the extractor is not blind: it followed more than a thousand bodies, more than a hundred of them lock something,
    among them the two synchronous handlers of a session and the worker's teardown, all on `ctl.mu` -/
theorem lock_balance_present :
    1000 ≤ Frp.Gen.LockBalance.bodies ∧ 100 ≤ Frp.Gen.LockBalance.lockingFuncs.length ∧
    ["Control.RegisterProxy", "Control.CloseProxy", "Control.worker"].all (fun f =>
      Frp.Gen.LockBalance.lockingFuncs.any (fun l => l.1 = "server/control.go" && l.2.1 = f && l.2.2.contains "ctl.mu")) = true := by
  decide +kernel

/-- with lock-balanced functions (`lock_balance`) every message of a live session is handled — every sequence of NewProxy
    (within or above max_ports_per_client), CloseProxy and Ping, every limit — -/
theorem session_handles_all (max : Nat) (ms : List LockBal.Msg) (s : LockBal.Sess) (h : s.muHeld = false ∧ s.stuck = false)
    (hg : s.gone = false) (hnd : ∀ m ∈ ms, m ≠ .drop) :
    (LockBal.run false max s ms).handled = s.handled + ms.length ∧ (LockBal.run false max s ms).gone = false :=
  (LockBal.run_balanced max ms s h hg hnd).1

/-- with lock-balanced functions, when its connection goes the session is torn down completely (ports released, run
    id free) -/
theorem session_teardown_closes (max : Nat) (ms : List LockBal.Msg) (s : LockBal.Sess) (h : s.muHeld = false ∧ s.stuck = false)
    (hg : s.gone = false) (hnd : ∀ m ∈ ms, m ≠ .drop) : (LockBal.run false max s (ms ++ [.drop])).closed = true :=
  LockBal.balanced_teardown_closes max ms s h hg hnd

/-- one way out that leaves `ctl.mu` locked: from then on the session is NEVER torn down, whatever is sent and whether
    or not the connection goes — its ports stay bound, a login with its run id waits for ever -/
theorem lock_leak_never_closes (leak : Bool) (max : Nat) (ms : List LockBal.Msg) (s : LockBal.Sess)
    (h : s.muHeld = true ∧ s.closed = false) :
    (LockBal.run leak max s ms).closed = false ∧ (LockBal.run leak max s ms).muHeld = true :=
  LockBal.leak_never_closes leak max ms s h

/-- the refusal itself is enough: one NewProxy above the limit on a variant whose refusal branch keeps the lock -/
theorem lock_leak_after_one_refusal (max : Nat) (hmax : 0 < max) (s : LockBal.Sess)
    (hs : s.muHeld = false ∧ s.stuck = false ∧ s.gone = false ∧ s.closed = false)
    (n : Nat) (hn : max < s.used + n) (ms : List LockBal.Msg) :
    (LockBal.run true max s (.newProxy n :: ms)).closed = false :=
  LockBal.leak_after_one_refusal max hmax s hs n hn ms

theorem lock_leak_witness :
    (LockBal.run true 2 {} (LockBal.opSchedule 2 [.closeProxy 1, .newProxy 1, .ping])) =
      { muHeld := true, stuck := true, used := 2, handled := 3, refused := 1, gone := true, closed := false } ∧
    (LockBal.run false 2 {} (LockBal.opSchedule 2 [.closeProxy 1, .newProxy 1, .ping])) =
      { used := 2, handled := 6, refused := 1, gone := true, closed := true } ∧
    (LockBal.run true 0 {} (LockBal.opSchedule 2 [.closeProxy 1, .newProxy 1, .ping])).closed = true :=
  LockBal.leak_witness

end lockbal

/-! ## Census of map-typed struct fields: the list of designated shared tables is closed -/

section mapcensus
open Frp.Gen.MapCensus

/-- map fields that are written after construction and are NOT shared tables judged by the lock discipline, each with the
    reason (read by hand).  A prefix ending in `/` or `.` stands for everything below it -/
def mapFieldsPinned : List (String × String) :=
  [ ("pkg/config/", "configuration value objects: filled while ONE goroutine loads a file / converts a message, handed on afterwards"),
    ("pkg/metrics/mem.ServerStatistics.", "only reached through serverMetrics, whose every method holds serverMetrics.mu"),
    ("pkg/metrics/mem.ServerStats.ProxyTypeCounts", "a fresh copy built by serverMetrics.GetServer under serverMetrics.mu and returned"),
    ("pkg/msg.Dispatcher.msgHandlers", "RegisterHandler runs before Dispatcher.Run starts the read loop; read-only afterwards"),
    ("pkg/vnet.clientRouter.routes", "own RWMutex taken in addRoute / findConn / delRoute, no other access"),
    ("pkg/vnet.serverRouter.", "own RWMutex taken in addConn / findConnBySrc / registerSrcIP / delConn, no other access") ]

def mapFieldPinned (obj : String) : Bool :=
  mapFieldsPinned.any (fun p => p.1 = obj || ((p.1.endsWith "/" || p.1.endsWith ".") && obj.startsWith p.1))

def mapFieldDesignated (obj : String) : Bool := (accesses.map (·.obj)).contains obj

/-- `map_census_closed` (with the pinned prefixes tried before the accesses are searched) and `map_census_present` in
    one evaluation: both look the same field names up in the same two tables -/
theorem map_census_judged :
    mapFields.all (fun f => f.2.1 == 0 || mapFieldPinned f.1 || mapFieldDesignated f.1) = true ∧
    (40 ≤ mapFields.length ∧
      ["server.ControlManager.ctlsByRunID", "server.Control.proxies", "pkg/nathole.Controller.clientCfgs", "pkg/nathole.Controller.sessions",
       "server/ports.Manager.usedPorts", "server/proxy.Manager.pxys", "pkg/util/vhost.Routers.indexByDomain", "client/proxy.Manager.proxies"].all
        (fun o => mapFields.any (fun f => f.1 = o && f.2.1 != 0 && f.2.2.1) && mapFieldDesignated o) = true) := by
  decide +kernel

/-- every map-typed struct field of client/ pkg/ server/ that some statement outside a constructor writes is one of the
    designated shared tables (every access to it is judged by `all_guarded…` over LockFacts) or pinned with its reason —
    over the census regenerated on this run: a NEW map that is written at run time has to be argued for -/
theorem map_census_closed :
    ∀ f ∈ mapFields, f.2.1 = 0 ∨ mapFieldDesignated f.1 = true ∨ mapFieldPinned f.1 = true := by
  intro f hf
  have h := List.all_eq_true.mp map_census_judged.1 f hf
  simp only [Bool.or_eq_true, beq_iff_eq] at h
  rcases h with (h | h) | h
  · exact Or.inl h
  · exact Or.inr (Or.inr h)
  · exact Or.inr (Or.inl h)

/-- the extractor is not blind: the session table, a session's proxies, the nat-hole tables, the port manager's sets
    are in the census as written after construction -/
theorem map_census_present :
    40 ≤ mapFields.length ∧
    ["server.ControlManager.ctlsByRunID", "server.Control.proxies", "pkg/nathole.Controller.clientCfgs", "pkg/nathole.Controller.sessions",
     "server/ports.Manager.usedPorts", "server/proxy.Manager.pxys", "pkg/util/vhost.Routers.indexByDomain", "client/proxy.Manager.proxies"].all
      (fun o => mapFields.any (fun f => f.1 = o && f.2.1 != 0 && f.2.2.1) && mapFieldDesignated o) = true :=
  map_census_judged.2

/-- pkg/auth (the verifier is ONE object shared by every connection's goroutine): the only field a method assigns is
    `OidcAuthConsumer.subjectsFromLogin`, and it is a SLICE — an unsynchronised append can lose an update (DESIGN 7 #18, a
    note) but cannot end the process; a map there would (`fatal error: concurrent map writes`) -/
theorem auth_field_writes_pinned :
    authFieldWrites = [("pkg/auth.OidcAuthConsumer.subjectsFromLogin", "slice", "OidcAuthConsumer.VerifyLogin")] ∧
    authFieldWrites.all (fun w => w.2.1 != "map") = true :=
  ⟨rfl, by decide +kernel⟩

end mapcensus

/-! ## non-vacuity -/

example : chanCap false 5 1 = 11 := by decide
example : chanCap false 5 1000000 = 15 := by decide
example : chanCap false 5 (-10) = 0 := by decide
example : chanCap false 5 (-11) = -1 := by decide
example : chanCap true 5 (-11) = 10 := by decide
example : loginOutcome false 5 (-9223372036854775808) = .processDies := by decide
example : loginOutcome false 5 (-1) = .alive ∧ proxyUseOutcome false 5 (-1) = .processDies := by decide
example : proxyUseOutcome true 5 (-1) = .alive := by decide
example : (run ["Ping"] [{}, {}] [(0, .bad), (1, .known "Ping"), (0, .known "Ping"), (1, .known "Pong")])
    = [{ alive := false }, { handled := ["Ping"] }] := by decide
example : firstMsg (.known "Ping") = .closed := by decide
example : ptrUses.length ≠ 0 := by decide +kernel
example : forwardUserOne ⟨true, none, none⟩ = .writeErr ∧ forwardUserOne ⟨false, none, none⟩ = .skipped ∧
    forwardUserOne ⟨true, none, some ⟨4, 53⟩⟩ = .written ∧ forwardUserOne ⟨true, none, some ⟨0, 0⟩⟩ = .writeErr := by decide
example : (srvRun ["Ping"] nilSafeMethods nilTolerantCallees ptrUses { ctls := [{}], works := [{}, {}] }
    [.work 0 (.udp ⟨true, none, none⟩), .work 0 .bad, .work 0 (.udp ⟨true, none, none⟩), .work 1 .ping, .ctl 0 (.known "Ping"),
     .bytes .relay]) =
    { ctls := [{ handled := ["Ping"] }], works := [{ open_ := false, queued := [⟨true, none, none⟩], renew := 1 }, {}] } := by
  decide +kernel
example : (trun ⟨true, false⟩ {} (tearSchedule "drained" 2)) = ({ chOpen := false, doneOpen := false, inTable := false }, .alive) := by
  decide
example : accesses.length ≠ 0 := by decide +kernel
example : Frp.Gen.LockOrder.edges.length ≠ 0 := by decide +kernel
example : RegCtl.settled (RegCtl.run true {} (RegCtl.reloginSchedule 3 [3, 1, 0, 2] ++ RegCtl.drain (RegCtl.run true {} (RegCtl.reloginSchedule 3 [3, 1, 0, 2])))) = true := by
  decide
example : handleStartWork false .v1 true true .bad .v4 = .crash ∧ handleStartWork true .v1 true true .bad .v4 = .closed ∧
    handleStartWork false .v2 true true .v4 .v6 = .closed ∧ handleStartWork false .v2 true false .v6 .v4 = .hdr ∧
    handleStartWork false .unset true true .bad .bad = .nohdr ∧ handleStartWork false .v1 false true .bad .bad = .nohdr := by decide

example : Frp.Gen.IndexFacts.sites.length ≠ 0 := by decide +kernel
example : Frp.Gen.IndexFacts.sshSites.length ≠ 0 := by decide +kernel
example : SshGw.handleReq .u32 .i64 SshGw.execType [0, 0, 0, 3, 116, 99, 112, 33] 8 = .extra [116, 99, 112] ∧
    SshGw.handleReq .u32 .i64 SshGw.execType [0, 0, 0, 9, 116] 5 = .ignored ∧
    SshGw.handleReq .u32 .i64 SshGw.execType [255, 255, 255, 251, 116] 5 = .ignored ∧
    SshGw.handleReq .u32 .i64 SshGw.execType [255, 255, 255, 252, 116] 5 = .panic ∧
    SshGw.handleReq .wide .i64 SshGw.execType [255, 255, 255, 252, 116] 5 = .ignored ∧
    SshGw.handleReq .u32 .i32 SshGw.execType [127, 255, 255, 252, 116] 5 = .panic ∧
    SshGw.handleReq .u32 .i64 [115] [255, 255, 255, 252, 116] 5 = .ignored := by decide
example : SshGw.unmarshalForwardG [0, 0, 0, 1, 120, 0, 0, 0, 80] = .ok (some ([120], 80)) ∧
    SshGw.unmarshalForwardG [255, 255, 255, 255, 120, 0, 0, 0, 80] = .ok none ∧ SshGw.unmarshalForwardG [] = .ok none ∧
    SshGw.unmarshalForwardG [0, 0, 0, 0, 0, 0, 0, 80, 1] = .ok none := by decide
example : Frp.Gen.PluginClose.closeFacts.length ≠ 0 := by decide +kernel
example : UserIn.canonicalHostG [46] = .ok (some []) ∧ UserIn.canonicalHostG [46, 58, 56, 48] = .ok (some []) ∧
    UserIn.canonicalHostG [91, 58, 58, 49, 93] = .ok (some [91, 58, 58, 49, 93]) ∧ UserIn.canonicalHostG [58, 58] = .ok (some [58, 58]) ∧
    UserIn.canonicalHostG [91] = .ok (some [91]) ∧ UserIn.canonicalHostG [] = .ok (some []) := by decide

end C16
end Frp
