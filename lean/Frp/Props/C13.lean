import Frp.Model.Group
import Frp.Lemmas.Group
import Frp.Lemmas.GroupConn
import Frp.Lemmas.GroupAcct
import Frp.Gen.GroupFacts
/-
  C13 — Load-balancing groups: keyed membership, live members only, clean lifecycle.

  Model: Frp/Model/Group.lean (server/group/{tcp,http,tcpmux}.go).
-/
namespace Frp
namespace C13
open Str Group

/-! ## Executable predicates evaluated by the driver on the implementation's own results -/

/-- the populated object a join to group `g` meets (sequentially: the one stored under `g`) -/
def metObj (s : St) (g : Str) : Option Obj :=
  match s.table.lookup g with
  | none => none
  | some gid => if (s.obj gid).members = [] then none else some (s.obj gid)

/-- membership clause on one join result: meeting a populated group, the join is accepted iff it
    presents the group's key and endpoint parameters (http: and is not already a member); an
    accepted tcp join reports the port that is really listening (`truthful`) and the group's port. -/
def joinHolds (s : St) (m g key : Str) (p : Params) (implOk : Bool) (truthful : Bool) (reported : Nat) : Bool :=
  (match metObj s g with
   | none => true
   | some o =>
     (implOk == (decide (o.key = key ∧ o.params = p) && !(s.kind == .http && o.members.contains m)))
     && (!implOk || s.kind != .tcp || reported == o.realPort))
  && (!implOk || truthful)

/-- delivery clause on one connection result: `owner` = the object whose endpoint the connection
    arrived at (none = nobody's), `live` = the proxies that joined and have not left (the harness's
    own bookkeeping, independent of the group object), `got` = the member that received it.
    Delivered ⇒ to a listed member that is live; an owner with a live listed member ⇒ delivered. -/
def connHolds (owner : Option Obj) (live : List Str) (got : Option Str) : Bool :=
  match owner, got with
  | none, none => true
  | none, some _ => false
  | some o, none => !(o.members.any live.contains)
  | some o, some m => o.members.contains m && live.contains m

/-- what the implementation did, by the end of an op, with a user connection that had reached the
    endpoint of a group object and was waiting there for a member to pick it up -/
inductive Fate
  | waiting             -- still open, no data, not closed
  | to (m : Str)        -- member m received it
  | closed              -- frps closed it
deriving DecidableEq, Repr

/-- delivery clause on a WAITING connection (arrival decoupled from pick-up).  `o` = the object whose
    endpoint it reached, as the model has it after the op; `live` = proxies that joined and have not
    left, `accepting` ⊆ `live` = those whose accept loop is running (both the harness's own books).
    Delivered ⇒ to a listed live member.  Closed ⇒ no listed member is live (none is lost while a
    member is live).  Still waiting ⇒ some listed member is live (else it is stranded: nobody will
    ever take or close it) and none of them is accepting (else it is stranded while a member is ready). -/
def pendHolds (o : Obj) (live accepting : List Str) : Fate → Bool
  | .to m => o.members.contains m && live.contains m
  | .closed => !(o.members.any live.contains)
  | .waiting => o.members.any live.contains && !(o.members.any accepting.contains)


/-- port accounting on one dump of the real ports.Manager: every port it holds as used belongs to a group
    object that has members (`repaired_used_iff_populated`: nothing else is used in the model) — a port still
    accounted after its group dissolved is an endpoint that has outlived its members -/
def usedHolds (s : St) (implUsed : List Nat) : Bool :=
  implUsed.all (fun p => s.objs.any (fun o => !o.members.isEmpty && o.realPort == p))

/-- the same for the routes of the real vhost.Routers (http): each is somebody else's or a populated group's -/
def routesHolds (s : St) (implRoutes : List EpKey) : Bool :=
  implRoutes.all (fun k => s.ext.contains k || s.objs.any (fun o => !o.members.isEmpty && o.ep == k))

/-- "can be created again immediately": a join that CREATES the group (meets no populated object) on an
    endpoint which a now dissolved group object has held, and which is free by the model's books
    (`modelOk`: not squatted, allowed, not used by a live group), must be accepted -/
def recreateHolds (s : St) (g : Str) (p : Params) (modelOk implOk : Bool) : Bool :=
  !((metObj s g).isNone && modelOk && !implOk &&
    s.objs.any (fun o => o.members.isEmpty && !o.lnOpen && o.params.kind == p.kind && o.ep == routeKey p &&
                         !(o.name == [] && o.key == [] && o.realPort == 0 && o.ep == .port 0)))

/-! ## Keyed membership (one join step; holds in every state, hence under every interleaving) -/

theorem ite_some_eq_none {α : Type} {c : Prop} [Decidable c] {e : α} {x : Option α} :
    (if c then some e else x) = none ↔ ¬c ∧ x = none := by
  split <;> simp [*]

/-- the comparison of a non-first join passes iff group name, key and ALL endpoint parameters agree -/
theorem cmp_none_iff (oname okey : Str) (op : Params) (g key : Str) (p : Params) :
    cmp oname okey op g key p = none ↔ (oname = g ∧ okey = key ∧ op = p) := by
  -- a chain of early returns yields `none` iff every test passes; what is left is the order of the conjuncts
  cases op <;> cases p <;>
    simp only [cmp, ite_some_eq_none, not_or, Decidable.not_not, Params.tcp.injEq, Params.http.injEq,
      Params.mux.injEq, reduceCtorEq, and_false, and_true, and_assoc]
  · exact ⟨fun ⟨a, b, c, d⟩ => ⟨a, d, b, c⟩, fun ⟨a, d, b, c⟩ => ⟨a, b, c, d⟩⟩
  · exact ⟨fun ⟨a, b, c, d, e⟩ => ⟨a, e, b, c, d⟩, fun ⟨a, e, b, c, d⟩ => ⟨a, b, c, d, e⟩⟩
  · exact ⟨fun ⟨a, b, c, d, e, f⟩ => ⟨a, f, b, c, d, e⟩, fun ⟨a, f, b, c, d, e⟩ => ⟨a, b, c, d, e, f⟩⟩

/-- **join succeeds iff key and endpoint parameters match** (populated group object, any state,
    any repair switch): accepted ⇔ same group name, same key, same parameters (and, for http, not
    already a member). -/
theorem join_ok_iff (fx : Fix) (s : St) (m g key : Str) (p : Params) (orc : Oracle) (gid : Nat)
    (hpop : (s.obj gid).members ≠ []) :
    (∃ s' rp, enter fx s m g key p orc gid = some (s', .ok rp)) ↔
      ((s.obj gid).name = g ∧ (s.obj gid).key = key ∧ (s.obj gid).params = p ∧
        ¬ (s.kind = .http ∧ m ∈ (s.obj gid).members)) := by
  unfold enter
  simp only [hpop, if_false]
  cases hc : cmp (s.obj gid).name (s.obj gid).key (s.obj gid).params g key p with
  | some e =>
    have : ¬ ((s.obj gid).name = g ∧ (s.obj gid).key = key ∧ (s.obj gid).params = p) := by
      intro h; rw [(cmp_none_iff _ _ _ _ _ _).2 h] at hc; cases hc
    constructor
    · rintro ⟨s', rp, h⟩; simp at h
    · rintro ⟨h1, h2, h3, _⟩; exact absurd ⟨h1, h2, h3⟩ this
  | none =>
    have h3 := (cmp_none_iff _ _ _ _ _ _).1 hc
    by_cases hr : s.kind = .http ∧ m ∈ (s.obj gid).members
    · rw [if_pos hr]
      constructor
      · rintro ⟨s', rp, h⟩; simp at h
      · rintro ⟨_, _, _, h⟩; exact absurd ⟨hr.1, hr.2⟩ h
    · rw [if_neg hr]
      exact ⟨fun _ => ⟨h3.1, h3.2.1, h3.2.2, hr⟩, fun _ => ⟨_, _, rfl⟩⟩

/-- **a refused join leaves the group (indeed the whole state) unchanged** -/
theorem join_refused_unchanged (fx : Fix) (s : St) (m g key : Str) (p : Params) (orc : Oracle)
    (gid : Nat) (hpop : (s.obj gid).members ≠ []) (s' : St) (e : Err)
    (h : enter fx s m g key p orc gid = some (s', .err e)) : s' = s := by
  unfold enter at h
  simp only [hpop, if_false] at h
  split at h
  · simp at h; exact h.1.symm
  · split at h
    · simp at h; exact h.1.symm
    · simp at h

/-- an accepted later join appends exactly the new member and touches nothing else of the object -/
theorem join_ok_effect (fx : Fix) (s : St) (m g key : Str) (p : Params) (orc : Oracle)
    (gid : Nat) (hpop : (s.obj gid).members ≠ []) (s' : St) (rp : Nat)
    (h : enter fx s m g key p orc gid = some (s', .ok rp)) :
    s' = s.setObj gid { s.obj gid with members := (s.obj gid).members ++ [m] } ∧ rp = (s.obj gid).realPort := by
  unfold enter at h
  simp only [hpop, if_false] at h
  split at h
  · simp at h
  · split at h
    · simp at h
    · simp at h; exact ⟨h.1.symm, h.2.symm⟩

/-! ## What the pinned tree does under the racing schedule (witnesses) -/

/-- no reachable state has an unrecovered panic -/
def NoPanic (fx : Fix) (s0 : St) : Prop := ∀ ls s, run fx s0 ls = some s → s.panicked = false

/-- no connection is ever left open in nobody's hands -/
def NoLimbo (fx : Fix) (s0 : St) : Prop := ∀ ls s, run fx s0 ls = some s → s.limbo = []

def wm1 : Str := [109, 49]
def wm2 : Str := [109, 50]
def wm3 : Str := [109, 51]
def wg : Str := [103]
def wk : Str := [107]
def wTcp : Params := .tcp [] 3
def wHttp : Params := .http [97] [47] []
def wMux : Params := .mux [97] [] [] []
def w0 (k : Kind) : St := init k [1, 2, 3, 4, 5, 6, 7, 8]

/-- `join(m1) · lookup(m2,g) · leave(m1) · enter(m2) · leave(m2)` for tcp / tcpmux groups -/
def raceL (p : Params) : List Label :=
  [.lookup wm1 wg, .enter wm1 wk p {}, .lookup wm2 wg, .leaveL wm1 0, .enter wm2 wk p {}, .leaveL wm2 0]

/-- the same schedule for http groups (leave = `UnRegister(m, g)`) -/
def raceG (p : Params) : List Label :=
  [.lookup wm1 wg, .enter wm1 wk p {}, .lookup wm2 wg, .leaveG wm1 wg, .enter wm2 wk p {}, .leaveG wm2 wg]

/-- one run ending in a state where `b` holds refutes "every reachable state satisfies `Q`" when `Q` excludes `b` -/
theorem refuted_by_run {fx : Fix} {s0 : St} {Q : St → Prop} (ls : List Label) (b : St → Bool)
    (hb : (run fx s0 ls).map b = some true) (hq : ∀ s, Q s → b s = false) :
    ¬ ∀ ls s, run fx s0 ls = some s → Q s := by
  intro h
  cases hr : run fx s0 ls with
  | none => rw [hr] at hb; cases hb
  | some s =>
    rw [hr, Option.map_some, hq s (h ls s hr)] at hb
    cases hb

/-- **§7/9 on the pinned tree (tcp):** the schedule is enabled and ends in a double close of
    `acceptCh`, i.e. frps dies. -/
theorem no_panic_witness : ¬ NoPanic pinned (w0 .tcp) :=
  refuted_by_run (raceL wTcp) (·.panicked) (by decide +kernel) (fun _ h => h)

theorem no_panic_witness_mux : ¬ NoPanic pinned (w0 .mux) :=
  refuted_by_run (raceL wMux) (·.panicked) (by decide +kernel) (fun _ h => h)

/-- **stranded while a member is live (pinned):** after `… enter(m2)` the revived group lists the
    live member m2 and its endpoint is open, but a connection accepted there is neither delivered nor
    closed (§7/10), and the worker is gone. -/
theorem stranded_witness :
    (run pinned (w0 .tcp) ((raceL wTcp).take 5 ++ [.accept 7 0, .handoff 7 wm2])).map
      (fun s => (s.obj 0).members == [wm2] && (s.obj 0).lnOpen && s.limbo == [7] && s.delivered.isEmpty
                && (s.obj 0).workerDead && s.table.isEmpty) = some true := by decide +kernel

theorem no_limbo_witness : ¬ NoLimbo pinned (w0 .tcp) :=
  refuted_by_run _ _ stranded_witness (fun s h => by simp [h])

/-- §7/10 needs no race: a connection accepted just before the last leave is left open for ever -/
theorem handoff_limbo_witness :
    (run pinned (w0 .tcp) [.lookup wm1 wg, .enter wm1 wk wTcp {}, .accept 7 0, .leaveL wm1 0, .handoff 7 wm1]).map
      (fun s => (s.limbo, s.dropped)) = some ([7], []) := by decide +kernel

/-- the same connection is closed by the worker in the repaired model -/
theorem handoff_closed_repaired :
    (run repaired (w0 .tcp) [.lookup wm1 wg, .enter wm1 wk wTcp {}, .accept 7 0, .leaveL wm1 0, .handoff 7 wm1]).map
      (fun s => (s.limbo, s.dropped)) = some ([], [7]) := by decide +kernel

/-- **http groups (pinned):** the same schedule leaves the route registered by an object that is
    no longer in the table, with the departed m2 still listed; a later member of the group is
    refused with a route conflict, and requests still go to m2. -/
theorem http_leak_witness :
    (run pinned (w0 .http) (raceG wHttp)).map
      (fun s => (s.table, (s.obj 0).members, (s.obj 0).lnOpen, s.busy (routeKey wHttp))) =
      some ([], [wm2], true, true) ∧
    ((run pinned (w0 .http) (raceG wHttp)).bind
      (fun s => (step pinned s (.lookup wm3 wg)).bind
        (fun x => (step pinned x.1 (.enter wm3 wk wHttp {})).map (·.2)))) = some (.err .conflict) ∧
    ((run pinned (w0 .http) (raceG wHttp)).bind
      (fun s => (step pinned s (.request 0)).map (·.2))) = some (.to wm2) := by decide +kernel

/-- the racing schedule is not a schedule of the repaired model: the leave has to wait for the join -/
theorem race_disabled_repaired :
    run repaired (w0 .tcp) ((raceL wTcp).take 4) = none ∧ run repaired (w0 .http) ((raceG wHttp).take 4) = none := by
  decide +kernel

/-- **§7/3 (pinned): server-chosen port.** ports.Manager hands out 4, the kernel 40000: the group
    reports 4 and listens on 40000. -/
theorem truthful_witness :
    (run pinned (w0 .tcp) [.lookup wm1 wg, .enter wm1 wk (.tcp [] 0) { choice := some 4, eph := 40000 }]).map
      (fun s => ((s.obj 0).realPort, (s.obj 0).ep)) = some (4, .port 40000) := by decide +kernel

/-- **§7/3 (pinned): port leak.** net.Listen fails after Acquire: port 3 stays used with no owner,
    and the group can never be created on it again even after the other process has gone. -/
theorem port_leak_witness :
    (run pinned (w0 .tcp) [.lookup wm1 wg, .enter wm1 wk wTcp { grab := true }, .unsquat (.port 3)]).map
      (fun s => (s.leaked, s.busy (.port 3), s.usedPort 3)) = some ([3], false, true) ∧
    ((run pinned (w0 .tcp) [.lookup wm1 wg, .enter wm1 wk wTcp { grab := true }, .unsquat (.port 3), .lookup wm2 wg]).bind
      (fun s => (step pinned s (.enter wm2 wk wTcp {})).map (·.2))) = some (.err .acquire) ∧
    ((run repaired (w0 .tcp) [.lookup wm1 wg, .enter wm1 wk wTcp { grab := true }, .unsquat (.port 3), .lookup wm2 wg]).bind
      (fun s => (step repaired s (.enter wm2 wk wTcp {})).map (·.2))) = some (.ok 3) := by decide +kernel

/-! ## http rotation

What one `createConn` does (`request_step`), and two facts about `index mod n` on a member list.  That n
consecutive requests reach every member follows by composing them; it is not stated on `run`. -/

/-- what one `createConn` does (http, route registered by object `gid`) -/
theorem request_step (fx : Fix) (s : St) (gid : Nat) (hp : s.panicked = false) (hk : s.kind = .http)
    (ho : (s.obj gid).lnOpen = true) :
    step fx s (.request gid) =
      some (s.setObj gid { s.obj gid with index := (s.obj gid).index + 1 },
        match (s.obj gid).members[((s.obj gid).index + 1) % (s.obj gid).members.length]? with
        | none => .noMember
        | some m => .to m) := by
  unfold step
  simp only [hp, hk, ho]
  split
  · simp_all
  · cases (s.obj gid).members[((s.obj gid).index + 1) % (s.obj gid).members.length]? <;> rfl

/-- **rotation `index mod n` visits every member within n consecutive requests**, from any index -/
theorem rotation_covers (ms : List Str) (i : Nat) (m : Str) (hm : m ∈ ms) :
    ∃ j, j < ms.length ∧ ms[(i + 1 + j) % ms.length]? = some m := by
  obtain ⟨t, ht, rfl⟩ := List.mem_iff_getElem.1 hm
  have ha : (i + 1) % ms.length < ms.length := Nat.mod_lt _ (by omega)
  -- the request that is `t - (i + 1)` steps ahead, counted modulo the length
  refine ⟨(t + ms.length - (i + 1) % ms.length) % ms.length, Nat.mod_lt _ (by omega), ?_⟩
  have : (i + 1 + (t + ms.length - (i + 1) % ms.length) % ms.length) % ms.length = t := by
    rw [Nat.add_mod (i + 1), Nat.mod_mod]
    generalize (i + 1) % ms.length = a at ha
    rw [Nat.add_mod_mod, show a + (t + ms.length - a) = t + ms.length by omega, Nat.add_mod_right,
      Nat.mod_eq_of_lt ht]
  rw [this, List.getElem?_eq_getElem ht]

/-- a request always picks a listed member when there is one (never "no member", never an outsider) -/
theorem request_picks_member (ms : List Str) (i : Nat) (h : ms ≠ []) :
    ∃ m, ms[(i + 1) % ms.length]? = some m ∧ m ∈ ms := by
  have hn : 0 < ms.length := List.length_pos_iff.2 h
  have hlt := Nat.mod_lt (i + 1) hn
  exact ⟨ms[(i + 1) % ms.length], List.getElem?_eq_getElem hlt, List.getElem_mem hlt⟩

/-! ## The repaired controllers: invariants under ALL interleavings

`GInv` (Frp/Lemmas/Group.lean) is preserved by every label of the system whenever lookup+join and
the whole leave run under the controller lock (`inv_step`), for either value of the two other
switches; so it holds after every finite label sequence — every interleaving of joins, leaves,
worker accepts, hand-offs, requests and outside interference, of any length. -/

theorem repaired_inv (k : Kind) (allow : List Nat) (ls : List Label) (s : St)
    (h : run repaired (init k allow) ls = some s) : GInv s :=
  inv_run (fx := repaired) rfl rfl ls (inv_init k allow) h

/-- also with only the race repair applied (ports / hand-off repairs are independent) -/
theorem oneLock_inv (a c : Bool) (k : Kind) (allow : List Nat) (ls : List Label) (s : St)
    (h : run ⟨a, true, c, true⟩ (init k allow) ls = some s) : GInv s :=
  inv_run (fx := ⟨a, true, c, true⟩) rfl rfl ls (inv_init k allow) h

/-- **no ordering of joins and leaves brings the server down** -/
theorem repaired_no_panic (k : Kind) (allow : List Nat) : NoPanic repaired (init k allow) :=
  fun ls s h => (repaired_inv k allow ls s h).noPanic

/-- no leave of the repaired controllers can even attempt the second close of `acceptCh` -/
theorem repaired_leave_never_crashes (k : Kind) (allow : List Nat) (ls : List Label) (s s' : St)
    (m : Str) (gid : Nat) (r : Res) (h : run repaired (init k allow) ls = some s)
    (hs : step repaired s (.leaveL m gid) = some (s', r)) : r ≠ .crash :=
  (inv_leaveL (fx := repaired) rfl (repaired_inv k allow ls s h) (step_spec hs)).2

/-- **the endpoint exists exactly as long as the group has members** (every object, every reachable state) -/
theorem repaired_endpoint_iff_members (k : Kind) (allow : List Nat) (ls : List Label) (s : St)
    (h : run repaired (init k allow) ls = some s) (gid : Nat) (o : Obj) (ho : s.objs[gid]? = some o) :
    o.lnOpen = true ↔ o.members ≠ [] :=
  (repaired_inv k allow ls s h).openIff gid o ho

/-- **no zombie groups**: a populated object is the one the controller finds under its name, its
    hand-off channel is open; hence two populated objects never share a name. -/
theorem repaired_populated_is_registered (k : Kind) (allow : List Nat) (ls : List Label) (s : St)
    (h : run repaired (init k allow) ls = some s) (gid : Nat) (o : Obj) (ho : s.objs[gid]? = some o)
    (hm : o.members ≠ []) : o.chClosed = false ∧ s.table.lookup o.name = some gid :=
  (repaired_inv k allow ls s h).pop gid o ho hm

theorem repaired_one_object_per_name (k : Kind) (allow : List Nat) (ls : List Label) (s : St)
    (h : run repaired (init k allow) ls = some s) (i j : Nat) (oi oj : Obj)
    (hi : s.objs[i]? = some oi) (hj : s.objs[j]? = some oj) (mi : oi.members ≠ []) (mj : oj.members ≠ [])
    (hn : oi.name = oj.name) : i = j := by
  have a := ((repaired_inv k allow ls s h).pop i oi hi mi).2
  have b := ((repaired_inv k allow ls s h).pop j oj hj mj).2
  rw [hn, b] at a; cases a; rfl

/-! ### the hand-off channel: unbuffered, so it never holds a connection by itself -/

theorem repaired_cinv (k : Kind) (allow : List Nat) (ls : List Label) (s : St)
    (h : run repaired (init k allow) ls = some s) : CInv s :=
  cinv_run (fx := repaired) rfl ls (cinv_init k allow) h

/-- `make(chan net.Conn)`: in every reachable state every hand-off channel is empty -/
theorem repaired_queue_empty (k : Kind) (allow : List Nat) (ls : List Label) (s : St)
    (h : run repaired (init k allow) ls = some s) (gid : Nat) : (s.obj gid).queue = [] := by
  have hb := (repaired_cinv k allow ls s h).bounded gid
  have hc : s.cap = 0 := by rw [run_cap ls h]; rfl
  rw [hc] at hb
  exact List.length_eq_zero_iff.1 (Nat.le_zero.1 hb)

/-- **every accepted connection is handed to a live member, none is stranded while one is live**:
    in every reachable state, a connection in a worker's hands whose group lists at least one
    member can be received by each listed member and by nobody else; the send cannot fail. -/
theorem repaired_delivery (k : Kind) (allow : List Nat) (ls : List Label) (s : St)
    (h : run repaired (init k allow) ls = some s) (c gid : Nat)
    (hc : s.inflight.lookup c = some gid) (hm : (s.obj gid).members ≠ []) (m : Str) :
    (m ∈ (s.obj gid).members → ∃ s', step repaired s (.handoff c m) = some (s', .to m)) ∧
    (m ∉ (s.obj gid).members → step repaired s (.handoff c m) = none) := by
  have hi := repaired_inv k allow ls s h
  have hcc := (hi.pop_obj hm).1
  have hq := repaired_queue_empty k allow ls s h gid
  unfold step
  simp only [hi.noPanic, hc, hcc, hq]
  constructor
  · intro hmem; simp [hmem]
  · intro hmem; simp [hmem]

/-- a hand-off is answered "stranded" only when the group has no member left -/
theorem repaired_stranded_only_if_empty (k : Kind) (allow : List Nat) (ls : List Label) (s s' : St)
    (h : run repaired (init k allow) ls = some s) (c gid : Nat) (m : Str)
    (hc : s.inflight.lookup c = some gid)
    (hs : step repaired s (.handoff c m) = some (s', .stranded)) : (s.obj gid).members = [] := by
  have hi := repaired_inv k allow ls s h
  cases step_spec hs with
  | handoffFail hg hcl =>
    cases hc.symm.trans hg
    by_cases hm : (s.obj gid).members = []
    · exact hm
    · rw [(hi.pop_obj hm).1] at hcl
      cases hcl

/-- **immediate re-creation**: right after the last leave the name is free again, so the next
    lookup allocates a fresh object (open channel), and the old object's endpoint is closed. -/
theorem repaired_last_leave (k : Kind) (allow : List Nat) (ls : List Label) (s s' : St)
    (h : run repaired (init k allow) ls = some s) (m : Str) (gid : Nat) (r : Res)
    (hs : step repaired s (.leaveL m gid) = some (s', r)) (hlast : (s.obj gid).members.erase m = []) :
    s'.table.lookup (s.obj gid).name = none ∧ (s'.obj gid).lnOpen = false ∧ (s'.obj gid).members = [] := by
  have hi := repaired_inv k allow ls s h
  cases step_spec hs with
  | leaveL _ _ _ hms => exact absurd hlast hms
  | leaveLCrash _ hmem hc =>
    have hne := members_ne_of_mem hmem
    rw [(hi.pop_obj hne).1] at hc; cases hc
  | leaveLLast _ _ hmem =>
    have ho := obj_of_get (get_setObj_self (get_of_members (members_ne_of_mem hmem))
      (o' := { s.obj gid with members := [], chClosed := true, lnOpen := false }))
    exact ⟨lookup_filter_self, congrArg Obj.lnOpen ho, congrArg Obj.members ho⟩

/-! ### connections that are waiting for their hand-off when members leave

A connection that reached the group's listener is, at every moment, in exactly one place: with the
worker (`inflight`: kernel backlog / blocked in the send), with the member that received it
(`delivered`), closed (`dropped`) — or, if the code were different, inside the channel's buffer
(`queue`) or open in nobody's hands (`limbo`).  The last two are where a connection can be
stranded; the theorems say they stay empty under every interleaving, and what happens to the
waiting connections when the last member leaves. -/

/-- connections nobody will ever serve or close: left open after a failed hand-off, or buffered in
    the channel of a group object that has no member (only a member receives) -/
def strandedConns (s : St) : List Nat :=
  s.limbo ++ (s.objs.filter (fun o => o.members.isEmpty)).flatMap (·.queue)

def NoStranded (fx : Fix) (s0 : St) : Prop := ∀ ls s, run fx s0 ls = some s → strandedConns s = []

theorem repaired_no_limbo (k : Kind) (allow : List Nat) : NoLimbo repaired (init k allow) :=
  fun ls s h => (repaired_cinv k allow ls s h).noLimbo

/-- **no connection is ever stranded**, whatever the order of arrivals, pick-ups, joins and leaves -/
theorem repaired_no_stranded (k : Kind) (allow : List Nat) : NoStranded repaired (init k allow) := by
  intro ls s h
  unfold strandedConns
  rw [(repaired_cinv k allow ls s h).noLimbo, List.nil_append, List.flatMap_eq_nil_iff]
  intro o ho
  obtain ⟨gid, hlt, hg⟩ := List.mem_iff_getElem.1 (List.mem_filter.1 ho).1
  have := repaired_queue_empty k allow ls s h gid
  simp only [St.obj, List.getElem?_eq_getElem hlt, Option.getD_some, hg] at this
  exact this

/-- **while a member is live the worker keeps the connection**: the send cannot complete without a
    receiver (nothing is buffered, nothing is closed); it completes with each listed member
    (`repaired_delivery`). -/
theorem repaired_pending_waits (k : Kind) (allow : List Nat) (ls : List Label) (s : St)
    (h : run repaired (init k allow) ls = some s) (c gid : Nat)
    (hc : s.inflight.lookup c = some gid) (hm : (s.obj gid).members ≠ []) :
    step repaired s (.send c) = none := by
  have hi := repaired_inv k allow ls s h
  have hcc := (hi.pop_obj hm).1
  have hcap : s.cap = 0 := by rw [run_cap ls h]; rfl
  unfold step
  simp [hi.noPanic, hc, hcc, hcap]

/-- **connections still waiting when the last member has left are closed**: in every reachable
    state, for a connection in the worker's hands whose group has no member any more, the worker's
    send (with whatever receiver `m` one names, or with none) is enabled, fails, and the connection
    ends in `dropped` (closed) — never in limbo, never in a buffer. -/
theorem repaired_pending_closed (k : Kind) (allow : List Nat) (ls : List Label) (s : St)
    (h : run repaired (init k allow) ls = some s) (c gid : Nat)
    (hc : s.inflight.lookup c = some gid) (hm : (s.obj gid).members = []) (l : Label)
    (hl : (∃ m, l = .handoff c m) ∨ l = .send c) :
    ∃ s', step repaired s l = some (s', .stranded) ∧ c ∈ s'.dropped ∧ s'.limbo = [] ∧
      s'.inflight.lookup c = none := by
  have hi := repaired_inv k allow ls s h
  have hci := repaired_cinv k allow ls s h
  have hheld := (hci.held c gid (lookup_mem hc)).2
  have hclosed : (s.obj gid).chClosed = true := by
    rcases hheld with ho | hcl
    · have := (hi.openIff gid _ (get_of_lnOpen ho)).1 ho
      exact absurd hm this
    · exact hcl
  have hlk : (s.inflight.filter (fun x => !(x.1 == c))).lookup c = none := lookup_filter_self
  rcases hl with ⟨m, rfl⟩ | rfl <;>
  · refine ⟨_, by unfold step; simp only [hi.noPanic, hc, hclosed, repaired]; rfl, ?_, ?_, ?_⟩
    · exact List.mem_cons_self
    · exact hci.noLimbo
    · exact hlk

theorem repaired_ainv (k : Kind) (allow : List Nat) (ls : List Label) (s : St)
    (h : run repaired (init k allow) ls = some s) : AInv s :=
  ainv_run (fx := repaired) rfl ls (ainv_init k allow) (cinv_init k allow) rfl h

/-- **none is lost**: under every interleaving, a connection that reached a group's listener is
    still with the worker (waiting for a member), or was received by a member, or was closed. -/
theorem repaired_none_lost (k : Kind) (allow : List Nat) (ls : List Label) (s : St)
    (h : run repaired (init k allow) ls = some s) (c : Nat) (hc : c ∈ s.seen) :
    (∃ g, (c, g) ∈ s.inflight) ∨ (∃ m, (c, m) ∈ s.delivered) ∨ c ∈ s.dropped := by
  rcases (repaired_ainv k allow ls s h).acct c hc with a | a | a
  · obtain ⟨x, hx, rfl⟩ := List.mem_map.1 a; exact Or.inl ⟨x.2, hx⟩
  · obtain ⟨x, hx, rfl⟩ := List.mem_map.1 a; exact Or.inr (Or.inl ⟨x.2, hx⟩)
  · exact Or.inr (Or.inr a)

theorem unique_of_nodup_keys {l : List (Nat × Str)} (hn : (l.map (·.1)).Nodup) {c : Nat} {m m' : Str}
    (h1 : (c, m) ∈ l) (h2 : (c, m') ∈ l) : m = m' :=
  congrArg Prod.snd (eq_of_nodup_map (f := (·.1)) hn h1 h2 rfl)

/-- **to exactly one member, and to no one else**: a delivered connection was received by one
    member only, the worker no longer holds it, and it was not closed by frps. -/
theorem repaired_delivered_once (k : Kind) (allow : List Nat) (ls : List Label) (s : St)
    (h : run repaired (init k allow) ls = some s) (c : Nat) (m : Str) (hd : (c, m) ∈ s.delivered) :
    (∀ m', (c, m') ∈ s.delivered → m' = m) ∧ (∀ g, (c, g) ∉ s.inflight) ∧ c ∉ s.dropped := by
  have hi := repaired_ainv k allow ls s h
  have hk : c ∈ s.dk := List.mem_map.2 ⟨(c, m), hd, rfl⟩
  refine ⟨fun m' h' => unique_of_nodup_keys hi.once h' hd, ?_, hi.dis2 c hk⟩
  intro g hg
  exact (hi.dis1 c (List.mem_map.2 ⟨(c, g), hg, rfl⟩)).1 hk

/-- a world that differs from the code in ONE respect: the hand-off channels have room for 16 -/
def wBuffered : St := { init .tcp [1, 2, 3, 4, 5, 6, 7, 8] with cap := 16 }

/-- **why the channel must stay unbuffered** (`make(chan net.Conn, n)`, n > 0, all repairs in place):
    two connections arrive while the only member is between two Accept calls, the worker's sends
    complete into the buffer, the member leaves: the group is gone (name free, endpoint closed, it
    can be created again at once on a fresh object) and the two connections sit in the closed
    channel of the dead object for ever — no label can take or close them. -/
theorem buffered_stranded_witness :
    (run repaired wBuffered
      [.lookup wm1 wg, .enter wm1 wk wTcp {}, .accept 7 0, .send 7, .accept 8 0, .send 8, .leaveL wm1 0,
       .lookup wm2 wg, .enter wm2 wk wTcp {}]).map
      (fun s => strandedConns s == [7, 8] && (s.obj 0).members.isEmpty && !(s.obj 0).lnOpen &&
                s.table == [(wg, 1)] && (s.obj 1).members == [wm2] && (s.obj 1).lnOpen &&
                s.dropped.isEmpty && s.delivered.isEmpty && !s.panicked) = some true ∧
    ¬ NoStranded repaired wBuffered := by
  refine ⟨by decide +kernel, refuted_by_run
    [.lookup wm1 wg, .enter wm1 wk wTcp {}, .accept 7 0, .send 7, .leaveL wm1 0] (fun s => strandedConns s == [7])
    (by decide +kernel) (fun s h => by rw [h]; rfl)⟩

/-- with the buffer, connections are still delivered (once, in order) while a member is live — so
    nothing but a leave with connections pending shows the difference -/
example : (run repaired wBuffered
    [.lookup wm1 wg, .enter wm1 wk wTcp {}, .accept 7 0, .send 7, .accept 8 0, .send 8,
     .recv wm1 0, .recv wm1 0, .leaveL wm1 0]).map
    (fun s => (s.delivered, strandedConns s)) = some ([(8, wm1), (7, wm1)], []) := by decide +kernel

/-- the same arrivals in the world as it is: the sends block, the leave closes the channel, the
    sends fail and both connections are closed -/
example : (run repaired (w0 .tcp)
    [.lookup wm1 wg, .enter wm1 wk wTcp {}, .accept 7 0, .accept 8 0, .leaveL wm1 0,
     .send 7, .handoff 8 wm1]).map
    (fun s => (s.dropped, s.inflight, strandedConns s)) = some ([8, 7], [], []) ∧
    run repaired (w0 .tcp) [.lookup wm1 wg, .enter wm1 wk wTcp {}, .accept 7 0, .send 7] = none := by decide +kernel

/-! ### the leave's two sections (group edit | table delete)

`leaveEdit` and `leaveDel` are scheduled as labels of their own: every label sequence of the theorems
above and below may contain them in any position.  The code keeps the controller lock across both
(`code_leave_one_section`, regenerated from the source), so between the two sections of a last leave the
table still names the dead object, but nobody can read the table. -/

/-- **between the sections of a last leave nothing of another join or leave can run**: that leave
    holds the controller lock, no join is between lookup and enter, and every label that needs the
    controller lock is disabled (what stays enabled: the second section, and the labels that do not
    touch the table — arrivals, hand-offs, requests, outside interference) -/
theorem repaired_sections_exclusive (k : Kind) (allow : List Nat) (ls : List Label) (s : St)
    (h : run repaired (init k allow) ls = some s) (hp : s.pdel ≠ []) :
    ∃ m gid g, s.pdel = [(m, gid, g)] ∧ s.lock = some m ∧ s.pend = [] ∧
      (∀ m' g', step repaired s (.lookup m' g') = none) ∧
      (∀ m' key p orc, step repaired s (.enter m' key p orc) = none) ∧
      (∀ m' j, step repaired s (.leaveL m' j) = none) ∧
      (∀ m' g', step repaired s (.leaveG m' g') = none) ∧
      (∀ m' j, step repaired s (.leaveEdit m' j) = none) := by
  have hi := repaired_inv k allow ls s h
  obtain ⟨⟨mm, gid, g⟩, hmem⟩ := List.exists_mem_of_ne_nil _ hp
  obtain ⟨hl, hpend, hpd⟩ := hi.pdel_single hmem
  -- a label that needs the free controller lock is disabled
  have hbusy : lockFree repaired s = false := by simp [lockFree, repaired, hl]
  have dis : ∀ {l}, (∀ {s' r}, Step repaired s l s' r → lockFree repaired s = true) →
      step repaired s l = none := by
    intro l hfree
    cases hst : step repaired s l with
    | none => rfl
    | some x => rw [hbusy] at hfree; cases hfree (step_spec hst)
  refine ⟨mm, gid, g, hpd, hl, hpend, fun _ _ => dis fun e => e.needs_free_lock, ?_, fun _ _ => dis fun e => e.needs_free_lock,
    fun _ _ => dis fun e => e.needs_free_lock, fun _ _ => dis fun e => e.needs_free_lock rfl⟩
  intro m' key p orc
  cases hst : step repaired s (.enter m' key p orc) with
  | none => rfl
  | some x =>
    cases step_spec hst with
    | enter hf => rw [hpend] at hf; cases hf

/-- **table ↔ members, under every interleaving of joins, leaves and their sections**:
    (→) a group object that has members is the object the controller finds under its name, with a
    live hand-off channel; (←) whatever the table names exists and is usable (channel not closed),
    the only exception being the object whose last member is between its two sections — it is empty,
    and that leave holds the controller lock until the entry is gone. -/
theorem repaired_table_members_consistent (k : Kind) (allow : List Nat) (ls : List Label) (s : St)
    (h : run repaired (init k allow) ls = some s) :
    (∀ gid o, s.objs[gid]? = some o → o.members ≠ [] →
        s.table.lookup o.name = some gid ∧ o.chClosed = false) ∧
    (∀ g gid, s.table.lookup g = some gid → ∃ o, s.objs[gid]? = some o ∧
        (o.chClosed = false ∨ (∃ m, s.lock = some m ∧ s.pdel = [(m, gid, g)] ∧ o.members = []))) := by
  have hi := repaired_inv k allow ls s h
  refine ⟨fun gid o ho hm => ⟨(hi.pop gid o ho hm).2, (hi.pop gid o ho hm).1⟩, ?_⟩
  intro g gid ht
  obtain ⟨o, ho, hoc⟩ := hi.tab g gid ht
  refine ⟨o, ho, ?_⟩
  rcases hoc with e | ⟨m, hm⟩
  · exact Or.inl e
  · obtain ⟨_, o', ho', hom, _⟩ := hi.pdelOk m gid g hm
    rw [ho] at ho'; cases ho'
    obtain ⟨hl, _, hpd⟩ := hi.pdel_single hm
    exact Or.inr ⟨m, hl, hpd, hom⟩

/-- the second section always finds the entry it came to delete: the identity test
    `ctl.groups[name] == g` of a careful implementation can never fail in the one-section code -/
theorem repaired_second_section_finds_entry (k : Kind) (allow : List Nat) (ls : List Label) (s : St)
    (h : run repaired (init k allow) ls = some s) (m : Str) (gid : Nat) (g : Str)
    (hm : (m, gid, g) ∈ s.pdel) : s.table.lookup g = some gid :=
  ((repaired_inv k allow ls s h).pdelOk m gid g hm).1

/-- **the big-step leave of tcp / tcpmux groups IS its two sections run back to back** (every reachable
    state): a leave that is not the last is the first section alone; the last leave is `leaveEdit`
    followed by `leaveDel`, with exactly the same resulting state. -/
theorem leaveL_eq_sections (k : Kind) (allow : List Nat) (ls : List Label) (s s' : St)
    (h : run repaired (init k allow) ls = some s) (m : Str) (gid : Nat) (r : Res)
    (hs : step repaired s (.leaveL m gid) = some (s', r)) :
    r = .none ∧
    (((s.obj gid).members.erase m ≠ [] ∧ step repaired s (.leaveEdit m gid) = some (s', .none)) ∨
     ((s.obj gid).members.erase m = [] ∧ ∃ s1, step repaired s (.leaveEdit m gid) = some (s1, .none) ∧
        s1.pdel = [(m, gid, (s.obj gid).name)] ∧ step repaired s1 (.leaveDel m) = some (s', .none))) := by
  have hi := repaired_inv k allow ls s h
  have hpan := hi.noPanic
  cases step_spec hs with
  | leaveL _ hfree hmem hms =>
    obtain ⟨hlock, _, hpd⟩ := hi.idle (fx := repaired) rfl hfree
    refine ⟨rfl, Or.inl ⟨hms, ?_⟩⟩
    unfold step
    simp [lockFree, repaired, hlock, hpan, hpd, hmem, hms]
  | leaveLCrash _ hmem hc => rw [(hi.pop_obj (members_ne_of_mem hmem)).1] at hc; cases hc
  | leaveLLast hkind hfree hmem hms hcc =>
    obtain ⟨hlock, _, hpd⟩ := hi.idle (fx := repaired) rfl hfree
    have hlk := (hi.pop_obj (members_ne_of_mem hmem)).2
    refine ⟨rfl, Or.inr ⟨hms, { s.setObj gid { s.obj gid with members := [], chClosed := true, lnOpen := false } with
        pdel := [(m, gid, (s.obj gid).name)], lock := some m }, ?_, rfl, ?_⟩⟩
    · unfold step
      simp [lockFree, repaired, hlock, hpan, hpd, hmem, hms, hcc, hkind]
    · unfold step
      simp [repaired, hpan, hlk, St.setObj, hlock, hpd]

/-- the same for http groups (`UnRegister(m, g)` of a member of the group stored under `g`) -/
theorem leaveG_eq_sections (k : Kind) (allow : List Nat) (ls : List Label) (s s' : St)
    (h : run repaired (init k allow) ls = some s) (m g : Str) (gid : Nat) (r : Res)
    (ht : s.table.lookup g = some gid) (hmem : m ∈ (s.obj gid).members)
    (hs : step repaired s (.leaveG m g) = some (s', r)) :
    r = .none ∧
    (((s.obj gid).members.erase m ≠ [] ∧ step repaired s (.leaveEdit m gid) = some (s', .none)) ∨
     ((s.obj gid).members.erase m = [] ∧ ∃ s1, step repaired s (.leaveEdit m gid) = some (s1, .none) ∧
        s1.pdel = [(m, gid, g)] ∧ step repaired s1 (.leaveDel m) = some (s', .none))) := by
  have hi := repaired_inv k allow ls s h
  have hne := members_ne_of_mem hmem
  have hname : (s.obj gid).name = g := hi.tabInj _ _ _ (hi.pop_obj hne).2 ht
  have hpan := hi.noPanic
  cases step_spec hs with
  | leaveGNone _ _ hn => rw [ht] at hn; cases hn
  | leaveG _ hfree hg hms =>
    cases ht.symm.trans hg
    obtain ⟨hlock, _, hpd⟩ := hi.idle (fx := repaired) rfl hfree
    refine ⟨rfl, Or.inl ⟨hms, ?_⟩⟩
    unfold step
    simp [lockFree, repaired, hlock, hpan, hpd, hmem, hms]
  | leaveGLast hkind hfree hg hms =>
    cases ht.symm.trans hg
    obtain ⟨hlock, _, hpd⟩ := hi.idle (fx := repaired) rfl hfree
    refine ⟨rfl, Or.inr ⟨hms, { s.setObj gid { s.obj gid with members := [], lnOpen := false } with
        pdel := [(m, gid, g)], lock := some m }, ?_, rfl, ?_⟩⟩
    · unfold step
      simp [lockFree, repaired, hlock, hpan, hpd, hmem, hms, hkind, hname]
    · unfold step
      simp [repaired, hpan, ht, St.setObj, hlock, hpd]

/-! #### what the one critical section is for: the same controllers with a leave that gives the lock up -/

/-- everything repaired, but the leave releases the controller lock between its two sections and takes it
    again for the second (with the identity test) -/
def splitLeave : Fix := { repaired with leaveOne := false }

/-- `join(m1) · lookup(m2,g) · leaveEdit(m1) · enter(m2) · leaveDel(m1)`: the join — which holds the controller
    lock from lookup to enter, as it should — finds the emptied object still in the table and re-populates it;
    then the leave's second section removes the entry (same object: the identity test passes) -/
def raceSplit (p : Params) : List Label :=
  [.lookup wm1 wg, .enter wm1 wk p {}, .lookup wm2 wg, .leaveEdit wm1 0, .enter wm2 wk p {}, .leaveDel wm1]

/-- **http, split leave:** a live group with a live route that the controller no longer knows; every later
    correct join of that group is refused with a route conflict; the orphan's member can never be removed
    (`UnRegister` finds no group) and the route stays; table ↔ members consistency is broken. -/
theorem split_leave_witness_http :
    (run splitLeave (w0 .http) (raceSplit wHttp)).map
      (fun s => (s.table, (s.obj 0).members, (s.obj 0).lnOpen, s.busy (routeKey wHttp), s.panicked)) =
      some ([], [wm2], true, true, false) ∧
    ((run splitLeave (w0 .http) (raceSplit wHttp)).bind
      (fun s => (step splitLeave s (.lookup wm3 wg)).bind
        (fun x => (step splitLeave x.1 (.enter wm3 wk wHttp {})).map (·.2)))) = some (.err .conflict) ∧
    ((run splitLeave (w0 .http) (raceSplit wHttp ++ [.leaveG wm2 wg])).map
      (fun s => ((s.obj 0).members, s.busy (routeKey wHttp)))) = some ([wm2], true) ∧
    run repaired (w0 .http) ((raceSplit wHttp).take 4) = none := by decide +kernel

/-- **tcp / tcpmux, split leave:** the revived object's channel is closed; its next last leave closes it
    again and frps dies -/
theorem split_leave_witness_tcp :
    (run splitLeave (w0 .tcp) (raceSplit wTcp ++ [.leaveEdit wm2 0])).map (·.panicked) = some true ∧
    (run splitLeave (w0 .mux) (raceSplit wMux ++ [.leaveEdit wm2 0])).map (·.panicked) = some true ∧
    run repaired (w0 .tcp) ((raceSplit wTcp).take 4) = none := by decide +kernel

/-! #### the tie of the lock discipline to the source (regenerated by translate/gen_groupfacts.go) -/

open Gen.GroupFacts GroupSections in
/-- what the regenerated critical sections have to satisfy, the five judgements below taken together -/
theorem code_facts :
    ((oneSection tcpJoin && oneSection httpJoin && oneSection muxJoin) = current.oneLock) ∧
    ((oneSection tcpLeave && oneSection httpLeave && oneSection muxLeave &&
      deletes tcpLeave && deletes httpLeave && deletes muxLeave) = current.leaveOne) ∧
    (([tcpJoin, tcpLeave, httpJoin, httpLeave, muxJoin, muxLeave].all
      (fun e => orderOk e && editsUnderGroupLock e)) = true) ∧
    ((releases tcpLeave == ["realPort"] && releases tcpJoin == ["realPort"]) = current.listenReal) ∧
    ((gateBetween tcpJoin "tcpgroup.listen.lookedup" && gateBetween httpJoin "httpgroup.register.lookedup" &&
      gateBetween muxJoin "tcpmuxgroup.listen.lookedup") = true) := by decide +kernel

open Gen.GroupFacts GroupSections in
/-- **join = one critical section**: in all three controllers the table lookup / insertion and the group's
    join run under the controller lock, which is not released in between — the model's `oneLock` -/
theorem code_join_one_section :
    (oneSection tcpJoin && oneSection httpJoin && oneSection muxJoin) = current.oneLock := code_facts.1

open Gen.GroupFacts GroupSections in
/-- **leave = one critical section**: CloseListener / UnRegister hold the controller lock from before the
    group edit until after the table delete — the model's `leaveOne` -/
theorem code_leave_one_section :
    (oneSection tcpLeave && oneSection httpLeave && oneSection muxLeave &&
     deletes tcpLeave && deletes httpLeave && deletes muxLeave) = current.leaveOne := code_facts.2.1

open Gen.GroupFacts GroupSections in
/-- **lock order controller → group** on every join and leave path (no join × leave deadlock), and the group
    object changes only under its own lock -/
theorem code_lock_order :
    ([tcpJoin, tcpLeave, httpJoin, httpLeave, muxJoin, muxLeave].all
      (fun e => orderOk e && editsUnderGroupLock e)) = true := code_facts.2.2.1

open Gen.GroupFacts GroupSections in
/-- the tcp group gives back the port the manager handed out (`realPort`), on teardown and on a failed listen -/
theorem code_release_real_port :
    (releases tcpLeave == ["realPort"] && releases tcpJoin == ["realPort"]) = current.listenReal :=
  code_facts.2.2.2.1

open Gen.GroupFacts GroupSections in
/-- the gates at which the engine parks a join lie between the table lookup and the group's own section -/
theorem code_gates :
    (gateBetween tcpJoin "tcpgroup.listen.lookedup" && gateBetween httpJoin "httpgroup.register.lookedup" &&
     gateBetween muxJoin "tcpmuxgroup.listen.lookedup") = true := code_facts.2.2.2.2

/-! ### ports: what `TCPGroup.Listen` reports is what it listens on, and nothing leaks -/

theorem acquire_some (s : St) (port : Nat) (orc : Oracle) (rp : Nat)
    (h : acquire s port orc = some (some rp)) : rp ≠ 0 ∧ (port ≠ 0 → rp = port) := by
  unfold acquire at h
  split at h
  · rename_i h0
    split at h
    · cases h
    · split at h
      · rename_i hc; cases h; exact ⟨hc.2.1, fun hp => absurd h0 hp⟩
      · cases h
  · rename_i h0
    split at h
    · cases h; exact ⟨h0, fun _ => rfl⟩
    · cases h

/-- with the repair, whatever the requested port, oracle and state: a successful endpoint creation
    listens on exactly the reported port, and no outcome adds a leaked port -/
theorem createEp_repaired_truthful (fx : Fix) (hf : fx.listenReal = true) (s s1 : St) (a : Str)
    (port : Nat) (orc : Oracle) (res : Except Err (Nat × EpKey))
    (h : createEp fx s (.tcp a port) orc = some (s1, res)) :
    s1.leaked = s.leaked ∧ (∀ rp k, res = .ok (rp, k) → k = .port rp) := by
  unfold createEp at h
  simp only [hf, if_true] at h
  split at h
  · cases h
  · cases h; exact ⟨rfl, by intro rp k e; cases e⟩
  · rename_i rp hacq
    have hz := (acquire_some _ _ _ _ hacq).1
    simp only [hz, if_false] at h
    split at h
    · cases h; exact ⟨rfl, by intro rp k e; cases e⟩
    · cases h; exact ⟨rfl, by intro rp' k e; cases e; rfl⟩

/-- **pinned tree, fixed port**: what is reported is what listens; for `port = 0` it is not (`truthful_witness`) -/
theorem truthful_partial (s s1 : St) (a : Str) (port : Nat) (hp : port ≠ 0) (orc : Oracle)
    (rp : Nat) (k : EpKey) (h : createEp pinned s (.tcp a port) orc = some (s1, .ok (rp, k))) :
    k = .port rp ∧ rp = port := by
  unfold createEp at h
  simp only [pinned] at h
  split at h
  · cases h
  · cases h
  · rename_i rp' hacq
    have he := (acquire_some _ _ _ _ hacq).2 hp
    simp only [Bool.false_eq_true, if_false, hp] at h
    split at h
    · cases h
    · cases h; exact ⟨by rw [he], he⟩

/-- no label adds a leaked port once `TCPGroup.Listen` releases the acquired port when net.Listen fails -/
theorem step_leaked {fx : Fix} (hf : fx.listenReal = true) {s s' : St} {l : Label} {r : Res}
    (hs : step fx s l = some (s', r)) : s'.leaked = s.leaked :=
  (step_frame hs).2 hf

/-- **no port is ever leaked**, whatever the interleaving -/
theorem repaired_no_leak (ls : List Label) :
    ∀ (s0 s : St), s0.leaked = [] → run repaired s0 ls = some s → s.leaked = [] :=
  fun _ _ h0 h => run_preserves (P := fun t => t.leaked = [])
    (fun hp hs => (step_leaked (fx := repaired) rfl hs).trans hp) ls h0 h

/-- **a port is accounted as used exactly as long as a group with members listens on it**: in every
    reachable state the manager's used set (as far as groups are concerned) is the set of `realPort`s of
    the populated group objects — so after the last leave the REAL port (also a server-chosen one) is free
    and can be acquired again explicitly. -/
theorem repaired_used_iff_populated (k : Kind) (allow : List Nat) (ls : List Label) (s : St)
    (h : run repaired (init k allow) ls = some s) (p : Nat) :
    s.usedPort p = true ↔ ∃ (gid : Nat) (o : Obj), s.objs[gid]? = some o ∧ o.members ≠ [] ∧ o.realPort = p := by
  have hi := repaired_inv k allow ls s h
  have hl : s.leaked = [] := repaired_no_leak ls (init k allow) s rfl h
  simp only [St.usedPort, hl, List.contains_nil, Bool.false_or, List.any_eq_true, Bool.and_eq_true,
    beq_iff_eq]
  constructor
  · rintro ⟨o, ho, hopen, hp⟩
    obtain ⟨gid, hlt, hg⟩ := List.mem_iff_getElem.1 ho
    have hget : s.objs[gid]? = some o := by rw [List.getElem?_eq_getElem hlt, hg]
    exact ⟨gid, o, hget, (hi.openIff gid o hget).1 hopen, hp⟩
  · rintro ⟨gid, o, hget, hm, hp⟩
    exact ⟨o, List.mem_of_getElem? hget, (hi.openIff gid o hget).2 hm, hp⟩

/-- the driver's port predicate is what the theorem says: on the model's own state it holds -/
theorem usedHolds_sound (k : Kind) (allow : List Nat) (ls : List Label) (s : St)
    (h : run repaired (init k allow) ls = some s) (used : List Nat)
    (hu : ∀ p, p ∈ used → s.usedPort p = true) : usedHolds s used = true := by
  simp only [usedHolds, List.all_eq_true, List.any_eq_true, Bool.and_eq_true, Bool.not_eq_eq_eq_not,
    Bool.not_true, List.isEmpty_eq_false_iff, beq_iff_eq]
  intro p hp
  obtain ⟨gid, o, hget, hm, hrp⟩ := (repaired_used_iff_populated k allow ls s h p).1 (hu p hp)
  exact ⟨o, List.mem_of_getElem? hget, hm, hrp⟩

/-! ### non-vacuity: the repaired model does run, joins, delivers and re-creates -/

example : (run repaired (w0 .tcp)
    [.lookup wm1 wg, .enter wm1 wk wTcp {}, .lookup wm2 wg, .enter wm2 wk wTcp {}, .accept 1 0,
     .handoff 1 wm2, .leaveL wm1 0, .leaveL wm2 0, .lookup wm3 wg, .enter wm3 wk wTcp {}]).map
    (fun s => s.table == [(wg, 1)] && (s.obj 1).members == [wm3] && (s.obj 1).lnOpen &&
              s.delivered == [(1, wm2)] && !s.panicked) = some true := by decide +kernel

example : (run repaired (w0 .http)
    [.lookup wm1 wg, .enter wm1 wk wHttp {}, .lookup wm2 wg, .enter wm2 wk wHttp {}, .request 0, .request 0,
     .leaveG wm1 wg, .leaveG wm2 wg, .lookup wm3 wg, .enter wm3 wk wHttp {}]).map
    (fun s => s.table == [(wg, 1)] && (s.obj 1).members == [wm3] && s.busy (routeKey wHttp)) = some true := by
  decide +kernel

/-- wrong key / other port / other address are refused, in the order of the Go code -/
example : (cmp wg wk wTcp wg [75] wTcp, cmp wg wk wTcp wg wk (.tcp [] 4), cmp wg wk wTcp wg wk (.tcp [48] 3),
           cmp wg wk wTcp wg wk wTcp) =
    (some .authFailed, some .differentPort, some .paramsInvalid, none) := by decide +kernel

end C13
end Frp
