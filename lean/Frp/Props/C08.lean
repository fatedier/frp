import Frp.Model.VisitorLock
import Frp.Model.CtlMgr
import Frp.Model.XtcpVisitor
import Frp.Props.C01
/-
  C08 — Secret proxies admit only visitors holding the key and an allowed user.

  Server side (Frp/Model/Visitor.lean, VisitorLock.lean, CtlMgr.lean): visitor.Manager.NewConn and
  Service.RegisterVisitorConn for stcp / sudp, the NAT-hole controller's HandleVisitor for xtcp, NewConn next to
  Listen / CloseListener under the manager's RWMutex, and the ControlManager that says whose user a run id stands for —
  for every table, message, history of ops and interleaving.  `fixed = false` is HandleVisitor of the pinned tree, whose
  session branch does not consult allowUsers; `fixed = true` is the repaired code (`Visitor.natFixed`).
  Client side (Frp/Model/XtcpVisitor.lean): the xtcp visitor of frpc as a transition system over labels, for every
  history.  ABSTRACT (inputs of the labels): STUN answered, traversal succeeded, session.Init succeeded, when a session
  breaks, scheduling, time.

  All theorems are for an arbitrary key derivation `H` (no property of md5 is used).
-/
namespace Frp
namespace C08
open Visitor
open NatHole (aget aput adel authInput aget_aput aget_adel)

/-! ## spec -/

/-- "in the allowed-users list, `*` meaning anyone" -/
def UserAllowed (allow : List Str) (user : Str) : Prop := user ∈ allow ∨ [Str.star] ∈ allow

/-- the request (name, ts, sign, user) is one the listener `lid` registered under `name` must accept -/
def Admissible (H : Str → Str) (ls : List (Str × Listener)) (name : Str) (ts : Int) (sign user : Str) (lid : Nat) : Prop :=
  ∃ l, aget ls name = some l ∧ l.lid = lid ∧ sign = authKey H l.sk ts ∧ UserAllowed l.allow user

def NatAdmissible (H : Str → Str) (cfgs : List (Str × NatCfg)) (name : Str) (ts : Int) (sign user : Str) (ch : Nat) : Prop :=
  ∃ c, aget cfgs name = some c ∧ c.chan = ch ∧ sign = authKey H c.sk ts ∧ UserAllowed c.allow user

theorem allowedB_iff (allow : List Str) (user : Str) : allowedB allow user = true ↔ UserAllowed allow user := by
  simp [allowedB, UserAllowed]

/-! ## membership facts for `aget` / `aput` / `adel` (the lookup facts are in Frp/Model/NatHole.lean) -/

theorem forall_mem_aput {α : Type} {P : Str × α → Prop} {l : List (Str × α)} {k : Str} {v : α}
    (h : ∀ p ∈ l, P p) (hv : P (k, v)) : ∀ p ∈ aput l k v, P p := by
  induction l with
  | nil => intro p hp; cases List.mem_singleton.mp hp; exact hv
  | cons hd t ih =>
    obtain ⟨k', v'⟩ := hd
    have ht : ∀ p ∈ t, P p := fun p hp => h p (List.mem_cons_of_mem _ hp)
    simp only [aput]
    split
    · exact List.forall_mem_cons.mpr ⟨hv, ht⟩
    · exact List.forall_mem_cons.mpr ⟨h _ List.mem_cons_self, ih ht⟩

theorem forall_mem_adel {α : Type} {P : Str × α → Prop} {l : List (Str × α)} (k : Str)
    (h : ∀ p ∈ l, P p) : ∀ p ∈ adel l k, P p := by
  induction l with
  | nil => exact h
  | cons hd t ih =>
    obtain ⟨k', v'⟩ := hd
    have ht := ih (fun p hp => h p (List.mem_cons_of_mem _ hp))
    simp only [adel]
    split
    · exact ht
    · exact List.forall_mem_cons.mpr ⟨h _ List.mem_cons_self, ht⟩

theorem mem_of_aget {α : Type} (l : List (Str × α)) (k : Str) (v : α) (h : aget l k = some v) : (k, v) ∈ l := by
  induction l with
  | nil => cases h
  | cons hd t ih =>
    obtain ⟨k', v'⟩ := hd
    simp only [aget] at h
    split at h
    · next e => cases h; subst e; exact List.mem_cons_self
    · exact List.mem_cons_of_mem _ (ih h)

theorem adel_absent {α : Type} (l : List (Str × α)) (k : Str) (h : aget l k = none) : adel l k = l := by
  induction l with
  | nil => rfl
  | cons p t ih =>
    obtain ⟨k', v⟩ := p
    simp only [aget] at h
    simp only [adel]
    split
    · next e => simp [e] at h
    · next e => simp only [e, if_false] at h; rw [ih h]

/-! ## §1 stream visitors -/

/-- `NewConn` by the tests it makes, in the order the code makes them: every outcome with the condition under
    which it is reached and the table it leaves -/
theorem newConn_cases (H : Str → Str) (ls : List (Str × Listener)) (name : Str) (ts : Int) (sign user : Str) (conn : Nat) :
    (aget ls name = none ∧ newConn H ls name ts sign user conn = (ls, .err .noListener)) ∨
    ∃ l, aget ls name = some l ∧
      ((sign ≠ authKey H l.sk ts ∧ newConn H ls name ts sign user conn = (ls, .err .authFailed)) ∨
       sign = authKey H l.sk ts ∧
        ((¬ UserAllowed l.allow user ∧ newConn H ls name ts sign user conn = (ls, .err .notAllowed)) ∨
         UserAllowed l.allow user ∧
          ((l.closed = true ∧ newConn H ls name ts sign user conn = (ls, .err .lclosed)) ∨
           l.closed = false ∧
            ((acceptCap ≤ l.queue.length ∧ newConn H ls name ts sign user conn = (ls, .dropped l.lid)) ∨
             (l.queue.length < acceptCap ∧ newConn H ls name ts sign user conn =
               (aput ls name { l with queue := l.queue ++ [{ conn := conn, user := user, sign := sign, ts := ts }] },
                .queued l.lid)))))) := by
  cases hl : aget ls name with
  | none => exact .inl ⟨rfl, by simp only [newConn, hl]⟩
  | some l =>
    refine .inr ⟨l, rfl, ?_⟩
    simp only [newConn, hl]
    by_cases hk : sign = authKey H l.sk ts
    · refine .inr ⟨hk, ?_⟩
      rw [if_neg (not_not_intro hk.symm)]
      by_cases hu : UserAllowed l.allow user
      · refine .inr ⟨hu, ?_⟩
        rw [(allowedB_iff _ _).mpr hu, if_neg (by decide)]
        cases hc : l.closed
        · refine .inr ⟨rfl, ?_⟩
          rw [if_neg (by decide)]
          by_cases hq : acceptCap ≤ l.queue.length
          · exact .inl ⟨hq, if_pos hq⟩
          · exact .inr ⟨Nat.lt_of_not_le hq, if_neg hq⟩
        · exact .inl ⟨rfl, if_pos rfl⟩
      · have hb : allowedB l.allow user = false := Bool.eq_false_iff.mpr (mt (allowedB_iff _ _).mp hu)
        rw [hb]
        exact .inl ⟨hu, if_pos rfl⟩
    · exact .inl ⟨hk, if_pos (fun e => hk e.symm)⟩

/-- admitted (handed to an owner's accept channel, or counted as accepted and dropped because that
    channel is full) ⇒ the proxy exists under that name, the signature is the proxy's key for that
    timestamp, the user is allowed; and the owner is the holder of that very listener -/
theorem newConn_sound (H : Str → Str) (ls : List (Str × Listener)) (name : Str) (ts : Int) (sign user : Str)
    (conn lid : Nat)
    (h : (newConn H ls name ts sign user conn).2 = .queued lid ∨ (newConn H ls name ts sign user conn).2 = .dropped lid) :
    Admissible H ls name ts sign user lid := by
  rcases newConn_cases H ls name ts sign user conn with
    ⟨_, e⟩ | ⟨l, hl, ⟨_, e⟩ | ⟨hk, ⟨_, e⟩ | ⟨hu, ⟨_, e⟩ | ⟨_, ⟨_, e⟩ | ⟨_, e⟩⟩⟩⟩⟩
  all_goals simp only [e, reduceCtorEq, or_self, or_false, false_or, ConnOut.queued.injEq, ConnOut.dropped.injEq] at h
  · exact ⟨l, hl, h, hk, hu⟩
  · exact ⟨l, hl, h, hk, hu⟩

/-- the three kinds of answer (a case splitter; that a refusal leaves the table as it was is
    `newConn_inadmissible_error` / `newConn_not_queued_unchanged`) -/
theorem newConn_refused_unchanged (H : Str → Str) (ls : List (Str × Listener)) (name : Str) (ts : Int)
    (sign user : Str) (conn : Nat) :
    (∃ e, (newConn H ls name ts sign user conn).2 = .err e) ∨ (∃ lid, (newConn H ls name ts sign user conn).2 = .dropped lid) ∨
      (∃ lid, (newConn H ls name ts sign user conn).2 = .queued lid) := by
  cases (newConn H ls name ts sign user conn).2 with
  | queued lid => exact .inr (.inr ⟨lid, rfl⟩)
  | dropped lid => exact .inr (.inl ⟨lid, rfl⟩)
  | err e => exact .inl ⟨e, rfl⟩

/-- the only outcome that changes the table: one item appended to the named listener's queue -/
theorem newConn_queued_shape (H : Str → Str) (ls : List (Str × Listener)) (name : Str) (ts : Int)
    (sign user : Str) (conn : Nat) :
    (newConn H ls name ts sign user conn).1 = ls ∨
    ∃ l, aget ls name = some l ∧ (newConn H ls name ts sign user conn).2 = .queued l.lid ∧
      (newConn H ls name ts sign user conn).1 =
        aput ls name { l with queue := l.queue ++ [{ conn := conn, user := user, sign := sign, ts := ts }] } := by
  rcases newConn_cases H ls name ts sign user conn with
    ⟨_, e⟩ | ⟨l, hl, ⟨_, e⟩ | ⟨_, ⟨_, e⟩ | ⟨_, ⟨_, e⟩ | ⟨_, ⟨_, e⟩ | ⟨_, e⟩⟩⟩⟩⟩
  rotate_right
  · exact .inr ⟨l, hl, congrArg Prod.snd e, congrArg Prod.fst e⟩
  all_goals exact .inl (congrArg Prod.fst e)

theorem newConn_not_queued_unchanged (H : Str → Str) (ls : List (Str × Listener)) (name : Str) (ts : Int)
    (sign user : Str) (conn : Nat) (h : ∀ lid, (newConn H ls name ts sign user conn).2 ≠ .queued lid) :
    (newConn H ls name ts sign user conn).1 = ls := by
  rcases newConn_queued_shape H ls name ts sign user conn with h' | ⟨l, _, hq, _⟩
  · exact h'
  · exact absurd hq (h l.lid)

/-- a request that is not admissible gets an error (never `queued`, never `dropped`) -/
theorem newConn_inadmissible_error (H : Str → Str) (ls : List (Str × Listener)) (name : Str) (ts : Int)
    (sign user : Str) (conn : Nat) (h : ¬ ∃ lid, Admissible H ls name ts sign user lid) :
    ∃ e, (newConn H ls name ts sign user conn).2 = .err e ∧ (newConn H ls name ts sign user conn).1 = ls := by
  rcases newConn_refused_unchanged H ls name ts sign user conn with ⟨e, he⟩ | ⟨lid, hl⟩ | ⟨lid, hl⟩
  · refine ⟨e, he, newConn_not_queued_unchanged H ls name ts sign user conn ?_⟩
    intro lid hq; rw [he] at hq; cases hq
  · exact absurd ⟨lid, newConn_sound H ls name ts sign user conn lid (.inr hl)⟩ h
  · exact absurd ⟨lid, newConn_sound H ls name ts sign user conn lid (.inl hl)⟩ h

/-- the exact error kinds, in the order the code tests them -/
theorem newConn_error_kinds (H : Str → Str) (ls : List (Str × Listener)) (name : Str) (ts : Int)
    (sign user : Str) (conn : Nat) :
    ((newConn H ls name ts sign user conn).2 = .err .noListener ↔ aget ls name = none) ∧
    (∀ l, aget ls name = some l →
      ((newConn H ls name ts sign user conn).2 = .err .authFailed ↔ sign ≠ authKey H l.sk ts) ∧
      ((newConn H ls name ts sign user conn).2 = .err .notAllowed ↔ sign = authKey H l.sk ts ∧ ¬ UserAllowed l.allow user)) := by
  -- in each case the outcome is known, and the case's conditions decide the right-hand sides
  rcases newConn_cases H ls name ts sign user conn with
    ⟨hn, e⟩ | ⟨l, hl, ⟨hk, e⟩ | ⟨hk, ⟨hu, e⟩ | ⟨hu, ⟨_, e⟩ | ⟨_, ⟨_, e⟩ | ⟨_, e⟩⟩⟩⟩⟩
  all_goals rw [e]
  · simp [hn]
  · simp [hl, hk]
  all_goals simp [hl, hk, hu]

/-- conversely (the check does not refuse legitimate visitors): an admissible request to an open
    listener is handed over, or dropped when 128 connections are already waiting -/
theorem newConn_complete (H : Str → Str) (ls : List (Str × Listener)) (name : Str) (ts : Int) (sign user : Str)
    (conn lid : Nat) (l : Listener) (hl : aget ls name = some l) (hlid : l.lid = lid)
    (hk : sign = authKey H l.sk ts) (hu : UserAllowed l.allow user) (hc : l.closed = false) :
    (newConn H ls name ts sign user conn).2 = (if l.queue.length ≥ acceptCap then .dropped lid else .queued lid) := by
  rcases newConn_cases H ls name ts sign user conn with
    ⟨hn, _⟩ | ⟨l', hl', ⟨hk', _⟩ | ⟨_, ⟨hu', _⟩ | ⟨_, ⟨hc', _⟩ | ⟨_, ⟨hq, e⟩ | ⟨hq, e⟩⟩⟩⟩⟩
  · rw [hl] at hn; cases hn
  all_goals cases hl.symm.trans hl'
  · exact absurd hk hk'
  · exact absurd hu hu'
  · rw [hc] at hc'; cases hc'
  · rw [e, ← hlid, if_pos hq]
  · rw [e, ← hlid, if_neg (Nat.not_le_of_lt hq)]

/-- a hand-over touches only the accept queue of the named listener: one item appended -/
theorem newConn_queued_effect (H : Str → Str) (ls : List (Str × Listener)) (name : Str) (ts : Int) (sign user : Str)
    (conn lid : Nat) (h : (newConn H ls name ts sign user conn).2 = .queued lid) :
    ∃ l, aget ls name = some l ∧
      (∀ n, aget (newConn H ls name ts sign user conn).1 n =
        if name = n then some { l with queue := l.queue ++ [{ conn := conn, user := user, sign := sign, ts := ts }] }
        else aget ls n) := by
  rcases newConn_cases H ls name ts sign user conn with
    ⟨_, e⟩ | ⟨l, hl, ⟨_, e⟩ | ⟨_, ⟨_, e⟩ | ⟨_, ⟨_, e⟩ | ⟨_, ⟨_, e⟩ | ⟨_, e⟩⟩⟩⟩⟩
  rotate_right
  · rw [e]; exact ⟨l, hl, fun n => aget_aput _ _ _ _⟩
  all_goals (rw [e] at h; cases h)

/-! ### RegisterVisitorConn: the user is the login user of the session named by the run id -/

/-- the user a run id stands for -/
def RunUser (ctls : List (Str × Str)) (rid user : Str) : Prop :=
  (rid = [] ∧ user = []) ∨ (rid ≠ [] ∧ aget ctls rid = some user)

theorem resolveUser_ok (ctls : List (Str × Str)) (rid user : Str) :
    resolveUser ctls rid = .ok user ↔ RunUser ctls rid user := by
  unfold resolveUser RunUser
  by_cases h : rid = []
  · simp [h]
  · simp only [h, if_false, false_and, false_or, ne_eq, not_false_eq_true, true_and]
    split
    · next h' => simp [h']
    · next u h' => simp [h']

theorem resolveUser_err (ctls : List (Str × Str)) (rid : Str) (e : Err) :
    resolveUser ctls rid = .error e ↔ (e = .noRun ∧ rid ≠ [] ∧ aget ctls rid = none) := by
  unfold resolveUser
  by_cases h : rid = []
  · simp [h]
  · simp only [h, if_false, ne_eq, not_false_eq_true, true_and]
    split
    · next h' => simp [h']; exact eq_comm
    · next u h' => simp [h']

/-- Service.RegisterVisitorConn, every state: admitted ⇒ the run id stands for a user (the login
    user of a live session, or "" for the empty run id) and the request is admissible for that user;
    otherwise an error and the state is unchanged -/
theorem visitorConn_sound (fixed : Bool) (H : Str → Str) (s : State) (name : Str) (ts : Int) (sign rid : Str) (conn : Nat) :
    (∀ lid, ((step fixed H s (.visitorConn name ts sign rid conn)).2 = .conn (.queued lid) ∨
             (step fixed H s (.visitorConn name ts sign rid conn)).2 = .conn (.dropped lid)) →
        ∃ user, RunUser s.ctls rid user ∧ Admissible H s.listeners name ts sign user lid) ∧
    ((∀ lid, (step fixed H s (.visitorConn name ts sign rid conn)).2 ≠ .conn (.queued lid)) →
        (step fixed H s (.visitorConn name ts sign rid conn)).1 = s) := by
  dsimp only [step]
  cases hr : resolveUser s.ctls rid with
  | error e =>
    simp
  | ok user =>
    simp only
    constructor
    · intro lid h
      refine ⟨user, (resolveUser_ok _ _ _).mp hr, newConn_sound H _ name ts sign user conn lid ?_⟩
      rcases h with h | h
      · left; simpa using h
      · right; simpa using h
    · intro h
      have := newConn_not_queued_unchanged H s.listeners name ts sign user conn
        (fun lid hq => h lid (by simp [hq]))
      simp only [this]

/-- unknown run id: refused before the listener table is looked at -/
theorem visitorConn_unknown_run (fixed : Bool) (H : Str → Str) (s : State) (name : Str) (ts : Int) (sign rid : Str)
    (conn : Nat) (h1 : rid ≠ []) (h2 : aget s.ctls rid = none) :
    step fixed H s (.visitorConn name ts sign rid conn) = (s, .conn (.err .noRun)) := by
  have : resolveUser s.ctls rid = .error .noRun := (resolveUser_err _ _ _).mpr ⟨rfl, h1, h2⟩
  simp only [step, this]

/-! ### default allow list -/

theorem effectiveAllow_default (u : Str) : effectiveAllow [] u = [u] := rfl

theorem effectiveAllow_given (a : Str) (r : List Str) (u : Str) : effectiveAllow (a :: r) u = a :: r := rfl

/-- RegisterProxy → Run that succeeds, in full: the record stored under the name (a fresh, open, empty listener, or
    the NAT-hole entry), and the run ids are what they were -/
theorem register_ok (fixed : Bool) (H : Str → Str) (s : State) (rid : Str) (kind : Kind) (name sk u : Str)
    (cfgAllow : List Str) (hu : aget s.ctls rid = some u)
    (hok : (step fixed H s (.register rid kind name sk cfgAllow)).2 = .ok) :
    (kind ≠ .xtcp → aget (step fixed H s (.register rid kind name sk cfgAllow)).1.listeners name =
        some { sk := sk, allow := effectiveAllow cfgAllow u, lid := s.nextId, owner := rid }) ∧
    (kind = .xtcp → aget (step fixed H s (.register rid kind name sk cfgAllow)).1.natCfgs name =
        some { sk := sk, allow := effectiveAllow cfgAllow u, chan := s.nextId, owner := rid }) ∧
    (step fixed H s (.register rid kind name sk cfgAllow)).1.ctls = s.ctls := by
  simp only [step, hu] at hok ⊢
  split at hok
  · cases hok
  · next hfree =>
    simp only [hfree]
    simp only [Bool.or_eq_true, Option.isSome_iff_ne_none, not_or, ne_eq, Decidable.not_not] at hfree
    cases kind <;> simp [doListen, doNatListen, hfree.1, hfree.2, aget_aput]

/-- RegisterProxy → Run with no allowUsers configured: what is stored is exactly [owner's user]
    (all three proxy kinds), under the owner's run id, with the given key -/
theorem register_default_allow (fixed : Bool) (H : Str → Str) (s : State) (rid : Str) (kind : Kind) (name sk u : Str)
    (hu : aget s.ctls rid = some u)
    (hok : (step fixed H s (.register rid kind name sk [])).2 = .ok) :
    (kind ≠ .xtcp → ∃ l, aget (step fixed H s (.register rid kind name sk [])).1.listeners name = some l ∧
        l.sk = sk ∧ l.allow = [u] ∧ l.owner = rid ∧ l.queue = [] ∧ l.lid = s.nextId) ∧
    (kind = .xtcp → ∃ c, aget (step fixed H s (.register rid kind name sk [])).1.natCfgs name = some c ∧
        c.sk = sk ∧ c.allow = [u] ∧ c.owner = rid ∧ c.chan = s.nextId) :=
  have h := register_ok fixed H s rid kind name sk u [] hu hok
  ⟨fun hk => ⟨_, h.1 hk, rfl, rfl, rfl, rfl, rfl⟩, fun hk => ⟨_, h.2.1 hk, rfl, rfl, rfl, rfl⟩⟩

/-- with the default list only the owner's own user gets in (unless that user is literally "*") -/
theorem default_only_owner_user (u user : Str) (h : UserAllowed [u] user) : user = u ∨ u = [Str.star] := by
  rcases h with h | h
  · left; simpa using h
  · right; have := List.mem_singleton.mp h; exact this.symm

/-- end to end: proxy registered with the default list, then any RegisterVisitorConn that is admitted
    was made under a run id whose user is the owner's user, with the proxy's key -/
theorem default_list_end_to_end (fixed : Bool) (H : Str → Str) (s : State) (rid : Str) (kind : Kind)
    (name sk u : Str) (hk : kind ≠ .xtcp) (hu : aget s.ctls rid = some u) (hstar : u ≠ [Str.star])
    (hok : (step fixed H s (.register rid kind name sk [])).2 = .ok)
    (ts : Int) (sign vrid : Str) (conn lid : Nat)
    (hadm : (step fixed H (step fixed H s (.register rid kind name sk [])).1 (.visitorConn name ts sign vrid conn)).2
              = .conn (.queued lid)) :
    sign = authKey H sk ts ∧ RunUser s.ctls vrid u ∧ lid = s.nextId := by
  obtain ⟨l, hl, hsk, hallow, _, _, hlid⟩ := (register_default_allow fixed H s rid kind name sk u hu hok).1 hk
  have hc := (register_ok fixed H s rid kind name sk u [] hu hok).2.2
  obtain ⟨user, hru, l', hl', hlid', hkey, hall⟩ :=
    (visitorConn_sound fixed H _ name ts sign vrid conn).1 lid (.inl hadm)
  rw [hl] at hl'
  cases hl'
  rw [hallow] at hall
  rcases default_only_owner_user u user hall with h | h
  · subst h
    refine ⟨by rw [hkey, hsk], ?_, by rw [← hlid', hlid]⟩
    rw [hc] at hru
    exact hru
  · exact absurd h hstar

/-! ## §2 NAT-hole visitors -/

/-- the full statement for the session branch -/
def NatSound (fixed : Bool) : Prop :=
  ∀ (H : Str → Str) (cfgs : List (Str × NatCfg)) (sess : List (Str × NatSess)) (sid name : Str) (ts : Int)
    (sign user : Str) (ch : Nat),
    (natVisit fixed H cfgs sess sid name ts sign user false).2 = .granted ch →
      NatAdmissible H cfgs name ts sign user ch

/-- `HandleVisitor` by its outcomes: an error, the pre-check's "ok", or — the only case that stores anything —
    a session under the fresh sid -/
theorem natVisit_cases (fixed : Bool) (H : Str → Str) (cfgs : List (Str × NatCfg)) (sess : List (Str × NatSess))
    (sid name : Str) (ts : Int) (sign user : Str) (pre : Bool) :
    (∃ e, natVisit fixed H cfgs sess sid name ts sign user pre = (sess, .err e)) ∨
    (∃ c, pre = true ∧ aget cfgs name = some c ∧ UserAllowed c.allow user ∧
      natVisit fixed H cfgs sess sid name ts sign user pre = (sess, .preOk)) ∨
    (∃ c, pre = false ∧ aget cfgs name = some c ∧ sign = authKey H c.sk ts ∧ (fixed = true → UserAllowed c.allow user) ∧
      natVisit fixed H cfgs sess sid name ts sign user pre =
        (aput sess sid { chan := c.chan, sk := c.sk, allow := c.allow, user := user, sign := sign, ts := ts }, .granted c.chan)) := by
  cases hc : aget cfgs name with
  | none => cases pre <;> exact .inl ⟨.noListener, by simp only [natVisit, hc, if_true, Bool.false_eq_true, if_false]⟩
  | some c =>
    cases pre
    · by_cases hk : sign = authKey H c.sk ts
      · by_cases hf : (fixed && !allowedB c.allow user) = true
        · exact .inl ⟨.notAllowed, by simp only [natVisit, hc, hk, hf, Bool.false_eq_true, if_false, ne_eq, not_true_eq_false, if_true]⟩
        · refine .inr (.inr ⟨c, rfl, rfl, hk, fun hfx => (allowedB_iff _ _).mp ?_, ?_⟩)
          · simpa only [hfx, Bool.true_and, Bool.not_eq_true', Bool.not_eq_false] using hf
          · simp only [natVisit, hc, hk, hf, Bool.false_eq_true, if_false, ne_eq, not_true_eq_false]
      · exact .inl ⟨.authFailed, by simp only [natVisit, hc, Bool.false_eq_true, if_false, ne_eq, hk, not_false_eq_true, if_true]⟩
    · by_cases hb : allowedB c.allow user = true
      · exact .inr (.inl ⟨c, rfl, rfl, (allowedB_iff _ _).mp hb,
          by simp only [natVisit, hc, hb, if_true, Bool.not_true, Bool.false_eq_true, if_false]⟩)
      · exact .inl ⟨.notAllowed, by simp only [natVisit, hc, hb, if_true, Bool.not_false]⟩

/-- both trees: admitted ⇒ the proxy exists and the signature is its key; the allow list is in the conclusion
    only for the repaired code (`fixed = true`) -/
theorem nat_grant_partial (fixed : Bool) (H : Str → Str) (cfgs : List (Str × NatCfg)) (sess : List (Str × NatSess))
    (sid name : Str) (ts : Int) (sign user : Str) (ch : Nat)
    (h : (natVisit fixed H cfgs sess sid name ts sign user false).2 = .granted ch) :
    ∃ c, aget cfgs name = some c ∧ c.chan = ch ∧ sign = authKey H c.sk ts ∧ (fixed = true → UserAllowed c.allow user) := by
  rcases natVisit_cases fixed H cfgs sess sid name ts sign user false with ⟨_, e⟩ | ⟨_, _, _, _, e⟩ | ⟨c, _, hc, hk, hu, e⟩
  · rw [e] at h; cases h
  · rw [e] at h; cases h
  · rw [e] at h; cases h; exact ⟨c, hc, rfl, hk, hu⟩

/-- pre-check: "ok" ⇒ the proxy exists and the user is allowed; nothing is stored, nobody notified.
    (The key is not looked at on this branch: `precheck_ignores_key`.) -/
theorem precheck_sound (fixed : Bool) (H : Str → Str) (cfgs : List (Str × NatCfg)) (sess : List (Str × NatSess))
    (sid name : Str) (ts : Int) (sign user : Str)
    (h : (natVisit fixed H cfgs sess sid name ts sign user true).2 = .preOk) :
    ∃ c, aget cfgs name = some c ∧ UserAllowed c.allow user := by
  rcases natVisit_cases fixed H cfgs sess sid name ts sign user true with ⟨_, e⟩ | ⟨c, _, hc, hu, _⟩ | ⟨_, hp, _⟩
  · rw [e] at h; cases h
  · exact ⟨c, hc, hu⟩
  · cases hp

/-- with the excluded case as explicit hypothesis (the user passes the allow-list test, e.g. because
    the visitor ran the pre-check first): the full conclusion on the pinned tree -/
theorem nat_grant_sound_partial (H : Str → Str) (cfgs : List (Str × NatCfg)) (sess : List (Str × NatSess))
    (sid name : Str) (ts : Int) (sign user : Str) (ch : Nat)
    (hpre : (natVisit false H cfgs sess sid name ts sign user true).2 = .preOk)
    (h : (natVisit false H cfgs sess sid name ts sign user false).2 = .granted ch) :
    NatAdmissible H cfgs name ts sign user ch := by
  obtain ⟨c, hc, hch, hk, _⟩ := nat_grant_partial false H cfgs sess sid name ts sign user ch h
  obtain ⟨c', hc', hu⟩ := precheck_sound false H cfgs sess sid name ts sign user hpre
  cases hc.symm.trans hc'
  exact ⟨c, hc, hch, hk, hu⟩

/-- the repaired code: the full statement -/
theorem nat_grant_sound_fixed : NatSound true := by
  intro H cfgs sess sid name ts sign user ch h
  obtain ⟨c, hc, hch, hk, ha⟩ := nat_grant_partial true H cfgs sess sid name ts sign user ch h
  exact ⟨c, hc, hch, hk, ha rfl⟩

/-- proxy "p", key "s", allowUsers = ["a"]; user "m" (not allowed) sends a correctly signed
    NatHoleVisitor: a session is stored and the owner's channel 0 is notified -/
def witnessCfgs : List (Str × NatCfg) := [([112], { sk := [115], allow := [[97]], chan := 0 })]

/-- the pinned tree violates the full statement -/
theorem nat_allow_witness : ¬ NatSound false := by
  intro h
  obtain ⟨c, hc, _, _, hu⟩ := h (fun x => x) witnessCfgs [] [49] [112] 7 (authInput [115] 7) [109] 0 (by decide +kernel)
  -- the entry found is the one of `witnessCfgs`, which allows "a" alone
  have hw : aget witnessCfgs [112] = some { sk := [115], allow := [[97]], chan := 0 } := by decide
  cases hw.symm.trans hc
  revert hu
  unfold UserAllowed
  decide

/-- the pre-check branch refuses the user of `nat_allow_witness` -/
theorem nat_witness_precheck_refuses :
    (natVisit false (fun x => x) witnessCfgs [] [49] [112] 7 (authInput [115] 7) [109] true).2 = .err .notAllowed := by
  decide +kernel

theorem precheck_ignores_key (fixed : Bool) (H : Str → Str) (cfgs : List (Str × NatCfg)) (sess : List (Str × NatSess))
    (sid name : Str) (ts ts' : Int) (sign sign' user : Str) :
    natVisit fixed H cfgs sess sid name ts sign user true = natVisit fixed H cfgs sess sid name ts' sign' user true := by
  simp only [natVisit, if_true]

/-- a refused request (or a pre-check, whatever its answer) leaves the sessions map as it was; an
    admission stores exactly one session under the fresh sid -/
theorem natVisit_state (fixed : Bool) (H : Str → Str) (cfgs : List (Str × NatCfg)) (sess : List (Str × NatSess))
    (sid name : Str) (ts : Int) (sign user : Str) (pre : Bool) :
    ((∀ ch, (natVisit fixed H cfgs sess sid name ts sign user pre).2 ≠ .granted ch) →
        (natVisit fixed H cfgs sess sid name ts sign user pre).1 = sess) ∧
    (∀ ch, (natVisit fixed H cfgs sess sid name ts sign user pre).2 = .granted ch →
        pre = false ∧ ∀ k, aget (natVisit fixed H cfgs sess sid name ts sign user pre).1 k =
          if sid = k then (aget (natVisit fixed H cfgs sess sid name ts sign user pre).1 sid) else aget sess k) := by
  rcases natVisit_cases fixed H cfgs sess sid name ts sign user pre with ⟨_, e⟩ | ⟨_, _, _, _, e⟩ | ⟨c, hp, _, _, _, e⟩
  · rw [e]; exact ⟨fun _ => rfl, fun ch h => nomatch h⟩
  · rw [e]; exact ⟨fun _ => rfl, fun ch h => nomatch h⟩
  · rw [e]; exact ⟨fun h => absurd rfl (h c.chan), fun ch _ => ⟨hp, fun k => by simp only [aget_aput, if_true]⟩⟩

/-- the deferred delete returns the sessions map to its previous value (lookup-wise) when the sid was fresh -/
theorem natDone_restores (fixed : Bool) (H : Str → Str) (cfgs : List (Str × NatCfg)) (sess : List (Str × NatSess))
    (sid name : Str) (ts : Int) (sign user : Str) (pre : Bool) (hfresh : aget sess sid = none) (k : Str) :
    aget (adel (natVisit fixed H cfgs sess sid name ts sign user pre).1 sid) k = aget sess k := by
  rw [aget_adel]
  by_cases hk : sid = k
  · subst hk; simp [hfresh]
  · rw [if_neg hk]
    rcases natVisit_cases fixed H cfgs sess sid name ts sign user pre with ⟨_, e⟩ | ⟨_, _, _, _, e⟩ | ⟨_, _, _, _, _, e⟩
    · rw [e]
    · rw [e]
    · rw [e, aget_aput, if_neg hk]

/-- the session branch of C08's model (repaired: `fixed = true`) with H = id is the `visitorLookup`
    label of the C20 model (Frp/Model/NatHole.lean, which represents a sign key by its md5 input and
    checks the allow list): same decision, same error -/
theorem natVisit_agrees_C20 (s : NatHole.State) (cfgs : List (Str × NatCfg)) (sess : List (Str × NatSess))
    (sid : Str) (m : NatHole.VMsg) (t : Nat) (user : Str)
    (hfresh : aget s.sessions sid = none)
    (hcfg : ∀ n, (aget s.cfgs n).map (fun c => (c.sk, c.chan, c.allow)) = (aget cfgs n).map (fun c => (c.sk, c.chan, c.allow))) :
    match (natVisit true (fun x => x) cfgs sess sid m.proxyName m.timestamp m.signed user false).2,
          NatHole.step s (.visitorLookup sid m t user) with
    | .granted ch, some (s', o) => o = [] ∧ ∃ x, aget s'.sessions sid = some x ∧ x.phase = .notifying ch
    | .err .noListener, some (s', o) => s' = s ∧ o = [(t, NatHole.errResp m.tid .noExist)]
    | .err .authFailed, some (s', o) => s' = s ∧ o = [(t, NatHole.errResp m.tid .authFailed)]
    | .err .notAllowed, some (s', o) => s' = s ∧ o = [(t, NatHole.errResp m.tid .notAllowed)]
    | _, _ => False := by
  have hc := hcfg m.proxyName
  simp only [natVisit, NatHole.step, hfresh, Bool.false_eq_true, if_false, Bool.true_and, authKey]
  cases h1 : aget s.cfgs m.proxyName with
  | none =>
    rw [h1] at hc
    cases h2 : aget cfgs m.proxyName with
    | none => simp
    | some c => rw [h2] at hc; simp at hc
  | some c0 =>
    rw [h1] at hc
    cases h2 : aget cfgs m.proxyName with
    | none => rw [h2] at hc; simp at hc
    | some c =>
      rw [h2] at hc
      simp only [Option.map_some, Option.some.injEq, Prod.mk.injEq] at hc
      obtain ⟨hsk, hch, hal⟩ := hc
      simp only [hsk, hal]
      -- C20's `userAllowed` is the same test
      have hua : NatHole.userAllowed c.allow user = allowedB c.allow user := rfl
      by_cases hk : m.signed = authInput c.sk m.timestamp
      · cases ha : allowedB c.allow user <;> simp [hk, ha, hua, aget_aput, hch]
      · simp [hk]

/-! ## §3 every history -/

/-- what is waiting in any accept queue was admitted under the key and allow list of the very entry
    that holds it; what is in the sessions map was admitted under the key (and, with the repair, the
    allow list) recorded with it -/
def QInv (fixed : Bool) (H : Str → Str) (s : State) : Prop :=
  (∀ p ∈ s.listeners, ∀ q ∈ p.2.queue, q.sign = authKey H p.2.sk q.ts ∧ UserAllowed p.2.allow q.user) ∧
  (∀ p ∈ s.natSess, p.2.sign = authKey H p.2.sk p.2.ts ∧ (fixed = true → UserAllowed p.2.allow p.2.user))

theorem qinv_init (fixed : Bool) (H : Str → Str) : QInv fixed H {} := by
  constructor <;> intro p hp <;> cases hp

theorem qinv_newConn (H : Str → Str) (ls : List (Str × Listener)) (name : Str) (ts : Int) (sign user : Str) (conn : Nat)
    (h : ∀ p ∈ ls, ∀ q ∈ p.2.queue, q.sign = authKey H p.2.sk q.ts ∧ UserAllowed p.2.allow q.user) :
    ∀ p ∈ (newConn H ls name ts sign user conn).1, ∀ q ∈ p.2.queue,
      q.sign = authKey H p.2.sk q.ts ∧ UserAllowed p.2.allow q.user := by
  rcases newConn_queued_shape H ls name ts sign user conn with h' | ⟨l, hl, hq, hshape⟩
  · rw [h']; exact h
  · obtain ⟨l', hl', _, hk, hu⟩ := newConn_sound H ls name ts sign user conn l.lid (.inl hq)
    cases hl.symm.trans hl'
    rw [hshape]
    refine forall_mem_aput h (fun q hqm => ?_)
    rcases List.mem_append.mp hqm with hqm | hqm
    · exact h _ (mem_of_aget ls name l hl) q hqm
    · cases List.mem_singleton.mp hqm; exact ⟨hk, hu⟩

theorem qinv_natVisit (fixed : Bool) (H : Str → Str) (cfgs : List (Str × NatCfg)) (sess : List (Str × NatSess))
    (sid name : Str) (ts : Int) (sign user : Str) (pre : Bool)
    (h : ∀ p ∈ sess, p.2.sign = authKey H p.2.sk p.2.ts ∧ (fixed = true → UserAllowed p.2.allow p.2.user)) :
    ∀ p ∈ (natVisit fixed H cfgs sess sid name ts sign user pre).1,
      p.2.sign = authKey H p.2.sk p.2.ts ∧ (fixed = true → UserAllowed p.2.allow p.2.user) := by
  rcases natVisit_cases fixed H cfgs sess sid name ts sign user pre with ⟨_, e⟩ | ⟨_, _, _, _, e⟩ | ⟨c, _, _, hk, hu, e⟩
  · rw [e]; exact h
  · rw [e]; exact h
  · rw [e]; exact forall_mem_aput h ⟨hk, hu⟩

/-- one step of any kind preserves the invariant -/
theorem qinv_step (fixed : Bool) (H : Str → Str) (s : State) (op : Op) (h : QInv fixed H s) :
    QInv fixed H (step fixed H s op).1 := by
  obtain ⟨hl, hn⟩ := h
  -- every op keeps, drops or replaces whole entries; a replaced listener keeps its key and list and gets
  -- no queue item that was not there, except through `newConn`
  have hnew : ∀ (name sk : Str) (allow : List Str) (owner : Str), QInv fixed H (doListen s name sk allow owner).1 := by
    intro name sk allow owner
    unfold doListen
    split
    · exact ⟨hl, hn⟩
    · exact ⟨forall_mem_aput hl (fun q hq => nomatch hq), hn⟩
  have hnat : ∀ (name sk : Str) (allow : List Str) (owner : Str), QInv fixed H (doNatListen s name sk allow owner).1 := by
    intro name sk allow owner
    unfold doNatListen
    split <;> exact ⟨hl, hn⟩
  have hfilter : ∀ f : Str × Listener → Bool, ∀ p ∈ s.listeners.filter f, ∀ q ∈ p.2.queue,
      q.sign = authKey H p.2.sk q.ts ∧ UserAllowed p.2.allow q.user := fun f p hp => hl p (List.mem_filter.mp hp).1
  cases op with
  | login _ _ | logout _ | closeProxy _ _ => exact ⟨hfilter _, hn⟩
  | listen name sk allow => exact hnew _ _ _ _
  | natListen name sk allow => exact hnat _ _ _ _
  | register rid kind name sk cfgAllow =>
    dsimp only [step]
    split
    · exact ⟨hl, hn⟩
    · split
      · exact ⟨hl, hn⟩
      · cases kind
        · exact hnew _ _ _ _
        · exact hnew _ _ _ _
        · exact hnat _ _ _ _
  | closeListener name => exact ⟨forall_mem_adel name hl, hn⟩
  | natClose name => exact ⟨hl, hn⟩
  | lclose name =>
    dsimp only [step]
    split
    · exact ⟨hl, hn⟩
    · next l hg => exact ⟨forall_mem_aput hl (fun q hq => hl _ (mem_of_aget _ _ l hg) q hq), hn⟩
  | accept name =>
    dsimp only [step]
    split
    · exact ⟨hl, hn⟩
    · next l hg =>
      split
      · exact ⟨hl, hn⟩
      · next q0 rest hq0 =>
        refine ⟨forall_mem_aput hl (fun q hq => ?_), hn⟩
        exact hl _ (mem_of_aget _ _ _ hg) q (by rw [hq0]; exact List.mem_cons_of_mem _ hq)
  | newConn name ts sign user conn =>
    exact ⟨qinv_newConn H s.listeners name ts sign user conn hl, hn⟩
  | visitorConn name ts sign rid conn =>
    dsimp only [step]
    split
    · exact ⟨hl, hn⟩
    · exact ⟨qinv_newConn H s.listeners name ts sign _ conn hl, hn⟩
  | natVisit sid name ts sign user pre =>
    exact ⟨hl, qinv_natVisit fixed H s.natCfgs s.natSess sid name ts sign user pre hn⟩
  | natVisitBy sid name ts sign rid pre =>
    dsimp only [step]
    split
    · exact ⟨hl, hn⟩
    · exact ⟨hl, qinv_natVisit fixed H s.natCfgs s.natSess sid name ts sign _ pre hn⟩
  | natDone sid => exact ⟨hl, forall_mem_adel sid hn⟩

/-- for every operation history from the empty server — any order of logins, registrations,
    closures, accepts, visitor and NAT-hole requests — the invariant holds in the state reached -/
theorem qinv_reachable (fixed : Bool) (H : Str → Str) (ops : List Op) : QInv fixed H (runS fixed H {} ops) := by
  suffices ∀ s, QInv fixed H s → QInv fixed H (runS fixed H s ops) from this {} (qinv_init fixed H)
  induction ops with
  | nil => intro s h; exact h
  | cons op ops ih => intro s h; exact ih _ (qinv_step fixed H s op h)

/-- corollary, repaired code: nothing that an owner can ever take out of an accept queue, and no
    stored NAT-hole session, stems from a request without the key or from a user outside the list -/
theorem reachable_fixed_all_granted_sound (H : Str → Str) (ops : List Op) :
    (∀ p ∈ (runS true H {} ops).listeners, ∀ q ∈ p.2.queue,
        q.sign = authKey H p.2.sk q.ts ∧ UserAllowed p.2.allow q.user) ∧
    (∀ p ∈ (runS true H {} ops).natSess, p.2.sign = authKey H p.2.sk p.2.ts ∧ UserAllowed p.2.allow p.2.user) := by
  obtain ⟨h1, h2⟩ := qinv_reachable true H ops
  exact ⟨h1, fun p hp => ⟨(h2 p hp).1, (h2 p hp).2 rfl⟩⟩

theorem doListen_out (s : State) (name sk : Str) (allow : List Str) (owner : Str) :
    (doListen s name sk allow owner).2 = .ok ∨ (doListen s name sk allow owner).2 = .repeated := by
  unfold doListen
  split
  · exact .inr rfl
  · exact .inl rfl

theorem doNatListen_out (s : State) (name sk : Str) (allow : List Str) (owner : Str) :
    (doNatListen s name sk allow owner).2 = .ok ∨ (doNatListen s name sk allow owner).2 = .repeated := by
  unfold doNatListen
  split
  · exact .inr rfl
  · exact .inl rfl

/-- every request op that is not an admission leaves the complete server state unchanged -/
theorem step_refused_unchanged (fixed : Bool) (H : Str → Str) (s : State) (op : Op) (e : Err)
    (h : (step fixed H s op).2 = .conn (.err e) ∨ (step fixed H s op).2 = .nat (.err e) ∨
         (step fixed H s op).2 = .nat .preOk) :
    (step fixed H s op).1 = s := by
  -- the three answers of `h` are none of those given when something was stored, closed or taken
  have hne : ∀ o : Out, (o = .conn (.err e) ∨ o = .nat (.err e) ∨ o = .nat .preOk) →
      o ≠ .ok ∧ o ≠ .repeated ∧ (∀ lid, o ≠ .conn (.queued lid)) ∧ ∀ ch, o ≠ .nat (.granted ch) := by
    rintro o (rfl | rfl | rfl) <;> simp
  have listen : ∀ o : Out, o = .ok ∨ o = .repeated → (o = .conn (.err e) ∨ o = .nat (.err e) ∨ o = .nat .preOk) → False :=
    fun o ho h => ho.elim (hne o h).1 (hne o h).2.1
  cases op with
  | newConn name ts sign user conn =>
    dsimp only [step] at h ⊢
    rw [newConn_not_queued_unchanged H s.listeners name ts sign user conn
      (fun lid hq => (hne _ h).2.2.1 lid (congrArg Out.conn hq))]
  | visitorConn name ts sign rid conn => exact (visitorConn_sound fixed H s name ts sign rid conn).2 (hne _ h).2.2.1
  | natVisit sid name ts sign user pre =>
    dsimp only [step] at h ⊢
    rw [(natVisit_state fixed H s.natCfgs s.natSess sid name ts sign user pre).1
      (fun ch hc => (hne _ h).2.2.2 ch (congrArg Out.nat hc))]
  | natVisitBy sid name ts sign rid pre =>
    cases hu : aget s.ctls rid with
    | none => simp only [step, hu]
    | some u =>
      simp only [step, hu] at h ⊢
      rw [(natVisit_state fixed H s.natCfgs s.natSess sid name ts sign u pre).1
        (fun ch hc => (hne _ h).2.2.2 ch (congrArg Out.nat hc))]
  | register rid kind name sk cfgAllow =>
    dsimp only [step] at h ⊢
    split
    · rfl
    · split
      · rfl
      · next hu hx =>
        simp only [hu, hx] at h
        cases kind
        · exact (listen _ (doListen_out ..) h).elim
        · exact (listen _ (doListen_out ..) h).elim
        · exact (listen _ (doNatListen_out ..) h).elim
  | listen name sk allow => exact (listen _ (doListen_out ..) h).elim
  | natListen name sk allow => exact (listen _ (doNatListen_out ..) h).elim
  | lclose name => simp only [step] at h; split at h <;> exact absurd rfl (hne _ h).1
  | accept name =>
    dsimp only [step] at h
    split at h
    · rcases h with h | h | h <;> cases h
    · split at h <;> rcases h with h | h | h <;> cases h
  | login _ _ | logout _ | closeListener _ | natClose _ | closeProxy _ _ | natDone _ => exact absurd rfl (hne _ h).1

/-! ## §4 wrapper stacks -/

/-- both ends of each leg build the same stack from the same declaration; the two legs are independent (visitor's
    options on leg 1 with the secret key, the proxy's on leg 2 with the token).  Holds by definition: that the two
    ends of a leg read the same flags is the modelling decision recorded in Frp/Model/Visitor.lean -/
theorem mirror : ∀ vEnc vComp pEnc pComp : Bool,
    visitorEnd vEnc vComp = serverVisitorEnd vEnc vComp ∧ serverWorkEnd pEnc pComp = ownerEnd pEnc pComp :=
  fun _ _ _ _ => ⟨rfl, rfl⟩

theorem decode_encode (ls : List Layer) (x : List (List Layer × Nat)) : decode ls (encode ls x) = some x := by
  induction x with
  | nil => rfl
  | cons p t ih =>
    have ih' : decode ls (List.map (fun p => (ls ++ p.fst, p.snd)) t) = some t := ih
    simp [decode, encode, ih']

/-- a payload sent by the visitor arrives unchanged at the owner's end, whatever the visitor and the
    proxy each declare (abstract layers: a layer is undone only by the same layer with the same key) -/
theorem transparent (vEnc vComp pEnc pComp : Bool) (x : List (List Layer × Nat)) :
    (decode (serverVisitorEnd vEnc vComp) (encode (visitorEnd vEnc vComp) x)).bind
      (fun y => decode (ownerEnd pEnc pComp) (encode (serverWorkEnd pEnc pComp) y)) = some x := by
  have h := mirror vEnc vComp pEnc pComp
  rw [h.1, h.2, decode_encode, Option.bind_some, decode_encode]

/-- non-vacuity of the abstraction: a layer applied but not declared is not undone -/
example : decode (serverVisitorEnd false false) (encode (visitorEnd true false) [([], 7)]) ≠ some [([], 7)] := by decide

/-! ## §5 the predicate the driver evaluates on the implementation's answers -/

def admissibleB (H : Str → Str) (ls : List (Str × Listener)) (name : Str) (ts : Int) (sign user : Str) : Bool :=
  match aget ls name with
  | none => false
  | some l => sign == authKey H l.sk ts && allowedB l.allow user

theorem admissibleB_iff (H : Str → Str) (ls : List (Str × Listener)) (name : Str) (ts : Int) (sign user : Str) :
    admissibleB H ls name ts sign user = true ↔ ∃ lid, Admissible H ls name ts sign user lid := by
  unfold admissibleB Admissible
  cases h : aget ls name with
  | none => simp
  | some l =>
    simp only [Option.some.injEq, Bool.and_eq_true, beq_iff_eq, allowedB_iff]
    constructor
    · intro ⟨a, b⟩; exact ⟨l.lid, l, rfl, rfl, a, b⟩
    · intro ⟨_, l', e, _, a, b⟩; subst e; exact ⟨a, b⟩

def natAdmB (H : Str → Str) (cfgs : List (Str × NatCfg)) (name : Str) (ts : Int) (sign user : Str) : Bool :=
  match aget cfgs name with
  | none => false
  | some c => sign == authKey H c.sk ts && allowedB c.allow user

theorem natAdmB_iff (H : Str → Str) (cfgs : List (Str × NatCfg)) (name : Str) (ts : Int) (sign user : Str) :
    natAdmB H cfgs name ts sign user = true ↔ ∃ ch, NatAdmissible H cfgs name ts sign user ch := by
  unfold natAdmB NatAdmissible
  cases h : aget cfgs name with
  | none => simp
  | some c =>
    simp only [Option.some.injEq, Bool.and_eq_true, beq_iff_eq, allowedB_iff]
    constructor
    · intro ⟨a, b⟩; exact ⟨c.chan, c, rfl, rfl, a, b⟩
    · intro ⟨_, c', e, _, a, b⟩; subst e; exact ⟨a, b⟩

/-- `implGranted` = the implementation handed the request to an owner (accept queue / sid channel);
    `valid` = the request is admissible in the model's state.  The property on one observed answer. -/
def holdsOn (valid implGranted : Bool) : Bool := !implGranted || valid

theorem holdsOn_sound (H : Str → Str) (ls : List (Str × Listener)) (name : Str) (ts : Int) (sign user : Str)
    (implGranted : Bool) :
    holdsOn (admissibleB H ls name ts sign user) implGranted = true ↔
      (implGranted = true → ∃ lid, Admissible H ls name ts sign user lid) := by
  rw [← admissibleB_iff]
  cases implGranted <;> simp [holdsOn]

theorem holdsOn_sound_nat (H : Str → Str) (cfgs : List (Str × NatCfg)) (name : Str) (ts : Int) (sign user : Str)
    (implGranted : Bool) :
    holdsOn (natAdmB H cfgs name ts sign user) implGranted = true ↔
      (implGranted = true → ∃ ch, NatAdmissible H cfgs name ts sign user ch) := by
  rw [← natAdmB_iff]
  cases implGranted <;> simp [holdsOn]

/-- the model's own answers satisfy `holdsOn` on the stream path -/
theorem model_holdsOn (H : Str → Str) (ls : List (Str × Listener)) (name : Str) (ts : Int) (sign user : Str) (conn : Nat) :
    holdsOn (admissibleB H ls name ts sign user)
      (match (newConn H ls name ts sign user conn).2 with | .err _ => false | _ => true) = true := by
  rw [holdsOn_sound]
  intro h
  rcases newConn_refused_unchanged H ls name ts sign user conn with ⟨e, he⟩ | ⟨lid, hl⟩ | ⟨lid, hl⟩
  · rw [he] at h; cases h
  · exact ⟨lid, newConn_sound H ls name ts sign user conn lid (.inr hl)⟩
  · exact ⟨lid, newConn_sound H ls name ts sign user conn lid (.inl hl)⟩

/-- the repaired code's own answers satisfy `holdsOn` on the NAT-hole path -/
theorem model_holdsOn_nat_fixed (H : Str → Str) (cfgs : List (Str × NatCfg)) (sess : List (Str × NatSess))
    (sid name : Str) (ts : Int) (sign user : Str) :
    holdsOn (natAdmB H cfgs name ts sign user)
      (match (natVisit true H cfgs sess sid name ts sign user false).2 with | .granted _ => true | _ => false) = true := by
  rw [holdsOn_sound_nat]
  intro h
  split at h
  · next ch hch => exact ⟨ch, nat_grant_sound_fixed H cfgs sess sid name ts sign user ch hch⟩
  · cases h

/-! ## non-vacuity -/

def exH : Str → Str := fun x => 0 :: x

/-- owner "o" (run id "r1") registers stcp "p" with key "s" and no allowUsers -/
def exOps : List Op := [.login [114, 49] [111], .login [114, 50] [109], .register [114, 49] .stcp [112] [115] []]

-- same user through its own run id, right key: handed to listener 0
example : (step false exH (runS false exH {} exOps) (.visitorConn [112] 7 (authKey exH [115] 7) [114, 49] 1)).2
    = .conn (.queued 0) := by decide +kernel
-- other user, right key
example : (step false exH (runS false exH {} exOps) (.visitorConn [112] 7 (authKey exH [115] 7) [114, 50] 1)).2
    = .conn (.err .notAllowed) := by decide +kernel
-- empty run id ⇒ user "" ≠ "o"
example : (step false exH (runS false exH {} exOps) (.visitorConn [112] 7 (authKey exH [115] 7) [] 1)).2
    = .conn (.err .notAllowed) := by decide +kernel
-- unknown run id
example : (step false exH (runS false exH {} exOps) (.visitorConn [112] 7 (authKey exH [115] 7) [120] 1)).2
    = .conn (.err .noRun) := by decide +kernel
-- wrong timestamp for the signature
example : (step false exH (runS false exH {} exOps) (.visitorConn [112] 8 (authKey exH [115] 7) [114, 49] 1)).2
    = .conn (.err .authFailed) := by decide +kernel
-- the hypotheses of default_list_end_to_end are met by this state
example : aget (runS false exH {} [.login [114, 49] [111], .login [114, 50] [109]]).ctls [114, 49] = some [111] ∧
    (step false exH (runS false exH {} [.login [114, 49] [111], .login [114, 50] [109]])
      (.register [114, 49] .stcp [112] [115] [])).2 = .ok := by decide +kernel
-- "*" admits anyone holding the key
example : (newConn exH [([112], { sk := [115], allow := [[Str.star]], lid := 3 })] [112] 7 (authKey exH [115] 7) [109] 1).2
    = .queued 3 := by decide +kernel
-- repaired NAT-hole branch refuses the witness request
example : (natVisit true (fun x => x) witnessCfgs [] [49] [112] 7 (authInput [115] 7) [109] false).2 = .err .notAllowed := by
  decide +kernel
example : (natVisit false (fun x => x) witnessCfgs [] [49] [112] 7 (authInput [115] 7) [109] false).2 = .granted 0 := by
  decide +kernel

/-! ## §6 every interleaving of NewConn with Listen / CloseListener (the manager's RWMutex) -/

/-- the immutable part of a bundle: pointer, key, list -/
def core (l : Listener) : Nat × Str × List Str := (l.lid, l.sk, l.allow)

/-- `ls'` has, under every name, a bundle with the same pointer, key and list as `ls` -/
def SameBundles (ls ls' : List (Str × Listener)) : Prop := ∀ n, (aget ls' n).map core = (aget ls n).map core

theorem sameBundles_refl (ls : List (Str × Listener)) : SameBundles ls ls := fun _ => rfl

theorem sameBundles_aput (ls : List (Str × Listener)) (name : Str) (l l' : Listener) (hl : aget ls name = some l)
    (hc : core l' = core l) : SameBundles ls (aput ls name l') := by
  intro n
  rw [aget_aput]
  by_cases e : name = n
  · subst e; simp [hl, hc]
  · simp [e]

theorem putConn_sameBundles (ls : List (Str × Listener)) (name : Str) (l : Listener) (q : QItem)
    (hl : aget ls name = some l) : SameBundles ls (putConn ls name l q).1 := by
  unfold putConn
  split
  · exact sameBundles_refl _
  · split
    · exact sameBundles_refl _
    · exact sameBundles_aput ls name l _ hl rfl

/-- a flight's bundle is the one registered under its name, and the request passed that bundle's checks -/
def FlightOk (H : Str → Str) (ls : List (Str × Listener)) (f : Flight) : Prop :=
  ∃ l, aget ls f.req.name = some l ∧ l.lid = f.lid ∧ l.sk = f.sk ∧ l.allow = f.allow ∧
    f.req.sign = authKey H l.sk f.req.ts ∧ UserAllowed l.allow f.req.user

/-- the lock invariant: while a NewConn is in flight the bundle it read is still the registered one;
    writers wait only while there are readers -/
def FInv (H : Str → Str) (c : CState) : Prop :=
  (∀ f ∈ c.flights, FlightOk H c.s.listeners f) ∧ (c.pending ≠ [] → c.flights ≠ [])

theorem flightOk_same (H : Str → Str) (ls ls' : List (Str × Listener)) (f : Flight) (h : SameBundles ls ls')
    (hf : FlightOk H ls f) : FlightOk H ls' f := by
  obtain ⟨l, hl, h1, h2, h3, h4, h5⟩ := hf
  have := h f.req.name
  rw [hl] at this
  cases hl' : aget ls' f.req.name with
  | none => rw [hl'] at this; simp at this
  | some l' =>
    rw [hl'] at this
    simp only [Option.map_some, Option.some.injEq, core, Prod.mk.injEq] at this
    obtain ⟨e1, e2, e3⟩ := this
    exact ⟨l', hl', by rw [e1, h1], by rw [e2, h2], by rw [e3, h3], by rw [e2]; exact h4, by rw [e3]; exact h5⟩

theorem checks_ok (H : Str → Str) (ls : List (Str × Listener)) (r : Req) (l : Listener) (h : checks H ls r = .ok l) :
    aget ls r.name = some l ∧ r.sign = authKey H l.sk r.ts ∧ UserAllowed l.allow r.user := by
  unfold checks at h
  split at h
  · cases h
  · next l0 hl0 =>
    by_cases h1 : authKey H l0.sk r.ts ≠ r.sign
    · rw [if_pos h1] at h; cases h
    · by_cases h2 : (!allowedB l0.allow r.user) = true
      · rw [if_neg h1, if_pos h2] at h; cases h
      · rw [if_neg h1, if_neg h2] at h
        cases h
        refine ⟨hl0, (Decidable.of_not_not h1).symm, (allowedB_iff _ _).mp ?_⟩
        simpa using h2

/-- NewConn is its checks followed by PutConn (the wrappers change nothing in the table) -/
theorem newConn_eq_checks_put (H : Str → Str) (ls : List (Str × Listener)) (r : Req) :
    newConn H ls r.name r.ts r.sign r.user r.conn =
      match checks H ls r with
      | .error e => (ls, .err e)
      | .ok l => putConn ls r.name l (item r) := by
  cases hl : aget ls r.name with
  | none => simp only [newConn, checks, hl]
  | some l =>
    simp only [newConn, checks, hl, putConn, item]
    by_cases h1 : authKey H l.sk r.ts ≠ r.sign
    · simp only [if_pos h1]
    · by_cases h2 : (!allowedB l.allow r.user) = true
      · simp only [if_neg h1, if_pos h2]
      · simp only [if_neg h1, if_neg h2]

/-- InternalListener.Close keeps every bundle's pointer, key and list -/
theorem step_lclose_same (fixed : Bool) (H : Str → Str) (s : State) (name : Str) :
    SameBundles s.listeners (step fixed H s (.lclose name)).1.listeners := by
  dsimp only [step]
  split
  · exact sameBundles_refl _
  · next l hl => exact sameBundles_aput _ name l _ hl rfl

/-- so does an accept -/
theorem step_accept_same (fixed : Bool) (H : Str → Str) (s : State) (name : Str) :
    SameBundles s.listeners (step fixed H s (.accept name)).1.listeners := by
  dsimp only [step]
  split
  · exact sameBundles_refl _
  · next l hl =>
    split
    · exact sameBundles_refl _
    · exact sameBundles_aput _ name l _ hl rfl

theorem finishPut_same (ls : List (Str × Listener)) (f : Flight) (ivOk : Bool) :
    SameBundles ls (finishPut ls f ivOk).1 := by
  unfold finishPut
  split
  · exact sameBundles_refl _
  · split
    · next l hl =>
      split
      · exact putConn_sameBundles ls _ l _ hl
      · exact sameBundles_refl _
    · exact sameBundles_refl _

theorem finv_init (H : Str → Str) : FInv H {} := ⟨fun _ hf => (by cases hf), fun h => absurd rfl h⟩

/-- every label preserves the lock invariant -/
theorem finv_step (fixed : Bool) (H : Str → Str) (c : CState) (lbl : Lbl) (h : FInv H c) :
    FInv H (cstep fixed H c lbl).1 := by
  obtain ⟨hf, hp⟩ := h
  cases lbl with
  | «begin» r =>
    dsimp only [cstep]
    by_cases hpe : c.pending ≠ []
    · rw [if_pos hpe]; exact ⟨hf, hp⟩
    · rw [if_neg hpe]
      cases hc : checks H c.s.listeners r with
      | error e => exact ⟨hf, hp⟩
      | ok l =>
        obtain ⟨hl, hk, hu⟩ := checks_ok H _ r l hc
        simp only
        by_cases he : r.enc = true
        · rw [if_pos he]
          refine ⟨?_, fun _ => by simp⟩
          intro f hfm
          rcases List.mem_append.mp hfm with hfm | hfm
          · exact hf f hfm
          · have := List.mem_singleton.mp hfm
            subst this
            exact ⟨l, hl, rfl, rfl, rfl, hk, hu⟩
        · rw [if_neg he]
          refine ⟨?_, hp⟩
          intro f hfm
          exact flightOk_same H _ _ f (putConn_sameBundles _ _ l _ hl) (hf f hfm)
  | finish conn ivOk =>
    dsimp only [cstep]
    split
    · exact ⟨hf, hp⟩
    · next f hfind =>
      split
      · exact ⟨fun _ h => (by cases h), fun h => absurd rfl h⟩
      · next hrest =>
        refine ⟨?_, fun _ => hrest⟩
        intro g hg
        exact flightOk_same H _ _ g (finishPut_same _ f ivOk) (hf g (List.mem_filter.mp hg).1)
  | write w =>
    dsimp only [cstep]
    by_cases hb : c.flights ≠ [] ∨ c.pending ≠ []
    · rw [if_pos hb]
      refine ⟨hf, fun _ => ?_⟩
      rcases hb with hb | hb
      · exact hb
      · exact hp hb
    · rw [if_neg hb]
      have h1 : c.flights = [] := Decidable.of_not_not (fun h => hb (.inl h))
      have h2 : c.pending = [] := Decidable.of_not_not (fun h => hb (.inr h))
      refine ⟨?_, fun h => absurd h2 h⟩
      intro f hfm
      rw [h1] at hfm
      cases hfm
  | lclose name =>
    exact ⟨fun f hfm => flightOk_same H _ _ f (step_lclose_same fixed H c.s name) (hf f hfm), hp⟩
  | accept name =>
    exact ⟨fun f hfm => flightOk_same H _ _ f (step_accept_same fixed H c.s name) (hf f hfm), hp⟩

/-- for every interleaving of NewConn calls (begun, held up in WithEncryption, finished in any
    order), Listen / CloseListener calls, listener closures and accepts: the invariant holds -/
theorem finv_reachable (fixed : Bool) (H : Str → Str) (lbls : List Lbl) : FInv H (crun fixed H {} lbls) := by
  suffices ∀ c, FInv H c → FInv H (crun fixed H c lbls) from this {} (finv_init H)
  induction lbls with
  | nil => intro c h; exact h
  | cons l ls ih => intro c h; exact ih _ (finv_step fixed H c l h)

/-- the hand-over of a flight (small-step: checks earlier, PutConn now) is exactly the atomic NewConn
    on the table as it is at the moment of the hand-over -/
theorem finishPut_is_newConn (H : Str → Str) (ls : List (Str × Listener)) (f : Flight) (hf : FlightOk H ls f) :
    finishPut ls f true = newConn H ls f.req.name f.req.ts f.req.sign f.req.user f.req.conn := by
  obtain ⟨l, hl, hlid, _, _, hk, hu⟩ := hf
  have hc : checks H ls f.req = .ok l := by
    simp only [checks, hl, hk, ne_eq, not_true_eq_false, if_false, (allowedB_iff _ _).mpr hu, Bool.not_true, Bool.false_eq_true]
  rw [newConn_eq_checks_put, hc]
  simp only [finishPut, Bool.not_true, Bool.false_eq_true, if_false, hl, hlid, if_true]

/-- `finish` in full, for every reachable state: the atomic NewConn at that moment, then (when the
    last reader leaves) the waiting writers in order -/
theorem finish_refines_newConn (fixed : Bool) (H : Str → Str) (c : CState) (conn : Nat) (f : Flight) (h : FInv H c)
    (hfind : c.flights.find? (fun f => f.req.conn = conn) = some f) :
    cstep fixed H c (.finish conn true) =
      (if c.flights.filter (fun g => g.req.conn ≠ conn) = [] then
        ({ s := (flush { c.s with listeners := (newConn H c.s.listeners f.req.name f.req.ts f.req.sign f.req.user f.req.conn).1 } c.pending).1,
           flights := [], pending := [] },
         .finished (newConn H c.s.listeners f.req.name f.req.ts f.req.sign f.req.user f.req.conn).2
           (flush { c.s with listeners := (newConn H c.s.listeners f.req.name f.req.ts f.req.sign f.req.user f.req.conn).1 } c.pending).2)
      else
        ({ c with s := { c.s with listeners := (newConn H c.s.listeners f.req.name f.req.ts f.req.sign f.req.user f.req.conn).1 },
                  flights := c.flights.filter (fun g => g.req.conn ≠ conn) },
         .finished (newConn H c.s.listeners f.req.name f.req.ts f.req.sign f.req.user f.req.conn).2 [])) := by
  have hp := finishPut_is_newConn H c.s.listeners f (h.1 f (List.mem_of_find?_eq_some hfind))
  simp only [cstep, hfind, hp]

/-- whatever a finishing flight is handed to: that listener is registered under the requested name
    NOW, the signature is its key, the user is in its list -/
theorem finish_delivery_sound (fixed : Bool) (H : Str → Str) (c : CState) (conn lid : Nat) (f : Flight) (ws : List Out)
    (h : FInv H c) (hfind : c.flights.find? (fun f => f.req.conn = conn) = some f)
    (ho : (cstep fixed H c (.finish conn true)).2 = .finished (.queued lid) ws ∨
          (cstep fixed H c (.finish conn true)).2 = .finished (.dropped lid) ws) :
    Admissible H c.s.listeners f.req.name f.req.ts f.req.sign f.req.user lid := by
  rw [finish_refines_newConn fixed H c conn f h hfind] at ho
  apply newConn_sound H c.s.listeners f.req.name f.req.ts f.req.sign f.req.user f.req.conn lid
  split at ho <;> exact ho.imp (fun e => (COut.finished.inj e).1) (fun e => (COut.finished.inj e).1)

/-- the RWMutex: while any NewConn is in flight a Listen / CloseListener does not happen — it waits,
    the table is what it was -/
theorem write_waits_for_readers (fixed : Bool) (H : Str → Str) (c : CState) (w : WOp) (h : c.flights ≠ []) :
    cstep fixed H c (.write w) = ({ c with pending := c.pending ++ [w] }, .blocked) := by
  simp only [cstep, h, ne_eq, not_false_eq_true, true_or, if_true]

/-- a failing IV source: error, nothing handed over; the table changes only by the writers that waited -/
theorem finish_failed_unchanged (fixed : Bool) (H : Str → Str) (c : CState) (conn : Nat) (f : Flight)
    (hfind : c.flights.find? (fun f => f.req.conn = conn) = some f) :
    (∃ ws, (cstep fixed H c (.finish conn false)).2 = .finished (.err .encFailed) ws) ∧
    (cstep fixed H c (.finish conn false)).1.s =
      if c.flights.filter (fun g => g.req.conn ≠ conn) = [] then (flush c.s c.pending).1 else c.s := by
  simp only [cstep, hfind, finishPut, Bool.not_false, if_true]
  split
  · exact ⟨⟨_, rfl⟩, rfl⟩
  · exact ⟨⟨_, rfl⟩, rfl⟩

/-- a NewConn that is refused at its checks leaves everything as it was -/
theorem begin_refused_unchanged (fixed : Bool) (H : Str → Str) (c : CState) (r : Req) (e : Err)
    (h : (cstep fixed H c (.begin r)).2 = .conn (.err e)) : (cstep fixed H c (.begin r)).1 = c := by
  dsimp only [cstep] at h ⊢
  split
  · rfl
  · next hpe =>
    rw [if_neg hpe] at h
    cases hc : checks H c.s.listeners r with
    | error e' => rfl
    | ok l =>
      rw [hc] at h
      simp only at h ⊢
      by_cases he : r.enc = true
      · rw [if_pos he] at h; cases h
      · rw [if_neg he] at h ⊢
        simp only [putConn] at h ⊢
        by_cases hcl : l.closed = true
        · simp only [hcl, if_true]
        · rw [if_neg hcl] at h
          by_cases hq : l.queue.length ≥ acceptCap
          · rw [if_pos hq] at h; cases h
          · rw [if_neg hq] at h; cases h

/-- without encryption there is nothing to wait for: `begin` is the atomic NewConn -/
theorem begin_atomic (fixed : Bool) (H : Str → Str) (c : CState) (r : Req) (he : r.enc = false) (hp : c.pending = []) :
    cstep fixed H c (.begin r) =
      ({ c with s := { c.s with listeners := (newConn H c.s.listeners r.name r.ts r.sign r.user r.conn).1 } },
       .conn (newConn H c.s.listeners r.name r.ts r.sign r.user r.conn).2) := by
  have hpe : ¬ (c.pending ≠ []) := fun h => h hp
  rw [newConn_eq_checks_put]
  simp only [cstep, if_neg hpe, he, Bool.false_eq_true, if_false]
  cases checks H c.s.listeners r
  · rfl
  · rfl

theorem qinv_applyW (fixed : Bool) (H : Str → Str) (s : State) (w : WOp) (h : QInv fixed H s) :
    QInv fixed H (applyW s w).1 := by
  cases w with
  | listen name sk allow => exact qinv_step fixed H s (.listen name sk allow) h
  | close name => exact qinv_step fixed H s (.closeListener name) h

theorem qinv_flush (fixed : Bool) (H : Str → Str) (ws : List WOp) : ∀ s, QInv fixed H s → QInv fixed H (flush s ws).1 := by
  induction ws with
  | nil => intro s h; exact h
  | cons w ws ih => intro s h; exact ih _ (qinv_applyW fixed H s w h)

/-- the queue invariant (everything waiting in an accept channel was admitted under the key and list
    of the entry holding it) is kept by every label of the concurrent system -/
theorem cqinv_step (fixed : Bool) (H : Str → Str) (c : CState) (lbl : Lbl) (hf : FInv H c) (h : QInv fixed H c.s) :
    QInv fixed H (cstep fixed H c lbl).1.s := by
  cases lbl with
  | «begin» r =>
    dsimp only [cstep]
    split
    · exact h
    · cases hc : checks H c.s.listeners r with
      | error e => exact h
      | ok l =>
        simp only
        split
        · exact h
        · have := qinv_newConn H c.s.listeners r.name r.ts r.sign r.user r.conn h.1
          rw [newConn_eq_checks_put, hc] at this
          exact ⟨this, h.2⟩
  | finish conn ivOk =>
    cases hfind : c.flights.find? (fun f => f.req.conn = conn) with
    | none => simp only [cstep, hfind]; exact h
    | some f =>
      have hput : QInv fixed H { c.s with listeners := (finishPut c.s.listeners f ivOk).1 } := by
        cases ivOk
        · exact h
        · rw [finishPut_is_newConn H _ f (hf.1 f (List.mem_of_find?_eq_some hfind))]
          exact ⟨qinv_newConn H c.s.listeners _ _ _ _ _ h.1, h.2⟩
      simp only [cstep, hfind]
      split
      · exact qinv_flush fixed H _ _ hput
      · exact hput
  | write w =>
    dsimp only [cstep]
    split
    · exact h
    · exact qinv_applyW fixed H c.s w h
  | lclose name => exact qinv_step fixed H c.s (.lclose name) h
  | accept name => exact qinv_step fixed H c.s (.accept name) h

/-- all interleavings: both invariants hold in every state the concurrent system can reach -/
theorem cqinv_reachable (fixed : Bool) (H : Str → Str) (lbls : List Lbl) :
    FInv H (crun fixed H {} lbls) ∧ QInv fixed H (crun fixed H {} lbls).s := by
  suffices ∀ c, FInv H c → QInv fixed H c.s → FInv H (crun fixed H c lbls) ∧ QInv fixed H (crun fixed H c lbls).s from
    this {} (finv_init H) (qinv_init fixed H)
  induction lbls with
  | nil => intro c h1 h2; exact ⟨h1, h2⟩
  | cons l ls ih => intro c h1 h2; exact ih _ (finv_step fixed H c l h1) (cqinv_step fixed H c l h1 h2)

/-! ### the predicate for one observed delivery -/

/-- a connection made with (ts, sign, user) came out of the accept channel of a listener that was
    registered with (sk, allow): the property demands the key and the user -/
def deliveredOkB (H : Str → Str) (sk : Str) (allow : List Str) (ts : Int) (sign user : Str) : Bool :=
  sign == authKey H sk ts && allowedB allow user

theorem deliveredOkB_iff (H : Str → Str) (sk : Str) (allow : List Str) (ts : Int) (sign user : Str) :
    deliveredOkB H sk allow ts sign user = true ↔ sign = authKey H sk ts ∧ UserAllowed allow user := by
  simp only [deliveredOkB, Bool.and_eq_true, beq_iff_eq, allowedB_iff]

/-- in every state reachable by any interleaving, whatever an owner takes out of its accept channel
    satisfies the predicate for the owner's own key and list -/
theorem reachable_accept_delivered_ok (fixed : Bool) (H : Str → Str) (lbls : List Lbl) (name : Str) (l : Listener)
    (q : QItem) (rest : List QItem)
    (hl : aget (crun fixed H {} lbls).s.listeners name = some l) (hq : l.queue = q :: rest) :
    deliveredOkB H l.sk l.allow q.ts q.sign q.user = true := by
  rw [deliveredOkB_iff]
  have := (cqinv_reachable fixed H lbls).2.1 _ (mem_of_aget _ _ _ hl) q (by simp only [hq]; exact List.mem_cons_self)
  exact this

/-! ### non-vacuity: a concrete interleaving -/

def exReq : Req := { name := [112], ts := 7, sign := authKey exH [115] 7, user := [97], conn := 1, enc := true }

/-- listen p (key s, [a]); NewConn p begins and stands in WithEncryption; CloseListener p and
    Listen p (key t, [b]) arrive: both wait; the NewConn finishes -/
def exLbls : List Lbl :=
  [.write (.listen [112] [115] [[97]]), .begin exReq, .write (.close [112]), .write (.listen [112] [116] [[98]])]

example : (crun false exH {} exLbls).flights.length = 1 ∧ (crun false exH {} exLbls).pending.length = 2 ∧
    (aget (crun false exH {} exLbls).s.listeners [112]).map core = some (0, [115], [[97]]) := by decide +kernel
-- the connection is handed to listener 0 (the one it was checked against); then the two writers run
example : (cstep false exH (crun false exH {} exLbls) (.finish 1 true)).2 = .finished (.queued 0) [.ok, .ok] := by
  decide +kernel
-- afterwards p is the new listener 1 with the new key and an empty accept channel
example : (aget (cstep false exH (crun false exH {} exLbls) (.finish 1 true)).1.s.listeners [112]).map
    (fun l => (core l, l.queue)) = some ((1, [116], [[98]]), []) := by decide +kernel
-- a failing IV source: error, and the writers run all the same
example : (cstep false exH (crun false exH {} exLbls) (.finish 1 false)).2 = .finished (.err .encFailed) [.ok, .ok] := by
  decide +kernel
-- the hypotheses of finish_delivery_sound are met
example : (crun false exH {} exLbls).flights.find? (fun f => f.req.conn = 1) =
    some { req := exReq, lid := 0, sk := [115], allow := [[97]] } := by decide +kernel

open XtcpVisitor

/-! ## §7 the xtcp visitor of frpc (client/visitor/xtcp.go, Frp/Model/XtcpVisitor.lean) -/

/-! ### makeNatHole against the server: a tunnel session only for the key and an allowed user -/

/-- the visitor configured with `cfg`, logged in as `env.user`, is one the server must admit to the proxy -/
def XtAdmitted (env : Env) (cfg : Cfg) : Prop :=
  ∃ (ts : Int) (c : NatCfg), aget env.cfgs cfg.server = some c ∧
    authKey env.H cfg.sk ts = authKey env.H c.sk ts ∧ UserAllowed c.allow env.user

/-- the signed request is what `util.GetAuthKey(SecretKey, now)` gives for the timestamp sent along -/
theorem xv_request_signed (H : Str → Str) (cfg : Cfg) (now : Int) : visitSign H cfg now = authKey H cfg.sk now := rfl

/-- makeNatHole reaches session.Init only through all five stages -/
theorem xv_hole_ok_iff (env : Env) (cfg : Cfg) (now : Int) (prepareOk punchOk initOk : Bool) :
    holeRes env cfg now prepareOk punchOk initOk = .ok ↔
      preAnswer env cfg = .preOk ∧ prepareOk = true ∧ (∃ ch, exchAnswer env cfg now = .granted ch) ∧
        punchOk = true ∧ initOk = true := by
  unfold holeRes
  split
  · next e h => simp [h]
  · next ch h => simp [h]
  · next h =>
    cases prepareOk
    · simp [h]
    · simp only [Bool.not_true, Bool.false_eq_true, if_false, h, true_and]
      split
      · next e h2 => simp [h2]
      · next h2 => simp [h2]
      · next ch h2 => cases punchOk <;> cases initOk <;> simp [h2]

/-- would the server admit this visitor's signed request -/
def xtAdmB (env : Env) (cfg : Cfg) (ts : Int) : Bool :=
  natAdmB env.H env.cfgs cfg.server ts (visitSign env.H cfg ts) env.user

theorem xtAdmB_entitled (env : Env) (cfg : Cfg) (ts : Int) (h : xtAdmB env cfg ts = true) : XtAdmitted env cfg := by
  obtain ⟨ch, c, hc, _, hk, hu⟩ := (natAdmB_iff _ _ _ _ _ _).mp h
  exact ⟨ts, c, hc, hk, hu⟩

/-- a tunnel session of the model satisfies `xtAdmB` for the timestamp makeNatHole signed -/
theorem xv_hole_ok_admB (env : Env) (cfg : Cfg) (now : Int) (a b c : Bool)
    (h : holeRes env cfg now a b c = .ok) : xtAdmB env cfg now = true := by
  obtain ⟨hpre, _, ⟨ch, hex⟩, _, _⟩ := (xv_hole_ok_iff env cfg now a b c).mp h
  obtain ⟨c1, hc1, hu⟩ := precheck_sound env.fixed env.H env.cfgs [] [] cfg.server 0 [] env.user hpre
  obtain ⟨c2, hc2, _, hk, _⟩ := nat_grant_partial env.fixed env.H env.cfgs [] [] cfg.server now (visitSign env.H cfg now) env.user ch hex
  rw [hc1] at hc2; cases hc2
  unfold xtAdmB natAdmB
  simp [hc1, hk, (allowedB_iff _ _).mpr hu]

/-- when makeNatHole went through, the server has seen the proxy's key and an allowed user — whether or not
    its session branch itself looks at the allow list (`env.fixed`): the pre-check does -/
theorem xv_hole_ok_entitled (env : Env) (cfg : Cfg) (now : Int) (prepareOk punchOk initOk : Bool)
    (h : holeRes env cfg now prepareOk punchOk initOk = .ok) : XtAdmitted env cfg :=
  xtAdmB_entitled env cfg now (xv_hole_ok_admB env cfg now prepareOk punchOk initOk h)

/-! ### how one label changes connections and hand-overs -/

theorem find_map_phase (l : List Conn) (c c' : Nat) (p : Phase) :
    (l.map (fun x => if x.id = c then { x with phase := p } else x)).find? (fun x => x.id == c') =
      if c' = c then (l.find? (fun x => x.id == c)).map (fun x => { x with phase := p })
      else l.find? (fun x => x.id == c') := by
  -- the map keeps every id, so the same element is found; it is rewritten iff its id is `c`
  have hf : ((fun x : Conn => x.id == c') ∘ fun x => if x.id = c then { x with phase := p } else x) =
      fun x => x.id == c' := by
    funext x; simp only [Function.comp]; split <;> rfl
  rw [List.find?_map, hf]
  by_cases e : c' = c
  · subst e
    cases hx : l.find? (fun x => x.id == c') with
    | none => simp
    | some x => simp [show x.id = c' by simpa using List.find?_some hx]
  · cases hx : l.find? (fun x => x.id == c') with
    | none => simp [e]
    | some x =>
      have hid : x.id = c' := by simpa using List.find?_some hx
      simp [e, hid]

theorem getC_setPhase (s : St) (c c' : Nat) (p : Phase) :
    getC (setPhase s c p) c' = if c' = c then (getC s c).map (fun x => { x with phase := p }) else getC s c' := by
  unfold getC setPhase
  exact find_map_phase s.conns c c' p

theorem getC_id (s : St) (c : Nat) (x : Conn) (h : getC s c = some x) : x.id = c := by
  unfold getC at h
  have := List.find?_some h
  simpa using this

theorem opening_some (s : St) (c : Nat) (x : Conn) (h : opening? s c = some x) :
    getC s c = some x ∧ x.phase = .opening ∧ x.id = c := by
  unfold opening? at h
  split at h
  · next y hy =>
    by_cases hp : y.phase = .opening
    · simp [hp] at h; subst h; exact ⟨hy, hp, getC_id s c y hy⟩
    · simp [hp] at h
  · cases h

theorem signalStart_conns (s : St) : (signalStart s).conns = s.conns ∧ (signalStart s).hands = s.hands := by
  unfold signalStart
  split <;> exact ⟨rfl, rfl⟩

/-- getTunnelConn: a stream of the live session and nothing changes, or the session is dropped and a start is signalled -/
theorem gt_cases (s : St) :
    (∃ k, s.sess = some k ∧ getTunnelConn s = (s, some k)) ∨
    getTunnelConn s = (signalStart { s with sess := none, alive := false }, none) := by
  unfold getTunnelConn
  split
  · next k hs _ => exact .inl ⟨k, hs, rfl⟩
  · exact .inr rfl

theorem getC_congr {s s' : St} (h : s'.conns = s.conns) (c : Nat) : getC s' c = getC s c := by
  unfold getC; rw [h]

theorem getC_setPhase_some {s : St} {c c' : Nat} {p : Phase} {y : Conn} (h : getC (setPhase s c p) c' = some y) :
    getC s c' = some y ∨ y.phase = p := by
  rw [getC_setPhase] at h
  split at h
  · cases hg : getC s c with
    | none => rw [hg] at h; cases h
    | some z => rw [hg] at h; cases h; exact .inr rfl
  · exact .inl h

/-- `s` with the new user connection `c`, inside openTunnel -/
def withConn (s : St) (c : Nat) : St := { s with conns := { id := c, since := s.now, phase := .opening } :: s.conns }

theorem getC_withConn (s : St) (c c' : Nat) :
    getC (withConn s c) c' = if c' = c then some { id := c, since := s.now, phase := .opening } else getC s c' := by
  by_cases e : c' = c
  · subst e; simp [getC, withConn]
  · have : ¬ c = c' := fun e' => e e'.symm
    simp [getC, withConn, e, this]

def phaseOf : Dest → Phase
  | .tunnel k => .tunnel k
  | .fallback => .fallback

theorem phaseOf_injective {d1 d2 : Dest} (h : phaseOf d1 = phaseOf d2) : d1 = d2 := by
  cases d1 <;> cases d2 <;> cases h <;> rfl

theorem phaseOf_ne_opening (d : Dest) : phaseOf d ≠ .opening := by
  cases d <;> exact fun e => nomatch e

/-- labels on which neither helper.TransferConn nor the IV source fails -/
def GoodEv : Ev → Bool
  | .arrive _ ivOk => ivOk
  | .tick _ ivOk => ivOk
  | .ctxDone _ xferOk => xferOk
  | .limit20 _ xferOk => xferOk
  | .vctxDone _ xferOk => xferOk
  | _ => true

/-- a hand-over made in state `s`: to a stream of the session that exists then, or — only with FallbackTo set —
    to the fallback visitor after the fallback timeout, after openTunnel's 20 s, or because the visitor was closed -/
def NewHand (cfg : Cfg) (s : St) (h : Hand) : Prop :=
  h.time = s.now ∧
  ((∃ k, h.dest = .tunnel k ∧ h.cause = .stream ∧ s.sess = some k) ∨
   (h.dest = .fallback ∧ cfg.fallback = true ∧
     ((h.cause = .deadline ∧ h.since + cfg.fallbackMs ≤ s.now) ∨ (h.cause = .limit20 ∧ h.since + 20000 ≤ s.now) ∨
      (h.cause = .vclosed ∧ s.closedV = true))))

/-- the new connection changes nothing a hand-over's justification looks at -/
theorem newHand_withConn (cfg : Cfg) (s : St) (c : Nat) (h : Hand) : NewHand cfg (withConn s c) h ↔ NewHand cfg s h :=
  Iff.rfl

def Reason (cfg : Cfg) (e : Ev) (w : Why) : Prop :=
  (w = .noTunnel ∧ cfg.fallback = false) ∨ (w = .transferFailed ∧ cfg.fallback = true ∧ GoodEv e = false) ∨
  (w = .encFailed ∧ cfg.enc = true ∧ GoodEv e = false)

/-- what the label `e` does to connections and hand-overs: nothing; or a connection `x` still inside openTunnel is
    closed, for a reason the label allows; or `x` is handed over, once, by a hand-over that `s` allows -/
inductive Upd (cfg : Cfg) (e : Ev) (s : St) : St → Prop
  | same (s' : St) (hc : s'.conns = s.conns) (hh : s'.hands = s.hands) : Upd cfg e s s'
  | drop (s' : St) (x : Conn) (w : Why) (hx : getC s x.id = some x) (hp : x.phase = .opening) (hw : Reason cfg e w)
      (hc : s'.conns = (setPhase s x.id (.closed w)).conns) (hh : s'.hands = s.hands) : Upd cfg e s s'
  | hand (s' : St) (x : Conn) (h : Hand) (hx : getC s x.id = some x) (hp : x.phase = .opening) (hn : NewHand cfg s h)
      (hid : h.conn = x.id) (hs : h.since = x.since)
      (hc : s'.conns = (setPhase s x.id (phaseOf h.dest)).conns) (hh : s'.hands = h :: s.hands) : Upd cfg e s s'

theorem setPhase_hands (s : St) (c : Nat) (p : Phase) : (setPhase s c p).hands = s.hands := rfl

theorem joinTunnel_upd {cfg : Cfg} {e : Ev} {s : St} {x : Conn} {k : Nat} {ivOk : Bool} (he : GoodEv e = ivOk)
    (hx : getC s x.id = some x) (hp : x.phase = .opening) (hk : s.sess = some k) :
    Upd cfg e s (joinTunnel cfg s x k ivOk) := by
  unfold joinTunnel
  split
  · next hc =>
    simp only [Bool.and_eq_true, Bool.not_eq_true'] at hc
    exact .drop _ x .encFailed hx hp (.inr (.inr ⟨rfl, hc.1, he ▸ hc.2⟩)) rfl rfl
  · exact .hand _ x { conn := x.id, dest := .tunnel k, cause := .stream, time := s.now, since := x.since } hx hp
      ⟨rfl, .inl ⟨k, rfl, rfl, hk⟩⟩ rfl rfl rfl rfl

theorem attempt_upd {cfg : Cfg} {e : Ev} {s : St} {c : Nat} {x : Conn} {ivOk : Bool} (he : GoodEv e = ivOk)
    (ho : opening? s c = some x) : Upd cfg e s (attempt cfg s x ivOk) := by
  obtain ⟨hg, hp, hid⟩ := opening_some s c x ho
  have hx : getC s x.id = some x := hid ▸ hg
  unfold attempt
  rcases gt_cases s with ⟨k, hk, e⟩ | e
  · rw [e]; exact joinTunnel_upd he hx hp hk
  · rw [e]; exact .same _ (signalStart_conns _).1 (signalStart_conns _).2

/-- `hd`: the hand-over to the fallback visitor is one the state allows (the guard of the label that gave up) -/
theorem giveUp_upd {cfg : Cfg} {e : Ev} {s : St} {c : Nat} {x : Conn} {cause : Cause} {xferOk : Bool}
    (he : GoodEv e = xferOk) (ho : opening? s c = some x)
    (hd : cfg.fallback = true →
      NewHand cfg s { conn := x.id, dest := .fallback, cause := cause, time := s.now, since := x.since }) :
    Upd cfg e s (giveUp cfg s x cause xferOk) := by
  obtain ⟨hg, hp, hid⟩ := opening_some s c x ho
  have hx : getC s x.id = some x := hid ▸ hg
  unfold giveUp
  split
  · next hf =>
    simp only [Bool.not_eq_true'] at hf
    exact .drop _ x .noTunnel hx hp (.inl ⟨rfl, hf⟩) rfl rfl
  · next hf =>
    simp only [Bool.not_eq_true', Bool.not_eq_false] at hf
    split
    · next hxf =>
      simp only [Bool.not_eq_true'] at hxf
      exact .drop _ x .transferFailed hx hp (.inr (.inl ⟨rfl, hf, he ▸ hxf⟩)) rfl rfl
    · exact .hand _ x _ hx hp (hd hf) rfl rfl rfl rfl

/-- every label: connections and hand-overs change as `Upd` says — for `arrive`, from `s` with the new connection -/
theorem xstep_upd (env : Env) (cfg : Cfg) (s : St) (e : Ev) :
    Upd cfg e s (xstep env cfg s e) ∨ ∃ c, getC s c = none ∧ Upd cfg e (withConn s c) (xstep env cfg s e) := by
  cases e with
  | advance d | peerGone | close => exact .inl (.same _ rfl rfl)
  | arrive c ivOk =>
    dsimp only [xstep]
    split
    · exact .inl (.same _ rfl rfl)
    · split
      · exact .inl (.same _ rfl rfl)
      · next hnone =>
        refine .inr ⟨c, hnone, attempt_upd (s := withConn s c) (c := c) rfl ?_⟩
        simp only [opening?, getC_withConn, if_true]
  | tick c ivOk =>
    dsimp only [xstep]
    split
    · next x hx => exact .inl (attempt_upd rfl hx)
    · exact .inl (.same _ rfl rfl)
  | ctxDone c xferOk =>
    dsimp only [xstep]
    split
    · next x hx =>
      split
      · next hgd =>
        simp only [Bool.and_eq_true, decide_eq_true_eq] at hgd
        exact .inl (giveUp_upd rfl hx (fun hf => ⟨rfl, .inr ⟨rfl, hf, .inl ⟨rfl, hgd.2⟩⟩⟩))
      · exact .inl (.same _ rfl rfl)
    · exact .inl (.same _ rfl rfl)
  | limit20 c xferOk =>
    dsimp only [xstep]
    split
    · next x hx =>
      split
      · next hgd =>
        simp only [decide_eq_true_eq] at hgd
        exact .inl (giveUp_upd rfl hx (fun hf => ⟨rfl, .inr ⟨rfl, hf, .inr (.inl ⟨rfl, hgd⟩)⟩⟩))
      · exact .inl (.same _ rfl rfl)
    · exact .inl (.same _ rfl rfl)
  | vctxDone c xferOk =>
    dsimp only [xstep]
    split
    · next x hx =>
      split
      · next hgd => exact .inl (giveUp_upd rfl hx (fun hf => ⟨rfl, .inr ⟨rfl, hf, .inr (.inr ⟨rfl, hgd⟩)⟩⟩))
      · exact .inl (.same _ rfl rfl)
    · exact .inl (.same _ rfl rfl)
  | hole ts a b c =>
    dsimp only [xstep]
    split
    · split <;> split <;> exact .inl (.same _ rfl rfl)
    · exact .inl (.same _ rfl rfl)
  | coolDone =>
    dsimp only [xstep]
    split
    · split <;> exact .inl (.same _ rfl rfl)
    · exact .inl (.same _ rfl rfl)
  | keepTick =>
    dsimp only [xstep]
    split
    · exact .inl (.same _ rfl rfl)
    · rcases gt_cases s with ⟨k, _, e⟩ | e
      · rw [e]; exact .inl (.same _ rfl rfl)
      · rw [e]
        dsimp only
        split <;> exact .inl (.same _ (signalStart_conns _).1 (signalStart_conns _).2)
  | refill =>
    dsimp only [xstep]
    split <;> exact .inl (.same _ rfl rfl)

/-! ### a user connection is served by exactly one of {tunnel, fallback visitor}, never both -/

def servedN : Option Conn → Nat
  | some x => match x.phase with
    | .tunnel _ => 1
    | .fallback => 1
    | _ => 0
  | none => 0

def handsOf (hands : List Hand) (c : Nat) : List Hand := hands.filter (fun h => h.conn == c)

/-- the number of hand-overs of `c` is 1 when it is joined to a tunnel stream or transferred, else 0 -/
def HandInv (s : St) : Prop := ∀ c, (handsOf s.hands c).length = servedN (getC s c)

/-- every recorded hand-over is what the connection's phase says -/
def DestInv (s : St) : Prop :=
  ∀ h ∈ s.hands, ∃ x, getC s h.conn = some x ∧ x.phase = phaseOf h.dest ∧ x.since = h.since

theorem upd_inv {cfg : Cfg} {e : Ev} {s s' : St} (u : Upd cfg e s s') (hi : HandInv s) (hd : DestInv s) :
    HandInv s' ∧ DestInv s' := by
  -- a connection still inside openTunnel has no hand-over yet: the recorded ones speak of other connections
  have old : ∀ x : Conn, getC s x.id = some x → x.phase = .opening →
      (handsOf s.hands x.id).length = 0 ∧ ∀ h ∈ s.hands, ¬ h.conn = x.id := by
    intro x hx hp
    refine ⟨by rw [hi x.id, hx]; simp [servedN, hp], fun h hm e => ?_⟩
    obtain ⟨y, hy, hyp, _⟩ := hd h hm
    rw [e, hx] at hy
    cases hy
    exact phaseOf_ne_opening h.dest (hyp.symm.trans hp)
  cases u with
  | same hc hh =>
    exact ⟨fun c => by rw [hh, getC_congr hc]; exact hi c, fun h hm => by rw [hh] at hm; rw [getC_congr hc]; exact hd h hm⟩
  | drop x w hx hp _ hc hh =>
    obtain ⟨h0, hne⟩ := old x hx hp
    constructor
    · intro c
      rw [hh, getC_congr hc, getC_setPhase]
      by_cases e : c = x.id
      · subst e; simp [hx, servedN, h0]
      · simp [e, hi c]
    · intro h hm
      rw [hh] at hm
      rw [getC_congr hc, getC_setPhase, if_neg (hne h hm)]
      exact hd h hm
  | hand x h hx hp _ hid hs hc hh =>
    obtain ⟨h0, hne⟩ := old x hx hp
    constructor
    · intro c
      rw [hh, getC_congr hc, getC_setPhase]
      by_cases e : c = x.id
      · subst e
        have : (handsOf (h :: s.hands) x.id).length = 1 := by
          simp only [handsOf, List.filter_cons, hid, beq_self_eq_true, if_true, List.length_cons]
          exact congrArg (· + 1) h0
        rw [this]
        cases hdst : h.dest <;> simp [hx, servedN, phaseOf]
      · have : (h.conn == c) = false := by rw [hid]; exact beq_false_of_ne (fun e' => e e'.symm)
        simp only [e, if_false, handsOf, List.filter_cons, this]
        exact hi c
    · intro h' hm
      rw [hh] at hm
      rw [getC_congr hc, getC_setPhase]
      rcases List.mem_cons.mp hm with e | hm'
      · subst e; simp [hid, hx, hs]
      · rw [if_neg (hne h' hm')]; exact hd h' hm'

/-- the new connection is inside openTunnel and has no hand-over -/
theorem withConn_inv (s : St) (c : Nat) (hnone : getC s c = none) (hi : HandInv s) (hd : DestInv s) :
    HandInv (withConn s c) ∧ DestInv (withConn s c) := by
  constructor
  · intro c'
    rw [getC_withConn]
    split
    · next e => subst e; have := hi c'; rw [hnone] at this; exact this
    · exact hi c'
  · intro h hm
    obtain ⟨y, hy, hyp, hys⟩ := hd h hm
    rw [getC_withConn]
    split
    · next e => rw [e, hnone] at hy; cases hy
    · exact ⟨y, hy, hyp, hys⟩

theorem served_step (env : Env) (cfg : Cfg) (s : St) (e : Ev) (h : HandInv s ∧ DestInv s) :
    HandInv (xstep env cfg s e) ∧ DestInv (xstep env cfg s e) := by
  rcases xstep_upd env cfg s e with u | ⟨c, hnone, u⟩
  · exact upd_inv u h.1 h.2
  · exact upd_inv u (withConn_inv s c hnone h.1 h.2).1 (withConn_inv s c hnone h.1 h.2).2

theorem served_init (cfg : Cfg) : HandInv (xinit cfg) ∧ DestInv (xinit cfg) := by
  unfold xinit
  split <;> exact ⟨fun c => by simp [handsOf, getC, servedN], fun h hm => by cases hm⟩

theorem xrun_induct (env : Env) (cfg : Cfg) (P : St → Prop) (hstep : ∀ s e, P s → P (xstep env cfg s e)) :
    ∀ (es : List Ev) (s : St), P s → P (xrun env cfg s es) := by
  intro es
  induction es with
  | nil => intro s h; exact h
  | cons e es ih => intro s h; exact ih _ (hstep s e h)

theorem served_reachable (env : Env) (cfg : Cfg) (es : List Ev) :
    HandInv (xrun env cfg (xinit cfg) es) ∧ DestInv (xrun env cfg (xinit cfg) es) :=
  xrun_induct env cfg (fun s => HandInv s ∧ DestInv s) (served_step env cfg) es _ (served_init cfg)

/-- for every history of labels: each user connection has been handed over at most once, and exactly once
    iff it is joined to a tunnel stream or transferred to the fallback visitor -/
theorem xv_served_once (env : Env) (cfg : Cfg) (es : List Ev) (c : Nat) :
    (handsOf (xrun env cfg (xinit cfg) es).hands c).length ≤ 1 ∧
    ((handsOf (xrun env cfg (xinit cfg) es).hands c).length = 1 ↔
      ∃ x, getC (xrun env cfg (xinit cfg) es) c = some x ∧ (x.phase = .fallback ∨ ∃ k, x.phase = .tunnel k)) := by
  rw [(served_reachable env cfg es).1 c]
  cases hg : getC (xrun env cfg (xinit cfg) es) c with
  | none => simp [servedN]
  | some x => cases hp : x.phase <;> simp [servedN, hp]

/-- never served by both: two hand-overs of the same connection have the same destination (same tunnel session
    or both the fallback visitor) — and by `xv_served_once` they are the same record -/
theorem xv_never_both (env : Env) (cfg : Cfg) (es : List Ev) (h1 h2 : Hand)
    (m1 : h1 ∈ (xrun env cfg (xinit cfg) es).hands) (m2 : h2 ∈ (xrun env cfg (xinit cfg) es).hands)
    (hc : h1.conn = h2.conn) : h1.dest = h2.dest := by
  have hd := (served_reachable env cfg es).2
  obtain ⟨x1, g1, p1, _⟩ := hd h1 m1
  obtain ⟨x2, g2, p2, _⟩ := hd h2 m2
  rw [hc, g2] at g1
  cases g1
  rw [p2] at p1
  exact (phaseOf_injective p1).symm

/-! ### never dropped silently while a fallback is configured -/

/-- why a user connection can end up closed without having been served -/
def ClosedInv (cfg : Cfg) (s : St) : Prop :=
  ∀ c x w, getC s c = some x → x.phase = .closed w →
    (w = .noTunnel ∧ cfg.fallback = false) ∨ (w = .transferFailed ∧ cfg.fallback = true) ∨ (w = .encFailed ∧ cfg.enc = true)

/-- no connection is closed at all -/
def NoneClosed (s : St) : Prop := ∀ c x w, getC s c = some x → x.phase ≠ .closed w

theorem step_hands (env : Env) (cfg : Cfg) (s : St) (e : Ev) :
    ∀ h ∈ (xstep env cfg s e).hands, h ∈ s.hands ∨ NewHand cfg s h := by
  have key : ∀ s0 : St, Upd cfg e s0 (xstep env cfg s e) → ∀ h ∈ (xstep env cfg s e).hands, h ∈ s0.hands ∨ NewHand cfg s0 h := by
    intro s0 u h hm
    cases u with
    | same hc hh => exact .inl (hh ▸ hm)
    | drop x w _ _ _ hc hh => exact .inl (hh ▸ hm)
    | hand x h' _ _ hn _ _ hc hh =>
      rw [hh] at hm
      rcases List.mem_cons.mp hm with e | hm'
      · exact .inr (e ▸ hn)
      · exact .inl hm'
  rcases xstep_upd env cfg s e with u | ⟨c, _, u⟩
  · exact key s u
  · exact fun h hm => (key (withConn s c) u h hm).imp id (newHand_withConn cfg s c h).mp

theorem step_phase (env : Env) (cfg : Cfg) (s : St) (e : Ev) (c : Nat) (y : Conn)
    (hy : getC (xstep env cfg s e) c = some y) :
    getC s c = some y ∨ y.phase = .opening ∨ (∃ k, y.phase = .tunnel k) ∨ y.phase = .fallback ∨
      ∃ w, y.phase = .closed w ∧ Reason cfg e w := by
  have key : ∀ s0 : St, Upd cfg e s0 (xstep env cfg s e) →
      getC s0 c = some y ∨ (∃ k, y.phase = .tunnel k) ∨ y.phase = .fallback ∨ ∃ w, y.phase = .closed w ∧ Reason cfg e w := by
    intro s0 u
    cases u with
    | same hc hh => exact .inl (getC_congr hc c ▸ hy)
    | drop x w _ _ hw hc hh =>
      rw [getC_congr hc] at hy
      exact (getC_setPhase_some hy).imp id (fun p => .inr (.inr ⟨w, p, hw⟩))
    | hand x h _ _ _ _ _ hc hh =>
      rw [getC_congr hc] at hy
      refine (getC_setPhase_some hy).imp id (fun p => ?_)
      cases hdst : h.dest with
      | tunnel k => exact .inl ⟨k, by rw [p, hdst]; rfl⟩
      | fallback => exact .inr (.inl (by rw [p, hdst]; rfl))
  rcases xstep_upd env cfg s e with u | ⟨c0, _, u⟩
  · exact (key s u).imp id .inr
  · rcases key (withConn s c0) u with a | b
    · rw [getC_withConn] at a
      split at a
      · cases a; exact .inr (.inl rfl)
      · exact .inl a
    · exact .inr (.inr b)

/-! ### the fields other than connections and hand-overs: what one label does to them -/

/-- the fields other than connections and hand-overs -/
structure Rest where
  now : Nat
  sess : Option Nat
  alive : Bool
  starter : Starter
  starts : List Nat
  closedV : Bool
  tokens : Nat
  keepFails : Nat
  refills : Nat
  nextSess : Nat

def rest (s : St) : Rest :=
  { now := s.now, sess := s.sess, alive := s.alive, starter := s.starter, starts := s.starts, closedV := s.closedV,
    tokens := s.tokens, keepFails := s.keepFails, refills := s.refills, nextSess := s.nextSess }

theorem joinTunnel_rest (cfg : Cfg) (s : St) (x : Conn) (k : Nat) (ivOk : Bool) : rest (joinTunnel cfg s x k ivOk) = rest s := by
  unfold joinTunnel; split <;> rfl

theorem attempt_rest (cfg : Cfg) (s : St) (x : Conn) (ivOk : Bool) : rest (attempt cfg s x ivOk) = rest (getTunnelConn s).1 := by
  unfold attempt
  split
  · next s1 k hg => rw [joinTunnel_rest, hg]
  · next s1 hg => rw [hg]

theorem giveUp_rest (cfg : Cfg) (s : St) (x : Conn) (cause : Cause) (xferOk : Bool) : rest (giveUp cfg s x cause xferOk) = rest s := by
  unfold giveUp; split
  · rfl
  · split <;> rfl

def rsignal (r : Rest) : Rest :=
  match r.starter, r.closedV with
  | .idle, false => { r with starter := .punching r.now, starts := r.now :: r.starts }
  | _, _ => r

def rgt (r : Rest) : Rest :=
  match r.sess, r.alive with
  | some _, true => r
  | _, _ => rsignal { r with sess := none, alive := false }

def rgtOk (r : Rest) : Bool :=
  match r.sess, r.alive with
  | some _, true => true
  | _, _ => false

def rhole (env : Env) (cfg : Cfg) (r : Rest) (ts : Int) (a b c : Bool) : Rest :=
  match r.starter with
  | .punching t0 =>
    let r1 : Rest := match holeRes env cfg ts a b c with
      | .ok => { r with sess := some r.nextSess, alive := true, nextSess := r.nextSess + 1 }
      | _ => r
    if r.now < t0 + 10000 then { r1 with starter := .cooling (t0 + 10000) } else { r1 with starter := .idle }
  | _ => r

def rcool (r : Rest) : Rest :=
  match r.starter with
  | .cooling u => if u ≤ r.now then { r with starter := .idle } else r
  | _ => r

def rkeep (cfg : Cfg) (r : Rest) : Rest :=
  if !cfg.keep || r.closedV then r
  else if rgtOk r then rgt r
  else if (rgt r).tokens = 0 then rgt r
  else { rgt r with tokens := (rgt r).tokens - 1, keepFails := (rgt r).keepFails + 1 }

def rrefill (cfg : Cfg) (r : Rest) : Rest :=
  if r.tokens < cfg.maxRetries then { r with tokens := r.tokens + 1, refills := r.refills + 1 } else r

/-- what one label can do to the fields other than connections and hand-overs -/
inductive RStep (env : Env) (cfg : Cfg) (r : Rest) : Rest → Prop
  | same : RStep env cfg r r
  | advance (d : Nat) : RStep env cfg r { r with now := r.now + d }
  | gt : RStep env cfg r (rgt r)
  | hole (ts : Int) (a b c : Bool) : RStep env cfg r (rhole env cfg r ts a b c)
  | cool : RStep env cfg r (rcool r)
  | gone : RStep env cfg r { r with alive := false }
  | keep : RStep env cfg r (rkeep cfg r)
  | refill : RStep env cfg r (rrefill cfg r)
  | close : RStep env cfg r { r with closedV := true, sess := none, alive := false }

theorem rgt_cases (r : Rest) :
    rgt r = r ∨ rgt r = { r with sess := none, alive := false } ∨
    (r.starter = .idle ∧
      rgt r = { r with sess := none, alive := false, starter := .punching r.now, starts := r.now :: r.starts }) := by
  unfold rgt
  split
  · exact .inl rfl
  · unfold rsignal
    split
    · next hst _ => exact .inr (.inr ⟨hst, rfl⟩)
    · exact .inr (.inl rfl)

theorem rhole_cases (env : Env) (cfg : Cfg) (r : Rest) (ts : Int) (a b c : Bool) :
    rhole env cfg r ts a b c = r ∨
    ∃ t0 st, r.starter = .punching t0 ∧
      ((st = .cooling (t0 + 10000) ∧ r.now < t0 + 10000) ∨ (st = .idle ∧ t0 + 10000 ≤ r.now)) ∧
      (rhole env cfg r ts a b c = { r with starter := st } ∨
       (holeRes env cfg ts a b c = .ok ∧ rhole env cfg r ts a b c =
          { r with sess := some r.nextSess, alive := true, nextSess := r.nextSess + 1, starter := st })) := by
  unfold rhole
  cases hst : r.starter with
  | punching t0 =>
    by_cases hlt : r.now < t0 + 10000
    · refine .inr ⟨t0, .cooling (t0 + 10000), rfl, .inl ⟨rfl, hlt⟩, ?_⟩
      simp only [hlt, if_true]
      cases hr : holeRes env cfg ts a b c
      case ok => exact .inr ⟨rfl, rfl⟩
      all_goals exact .inl rfl
    · refine .inr ⟨t0, .idle, rfl, .inr ⟨rfl, Nat.le_of_not_lt hlt⟩, ?_⟩
      simp only [hlt, if_false]
      cases hr : holeRes env cfg ts a b c
      case ok => exact .inr ⟨rfl, rfl⟩
      all_goals exact .inl rfl
  | _ => exact .inl rfl

theorem rcool_cases (r : Rest) :
    rcool r = r ∨ ∃ u, r.starter = .cooling u ∧ u ≤ r.now ∧ rcool r = { r with starter := .idle } := by
  unfold rcool
  cases hst : r.starter with
  | cooling u =>
    by_cases hu : u ≤ r.now
    · exact .inr ⟨u, rfl, hu, if_pos hu⟩
    · exact .inl (if_neg hu)
  | _ => exact .inl rfl

theorem rkeep_cases (cfg : Cfg) (r : Rest) :
    rkeep cfg r = r ∨ rkeep cfg r = rgt r ∨
    ((rgt r).tokens ≠ 0 ∧
      rkeep cfg r = { rgt r with tokens := (rgt r).tokens - 1, keepFails := (rgt r).keepFails + 1 }) := by
  unfold rkeep
  split
  · exact .inl rfl
  · split
    · exact .inr (.inl rfl)
    · split
      · exact .inr (.inl rfl)
      · next h0 => exact .inr (.inr ⟨h0, rfl⟩)

theorem rrefill_cases (cfg : Cfg) (r : Rest) :
    rrefill cfg r = r ∨
    (r.tokens < cfg.maxRetries ∧ rrefill cfg r = { r with tokens := r.tokens + 1, refills := r.refills + 1 }) := by
  unfold rrefill
  split
  · next h => exact .inr ⟨h, rfl⟩
  · exact .inl rfl

theorem signal_rest (s : St) : rest (signalStart s) = rsignal (rest s) := by
  unfold signalStart rsignal
  cases hst : s.starter <;> cases hcl : s.closedV <;> simp [rest, hst, hcl]

theorem gt_rest (s : St) : rest (getTunnelConn s).1 = rgt (rest s) ∧ ((getTunnelConn s).2.isSome = rgtOk (rest s)) := by
  have key := signal_rest { s with sess := none, alive := false }
  have hr : rest { s with sess := none, alive := false } = { rest s with sess := none, alive := false } := rfl
  rw [hr] at key
  have h1 : (rest s).sess = s.sess := rfl
  have h2 : (rest s).alive = s.alive := rfl
  unfold getTunnelConn rgt rgtOk
  rw [h1, h2]
  cases hs : s.sess <;> cases ha : s.alive <;> simp [key]

theorem step_rstep (env : Env) (cfg : Cfg) (s : St) (e : Ev) : RStep env cfg (rest s) (rest (xstep env cfg s e)) := by
  have viaAttempt : ∀ (s0 : St) (x : Conn) (ivOk : Bool), rest s0 = rest s →
      RStep env cfg (rest s) (rest (attempt cfg s0 x ivOk)) := by
    intro s0 x ivOk h0
    rw [attempt_rest, (gt_rest s0).1, h0]; exact .gt
  cases e with
  | advance d => exact .advance d
  | arrive c ivOk =>
    dsimp only [xstep]
    split
    · exact .same
    · split
      · exact .same
      · exact viaAttempt _ _ ivOk rfl
  | tick c ivOk =>
    dsimp only [xstep]
    split
    · exact viaAttempt s _ ivOk rfl
    · exact .same
  | ctxDone c xferOk | limit20 c xferOk | vctxDone c xferOk =>
    dsimp only [xstep]
    split
    · split
      · rw [giveUp_rest]; exact .same
      · exact .same
    · exact .same
  | hole ts a b c =>
    have : rest (xstep env cfg s (.hole ts a b c)) = rhole env cfg (rest s) ts a b c := by
      dsimp only [xstep, rhole]
      have hst : (rest s).starter = s.starter := rfl
      have hnow : (rest s).now = s.now := rfl
      rw [hst, hnow]
      cases s.starter with
      | punching t0 =>
        dsimp only
        by_cases hlt : s.now < t0 + 10000
        · rw [if_pos hlt, if_pos hlt]; cases holeRes env cfg ts a b c <;> rfl
        · rw [if_neg hlt, if_neg hlt]; cases holeRes env cfg ts a b c <;> rfl
      | _ => rfl
    rw [this]; exact .hole ts a b c
  | coolDone =>
    have : rest (xstep env cfg s .coolDone) = rcool (rest s) := by
      dsimp only [xstep, rcool]
      have hst : (rest s).starter = s.starter := rfl
      have hnow : (rest s).now = s.now := rfl
      rw [hst, hnow]
      cases s.starter with
      | cooling u =>
        dsimp only
        by_cases hu : u ≤ s.now
        · rw [if_pos hu, if_pos hu]; rfl
        · rw [if_neg hu, if_neg hu]
      | _ => rfl
    rw [this]; exact .cool
  | peerGone => exact .gone
  | keepTick =>
    have : rest (xstep env cfg s .keepTick) = rkeep cfg (rest s) := by
      have g := gt_rest s
      simp only [xstep, rkeep]
      have hcl : (rest s).closedV = s.closedV := rfl
      rw [hcl]
      by_cases hc : (!cfg.keep || s.closedV) = true
      · rw [if_pos hc, if_pos hc]
      · -- both sides in terms of what getTunnelConn returned
        rw [if_neg hc, if_neg hc, ← g.1, ← g.2]
        generalize getTunnelConn s = p
        obtain ⟨s1, o⟩ := p
        cases o with
        | some k => rfl
        | none => by_cases ht : s1.tokens = 0 <;> simp only [Option.isSome, Bool.false_eq_true, if_false, rest, ht, if_true]
    rw [this]; exact .keep
  | refill =>
    have : rest (xstep env cfg s .refill) = rrefill cfg (rest s) := by
      by_cases h : s.tokens < cfg.maxRetries <;> simp only [xstep, rrefill, rest, h, if_true, if_false]
    rw [this]; exact .refill
  | close => exact .close

/-! ### invariants over every history of labels -/

theorem getC_xinit (cfg : Cfg) (c : Nat) : getC (xinit cfg) c = none := by
  unfold xinit; split <;> rfl

theorem hands_xinit (cfg : Cfg) : (xinit cfg).hands = [] := by
  unfold xinit; split <;> rfl

theorem step_closed {env : Env} {cfg : Cfg} {s : St} {e : Ev} {c : Nat} {y : Conn} {w : Why}
    (hy : getC (xstep env cfg s e) c = some y) (hp : y.phase = .closed w) : getC s c = some y ∨ Reason cfg e w := by
  rcases step_phase env cfg s e c y hy with a | a | ⟨k, a⟩ | a | ⟨w', a, r⟩
  · exact .inl a
  · rw [a] at hp; cases hp
  · rw [a] at hp; cases hp
  · rw [a] at hp; cases hp
  · rw [a] at hp; cases hp; exact .inr r

/-- a connection that ended up closed without having been served: no fallback is configured, or
    helper.TransferConn failed, or the IV source failed on an encrypted tunnel stream -/
theorem xv_closed_reason (env : Env) (cfg : Cfg) (es : List Ev) : ClosedInv cfg (xrun env cfg (xinit cfg) es) := by
  apply xrun_induct env cfg (ClosedInv cfg)
  · intro s e hs c y w hy hp
    rcases step_closed hy hp with a | r | r | r
    · exact hs c y w a hp
    · exact .inl r
    · exact .inr (.inl ⟨r.1, r.2.1⟩)
    · exact .inr (.inr ⟨r.1, r.2.1⟩)
  · intro c x w hx; rw [getC_xinit] at hx; cases hx

/-- with a fallback configured no user connection is ever dropped — as long as TransferConn and the IV
    source do not fail: every connection is still waiting inside openTunnel, joined to a tunnel stream, or
    with the fallback visitor — whatever the NAT traversal does and whenever the visitor is closed -/
theorem xv_fallback_never_drops (env : Env) (cfg : Cfg) (es : List Ev) (hf : cfg.fallback = true)
    (hg : ∀ e ∈ es, GoodEv e = true) : NoneClosed (xrun env cfg (xinit cfg) es) := by
  have gen : ∀ (es : List Ev) (s : St), (∀ e ∈ es, GoodEv e = true) → NoneClosed s → NoneClosed (xrun env cfg s es) := by
    intro es
    induction es with
    | nil => intro s _ h; exact h
    | cons e es ih =>
      intro s hg h
      apply ih _ (fun e' m => hg e' (List.mem_cons_of_mem _ m))
      intro c y w hy hp
      have ge := hg e (List.mem_cons_self ..)
      rcases step_closed hy hp with a | r | r | r
      · exact h c y w a hp
      · rw [hf] at r; cases r.2
      · rw [ge] at r; cases r.2.2
      · rw [ge] at r; cases r.2.2
  exact gen es _ hg (fun c x w hx => by rw [getC_xinit] at hx; cases hx)

/-- progress, one step: when the fallback timeout of a connection still inside openTunnel fires, the
    connection is handed to the fallback visitor (TransferConn working) -/
theorem xv_deadline_hands_over (env : Env) (cfg : Cfg) (s : St) (c : Nat) (x : Conn)
    (hx : getC s c = some x) (hp : x.phase = .opening) (hf : cfg.fallback = true)
    (ht : x.since + cfg.fallbackMs ≤ s.now) :
    ∃ y, getC (xstep env cfg s (.ctxDone c true)) c = some y ∧ y.phase = .fallback ∧
      (xstep env cfg s (.ctxDone c true)).hands =
        { conn := c, dest := .fallback, cause := .deadline, time := s.now, since := x.since } :: s.hands := by
  have ho : opening? s c = some x := by simp [opening?, hx, hp]
  have hid := getC_id s c x hx
  simp only [xstep, ho, hf, Bool.true_and, decide_eq_true ht, if_true, giveUp, Bool.not_true, Bool.false_eq_true, if_false]
  refine ⟨{ x with phase := .fallback }, ?_, rfl, by rw [hid]⟩
  have : getC (setPhase s x.id .fallback) c = some { x with phase := .fallback } := by
    rw [getC_setPhase, hid]; simp [hx, hid]
  rw [← this]; rfl

/-- what a recorded hand-over says about itself: to a tunnel only as an opened stream; to the fallback visitor only
    with FallbackTo set, and when the cause is the fallback timeout (or openTunnel's 20 s) not before that much time
    has passed since the connection arrived -/
def HandShape (cfg : Cfg) (h : Hand) : Prop :=
  (∀ k, h.dest = .tunnel k → h.cause = .stream) ∧
  (h.dest = .fallback → cfg.fallback = true ∧ h.cause ≠ .stream ∧
     (h.cause = .deadline → h.since + cfg.fallbackMs ≤ h.time) ∧ (h.cause = .limit20 → h.since + 20000 ≤ h.time))

theorem newHand_shape (cfg : Cfg) (s : St) (h : Hand) (n : NewHand cfg s h) : HandShape cfg h := by
  -- with the record taken apart, destination and cause are constructors: all but one implication are vacuous
  unfold HandShape
  obtain ⟨conn, dest, cause, time, since⟩ := h
  obtain ⟨rfl, (⟨k, rfl, rfl, _⟩ | ⟨rfl, hf, hc⟩)⟩ := n
  · exact ⟨fun _ _ => rfl, nofun⟩
  · refine ⟨nofun, fun _ => ?_⟩
    rcases hc with ⟨rfl, hle⟩ | ⟨rfl, hle⟩ | ⟨rfl, _⟩
    · exact ⟨hf, nofun, fun _ => hle, nofun⟩
    · exact ⟨hf, nofun, nofun, fun _ => hle⟩
    · exact ⟨hf, nofun, nofun, nofun⟩

/-- every hand-over in every history has that shape -/
theorem xv_hand_timing (env : Env) (cfg : Cfg) (es : List Ev) :
    ∀ h ∈ (xrun env cfg (xinit cfg) es).hands, HandShape cfg h := by
  apply xrun_induct env cfg (fun s => ∀ h ∈ s.hands, HandShape cfg h)
  · intro s e hs h hm
    rcases step_hands env cfg s e h hm with a | a
    · exact hs h a
    · exact newHand_shape cfg s h a
  · intro h hm; rw [hands_xinit] at hm; cases hm

/-- a tunnel session exists only for a visitor holding the proxy's key whose user is allowed -/
def SessAdm (env : Env) (cfg : Cfg) (r : Rest) : Prop := ∀ k, r.sess = some k → XtAdmitted env cfg

theorem rgt_sessAdm (env : Env) (cfg : Cfg) (r : Rest) (h : SessAdm env cfg r) : SessAdm env cfg (rgt r) := by
  rcases rgt_cases r with e | e | ⟨_, e⟩
  · rw [e]; exact h
  · rw [e]; exact fun k hk => nomatch hk
  · rw [e]; exact fun k hk => nomatch hk

theorem rstep_sessAdm (env : Env) (cfg : Cfg) (r r' : Rest) (t : RStep env cfg r r') (h : SessAdm env cfg r) :
    SessAdm env cfg r' := by
  cases t with
  | hole ts a b c =>
    -- the only label that makes a session: makeNatHole went through, so the server admitted the visitor
    rcases rhole_cases env cfg r ts a b c with e | ⟨t0, st, _, _, e | ⟨hr, e⟩⟩
    · rw [e]; exact h
    · rw [e]; exact h
    · rw [e]; exact fun k _ => xv_hole_ok_entitled env cfg ts a b c hr
  | gt => exact rgt_sessAdm env cfg r h
  | keep =>
    rcases rkeep_cases cfg r with e | e | ⟨_, e⟩
    · rw [e]; exact h
    · rw [e]; exact rgt_sessAdm env cfg r h
    · rw [e]; exact rgt_sessAdm env cfg r h
  | close => exact fun k hk => nomatch hk
  -- the other labels leave `sess` alone
  | same | advance d | gone => exact h
  | cool =>
    rcases rcool_cases r with e | ⟨u, _, _, e⟩
    · rw [e]; exact h
    · rw [e]; exact h
  | refill =>
    rcases rrefill_cases cfg r with e | ⟨_, e⟩
    · rw [e]; exact h
    · rw [e]; exact h

/-- a tunnel session exists, and a user connection is joined to a tunnel stream, only for a visitor the server must
    admit: for every history of labels, whatever STUN, the traversal and the scheduling do -/
theorem xv_tunnel_entitled (env : Env) (cfg : Cfg) (es : List Ev) :
    (∀ k, (xrun env cfg (xinit cfg) es).sess = some k → XtAdmitted env cfg) ∧
    (∀ h ∈ (xrun env cfg (xinit cfg) es).hands, ∀ k, h.dest = .tunnel k → XtAdmitted env cfg) := by
  apply xrun_induct env cfg (fun s => SessAdm env cfg (rest s) ∧ ∀ h ∈ s.hands, ∀ k, h.dest = .tunnel k → XtAdmitted env cfg)
  · intro s e ⟨hs, hh⟩
    refine ⟨rstep_sessAdm env cfg _ _ (step_rstep env cfg s e) hs, ?_⟩
    intro h hm k hd
    rcases step_hands env cfg s e h hm with a | ⟨_, ⟨k', hd', _, hk'⟩ | ⟨hd', _⟩⟩
    · exact hh h a k hd
    · exact hs k' hk'
    · rw [hd'] at hd; cases hd
  · refine ⟨?_, fun h hm => by rw [hands_xinit] at hm; cases hm⟩
    intro k hk
    unfold xinit rest at hk
    split at hk <;> cases hk

/-! ### pacing of hole punching (processTunnelStartEvents) and the retry budget of keepTunnelOpenWorker -/

/-- latest first: any two starts of makeNatHole are at least 10 s apart -/
def Paced (starts : List Nat) : Prop := List.Pairwise (fun later earlier => earlier + 10000 ≤ later) starts

def PaceInv (r : Rest) : Prop :=
  Paced r.starts ∧
  match r.starter with
  | .punching t0 => (∃ tl, r.starts = t0 :: tl) ∧ t0 ≤ r.now
  | .cooling u => ∀ t ∈ r.starts, t + 10000 ≤ u
  | .idle => ∀ t ∈ r.starts, t + 10000 ≤ r.now

theorem rgt_pace (r : Rest) (h : PaceInv r) : PaceInv (rgt r) := by
  rcases rgt_cases r with e | e | ⟨hst, e⟩
  · rw [e]; exact h
  · rw [e]; exact h
  · -- the starter was idle: every earlier start is at least 10 s back
    obtain ⟨hp, hi⟩ := h
    rw [hst] at hi
    rw [e]
    exact ⟨List.pairwise_cons.mpr ⟨fun t ht => hi t ht, hp⟩, ⟨_, rfl⟩, Nat.le_refl _⟩

theorem rstep_pace (env : Env) (cfg : Cfg) (r r' : Rest) (t : RStep env cfg r r') (h : PaceInv r) : PaceInv r' := by
  cases t with
  | advance d =>
    obtain ⟨hp, hi⟩ := h
    refine ⟨hp, ?_⟩
    cases hst : r.starter with
    | idle => rw [hst] at hi; exact fun t ht => Nat.le_trans (hi t ht) (Nat.le_add_right _ _)
    | punching t0 => rw [hst] at hi; exact ⟨hi.1, Nat.le_trans hi.2 (Nat.le_add_right _ _)⟩
    | cooling u => rw [hst] at hi; exact hi
  | gt => exact rgt_pace r h
  | hole ts a b c =>
    rcases rhole_cases env cfg r ts a b c with e | ⟨t0, st, hst, hcool, e⟩
    · rw [e]; exact h
    · -- the start being finished is the latest; the starter sleeps until 10 s after it, or they have passed
      obtain ⟨hp, hi⟩ := h
      rw [hst] at hi
      obtain ⟨⟨tl, htl⟩, _⟩ := hi
      have hall : ∀ t ∈ r.starts, t ≤ t0 := by
        intro t ht
        rw [htl] at ht hp
        rcases List.mem_cons.mp ht with e | m
        · exact e ▸ Nat.le_refl _
        · have := (List.pairwise_cons.mp hp).1 t m; omega
      rcases hcool with ⟨rfl, _⟩ | ⟨rfl, hle⟩ <;> rcases e with e | ⟨_, e⟩ <;> rw [e]
      · exact ⟨hp, fun t ht => Nat.add_le_add_right (hall t ht) _⟩
      · exact ⟨hp, fun t ht => Nat.add_le_add_right (hall t ht) _⟩
      · exact ⟨hp, fun t ht => Nat.le_trans (Nat.add_le_add_right (hall t ht) _) hle⟩
      · exact ⟨hp, fun t ht => Nat.le_trans (Nat.add_le_add_right (hall t ht) _) hle⟩
  | cool =>
    rcases rcool_cases r with e | ⟨u, hst, hu, e⟩
    · rw [e]; exact h
    · obtain ⟨hp, hi⟩ := h
      rw [hst] at hi
      rw [e]
      exact ⟨hp, fun t ht => Nat.le_trans (hi t ht) hu⟩
  | keep =>
    rcases rkeep_cases cfg r with e | e | ⟨_, e⟩
    · rw [e]; exact h
    · rw [e]; exact rgt_pace r h
    · rw [e]; exact rgt_pace r h
  -- the other labels leave `starts`, `starter` and `now` alone
  | same | gone | close => exact h
  | refill =>
    rcases rrefill_cases cfg r with e | ⟨_, e⟩
    · rw [e]; exact h
    · rw [e]; exact h

/-- for every history: two starts of makeNatHole are never less than 10 s apart ("avoid too frequently"),
    however many user connections and keep-alive checks ask for a tunnel meanwhile -/
theorem xv_hole_starts_paced (env : Env) (cfg : Cfg) (es : List Ev) : Paced (xrun env cfg (xinit cfg) es).starts := by
  have : PaceInv (rest (xrun env cfg (xinit cfg) es)) := by
    apply xrun_induct env cfg (fun s => PaceInv (rest s))
    · intro s e hs; exact rstep_pace env cfg _ _ (step_rstep env cfg s e) hs
    · unfold xinit
      split
      · exact ⟨List.pairwise_cons.mpr ⟨fun t ht => (by cases ht), List.Pairwise.nil⟩, ⟨_, rfl⟩, Nat.le_refl _⟩
      · exact ⟨List.Pairwise.nil, fun t ht => (by cases ht)⟩
  exact this.1

def BudgetInv (cfg : Cfg) (r : Rest) : Prop := r.keepFails + r.tokens = cfg.maxRetries + r.refills ∧ r.tokens ≤ cfg.maxRetries

theorem rgt_budget (cfg : Cfg) (r : Rest) (h : BudgetInv cfg r) : BudgetInv cfg (rgt r) := by
  rcases rgt_cases r with e | e | ⟨_, e⟩
  · rw [e]; exact h
  · rw [e]; exact h
  · rw [e]; exact h

theorem rstep_budget (env : Env) (cfg : Cfg) (r r' : Rest) (t : RStep env cfg r r') (h : BudgetInv cfg r) : BudgetInv cfg r' := by
  cases t with
  | keep =>
    rcases rkeep_cases cfg r with e | e | ⟨hne, e⟩
    · rw [e]; exact h
    · rw [e]; exact rgt_budget cfg r h
    · -- a failed check takes one token
      obtain ⟨h1, h2⟩ := rgt_budget cfg r h
      rw [e]
      constructor
      · show (rgt r).keepFails + 1 + ((rgt r).tokens - 1) = cfg.maxRetries + (rgt r).refills
        omega
      · show (rgt r).tokens - 1 ≤ cfg.maxRetries
        omega
  | refill =>
    rcases rrefill_cases cfg r with e | ⟨hlt, e⟩
    · rw [e]; exact h
    · obtain ⟨h1, h2⟩ := h
      rw [e]
      constructor
      · show r.keepFails + (r.tokens + 1) = cfg.maxRetries + (r.refills + 1); omega
      · show r.tokens + 1 ≤ cfg.maxRetries; omega
  | gt => exact rgt_budget cfg r h
  -- the other labels leave the three counters alone
  | same | advance d | gone | close => exact h
  | hole ts a b c =>
    rcases rhole_cases env cfg r ts a b c with e | ⟨t0, st, _, _, e | ⟨_, e⟩⟩
    · rw [e]; exact h
    · rw [e]; exact h
    · rw [e]; exact h
  | cool =>
    rcases rcool_cases r with e | ⟨u, _, _, e⟩
    · rw [e]; exact h
    · rw [e]; exact h

/-- for every history: the failed checks of keepTunnelOpenWorker never exceed MaxRetriesAnHour plus the
    tokens the rate limiter handed back meanwhile (one per hour/MaxRetriesAnHour) -/
theorem xv_keep_budget (env : Env) (cfg : Cfg) (es : List Ev) :
    (xrun env cfg (xinit cfg) es).keepFails ≤ cfg.maxRetries + (xrun env cfg (xinit cfg) es).refills := by
  have : BudgetInv cfg (rest (xrun env cfg (xinit cfg) es)) := by
    apply xrun_induct env cfg (fun s => BudgetInv cfg (rest s))
    · intro s e hs; exact rstep_budget env cfg _ _ (step_rstep env cfg s e) hs
    · unfold xinit; split <;> exact ⟨by simp [rest], Nat.le_refl _⟩
  have h := this.1
  simp only [rest] at h
  omega

/-! ### tunnel session kinds -/

/-- both ends build the same kind of session (KCP+yamux or QUIC) for EVERY protocol string: the visitor decides
    from its own configuration, the proxy's frpc from NatHoleResp.Protocol, which the server copies from the
    visitor's message -/
theorem xv_session_kinds_agree (cfg : Cfg) : proxySessKind (respProtocol cfg.protocol) = visitorSessKind cfg := rfl

/-! ## §8 wrapper stacks of a tunnel stream (visitor frpc ↔ proxy frpc, no server in between) -/

section stacks
open Layers

/-- client/visitor/xtcp.go builds what every visitor builds; client/proxy/xtcp.go hands the stream to the
    common HandleTCPWorkConnection -/
theorem xt_stacks_are_common (e c : Bool) (o : Opts) :
    tunnelVisitorStack e c = visitorStack e c ∧ tunnelProxyStack o = clientStack o := ⟨rfl, rfl⟩

/-- the two ends of a tunnel stream mirror each other exactly when the visitor declares the proxy's
    useEncryption / useCompression (nothing in between translates, unlike the two legs of stcp) -/
theorem xt_mirror_iff (ve vc : Bool) (o : Opts) :
    tunnelVisitorStack ve vc = transforming (tunnelProxyStack o) ↔ (ve = o.enc ∧ vc = o.comp) := by
  cases o with | mk e c ls lc =>
  revert ve vc e c ls lc
  decide

def tunnelVisitorLayer (encL compL : Layers.Layer) (e c : Bool) : Layers.Layer :=
  stackLayer (instantiate encL compL 0 (tunnelVisitorStack e c))

def tunnelProxyLayer (encL compL : Layers.Layer) (burst : Nat) (o : Opts) : Layers.Layer :=
  stackLayer (instantiate encL compL burst (tunnelProxyStack o))

theorem xt_visitor_layer_eq (encL compL : Layers.Layer) (burst : Nat) (o : Opts) :
    C01.serverLayer encL compL burst { o with limSrv := false } = tunnelVisitorLayer encL compL o.enc o.comp := by
  cases o with | mk e c ls lc => cases e <;> cases c <;> rfl

theorem xt_proxy_layer_eq (encL compL : Layers.Layer) (burst : Nat) (o : Opts) :
    C01.clientLayer encL compL burst { o with limSrv := false } = tunnelProxyLayer encL compL burst o := rfl

/-- user → backend over the tunnel: whatever prefix of the visitor's encoded stream reaches the proxy's frpc, in
    whatever chunking, its stack (limiter, enc, comp) decodes it to a prefix of what the user wrote -/
theorem xt_tunnel_down_prefix {encL compL : Layers.Layer} (he : Lawful encL) (hc : Lawful compL) (burst : Nat) (hb : 0 < burst)
    (o : Opts) (ps cs : List C01Bytes)
    (hw : cs.flatten <+: ((tunnelVisitorLayer encL compL o.enc o.comp).Eout ps).flatten) :
    (tunnelProxyLayer encL compL burst o).Dout cs <+: ps.flatten := by
  rw [← xt_visitor_layer_eq encL compL burst o] at hw
  rw [← xt_proxy_layer_eq]
  exact C01.tunnel_down_prefix he hc burst hb _ ps cs hw

theorem xt_tunnel_down_complete {encL compL : Layers.Layer} (he : Lawful encL) (hc : Lawful compL) (burst : Nat) (hb : 0 < burst)
    (o : Opts) (ps cs : List C01Bytes)
    (hw : cs.flatten = ((tunnelVisitorLayer encL compL o.enc o.comp).Eout ps).flatten) :
    (tunnelProxyLayer encL compL burst o).Dout cs = ps.flatten := by
  rw [← xt_visitor_layer_eq encL compL burst o] at hw
  rw [← xt_proxy_layer_eq]
  exact C01.tunnel_down_complete he hc burst hb _ ps cs hw

/-- backend → user -/
theorem xt_tunnel_up_prefix {encL compL : Layers.Layer} (he : Lawful encL) (hc : Lawful compL) (burst : Nat) (hb : 0 < burst)
    (o : Opts) (ps cs : List C01Bytes)
    (hw : cs.flatten <+: ((tunnelProxyLayer encL compL burst o).Eout ps).flatten) :
    (tunnelVisitorLayer encL compL o.enc o.comp).Dout cs <+: ps.flatten := by
  rw [← xt_proxy_layer_eq] at hw
  rw [← xt_visitor_layer_eq encL compL burst o]
  exact C01.tunnel_up_prefix he hc burst hb _ ps cs hw

theorem xt_tunnel_up_complete {encL compL : Layers.Layer} (he : Lawful encL) (hc : Lawful compL) (burst : Nat) (hb : 0 < burst)
    (o : Opts) (ps cs : List C01Bytes)
    (hw : cs.flatten = ((tunnelProxyLayer encL compL burst o).Eout ps).flatten) :
    (tunnelVisitorLayer encL compL o.enc o.comp).Dout cs = ps.flatten := by
  rw [← xt_proxy_layer_eq] at hw
  rw [← xt_visitor_layer_eq encL compL burst o]
  exact C01.tunnel_up_complete he hc burst hb _ ps cs hw

end stacks

/-- with the keys: both ends key the cipher with the SECRET key (client/proxy/xtcp.go passes
    `[]byte(pxy.cfg.Secretkey)`, not the auth token an stcp work connection uses); equal declarations ⇒ the
    payload arrives unchanged; with encryption the proxy's end differs from an stcp owner's end (other key) -/
theorem xt_tunnel_keyed (e c : Bool) (x : List (List Visitor.Layer × Nat)) :
    decode (tunnelProxyEnd e c) (encode (tunnelVisitorEnd e c) x) = some x ∧
    (e = true → tunnelProxyEnd e c ≠ ownerEnd e c) := by
  refine ⟨decode_encode _ x, ?_⟩
  intro he; subst he; cases c <;> decide

theorem xt_tunnel_keyed_iff : ∀ ve vc pe pc : Bool, tunnelVisitorEnd ve vc = tunnelProxyEnd pe pc ↔ (ve = pe ∧ vc = pc) := by
  decide

example : decode (tunnelProxyEnd true true) (encode (tunnelVisitorEnd true false) [([], 7)]) ≠ some [([], 7)] := by decide

/-! ## §9 the fallback visitor, and the predicate the driver evaluates on what the real visitors did -/

/-- a connection transferred to the stcp fallback visitor (client/visitor/stcp.go: NewVisitorConn signed with
    `GetAuthKey(SecretKey, now)`) reaches an owner only for the stcp proxy's key and an allowed user -/
theorem xv_fallback_served_entitled (H : Str → Str) (ls : List (Str × Listener)) (name fsk : Str) (ts : Int) (user : Str)
    (conn lid : Nat) (h : (newConn H ls name ts (authKey H fsk ts) user conn).2 = .queued lid) :
    ∃ l, aget ls name = some l ∧ l.lid = lid ∧ authKey H fsk ts = authKey H l.sk ts ∧ UserAllowed l.allow user :=
  newConn_sound H ls name ts (authKey H fsk ts) user conn lid (.inl h)

inductive XRoute | tunnel | fallback | pending | closed | other
  deriving DecidableEq, Repr

/-- one user connection as the harness saw it: who served it, how many backend connections it caused on ALL
    backends together, whether the bytes arrived intact each way -/
structure XObs where
  route : XRoute
  hits : Nat
  up : Bool
  down : Bool

/-- `admX` = the server admits this visitor to the xtcp proxy, `fbCfg` = FallbackTo is set, `admF` = the server
    admits the fallback visitor to its stcp proxy -/
def xtHoldsOn (admX fbCfg admF : Bool) (o : XObs) : Bool :=
  match o.route with
  | .tunnel => admX && o.hits == 1 && o.up && o.down
  | .fallback => fbCfg && admF && o.hits == 1 && o.up && o.down
  | .pending => o.hits == 0 && !(fbCfg && admF)
  | .closed => o.hits == 0 && !(fbCfg && admF)
  | .other => false

theorem xtHoldsOn_sound (env : Env) (cfg : Cfg) (ts : Int) (H : Str → Str) (ls : List (Str × Listener)) (fname fsk : Str)
    (fts : Int) (user : Str) (fbCfg : Bool) (o : XObs)
    (h : xtHoldsOn (xtAdmB env cfg ts) fbCfg (admissibleB H ls fname fts (authKey H fsk fts) user) o = true) :
    (o.route = .tunnel → XtAdmitted env cfg ∧ o.hits = 1 ∧ o.up = true ∧ o.down = true) ∧
    (o.route = .fallback → fbCfg = true ∧ (∃ lid, Admissible H ls fname fts (authKey H fsk fts) user lid) ∧
        o.hits = 1 ∧ o.up = true ∧ o.down = true) ∧
    ((o.route = .pending ∨ o.route = .closed) → o.hits = 0 ∧
        ¬ (fbCfg = true ∧ ∃ lid, Admissible H ls fname fts (authKey H fsk fts) user lid)) ∧
    o.route ≠ .other := by
  unfold xtHoldsOn at h
  have hadm : admissibleB H ls fname fts (authKey H fsk fts) user = true ↔
      ∃ lid, Admissible H ls fname fts (authKey H fsk fts) user lid := admissibleB_iff _ _ _ _ _ _
  refine ⟨?_, ?_, ?_, ?_⟩
  · intro hr
    simp only [hr, Bool.and_eq_true, beq_iff_eq] at h
    exact ⟨xtAdmB_entitled env cfg ts h.1.1.1, h.1.1.2, h.1.2, h.2⟩
  · intro hr
    simp only [hr, Bool.and_eq_true, beq_iff_eq] at h
    exact ⟨h.1.1.1.1, hadm.mp h.1.1.1.2, h.1.1.2, h.1.2, h.2⟩
  · intro hr
    have h' : (o.hits == 0 && !(fbCfg && admissibleB H ls fname fts (authKey H fsk fts) user)) = true := by
      rcases hr with hr | hr <;> simpa only [hr] using h
    simp only [Bool.and_eq_true, beq_iff_eq, Bool.not_eq_true', Bool.and_eq_false_iff] at h'
    refine ⟨h'.1, ?_⟩
    intro hc
    obtain ⟨hf, ha⟩ := hc
    have ha' := hadm.mpr ha
    rcases h'.2 with e | e
    · rw [hf] at e; cases e
    · rw [ha'] at e; cases e
  · intro hr
    simp only [hr] at h
    cases h

/-! ### non-vacuity: a concrete visitor and histories -/

def exEnv : Env := { H := exH, fixed := true, cfgs := [([112], { sk := [115], allow := [[97]], chan := 0 })], user := [97] }
def exCfg : Cfg := { server := [112], sk := [115], enc := true, comp := false, protocol := [113], keep := false,
                     maxRetries := 8, minRetry := 90, fallback := true, fallbackMs := 300 }

example : XtAdmitted exEnv exCfg := ⟨7, _, rfl, rfl, .inl (by decide)⟩
example : holeRes exEnv exCfg 7 true true true = .ok := by decide
example : holeRes exEnv { exCfg with sk := [120] } 7 true true true = .exchRefused .authFailed := by decide
example : holeRes { exEnv with user := [98] } exCfg 7 true true true = .preRefused .notAllowed := by decide
example : holeRes exEnv exCfg 7 false true true = .prepareFailed := by decide
/-- the hole is made in time: the connection is joined to the tunnel, exactly one hand-over -/
example : ((xrun exEnv exCfg (xinit exCfg) [.arrive 1 true, .advance 200, .hole 7 true true true, .tick 1 true,
            .advance 200, .ctxDone 1 true]).hands.map (fun h => (h.conn, h.dest))) = [(1, .tunnel 0)] := by decide
/-- STUN does not answer: after the fallback timeout the connection goes to the fallback visitor, once -/
example : ((xrun exEnv exCfg (xinit exCfg) [.arrive 1 true, .tick 1 true, .advance 300, .hole 7 false true true,
            .ctxDone 1 true, .tick 1 true, .ctxDone 1 true]).hands.map (fun h => (h.conn, h.dest, h.time))) =
          [(1, .fallback, 300)] := by decide
/-- before the timeout `ctxDone` is not enabled -/
example : (xrun exEnv exCfg (xinit exCfg) [.arrive 1 true, .advance 299, .ctxDone 1 true]).hands = [] := by decide

/-! ## §10 whose user: run ids over every history of logins, re-logins (replacement) and logouts

  server/control.go ControlManager + service.go RegisterControl / RegisterVisitorConn (Frp/Model/CtlMgr.lean).
  SPEC: the control that CURRENTLY owns a run id is the one of the latest Add under that run id, unless that very
  control has been deleted since (a Del by any other control — one that was replaced — does not count). -/

open CtlMgr (Ctl Tbl Call add del getByID visitorUser after users cmStep cmRun)

/-- `c` owns `rid` after the history `h` (newest first): it was added under `rid`, no later Add under `rid`, and no
    later Del of this very control -/
def Owns (h : List Call) (rid : Str) (c : Ctl) : Prop :=
  ∃ newer older, h = newer ++ Call.add rid c :: older ∧
    ∀ e ∈ newer, (∀ c', e ≠ Call.add rid c') ∧ e ≠ Call.del rid c.id

theorem del_get (t : Tbl) (rid rid' : Str) (id : Nat) :
    getByID (del t rid id) rid' =
      match getByID t rid' with
      | some c => if rid = rid' ∧ c.id = id then none else some c
      | none => none := by
  by_cases e : rid = rid'
  · subst e
    unfold del getByID
    cases hg : aget t rid with
    | none => simp [hg]
    | some c =>
      by_cases hid : c.id = id
      · simp [hid, aget_adel]
      · simp [hid, hg]
  · -- another run id: the lookup under `rid'` does not see the Del
    have key : aget (del t rid id) rid' = aget t rid' := by
      unfold del
      cases aget t rid with
      | none => rfl
      | some c =>
        dsimp only
        by_cases hid : c.id = id
        · rw [if_pos hid, aget_adel, if_neg e]
        · rw [if_neg hid]
    unfold getByID
    rw [key]
    cases aget t rid' with
    | none => rfl
    | some c' => exact (if_neg (fun h => e h.1)).symm

theorem add_get (t : Tbl) (rid rid' : Str) (c : Ctl) :
    getByID (add t rid c).1 rid' = if rid = rid' then some c else getByID t rid' := by
  simp only [add, getByID, aget_aput]

/-- ownership, call by call: the newest call is the Add that made `c` the owner, or it is neither an Add under `rid` nor
    the Del of `c`, and `c` owned `rid` before it -/
theorem owns_cons (e : Call) (h : List Call) (rid : Str) (c : Ctl) :
    Owns (e :: h) rid c ↔
      e = Call.add rid c ∨ ((∀ c', e ≠ Call.add rid c') ∧ e ≠ Call.del rid c.id ∧ Owns h rid c) := by
  constructor
  · rintro ⟨newer, older, he, hn⟩
    cases newer with
    | nil => exact .inl (List.cons.inj he).1
    | cons e0 n =>
      obtain ⟨rfl, rfl⟩ := List.cons.inj he
      exact .inr ⟨(hn e List.mem_cons_self).1, (hn e List.mem_cons_self).2,
        n, older, rfl, fun e' hm => hn e' (List.mem_cons_of_mem _ hm)⟩
  · rintro (rfl | ⟨h1, h2, newer, older, rfl, hn⟩)
    · exact ⟨[], h, rfl, fun _ hm => nomatch hm⟩
    · exact ⟨e :: newer, older, rfl, List.forall_mem_cons.mpr ⟨⟨h1, h2⟩, hn⟩⟩

/-- ControlManager, every history of Add / Del calls in any order (re-logins under a live run id, Dels by replaced
    controls, repeated Dels …): GetByID designates exactly the control that currently owns the run id -/
theorem cm_designates (h : List Call) (rid : Str) (c : Ctl) :
    getByID (after h) rid = some c ↔ Owns h rid c := by
  induction h generalizing c with
  | nil =>
    constructor
    · intro h; cases h
    · rintro ⟨newer, older, he, _⟩
      cases newer <;> cases he
  | cons e h ih =>
    rw [owns_cons, ← ih]
    cases e with
    | add rid' c' =>
      simp only [after, CtlMgr.apply, add_get]
      by_cases er : rid' = rid
      · subst er; simp
      · simp [er]
    | del rid' id =>
      simp only [after, CtlMgr.apply, del_get]
      cases hg : getByID (after h) rid with
      | none => simp
      | some c0 =>
        dsimp only
        by_cases hx : rid' = rid ∧ c0.id = id
        · -- the Del removes `c0`: nobody is found, and `c0 = c` would make the call the Del of `c`
          rw [if_pos hx]
          refine ⟨fun h => (nomatch h), ?_⟩
          rintro (h | ⟨_, hne, hc⟩)
          · cases h
          · cases hc
            exact absurd (by rw [hx.1, hx.2]) hne
        · -- the Del is of another run id or another control: `c0` stays, and the call is not the Del of `c0`
          rw [if_neg hx]
          refine ⟨fun hc => .inr ⟨fun _ h => (nomatch h), fun h => ?_, hc⟩, ?_⟩
          · cases hc
            cases h
            exact hx ⟨rfl, rfl⟩
          · rintro (h | ⟨_, _, hc⟩)
            · cases h
            · exact hc

/-- at most one control owns a run id -/
theorem owns_unique (h : List Call) (rid : Str) (c c' : Ctl) (h1 : Owns h rid c) (h2 : Owns h rid c') : c = c' := by
  have a := (cm_designates h rid c).mpr h1
  have b := (cm_designates h rid c').mpr h2
  rw [a] at b
  exact Option.some.inj b

theorem aget_users (t : Tbl) (rid : Str) : aget (users t) rid = (aget t rid).map (·.user) := by
  induction t with
  | nil => rfl
  | cons p t ih =>
    obtain ⟨k, v⟩ := p
    simp only [users, List.map_cons, aget] at ih ⊢
    split
    · rfl
    · exact ih

/-- `resolveUser` on the projection is RegisterVisitorConn on the manager -/
theorem resolveUser_users (t : Tbl) (rid : Str) : resolveUser (users t) rid = visitorUser t rid := by
  unfold resolveUser visitorUser getByID
  by_cases hr : rid = []
  · simp [hr]
  · simp only [hr, if_false, aget_users]
    cases aget t rid <;> rfl

/-- RegisterVisitorConn, every history: the user that will be checked against allowUsers is "" for the empty run id
    and otherwise the login user of the control that currently owns the run id; an error iff nobody owns it -/
theorem visitor_user_is_current_owner (h : List Call) (rid user : Str) :
    visitorUser (after h) rid = .ok user ↔
      (rid = [] ∧ user = []) ∨ (rid ≠ [] ∧ ∃ c, Owns h rid c ∧ c.user = user) := by
  -- the manager's answer is `resolveUser` on the projected table; `cm_designates` reads the lookup as ownership
  rw [← resolveUser_users, resolveUser_ok, RunUser, aget_users, Option.map_eq_some_iff]
  simp only [← cm_designates, getByID]

theorem visitor_user_unknown (h : List Call) (rid : Str) (e : Err) :
    visitorUser (after h) rid = .error e ↔ (e = .noRun ∧ rid ≠ [] ∧ ∀ c, ¬ Owns h rid c) := by
  rw [← resolveUser_users, resolveUser_err, aget_users, Option.map_eq_none_iff, Option.eq_none_iff_forall_ne_some]
  simp only [← cm_designates, getByID]

/-- a re-login takes the run id over at once, whatever happened before (also while the previous control is still
    registered): from now on the run id stands for the NEW login's user -/
theorem relogin_takes_over (h : List Call) (rid : Str) (c : Ctl) (hr : rid ≠ []) :
    Owns (Call.add rid c :: h) rid c ∧ visitorUser (after (Call.add rid c :: h)) rid = .ok c.user := by
  have ho : Owns (Call.add rid c :: h) rid c := (owns_cons ..).mpr (.inl rfl)
  exact ⟨ho, (visitor_user_is_current_owner _ rid c.user).mpr (.inr ⟨hr, c, ho, rfl⟩)⟩

/-- the Del of a control that does not own the run id (it was replaced, or already deleted) changes nothing -/
theorem stale_del_noop (t : Tbl) (rid : Str) (id : Nat) (h : ∀ c, getByID t rid = some c → c.id ≠ id) :
    del t rid id = t := by
  unfold del
  cases hg : aget t rid with
  | none => rfl
  | some c => simp only [h c hg, if_false]

/-- the Del of the owner: the run id is unknown afterwards (until somebody logs in with it again) -/
theorem owner_del_forgets (h : List Call) (rid : Str) (c : Ctl) (ho : Owns h rid c) (hr : rid ≠ []) :
    visitorUser (after (Call.del rid c.id :: h)) rid = .error .noRun := by
  refine (visitor_user_unknown _ rid .noRun).mpr ⟨rfl, hr, ?_⟩
  intro c' hc'
  rcases (owns_cons _ h rid c').mp hc' with e | ⟨_, hne, hown⟩
  · cases e
  · cases owns_unique h rid c c' ho hown
    exact hne rfl

/-! ### `Visitor.State.ctls` is the manager's table seen through `loginMsg.User` -/

theorem users_aput (t : Tbl) (rid : Str) (c : Ctl) : users (aput t rid c) = aput (users t) rid c.user := by
  induction t with
  | nil => rfl
  | cons p t ih =>
    obtain ⟨k, v⟩ := p
    simp only [users, List.map_cons, aput] at ih ⊢
    split
    · rfl
    · simp only [List.map_cons, ih]

theorem users_adel (t : Tbl) (rid : Str) : users (adel t rid) = adel (users t) rid := by
  induction t with
  | nil => rfl
  | cons p t ih =>
    obtain ⟨k, v⟩ := p
    simp only [users, List.map_cons, adel] at ih ⊢
    split
    · exact ih
    · simp only [List.map_cons, ih]

/-- one service-level op: the model's `ctls` moves exactly as the projection of the manager's table under the
    Add / Del calls behind the op -/
theorem ctls_track_step (fixed : Bool) (H : Str → Str) (s : State) (t : Tbl) (n : Nat) (op : Op)
    (h : s.ctls = users t) : (step fixed H s op).1.ctls = users (cmStep t n op) := by
  cases op with
  | login rid user => simp only [step, cmStep, add, users_aput, h]
  | logout rid =>
    simp only [step, cmStep, h]
    cases hg : aget t rid with
    | none =>
      simp only
      exact adel_absent _ _ (by rw [aget_users, hg]; rfl)
    | some c => simp only [del, hg, if_true, users_adel]
  | listen name sk allow => simp only [step, doListen, cmStep]; split <;> exact h
  | natListen name sk allow => simp only [step, doNatListen, cmStep]; split <;> exact h
  | register rid kind name sk cfgAllow =>
    dsimp only [step, cmStep]
    split
    · exact h
    · split
      · exact h
      · cases kind <;> simp only [doListen, doNatListen] <;> split <;> exact h
  | accept name =>
    dsimp only [step, cmStep]
    repeat' split
    all_goals exact h
  | lclose _ | visitorConn _ _ _ _ _ | natVisitBy _ _ _ _ _ _ =>
    dsimp only [step, cmStep]
    split <;> exact h
  | closeListener _ | natClose _ | closeProxy _ _ | newConn _ _ _ _ _ | natVisit _ _ _ _ _ _ | natDone _ => exact h

/-- every history of service-level ops (logins with fresh or live run ids, logouts, registrations, visits, …) -/
theorem ctls_track_manager (fixed : Bool) (H : Str → Str) (ops : List Op) :
    ∀ (s : State) (t : Tbl) (n : Nat), s.ctls = users t → (runS fixed H s ops).ctls = users (cmRun t n ops) := by
  induction ops with
  | nil => intro s t n h; exact h
  | cons op ops ih => intro s t n h; exact ih _ _ (n + 1) (ctls_track_step fixed H s t n op h)

/-- C08's user clause over every history: after ANY history of ops from the empty server, a RegisterVisitorConn is
    admitted only if the request is admissible (key + allow list of the registered listener) for the user of the control
    that the ControlManager designates for the run id AT THAT MOMENT ("" for the empty run id) -/
theorem visitorConn_user_is_designated (fixed : Bool) (H : Str → Str) (ops : List Op)
    (name : Str) (ts : Int) (sign rid : Str) (conn lid : Nat)
    (hadm : (step fixed H (runS fixed H {} ops) (.visitorConn name ts sign rid conn)).2 = .conn (.queued lid) ∨
            (step fixed H (runS fixed H {} ops) (.visitorConn name ts sign rid conn)).2 = .conn (.dropped lid)) :
    ∃ user, ((rid = [] ∧ user = []) ∨
             (rid ≠ [] ∧ ∃ c, getByID (cmRun [] 0 ops) rid = some c ∧ c.user = user)) ∧
            Admissible H (runS fixed H {} ops).listeners name ts sign user lid := by
  obtain ⟨user, hru, hadm'⟩ := (visitorConn_sound fixed H (runS fixed H {} ops) name ts sign rid conn).1 lid hadm
  refine ⟨user, ?_, hadm'⟩
  have htr := ctls_track_manager fixed H ops {} [] 0 rfl
  rcases hru with hru | ⟨hne, hg⟩
  · exact .inl hru
  · rw [htr, aget_users] at hg
    cases hc : aget (cmRun [] 0 ops) rid with
    | none => rw [hc] at hg; cases hg
    | some c =>
      rw [hc] at hg
      exact .inr ⟨hne, c, hc, by simpa using hg⟩

/-- a re-login closes what the replaced control had registered: none of its proxies outlives it (RegisterControl waits
    for `oldCtl.WaitClosed()` before the new control starts) -/
theorem relogin_closes_replaced (fixed : Bool) (H : Str → Str) (s : State) (rid user : Str) :
    (∀ p ∈ (step fixed H s (.login rid user)).1.listeners, p.2.owner ≠ rid) ∧
    (∀ p ∈ (step fixed H s (.login rid user)).1.natCfgs, p.2.owner ≠ rid) := by
  dsimp only [step]
  exact ⟨fun p hp => by simpa using (List.mem_filter.mp hp).2, fun p hp => by simpa using (List.mem_filter.mp hp).2⟩

/-! ### non-vacuity: alice logs in with run id r, mallory logs in with the same run id while alice is registered -/

def exA : Ctl := { id := 1, user := [97] }
def exM : Ctl := { id := 2, user := [109] }

example : visitorUser (after [Call.add [114] exA]) [114] = .ok [97] := by rfl
example : visitorUser (after [Call.add [114] exM, Call.add [114] exA]) [114] = .ok [109] := by rfl
-- the replaced control's Del comes late: mallory's control stays
example : visitorUser (after [Call.del [114] 1, Call.add [114] exM, Call.add [114] exA]) [114] = .ok [109] := by rfl
example : visitorUser (after [Call.del [114] 2, Call.del [114] 1, Call.add [114] exM, Call.add [114] exA]) [114] = .error .noRun := by
  rfl
-- proxy p of owner o allows [a]; run id r: alice admitted, after mallory's re-login under r refused
def exOps2 : List Op := [.login [111] [111], .register [111] .stcp [112] [115] [[97]], .login [114] [97]]
example : (step false exH (runS false exH {} exOps2) (.visitorConn [112] 7 (authKey exH [115] 7) [114] 1)).2
    = .conn (.queued 0) := by decide
example : (step false exH (runS false exH {} (exOps2 ++ [.login [114] [109]]))
    (.visitorConn [112] 7 (authKey exH [115] 7) [114] 1)).2 = .conn (.err .notAllowed) := by decide
example : (step false exH (runS false exH {} (exOps2 ++ [.logout [114]]))
    (.visitorConn [112] 7 (authKey exH [115] 7) [114] 1)).2 = .conn (.err .noRun) := by decide

/-! ## §11 "leaves no session state behind": the sessions map after refused NAT-hole requests, one or many -/

/-- one NatHoleVisitor request as HandleVisitor sees it (`sid` = what GenSid would hand out) -/
structure NatReq where
  sid : Str
  name : Str
  ts : Int
  sign : Str
  user : Str
  pre : Bool
  deriving Repr

def NatReq.run (fixed : Bool) (H : Str → Str) (cfgs : List (Str × NatCfg)) (sess : List (Str × NatSess)) (r : NatReq) :
    List (Str × NatSess) × NatOut :=
  natVisit fixed H cfgs sess r.sid r.name r.ts r.sign r.user r.pre

/-- whether a request is granted depends on the client table and the request only, not on what is stored -/
theorem natVisit_out_indep (fixed : Bool) (H : Str → Str) (cfgs : List (Str × NatCfg)) (sess sess' : List (Str × NatSess))
    (r : NatReq) : (r.run fixed H cfgs sess).2 = (r.run fixed H cfgs sess').2 := by
  -- `sess` enters only the first component of each branch
  unfold NatReq.run natVisit
  cases r.pre <;> cases aget cfgs r.name <;> simp only [apply_ite Prod.snd, if_true, Bool.false_eq_true, if_false]

/-- a refused request (error or pre-check answer) leaves the sessions map as it was: in particular its size -/
theorem nat_refused_leaves_nothing (fixed : Bool) (H : Str → Str) (cfgs : List (Str × NatCfg)) (sess : List (Str × NatSess))
    (r : NatReq) (h : ∀ ch, (r.run fixed H cfgs sess).2 ≠ .granted ch) :
    (r.run fixed H cfgs sess).1 = sess ∧ (r.run fixed H cfgs sess).1.length = sess.length := by
  have := (natVisit_state fixed H cfgs sess r.sid r.name r.ts r.sign r.user r.pre).1 h
  exact ⟨this, congrArg List.length this⟩

/-- a flood: any number of requests handled one after the other against the same client table -/
def natFlood (fixed : Bool) (H : Str → Str) (cfgs : List (Str × NatCfg)) : List (Str × NatSess) → List NatReq → List (Str × NatSess)
  | sess, [] => sess
  | sess, r :: rs => natFlood fixed H cfgs (r.run fixed H cfgs sess).1 rs

/-- however many refused requests arrive — unknown proxy, wrong key, user not allowed, pre-checks of any kind, in any
    mixture —, the sessions map is exactly what it was before the first one -/
theorem flood_refused_leaves_nothing (fixed : Bool) (H : Str → Str) (cfgs : List (Str × NatCfg)) (rs : List NatReq) :
    ∀ (sess : List (Str × NatSess)), (∀ r ∈ rs, ∀ ch, (r.run fixed H cfgs []).2 ≠ .granted ch) →
      natFlood fixed H cfgs sess rs = sess := by
  induction rs with
  | nil => intro sess _; rfl
  | cons r rs ih =>
    intro sess h
    have hr : ∀ ch, (r.run fixed H cfgs sess).2 ≠ .granted ch := by
      intro ch; rw [natVisit_out_indep fixed H cfgs sess [] r]; exact h r List.mem_cons_self ch
    simp only [natFlood, (nat_refused_leaves_nothing fixed H cfgs sess r hr).1]
    exact ih sess (fun r' hr' => h r' (List.mem_cons_of_mem _ hr'))

/-- the predicate the driver evaluates on the implementation's own session table: a request that the implementation
    did not grant must not have made the table bigger (`before`, `after` = number of stored sessions that do not belong
    to a granted visit whose handler is still running) -/
def leavesNothingB (implGranted : Bool) (before after : Nat) : Bool := implGranted || decide (after ≤ before)

theorem leavesNothingB_sound (implGranted : Bool) (before after : Nat) :
    leavesNothingB implGranted before after = true ↔ (implGranted = false → after ≤ before) := by
  cases implGranted <;> simp [leavesNothingB]

/-- the model's own behaviour satisfies the predicate for every request, state and key derivation -/
theorem model_leavesNothing (fixed : Bool) (H : Str → Str) (cfgs : List (Str × NatCfg)) (sess : List (Str × NatSess))
    (r : NatReq) :
    leavesNothingB (match (r.run fixed H cfgs sess).2 with | .granted _ => true | _ => false)
      sess.length (r.run fixed H cfgs sess).1.length = true := by
  rw [leavesNothingB_sound]
  intro h
  have hr : ∀ ch, (r.run fixed H cfgs sess).2 ≠ .granted ch := by
    intro ch hc; rw [hc] at h; cases h
  exact Nat.le_of_eq (nat_refused_leaves_nothing fixed H cfgs sess r hr).2

-- right key, user outside the list, PreCheck off (what frpc never sends): refused, nothing stored — also 50 times
example : (NatReq.run true (fun x => x) witnessCfgs [] ⟨[49], [112], 7, authInput [115] 7, [109], false⟩) = ([], .err .notAllowed) := by
  decide
example : natFlood true (fun x => x) witnessCfgs [] (List.replicate 50 ⟨[49], [112], 7, authInput [115] 7, [109], false⟩) = [] := by
  decide

/-! ## §12 allow lists as a class: order, multiplicity, "", "*", exact entries; the list a proxy was registered with is
       the list its visitors are judged by -/

/-- two lists with the same entries — in any order, each any number of times — allow exactly
    the same users (`allowedB` is `slices.Contains ‖ slices.Contains "*"`, the code's test) -/
theorem allowed_perm_dedup (a b : List Str) (h : ∀ x, x ∈ a ↔ x ∈ b) (user : Str) : allowedB a user = allowedB b user := by
  apply Bool.eq_iff_iff.mpr
  rw [allowedB_iff, allowedB_iff]
  unfold UserAllowed
  rw [h user, h [Str.star]]

/-- any permutation of the list -/
theorem allowed_perm (a b : List Str) (h : a.Perm b) (user : Str) : allowedB a user = allowedB b user :=
  allowed_perm_dedup a b (fun _ => h.mem_iff) user

/-- a canonical form an implementation may store instead of the list: sorted, repeated entries removed
    (`slices.Sort` + `slices.Compact`) -/
def canonAllow (a : List Str) : List Str := (a.mergeSort (fun x y => decide (x ≤ y))).eraseDups

theorem mem_canonAllow (a : List Str) (x : Str) : x ∈ canonAllow a ↔ x ∈ a := by
  unfold canonAllow
  rw [List.mem_eraseDups, List.mem_mergeSort]

/-- storing the canonical form changes nothing for any visitor -/
theorem allowed_canon (a : List Str) (user : Str) : allowedB (canonAllow a) user = allowedB a user :=
  allowed_perm_dedup _ _ (mem_canonAllow a) user

/-- repeating entries, or dropping repetitions, changes nothing -/
theorem allowed_append_self (a : List Str) (x user : Str) (hx : x ∈ a) : allowedB (x :: a) user = allowedB a user :=
  allowed_perm_dedup _ _ (fun y => by
    constructor
    · intro hy; rcases List.mem_cons.mp hy with e | e
      · exact e ▸ hx
      · exact e
    · exact List.mem_cons_of_mem _) user

/-- a visitor without a user (no run id, or a client that logged in without `user`) gets in only if "" is listed
    or the list has "*" -/
theorem empty_user_allowed_iff (a : List Str) : allowedB a [] = true ↔ ([] : Str) ∈ a ∨ [Str.star] ∈ a :=
  allowedB_iff a []

/-- entries are compared byte for byte: without "*" an allowed user IS an entry (no case folding, no trimming,
    no prefix / pattern matching) -/
theorem allowed_exact (a : List Str) (user : Str) (h : allowedB a user = true) (hs : [Str.star] ∉ a) : user ∈ a := by
  rcases (allowedB_iff a user).mp h with h | h
  · exact h
  · exact absurd h hs

theorem unlisted_refused (a : List Str) (user : Str) (h : user ∉ a) (hs : [Str.star] ∉ a) : allowedB a user = false := by
  cases hb : allowedB a user
  · rfl
  · exact absurd (allowed_exact a user hb hs) h

/-- "*" anywhere in the list admits every user, also "" -/
theorem star_anywhere (a b : List Str) (user : Str) : allowedB (a ++ [Str.star] :: b) user = true :=
  (allowedB_iff _ _).mpr (.inr (List.mem_append_right _ List.mem_cons_self))

/-- the answer of NewConn depends on the list only through its set of entries -/
theorem newConn_perm_dedup (H : Str → Str) (ls : List (Str × Listener)) (name : Str) (l : Listener) (a b : List Str)
    (h : ∀ x, x ∈ a ↔ x ∈ b) (ts : Int) (sign user : Str) (conn : Nat) :
    (newConn H (aput ls name { l with allow := a }) name ts sign user conn).2 =
      (newConn H (aput ls name { l with allow := b }) name ts sign user conn).2 := by
  -- the lists enter the answer only through `allowedB`; the tables differ, the answers do not
  simp only [newConn, aget_aput, if_true, allowed_perm_dedup a b h user, apply_ite Prod.snd]

/-- the answer of HandleVisitor depends on the list only through its set of entries (both branches, both trees) -/
theorem natVisit_perm_dedup (fixed : Bool) (H : Str → Str) (cfgs : List (Str × NatCfg)) (sess : List (Str × NatSess))
    (c : NatCfg) (a b : List Str) (h : ∀ x, x ∈ a ↔ x ∈ b) (sid name : Str) (ts : Int) (sign user : Str) (pre : Bool) :
    (natVisit fixed H (aput cfgs name { c with allow := a }) sess sid name ts sign user pre).2 =
      (natVisit fixed H (aput cfgs name { c with allow := b }) sess sid name ts sign user pre).2 := by
  simp only [natVisit, aget_aput, if_true, allowed_perm_dedup a b h user, apply_ite Prod.snd]

/-- Manager.Listen stores the key and the list it was given, with a fresh empty open listener -/
theorem listen_stores (fixed : Bool) (H : Str → Str) (s : State) (name sk : Str) (allow : List Str)
    (hok : (step fixed H s (.listen name sk allow)).2 = .ok) :
    ∃ l, aget (step fixed H s (.listen name sk allow)).1.listeners name = some l ∧
      l.sk = sk ∧ l.allow = allow ∧ l.queue = [] ∧ l.closed = false ∧ l.lid = s.nextId := by
  simp only [step, doListen] at hok ⊢
  split at hok
  · cases hok
  · next hfree => simp [hfree, aget_aput]

/-- RegisterProxy → Run stores the configured list, or [owner's user] when none is configured (all three kinds) -/
theorem register_stores (fixed : Bool) (H : Str → Str) (s : State) (rid : Str) (kind : Kind) (name sk u : Str)
    (cfgAllow : List Str) (hu : aget s.ctls rid = some u)
    (hok : (step fixed H s (.register rid kind name sk cfgAllow)).2 = .ok) :
    (kind ≠ .xtcp → ∃ l, aget (step fixed H s (.register rid kind name sk cfgAllow)).1.listeners name = some l ∧
        l.sk = sk ∧ l.allow = effectiveAllow cfgAllow u ∧ l.queue = [] ∧ l.closed = false ∧ l.lid = s.nextId) ∧
    (kind = .xtcp → ∃ c, aget (step fixed H s (.register rid kind name sk cfgAllow)).1.natCfgs name = some c ∧
        c.sk = sk ∧ c.allow = effectiveAllow cfgAllow u ∧ c.chan = s.nextId) :=
  have h := register_ok fixed H s rid kind name sk u cfgAllow hu hok
  ⟨fun hk => ⟨_, h.1 hk, rfl, rfl, rfl, rfl, rfl⟩, fun hk => ⟨_, h.2.1 hk, rfl, rfl, rfl⟩⟩

/-- a key-holding visitor against a fresh open listener with list `allow`: handed over iff the user is allowed -/
theorem fresh_conn_iff (H : Str → Str) (ls : List (Str × Listener)) (name : Str) (l : Listener) (ts : Int) (user : Str)
    (conn : Nat) (hl : aget ls name = some l) (hq : l.queue = []) (hc : l.closed = false) :
    (newConn H ls name ts (authKey H l.sk ts) user conn).2 = .queued l.lid ↔ UserAllowed l.allow user := by
  rw [← allowedB_iff]
  simp only [newConn, hl, ne_eq, not_true_eq_false, if_false, hc, hq, List.length_nil, acceptCap, Bool.false_eq_true]
  cases allowedB l.allow user <;> simp

/-- Listen, then NewConn by a key holder: handed to that listener iff the user is in the list GIVEN TO Listen
    (or that list has "*") — for every list: repeated entries, any order, "", "*" anywhere -/
theorem listen_then_conn_iff (fixed : Bool) (H : Str → Str) (s : State) (name sk : Str) (allow : List Str) (ts : Int)
    (user : Str) (conn : Nat) (hok : (step fixed H s (.listen name sk allow)).2 = .ok) :
    (newConn H (step fixed H s (.listen name sk allow)).1.listeners name ts (authKey H sk ts) user conn).2
        = .queued s.nextId ↔ UserAllowed allow user := by
  obtain ⟨l, hl, hsk, hal, hq, hc, hlid⟩ := listen_stores fixed H s name sk allow hok
  have := fresh_conn_iff H _ name l ts user conn hl hq hc
  rw [hsk, hal, hlid] at this
  exact this

/-- NewProxy (stcp / sudp) with any configured list, then NewVisitorConn by a key holder whose run id stands for
    user `v` ("" for no run id): handed to the new proxy iff `v` is in the configured list — the owner's user when
    none was configured — or that list has "*" -/
theorem register_then_visit_iff (fixed : Bool) (H : Str → Str) (s : State) (rid : Str) (kind : Kind) (name sk u : Str)
    (cfgAllow : List Str) (hk : kind ≠ .xtcp) (hu : aget s.ctls rid = some u)
    (hok : (step fixed H s (.register rid kind name sk cfgAllow)).2 = .ok)
    (ts : Int) (vrid v : Str) (conn : Nat) (hv : resolveUser s.ctls vrid = .ok v) :
    (step fixed H (step fixed H s (.register rid kind name sk cfgAllow)).1
        (.visitorConn name ts (authKey H sk ts) vrid conn)).2 = .conn (.queued s.nextId)
      ↔ UserAllowed (effectiveAllow cfgAllow u) v := by
  obtain ⟨l, hl, hsk, hal, hq, hc, hlid⟩ := (register_stores fixed H s rid kind name sk u cfgAllow hu hok).1 hk
  have hctl := (register_ok fixed H s rid kind name sk u cfgAllow hu hok).2.2
  have := fresh_conn_iff H _ name l ts v conn hl hq hc
  rw [hsk, hal, hlid] at this
  rw [← this]
  generalize (step fixed H s (.register rid kind name sk cfgAllow)).1 = s' at hctl ⊢
  simp only [step, hctl, hv]
  constructor
  · intro h; injection h with h
  · intro h; rw [h]

/-- NewProxy (xtcp) / ListenClient with any list, then the pre-check and — with the repair — the request proper of a
    key holder: positive iff the user is in that list or the list has "*" -/
theorem natListen_then_visit_iff (H : Str → Str) (cfgs : List (Str × NatCfg)) (sess : List (Str × NatSess))
    (c : NatCfg) (sid name : Str) (ts : Int) (user : Str) (hcfg : aget cfgs name = some c) :
    ((natVisit true H cfgs sess sid name ts (authKey H c.sk ts) user false).2 = .granted c.chan ↔ UserAllowed c.allow user) ∧
    (∀ fixed sign, (natVisit fixed H cfgs sess sid name ts sign user true).2 = .preOk ↔ UserAllowed c.allow user) := by
  refine ⟨?_, fun fixed sign => ?_⟩ <;> rw [← allowedB_iff] <;>
    simp only [natVisit, hcfg, Bool.false_eq_true, if_false, if_true, ne_eq, not_true_eq_false, Bool.true_and] <;>
    cases allowedB c.allow user <;> simp

-- ["bob","carol","bob"]: nobody ("") is refused, bob and carol get in, "Bob" / "bob " do not; the same for [carol, bob]
example : allowedB [[98, 111, 98], [99, 97, 114, 111, 108], [98, 111, 98]] [] = false := by decide
example : allowedB [[98, 111, 98], [99, 97, 114, 111, 108], [98, 111, 98]] [98, 111, 98] = true := by decide
example : allowedB [[98, 111, 98], [99, 97, 114, 111, 108], [98, 111, 98]] [66, 111, 98] = false := by decide
example : allowedB [[98, 111, 98], [99, 97, 114, 111, 108], [98, 111, 98]] [98, 111, 98, 32] = false := by decide
example : ([] : Str) ∉ canonAllow [[98, 111, 98], [99, 97, 114, 111, 108], [98, 111, 98]] ∧
    [98, 111, 98] ∈ canonAllow [[98, 111, 98], [99, 97, 114, 111, 108], [98, 111, 98]] := by
  rw [mem_canonAllow, mem_canonAllow]; decide
-- a list with one more entry "" is another list: it admits visitors without a user
example : allowedB [[98, 111, 98], [99, 97, 114, 111, 108], []] [] = true := by decide
example : (step false exH {} (.listen [112] [115] [[98], [99], [98]])).2 = .ok := by decide

end C08
end Frp
