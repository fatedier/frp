import Frp.Model.SessEnd
import Frp.Model.Rereg
import Frp.Props.C19
import Frp.Gen.SessFacts
/-
  C14, parts D and E (imported by Frp/Props/C14.lean).

  Part D: the end of a server session releases everything the session registered — for every
          interleaving of the peer, the read loop, the NewProxy handler, the heartbeat watchdog and
          `worker()`, including a registration that is in flight when the connection ends.
  Part E: the configuration a (re-)login registers is the one in force when the login succeeds — for
          every history of reloads, session ends, refused and successful logins (client/service.go);
          the reload diff itself is C19's `Reconcile.updateAll`, whose theorems are used here.
-/
namespace Frp
namespace C14

section PartD
open SessEnd

/-! ## Part D — a torn-down session holds nothing (server/control.go, pkg/msg/handler.go) -/

/-- a port of `n` is bound by a handler that has not yet put the proxy into `ctl.proxies` -/
def inflightBound (rd : Reader) (n : Nat) : Prop :=
  rd = .handling ⟨n, .ran⟩ ∨ rd = .handling ⟨n, .added⟩

def inflightMgr (rd : Reader) (n : Nat) : Prop := rd = .handling ⟨n, .added⟩

/-- every bound port / taken name is reachable by the walk of `worker()` (it is in `ctl.proxies` and
    the walk has not happened yet) or belongs to the handler running inside the read loop -/
def Own (t : Res) (torn : Bool) (rd : Reader) : Prop :=
  (∀ n ∈ t.bound, (torn = false ∧ n ∈ t.ctlPx) ∨ inflightBound rd n) ∧
  (∀ n ∈ t.mgr, (torn = false ∧ n ∈ t.ctlPx) ∨ inflightMgr rd n)

/-- the reader the session is left with after one handler step -/
def nextReader : Option Reg → Reader
  | some r2 => .handling r2
  | none => .idle

/-! what a reader has in flight: the port of `n` from `ran` on, its name at `added`; nothing when no handler runs -/

theorem inflightBound_handling (n : Nat) (ph : Phase) (k : Nat) :
    inflightBound (.handling ⟨n, ph⟩) k ↔ k = n ∧ (ph = .ran ∨ ph = .added) := by
  cases ph <;> simp [inflightBound, eq_comm]

theorem inflightMgr_handling (n : Nat) (ph : Phase) (k : Nat) :
    inflightMgr (.handling ⟨n, ph⟩) k ↔ k = n ∧ ph = .added := by
  cases ph <;> simp [inflightMgr, eq_comm]

theorem inflightBound_idle (k : Nat) : ¬ inflightBound .idle k := by simp [inflightBound]

theorem inflightMgr_idle (k : Nat) : ¬ inflightMgr .idle k := by simp [inflightMgr]

theorem inflightBound_exited (k : Nat) : ¬ inflightBound .exited k := by simp [inflightBound]

theorem inflightMgr_exited (k : Nat) : ¬ inflightMgr .exited k := by simp [inflightMgr]

theorem own_iff {t : Res} {rd : Reader} : Own t false rd ↔
    (∀ k ∈ t.bound, k ∈ t.ctlPx ∨ inflightBound rd k) ∧ (∀ k ∈ t.mgr, k ∈ t.ctlPx ∨ inflightMgr rd k) := by
  simp only [Own, true_and]

theorem own_quiet {t : Res} {rd : Reader} (h : Own t false rd)
    (hq : ∀ n, ¬ inflightBound rd n) (rd' : Reader) : Own t false rd' := by
  rw [own_iff] at h ⊢
  exact ⟨fun k hk => Or.inl ((h.1 k hk).resolve_right (hq k)),
    fun k hk => Or.inl ((h.2 k hk).resolve_right fun hm => hq k (Or.inr hm))⟩
theorem own_adv {t : Res} {r : Reg} (f : Bool) (h : Own t false (.handling r)) :
    Own (adv t r f).1 false (nextReader (adv t r f).2) := by
  obtain ⟨n, ph⟩ := r
  rw [own_iff] at h ⊢
  cases ph with
  | plug =>
    simp only [adv]
    split <;> simpa only [nextReader, inflightBound_handling, inflightMgr_handling, inflightBound_idle, inflightMgr_idle, reduceCtorEq,
      or_self, and_false, or_false] using h
  | checked =>
    simp only [adv]
    split <;> simp only [nextReader, inflightBound_handling, inflightMgr_handling, inflightBound_idle, inflightMgr_idle, reduceCtorEq,
      or_self, and_false, or_false, and_true, List.mem_cons] at h ⊢
    · exact h
    · exact ⟨fun k hk => hk.elim Or.inr fun hk => Or.inl (h.1 k hk), h.2⟩
  | ran =>
    simp only [adv]
    split <;> simp only [nextReader, inflightBound_handling, inflightMgr_handling, inflightBound_idle, inflightMgr_idle, reduceCtorEq,
      and_false, or_false, or_true, and_true, List.mem_cons, List.mem_filter, bne_iff_ne, ne_eq] at h ⊢
    · exact ⟨fun k hk => (h.1 k hk.1).resolve_right hk.2, h.2⟩
    · exact ⟨h.1, fun k hk => hk.elim Or.inr fun hk => Or.inl (h.2 k hk)⟩
  | added =>
    simp only [adv, nextReader, inflightBound_handling, inflightMgr_handling, inflightBound_idle, inflightMgr_idle, or_true, and_true,
      or_false, List.mem_cons] at h ⊢
    exact ⟨fun k hk => (h.1 k hk).symm, fun k hk => (h.2 k hk).symm⟩

theorem own_closePx {t : Res} (n : Nat) (h : Own t false .idle) : Own (closePx t n) false .idle := by
  unfold closePx
  split
  · simp only [own_iff, inflightBound_idle, inflightMgr_idle, or_false, List.mem_filter] at h ⊢
    exact ⟨fun k hk => ⟨h.1 k hk.1, hk.2⟩, fun k hk => ⟨h.2 k hk.1, hk.2⟩⟩
  · exact h

theorem own_tear {t : Res} (h : Own t false .exited) : Own (tear t) true .exited := by
  simp only [own_iff, inflightBound_exited, inflightMgr_exited, or_false] at h
  simp only [Own, tear, inflightBound_exited, inflightMgr_exited, or_false, List.mem_filter, Bool.not_eq_true', List.contains_eq_mem,
    decide_eq_false_iff_not]
  exact ⟨fun k hk => absurd (h.1 k hk.1) hk.2, fun k hk => absurd (h.2 k hk.1) hk.2⟩

/-- the invariant of a session whose NewProxy handler runs inside the read loop -/
structure SInv (s : St) : Prop where
  sync : s.async = false
  noFly : s.flying = []
  doneExited : s.dispDone = true ↔ s.reader = .exited
  tornDone : s.torn = true → s.dispDone = true
  own : Own s.res s.torn s.reader

theorem sinv_init : SInv (SessEnd.init false) := by
  refine ⟨rfl, rfl, ?_, ?_, ?_⟩
  · simp [SessEnd.init]
  · simp [SessEnd.init]
  · constructor <;> simp [SessEnd.init]

theorem not_done_of {s : St} (h : SInv s) (hr : s.reader ≠ .exited) : s.dispDone = false ∧ s.torn = false := by
  have hnd : s.dispDone = false := by
    cases hd : s.dispDone with
    | false => rfl
    | true => exact absurd (h.doneExited.1 hd) hr
  refine ⟨hnd, ?_⟩
  cases ht : s.torn with
  | false => rfl
  | true => have := h.tornDone ht; rw [hnd] at this; cases this

/-- while the read loop has not exited, what it and its handler do -- consume a message, change the tables, move to
    another phase -- keeps the invariant if the tables stay owned -/
theorem sinv_reader_upd (s : St) (h : SInv s) (hr : s.reader ≠ .exited) (inbox : List Msg) (res : Res) (rd : Reader)
    (hrd : rd ≠ .exited) (hown : Own res false rd) : SInv { s with inbox := inbox, res := res, reader := rd } := by
  obtain ⟨hnd, hnt⟩ := not_done_of h hr
  refine ⟨h.sync, h.noFly, ⟨fun hd => ?_, fun hx => absurd hx hrd⟩, h.tornDone, ?_⟩
  · rw [hnd] at hd; cases hd
  · show Own res s.torn rd
    rw [hnt]; exact hown

theorem sinv_step (s : St) (l : Lbl) (h : SInv s) : SInv (step s l) := by
  cases l with
  | send m =>
    simp only [step]
    split
    · -- `{ h with }`: the invariant reads none of the fields the step writes
      exact { h with }
    · exact h
  | cut => exact { h with }
  | read err =>
    simp only [step]
    cases hr : s.reader with
    | handling r => exact h
    | exited => exact h
    | idle =>
      have hne : s.reader ≠ .exited := by rw [hr]; nofun
      have hnt := (not_done_of h hne).2
      have hown : Own s.res false .idle := by have := h.own; rwa [hnt, hr] at this
      simp only
      cases err with
      | true =>
        simp only [if_true]
        split
        · exact h
        · refine ⟨h.sync, h.noFly, ⟨fun _ => rfl, fun _ => rfl⟩, fun _ => rfl, ?_⟩
          show Own s.res s.torn .exited
          rw [hnt]; exact own_quiet hown inflightBound_idle _
      | false =>
        simp only [Bool.false_eq_true, if_false]
        cases hi : s.inbox with
        | nil => exact h
        | cons m rest =>
          cases m with
          | newProxy n =>
            show SInv (if s.async = true then _ else _)
            rw [if_neg (by rw [h.sync]; decide)]
            exact sinv_reader_upd s h hne rest s.res (.handling ⟨n, .plug⟩) nofun (own_quiet hown inflightBound_idle _)
          | closeProxy n => exact hr ▸ sinv_reader_upd s h hne rest _ .idle nofun (own_closePx n hown)
          | other => exact hr ▸ sinv_reader_upd s h hne rest s.res .idle nofun hown
  | adv f =>
    simp only [step]
    cases hr : s.reader with
    | idle => exact h
    | exited => exact h
    | handling r =>
      have hne : s.reader ≠ .exited := by rw [hr]; nofun
      have hown : Own s.res false (.handling r) := by
        have := h.own; rwa [(not_done_of h hne).2, hr] at this
      refine sinv_reader_upd s h hne s.inbox _ _ ?_ (own_adv f hown)
      split <;> nofun
  | advFly i f =>
    simp only [step, h.noFly, List.getElem?_nil]
    exact h
  | teardown =>
    simp only [step]
    split
    · rename_i hc
      simp only [Bool.and_eq_true, Bool.not_eq_true'] at hc
      have hex := h.doneExited.1 hc.1
      refine ⟨h.sync, h.noFly, h.doneExited, fun _ => hc.1, ?_⟩
      show Own (tear s.res) true s.reader
      have := h.own
      rw [hc.2, hex] at this
      rw [hex]
      exact own_tear this
    · exact h

theorem sessEnd_run_inv (P : St → Prop) (hstep : ∀ s l, P s → P (step s l)) : ∀ (ls : List Lbl) (s : St), P s → P (run s ls) := by
  intro ls
  induction ls with
  | nil => intro s h; exact h
  | cons l ls ih => intro s h; exact ih _ (hstep s l h)

theorem sinv_run (ls : List Lbl) : ∀ (s : St), SInv s → SInv (run s ls) :=
  sessEnd_run_inv SInv sinv_step ls

/-- in a state satisfying the invariant, a finished teardown means: nothing is held -/
theorem sinv_released {s : St} (h : SInv s) (ht : s.torn = true) : Released s := by
  have hd := h.tornDone ht
  have hex := h.doneExited.1 hd
  have hown := h.own
  rw [ht, hex] at hown
  constructor
  · refine List.eq_nil_iff_forall_not_mem.2 fun k hk => ?_
    rcases hown.1 k hk with h1 | h1
    · cases h1.1
    · exact inflightBound_exited k h1
  · refine List.eq_nil_iff_forall_not_mem.2 fun k hk => ?_
    rcases hown.2 k hk with h1 | h1
    · cases h1.1
    · cases h1

/-- **A torn-down session holds nothing, and never will.**  For EVERY schedule of the peer
    (messages, cut), the heartbeat watchdog (cut), the read loop, the NewProxy handler (with any
    refusals) and `worker()`: once `worker()` has walked `ctl.proxies`, no remote port and no proxy
    name of the session is left — in particular not those of a registration that was in flight when
    the connection ended; since every extension of a schedule is a schedule, nothing is acquired
    later either. -/
theorem teardown_releases (ls : List Lbl) :
    (run (SessEnd.init false) ls).torn = true → Released (run (SessEnd.init false) ls) :=
  sinv_released (sinv_run ls _ sinv_init)

/-- `torn` is never reset: the read loop of a torn-down session has exited, nothing but the peer moves any more -/
theorem torn_step (s : St) (l : Lbl) (h : SInv s) (ht : s.torn = true) : (step s l).torn = true := by
  have hex := h.doneExited.1 (h.tornDone ht)
  cases l with
  | send m => simp only [step]; split <;> exact ht
  | cut => exact ht
  | read e => simp only [step, hex]; exact ht
  | adv f => simp only [step, hex]; exact ht
  | advFly i f => simp only [step, h.noFly, List.getElem?_nil]; exact ht
  | teardown => simp only [step, ht, Bool.not_true, Bool.and_false, Bool.false_eq_true, if_false]

/-- every continuation of the schedule of a torn-down session still holds nothing -/
theorem released_forever (ls more : List Lbl)
    (ht : (run (SessEnd.init false) ls).torn = true) :
    Released (run (run (SessEnd.init false) ls) more) := by
  have h := sessEnd_run_inv (fun s => SInv s ∧ s.torn = true)
    (fun s l h => ⟨sinv_step s l h.1, torn_step s l h.1 h.2⟩) more _ ⟨sinv_run ls _ sinv_init, ht⟩
  exact sinv_released h.1 h.2

/-- **The property depends on the handler running inside the read loop.**  Were NewProxy
    registered through `msg.AsyncHandler` (as the NatHole handlers are), this schedule — NewProxy
    read, connection cut, teardown, and only then the registration finishing — leaves the port bound
    and the name taken in a dead session for ever. -/
theorem async_leak_witness :
    let s := run (SessEnd.init true)
      [.send (.newProxy 1), .read false, .cut, .read true, .teardown,
       .advFly 0 false, .advFly 0 false, .advFly 0 false, .advFly 0 false]
    s.torn = true ∧ s.res.bound = [1] ∧ s.res.mgr = [1] ∧ s.flying = [] := by decide

/-! ### no deadlock: the teardown is reached in a bounded number of the session's own steps -/

def phaseLeft : Phase → Nat
  | .plug => 4 | .checked => 3 | .ran => 2 | .added => 1

def readerLeft : Reader → Nat
  | .handling r => phaseLeft r.ph
  | _ => 0

/-- number of steps of the read loop / handler / worker that are at most needed to finish -/
def work (s : St) : Nat :=
  (if s.torn then 0 else 1) + (if s.dispDone then 0 else 1) + 5 * s.inbox.length + readerLeft s.reader

/-- the completion schedule: finish the handler, (the connection has ended) ReadMsg fails, walk -/
def finish (r : Reader) : List Lbl :=
  List.replicate (readerLeft r) (.adv false) ++ [.read true, .teardown]

theorem adv_left (t : Res) (r : Reg) (f : Bool) :
    readerLeft (nextReader (adv t r f).2) + 1 ≤ phaseLeft r.ph := by
  obtain ⟨n, ph⟩ := r
  -- in each phase and either outcome both sides are numerals
  cases ph with
  | plug => simp only [adv]; split <;> exact Nat.le_of_ble_eq_true rfl
  | checked => simp only [adv]; split <;> exact Nat.le_of_ble_eq_true rfl
  | ran => simp only [adv]; split <;> exact Nat.le_of_ble_eq_true rfl
  | added => exact Nat.le_of_ble_eq_true rfl

theorem teardown_torn (s : St) (hd : s.dispDone = true) : (step s .teardown).torn = true := by
  cases ht : s.torn <;> simp only [step, hd, ht, Bool.not_true, Bool.not_false, Bool.and_self, Bool.and_false,
    Bool.false_eq_true, if_true, if_false]

theorem finish_torn : ∀ (k : Nat) (s : St), SInv s → s.connOpen = false → readerLeft s.reader ≤ k →
    (run s (List.replicate k (.adv false) ++ [.read true, .teardown])).torn = true := by
  intro k
  induction k with
  | zero =>
    intro s h hc hk
    -- no handler is running: the failing read ends the dispatcher, unless it has ended already
    refine teardown_torn _ ?_
    cases hr : s.reader with
    | handling r =>
      rw [hr] at hk; obtain ⟨n, ph⟩ := r
      cases ph <;> cases hk
    | idle => simp only [step, hr, hc, if_true, Bool.false_eq_true, if_false]
    | exited => simp only [step, hr]; exact h.doneExited.2 hr
  | succ k ih =>
    intro s h hc hk
    refine ih _ (sinv_step s (.adv false) h) ?_ ?_
    · simp only [step]; split <;> exact hc
    · cases hr : s.reader with
      | idle => simp only [step, hr]; exact Nat.zero_le _
      | exited => simp only [step, hr]; exact Nat.zero_le _
      | handling r =>
        have := adv_left s.res r false
        rw [hr] at hk
        simp only [readerLeft] at hk
        simp only [step, hr]
        show readerLeft (nextReader (adv s.res r false).2) ≤ k
        omega

/-- **Bounded teardown.**  From every reachable state of a plain-handler session whose
    connection has ended, the session's own goroutines reach the end of `worker()` in at most
    4 + 2 steps (finish the registration in flight, fail the read, walk) — nothing else is waited
    for, and afterwards nothing is held. -/
theorem teardown_reached (s : St) (h : SInv s) (hc : s.connOpen = false) :
    (run s (finish s.reader)).torn = true ∧ Released (run s (finish s.reader)) ∧
      (finish s.reader).length ≤ 6 := by
  have ht := finish_torn _ s h hc (Nat.le_refl _)
  refine ⟨ht, sinv_released (sinv_run _ _ h) ht, ?_⟩
  simp only [finish, List.length_append, List.length_replicate, List.length_cons, List.length_nil]
  cases hr : s.reader with
  | handling r => obtain ⟨n, ph⟩ := r; cases ph <;> simp [readerLeft, phaseLeft]
  | idle => simp [readerLeft]
  | exited => simp [readerLeft]

/-- … in particular from every state any schedule reaches -/
theorem teardown_reached_run (ls : List Lbl) :
    let s := run (SessEnd.init false) (ls ++ [.cut])
    (run s (finish s.reader)).torn = true ∧ Released (run s (finish s.reader)) := by
  intro s
  have hs : SInv s := sinv_run _ _ sinv_init
  have hc : s.connOpen = false := by
    have : ∀ (ms : List Lbl) (s0 : St), (run s0 (ms ++ [.cut])).connOpen = false := by
      intro ms
      induction ms with
      | nil => intro s0; rfl
      | cons m ms ih => intro s0; exact ih _
    exact this ls _
  exact ⟨(teardown_reached s hs hc).1, (teardown_reached s hs hc).2.1⟩

/-! ### tie to the source: how the handlers are registered (regenerated by translate/gen_sessfacts.go) -/

/-- the `async` parameter as the code has it: NewProxy (or CloseProxy, which the model also runs inside
    the read loop) registered through `msg.AsyncHandler`, or a read loop that spawns its handlers -/
def codeAsync : Bool :=
  !Gen.SessFacts.readLoopInline || (Gen.SessFacts.handlers.lookup "NewProxy").getD true ||
    (Gen.SessFacts.handlers.lookup "CloseProxy").getD true

/-- in the source at hand: both handlers are plain, the read loop runs handlers inline,
    `AsyncHandler` is the only spawner, and `worker()` waits for `Done()` before its walk -/
theorem code_handlers_plain :
    codeAsync = false ∧ Gen.SessFacts.workerWaitsDone = true ∧ Gen.SessFacts.asyncSpawns = true := by
  decide +kernel

/-- `teardown_releases` for the registration mode found in the source -/
theorem teardown_releases_code (ls : List Lbl) :
    (run (SessEnd.init codeAsync) ls).torn = true → Released (run (SessEnd.init codeAsync) ls) := by
  rw [code_handlers_plain.1]
  exact teardown_releases ls

end PartD

section PartE
open Wrapper Reconcile Rereg

/-! ## Part E — a (re-)login registers the configuration in force (client/service.go) -/

/-- the manager runs exactly the configured proxies: the running names are the configured names,
    and every running wrapper carries the configured entry of its name (`lo.KeyBy`: the last one) -/
def Synced (store : List Cfg) (pm : Mgr) : Prop :=
  (∀ n, hasName pm.proxies n = true ↔ ∃ c ∈ store, c.name = n) ∧
  (∀ w ∈ pm.proxies, lookupLast store w.cfg.name = some w.cfg)

/-- `pm.UpdateAll(cfgs)` makes ANY manager run exactly `cfgs` (C19 `update_names`, `update_running_cfgs`) -/
theorem updateAll_synced (m : Mgr) (cfgs : List Cfg) (now : Nat) : Synced cfgs (updateAll m cfgs now).1 :=
  ⟨fun n => C19.update_names m cfgs now n, fun w hw => C19.update_running_cfgs m cfgs now w hw⟩

/-- the live control, and a control that loginFunc is about to install, run the stored configuration -/
def Healed (s : Rereg.St) : Prop :=
  (∀ c, s.ctl = some c → c.alive = true → Synced s.store c.pm) ∧
  (∀ p, s.pend = some p → Synced s.store p.pm)

def isReload : Rereg.Ev → Bool
  | .reload _ => true
  | _ => false

/-- no reload falls between `ctl.Run(snapshot)` and `svr.ctl = ctl` of one loginFunc call (two
    adjacent statements without a blocking operation) -/
def admissible (s : Rereg.St) (now : Nat) : List Rereg.Ev → Bool
  | [] => true
  | e :: es => (!(isReload e) || s.pend.isNone) && admissible (Rereg.step s now e).1 now es

theorem healed_init (store : List Cfg) : Healed { store := store } := by
  constructor <;> intro c h <;> cases h

theorem early_step (s : Rereg.St) (now : Nat) (e : Rereg.Ev) : (Rereg.step s now e).1.early = s.early := by
  cases e <;> simp only [Rereg.step] <;> (try split) <;> rfl

/-- **One step.**  Whatever the event — reload (connected or not), end of the session, entry of
    the login loop, successful login, installation of the new control — the live control and the
    control about to be installed run exactly the configuration stored in the service. -/
theorem healed_step (s : Rereg.St) (now : Nat) (e : Rereg.Ev) (he : s.early = false) (h : Healed s)
    (hadm : isReload e = true → s.pend = none) : Healed (Rereg.step s now e).1 := by
  obtain ⟨hc, hp⟩ := h
  cases e with
  | reload cfgs =>
    -- the stored list and the control's manager are updated together; nothing is pending
    have hpn : ∀ p, s.pend ≠ some p := fun p h => by rw [hadm rfl] at h; cases h
    simp only [Rereg.step]
    cases hctl : s.ctl with
    | none => exact ⟨nofun, fun p h => absurd h (hpn p)⟩
    | some c =>
      refine ⟨fun c' h _ => ?_, fun p h => absurd h (hpn p)⟩
      cases h
      exact updateAll_synced _ _ _
  | sessionEnd =>
    simp only [Rereg.step]
    cases hctl : s.ctl with
    | none => exact ⟨hc, hp⟩
    | some c =>
      refine ⟨fun c' h ha => ?_, hp⟩
      cases h
      cases ha
  | loopStart => exact ⟨hc, hp⟩
  | loginRun =>
    simp only [Rereg.step, he, Bool.false_eq_true, if_false]
    refine ⟨hc, fun p h => ?_⟩
    cases h
    exact updateAll_synced _ _ _
  | loginSwap =>
    simp only [Rereg.step]
    cases hpend : s.pend with
    | none => exact ⟨hc, hp⟩
    | some p =>
      refine ⟨fun c h _ => ?_, nofun⟩
      cases h
      exact hp _ hpend

/-- **All histories.**  After ANY sequence of reloads, connection losses, refused logins (no
    event), loop entries and successful logins — reloads during an outage included — whenever a
    control is live it runs exactly the configuration currently stored: every configured proxy is
    registered with its current settings, nothing else is. -/
theorem healed_run (now : Nat) : ∀ (es : List Rereg.Ev) (s : Rereg.St), s.early = false → Healed s →
    admissible s now es = true → Healed (Rereg.run s now es) := by
  intro es
  induction es with
  | nil => intro s _ h _; exact h
  | cons e es ih =>
    intro s he h hadm
    simp only [admissible, Bool.and_eq_true, Bool.or_eq_true, Bool.not_eq_true', Option.isNone_iff_eq_none] at hadm
    refine ih _ (by rw [early_step]; exact he) (healed_step s now e he h ?_) hadm.2
    intro hr
    rcases hadm.1 with h1 | h1
    · rw [hr] at h1; cases h1
    · exact h1

/-- **A successful login announces every configured proxy.**  The messages `loginFunc` puts on
    the new connection contain, for every name, exactly one NewProxy iff the stored configuration has
    an entry of that name that is not health-gated (and no CloseProxy at all). -/
theorem login_sends_all (s : Rereg.St) (now : Nat) (he : s.early = false) (n : Nat) :
    (Rereg.step s now .loginRun).2.count (n, Msg.newProxy) = C19.startCount (lookupLast s.store n) ∧
    (Rereg.step s now .loginRun).2.count (n, Msg.closeProxy) = 0 := by
  simp only [Rereg.step, he, Bool.false_eq_true, if_false]
  constructor
  · rw [C19.update_new_count]
    simp [Reconcile.init, hasName]
  · rw [C19.update_close_count _ _ _ C19.inv_init]
    simp [Reconcile.init]

/-- what the driver evaluates on the set of registrations the real server side has seen -/
def regHolds (store : List Cfg) (v : List (Nat × Nat)) : Bool :=
  v.all (fun x => (lookupLast store x.1).map (·.variant) == some x.2) &&
  store.all (fun c => v.any (fun x => x.1 == c.name))

/-- a synced manager's view satisfies the predicate -/
theorem model_regHolds (store : List Cfg) (pm : Mgr) (h : Synced store pm) :
    regHolds store (Rereg.view pm) = true := by
  simp only [regHolds, Rereg.view, Bool.and_eq_true, List.all_eq_true, List.any_eq_true, List.mem_map,
    beq_iff_eq]
  constructor
  · rintro x ⟨w, hw, rfl⟩
    simp only
    rw [h.2 w hw]
    rfl
  · intro c hc
    have := (h.1 c.name).2 ⟨c, hc, rfl⟩
    rw [C19.hasName_iff] at this
    obtain ⟨w, hw, hn⟩ := this
    exact ⟨(w.cfg.name, w.cfg.variant), ⟨w, hw, rfl⟩, hn⟩

/-- the predicate is not trivially true: a view missing a configured proxy, or carrying a stale
    variant, or an unconfigured name, fails it -/
theorem regHolds_sensitive :
    let a1 : Cfg := ⟨1, 1, false, false⟩
    let b1 : Cfg := ⟨2, 1, false, false⟩
    let a2 : Cfg := ⟨1, 2, false, false⟩
    regHolds [a1, b1] [(1, 1)] = false ∧ regHolds [a2] [(1, 1)] = false ∧
    regHolds [a1] [(1, 1), (2, 1)] = false ∧ regHolds [a1, b1] [(2, 1), (1, 1)] = true := by decide

/-- **The micro-window of loginFunc.**  A
    reload that falls between `ctl.Run(proxyCfgs, …)` and `svr.ctl = ctl` updates the OLD control;
    the new control keeps the snapshot: proxy 2 is configured and not registered. -/
theorem reload_in_window_witness :
    let a : Cfg := ⟨1, 1, false, false⟩
    let b : Cfg := ⟨2, 1, false, false⟩
    let s := Rereg.run { store := [a] } 0 [.loopStart, .loginRun, .reload [a, b], .loginSwap]
    s.store = [a, b] ∧ (s.ctl.map (fun c => Rereg.view c.pm)) = some [(1, 1)] ∧
      (s.ctl.map (fun c => regHolds s.store (Rereg.view c.pm))) = some false := by decide

/-- **The theorems notice where the snapshot is taken.**  With the snapshot taken when the login
    loop is entered (`early`), a reload during the outage is lost: after the re-login proxy 2 is
    configured and not registered. -/
theorem early_snapshot_witness :
    let a : Cfg := ⟨1, 1, false, false⟩
    let b : Cfg := ⟨2, 1, false, false⟩
    let hist : List Rereg.Ev :=
      [.loopStart, .loginRun, .loginSwap, .sessionEnd, .loopStart, .reload [a, b], .loginRun, .loginSwap]
    let bad := Rereg.run { early := true, store := [a] } 0 hist
    let good := Rereg.run { early := false, store := [a] } 0 hist
    (bad.ctl.map (fun c => regHolds bad.store (Rereg.view c.pm))) = some false ∧
    (good.ctl.map (fun c => Rereg.view c.pm)) = some [(1, 1), (2, 1)] ∧
    admissible { early := false, store := [a] } 0 hist = true := by decide

/-! ### tie to the source: where loginFunc reads the configuration (translate/gen_sessfacts.go) -/

/-- the `early` parameter as the code has it: the stored configuration is read somewhere else than
    inside loginFunc after `svr.login()`, or `ctl.Run` is not given that snapshot -/
def codeEarly : Bool :=
  !(Gen.SessFacts.snapshotInLoginFunc && Gen.SessFacts.snapshotAfterLogin && Gen.SessFacts.runUsesSnapshot)

theorem code_snapshot_at_login : codeEarly = false := by decide +kernel

/-- `healed_run` for the snapshot point found in the source -/
theorem healed_run_code (now : Nat) (store : List Cfg) (es : List Rereg.Ev)
    (hadm : admissible { early := codeEarly, store := store } now es = true) :
    Healed (Rereg.run { early := codeEarly, store := store } now es) := by
  rw [code_snapshot_at_login] at hadm ⊢
  exact healed_run now es _ rfl (healed_init store) hadm

end PartE

end C14
end Frp
