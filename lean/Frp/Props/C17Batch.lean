import Frp.Props.C17
import Frp.Model.Base64
import Frp.Lemmas.Base64
/-
  C17, the lossless clause as a statement about VALUES THAT PERSIST.

  "Decoding the encoding yields an equal message" is a statement about what the caller of the decoder HOLDS, not
  about what the decoder's return value looks like at the instant of the return: the callers of frp's decode entry
  points keep results while further messages are decoded — the Dispatcher hands messages to handlers that queue them
  (`msg.AsyncHandler`, the udp `readCh` of 1024 packets), the udp forwarders pass `GetContent`'s result to a socket
  write while other proxies of the same process decode their own packets.

  Model: a connection is a reader plus the list of results its caller has RETAINED (`Conn`).  One `ReadMsg`
  appends to that list and never alters what is already in it (`read_keeps`, `reads_keeps`); a batch of k frames
  decodes to exactly the k values that were encoded (`batch_roundtrip`); and when several goroutines decode on
  their own connections under ANY schedule, every connection ends with the result of running its own reads alone
  (`sched_independent`, `par_batch_roundtrip`) — a decoder in which a later or concurrent decode changes an earlier
  result (a result aliasing a recycled buffer) is not a refinement of this model.  The same for the udp payload
  codec (`udp_content_roundtrip`, `udp_batch_roundtrip`) and, at the object level, for encoding a retained value
  again (`reencode_stable`, `decode_reencode`).

  Go anchors: pkg/msg/ctl.go ReadMsg / ReadMsgInto, pkg/msg/handler.go readLoop, pkg/nathole/utils.go
  DecodeMessageInto, pkg/proto/udp/udp.go NewUDPPacket / GetContent.
-/
namespace Frp
namespace C17
open Frame MsgObj

/-! ## 1. one connection: successive `ReadMsg` calls, every result retained by the caller -/

/-- a reader (`input` = the bytes not yet consumed) and what its caller keeps: (type byte, body) of every
    message returned so far, oldest first.  `failed`: a `ReadMsg` returned an error (the callers stop reading). -/
structure Conn where
  input : Str
  kept : List (Nat × Str) := []
  failed : Bool := false
  deriving DecidableEq, Repr

/-- one `msg.ReadMsg(c)` whose result the caller appends to what it keeps -/
def Conn.read (max : Nat) (known : Nat → Bool) (c : Conn) : Conn :=
  if c.failed then c else
  match decode max known c.input with
  | .ok t body rest => { c with input := rest, kept := c.kept ++ [(t, body)] }
  | .err _ => { c with failed := true }

/-- `n` successive calls -/
def Conn.reads (max : Nat) (known : Nat → Bool) : Nat → Conn → Conn
  | 0, c => c
  | n + 1, c => Conn.reads max known n (c.read max known)

/-- the byte stream of a list of (type byte, body) frames written back to back (`WriteMsg` k times) -/
def framesOf : List (Nat × Str) → Str
  | [] => []
  | g :: gs => encode g.1 g.2 ++ framesOf gs

/-- PERSISTENCE, one step: a decode never alters a result the caller already holds — the retained list only
    grows at its end -/
theorem read_keeps (max : Nat) (known : Nat → Bool) (c : Conn) : c.kept <+: (c.read max known).kept := by
  unfold Conn.read
  split
  · exact List.prefix_refl _
  · split
    · exact List.prefix_append _ _
    · exact List.prefix_refl _

/-- PERSISTENCE, any number of later decodes -/
theorem reads_keeps (max : Nat) (known : Nat → Bool) (n : Nat) (c : Conn) :
    c.kept <+: (Conn.reads max known n c).kept := by
  induction n generalizing c with
  | zero => exact List.prefix_refl _
  | succ n ih => exact List.IsPrefix.trans (read_keeps max known c) (ih (c.read max known))

/-- … spelled out per retained result: the i-th result is the same before and after `n` more decodes -/
theorem kept_stable (max : Nat) (known : Nat → Bool) (n : Nat) (c : Conn) (i : Nat) (hi : i < c.kept.length) :
    (Conn.reads max known n c).kept[i]? = c.kept[i]? := by
  obtain ⟨t, ht⟩ := reads_keeps max known n c
  rw [← ht, List.getElem?_append_left hi]

/-- LOSSLESS for a whole batch on one connection: `k` frames written back to back, `k` reads, everything
    retained: the caller ends up holding exactly the values that were encoded, in order, and the reader stands
    exactly behind the last frame -/
theorem batch_roundtrip (max : Nat) (known : Nat → Bool) (hmax : max < 9223372036854775808)
    (gs : List (Nat × Str)) (hg : ∀ g ∈ gs, known g.1 = true ∧ g.2.length ≤ max) (rest : Str) (kept : List (Nat × Str)) :
    Conn.reads max known gs.length ⟨framesOf gs ++ rest, kept, false⟩ = ⟨rest, kept ++ gs, false⟩ := by
  induction gs generalizing kept with
  | nil => simp [Conn.reads, framesOf]
  | cons g gs ih =>
    have h1 := hg g List.mem_cons_self
    simp only [List.length_cons, Conn.reads, framesOf, List.append_assoc, Conn.read, Bool.false_eq_true, if_false,
      decode_encode_res max known g.1 g.2 _ h1.1 h1.2 hmax]
    rw [ih (fun g' hg' => hg g' (List.mem_cons_of_mem _ hg')) (kept ++ [g])]
    simp

/-! ## 2. several goroutines, each decoding on its own connection, under any schedule -/

/-- a schedule = which connection performs its next `ReadMsg`, step by step -/
def runSched (max : Nat) (known : Nat → Bool) : List Nat → List Conn → List Conn
  | [], cs => cs
  | j :: s, cs => runSched max known s (cs.modify j (Conn.read max known))

theorem reads_succ (max : Nat) (known : Nat → Bool) (n : Nat) (c : Conn) :
    Conn.reads max known (n + 1) c = Conn.reads max known n (c.read max known) := rfl

/-- INDEPENDENCE: whatever the interleaving, connection `j` ends in the state its own reads alone lead to —
    no decode on another connection changes what a caller holds -/
theorem sched_independent (max : Nat) (known : Nat → Bool) (s : List Nat) (cs : List Conn) (j : Nat) :
    (runSched max known s cs)[j]? = (cs[j]?).map (Conn.reads max known (s.count j)) := by
  induction s generalizing cs with
  | nil => cases h : cs[j]? <;> simp [runSched, Conn.reads, h]
  | cons i s ih =>
    simp only [runSched]
    rw [ih, List.getElem?_modify, List.count_cons]
    by_cases hij : i = j
    · subst hij
      cases cs[i]? <;> simp [reads_succ]
    · have : (i == j) = false := by simpa using hij
      cases cs[j]? <;> simp [hij, this]

/-- LOSSLESS for concurrent batches: worker `j` holds the frames of `gss[j]`; under every schedule in which each
    worker makes as many reads as it has frames, each worker ends up holding exactly its own values -/
theorem par_batch_roundtrip (max : Nat) (known : Nat → Bool) (hmax : max < 9223372036854775808)
    (gss : List (List (Nat × Str))) (hg : ∀ gs ∈ gss, ∀ g ∈ gs, known g.1 = true ∧ g.2.length ≤ max)
    (s : List Nat) (hs : ∀ j (h : j < gss.length), s.count j = gss[j].length) (j : Nat) (hj : j < gss.length) :
    (runSched max known s (gss.map (fun gs => ⟨framesOf gs, [], false⟩)))[j]? = some ⟨[], gss[j], false⟩ := by
  rw [sched_independent, List.getElem?_map, List.getElem?_eq_getElem hj]
  simp only [Option.map_some, hs j hj]
  have := batch_roundtrip max known hmax gss[j] (hg _ (List.getElem_mem hj)) [] []
  simpa using this

/-! ## 3. the udp payload codec (pkg/proto/udp/udp.go) -/

/-- `NewUDPPacket(buf, …).Content` = `base64.StdEncoding.EncodeToString(buf)` -/
def udpPack (buf : Str) : Str := Base64.encode buf

/-- `GetContent(m)` = `base64.StdEncoding.DecodeString(m.Content)` (`none` = error) -/
def udpContent (content : Str) : Option Str := Base64.decode content

/-- LOSSLESS for every payload -/
theorem udp_content_roundtrip (buf : Str) (hb : Base64.bytes buf) : udpContent (udpPack buf) = some buf :=
  Base64.decode_encode buf hb

/-- … and for every batch of payloads: the list of contents a consumer has collected is the list of payloads
    that were packed (each result is a value of its own, not a view of a shared buffer) -/
theorem udp_batch_roundtrip (bufs : List Str) (hb : ∀ b ∈ bufs, Base64.bytes b) :
    (bufs.map udpPack).map udpContent = bufs.map some := by
  rw [List.map_map]
  exact List.map_congr_left fun b h => udp_content_roundtrip b (hb b h)

/-- distinct payloads stay distinct: no packet's content can come out as another packet's -/
theorem udp_pack_injective (a b : Str) (ha : Base64.bytes a) (hb : Base64.bytes b) (h : udpPack a = udpPack b) : a = b :=
  Base64.encode_injective ha hb h

/-! ## 4. object level: encoding a retained value again -/

section reencode
variable {α : Type}

attribute [local simp] normF isEmpty toJF in
theorem field_reencode (subJ : String → α → J) (normSub : String → α → α)
    (hsub : ∀ n a, subJ n (normSub n a) = subJ n a) (f : FieldS) (v : ValF α) :
    isEmpty (normF normSub f v) = isEmpty v ∧
      ((f.omitE && isEmpty v) = false → toJF subJ f.kind (normF normSub f v) = toJF subJ f.kind v) := by
  cases v with
  | str s => simp
  | bool b => simp
  | int i => simp
  | udp o => simp
  | strs o =>
    cases o with
    | none => simp
    | some l => cases ho : f.omitE <;> cases l <;> simp [ho]
  | smap o =>
    cases o with
    | none => simp
    | some l => cases ho : f.omitE <;> cases l <;> simp [ho]
  | sub a =>
    cases hk : f.kind <;> simp [hk, hsub]
  | subs o =>
    cases o with
    | none => simp
    | some l =>
      by_cases he : (f.omitE && l.isEmpty) = true
      · -- dropped on both sides
        obtain ⟨ho, hl⟩ : f.omitE = true ∧ l = [] := by simpa using he
        simp [ho, hl]
      · cases hk : f.kind with
        | subs n =>
          -- the one kind whose elements are normalised: they are written the same
          have hmap : List.map (subJ n ∘ normSub n) l = List.map (subJ n) l :=
            List.map_congr_left fun a _ => hsub n a
          simp [he, hk, hmap]
        | _ => simp [he, hk]

theorem members_reencode (subJ : String → α → J) (normSub : String → α → α)
    (hsub : ∀ n a, subJ n (normSub n a) = subJ n a) :
    ∀ (fs : List FieldS) (vs : List (ValF α)),
      toMembersF subJ fs (normMembersF normSub fs vs) = toMembersF subJ fs vs := by
  intro fs
  induction fs with
  | nil => intro vs; cases vs <;> simp [toMembersF]
  | cons f fs ih =>
    intro vs
    cases vs with
    | nil => simp [toMembersF, normMembersF]
    | cons v vs =>
      obtain ⟨h1, h2⟩ := field_reencode subJ normSub hsub f v
      simp only [normMembersF, toMembersF, h1]
      by_cases hc : (f.omitE && isEmpty v) = true
      · simp [hc, ih]
      · have hc' : (f.omitE && isEmpty v) = false := by simpa using hc
        simp [hc', ih, h2 hc']

end reencode

theorem reencode0 (sch : Schema) (n : String) (m : Struct0) : toObj0 sch n (norm0 sch n m) = toObj0 sch n m := by
  unfold toObj0 norm0
  rw [members_reencode _ _ (fun _ _ => rfl)]

theorem reencode1 (sch : Schema) (n : String) (m : Struct1) : toObj1 sch n (norm1 sch n m) = toObj1 sch n m := by
  unfold toObj1 norm1
  rw [members_reencode _ _ (fun n' a => reencode0 sch n' a)]

theorem reencode2 (sch : Schema) (n : String) (m : Struct2) : toObj2 sch n (norm2 sch n m) = toObj2 sch n m := by
  unfold toObj2 norm2
  rw [members_reencode _ _ (fun n' a => reencode1 sch n' a)]

/-- the identification of the round trip is invisible on the wire: the normalised value is written as the
    same object -/
theorem reencode_stable (n : String) (m : Struct2) : toObj2 schema n (norm2 schema n m) = toObj2 schema n m :=
  reencode2 schema n m

/-- encoding the value that was decoded gives the object that was on the wire, for every message value of
    every struct of the table -/
theorem decode_reencode (n : String) (m : Struct2) (ht : typed2 schema n m = true) :
    toObj2 schema n (fromObj2 schema n (toObj2 schema n m)) = toObj2 schema n m := by
  rw [fromObj_toObj n m ht, reencode_stable]

/-! ## 5. the executable predicate of the driver (`batch` op of engine codec) -/

/-- what the harness reports about one item of a batch, read through the Go-field-keyed table:
    `v` the value that was encoded, `imm` the decoder's result dumped at once, `late` the SAME retained result
    dumped after the whole batch was decoded, `reframe` the frame that result encodes to afterwards,
    `body` the JSON text the original value was written as (trusted text level) -/
structure ItemObs where
  t : Nat
  sname : String
  body : Str
  v : Struct2
  imm : Struct2
  late : Struct2
  reframe : Str

/-- the clause on one item: the value the caller holds AFTER the batch is the model's decoding of the model's
    encoding of the value that went in, it is what the decoder returned at once, and it encodes to the frame of
    the original body -/
def ItemSpec (o : ItemObs) : Prop :=
  o.late = fromObj2 schema o.sname (toObj2 schema o.sname o.v) ∧ o.imm = o.late ∧ o.reframe = encode o.t o.body

def itemHolds (o : ItemObs) : Bool :=
  typed2 schema o.sname o.v && o.imm == norm2 schema o.sname o.v && o.late == o.imm && o.reframe == encode o.t o.body

theorem itemHolds_sound (o : ItemObs) (h : itemHolds o = true) : ItemSpec o := by
  simp only [itemHolds, Bool.and_eq_true, beq_iff_eq] at h
  obtain ⟨⟨⟨ht, hi⟩, hl⟩, hr⟩ := h
  refine ⟨?_, ?_, hr⟩
  · rw [fromObj_toObj o.sname o.v ht, hl, hi]
  · exact hl.symm

/-- udp item: payload in, content at once, content after the batch -/
def udpItemHolds (payload imm late : Str) : Bool :=
  udpContent (udpPack payload) == some imm && late == imm

theorem udpItemHolds_sound (payload imm late : Str) (hb : Base64.bytes payload) (h : udpItemHolds payload imm late = true) :
    late = payload ∧ imm = payload := by
  simp only [udpItemHolds, Bool.and_eq_true, beq_iff_eq] at h
  rw [udp_content_roundtrip payload hb] at h
  have hi : imm = payload := by
    have := h.1
    injection this with this
    exact this.symm
  exact ⟨h.2.trans hi, hi⟩

/-! ## non-vacuity -/

example : Conn.reads maxLen known 2 ⟨framesOf [(104, [123, 125]), (52, [123, 125])] ++ [9], [], false⟩
    = ⟨[9], [(104, [123, 125]), (52, [123, 125])], false⟩ := by decide +kernel
-- two workers, two schedules: the same per-worker result
example : (runSched maxLen known [0, 1, 0] [⟨framesOf [(104, [123, 125]), (52, [123, 125])], [], false⟩, ⟨framesOf [(104, [123, 125])], [], false⟩])
    = [⟨[], [(104, [123, 125]), (52, [123, 125])], false⟩, ⟨[], [(104, [123, 125])], false⟩] := by decide +kernel
example : (runSched maxLen known [1, 0, 0] [⟨framesOf [(104, [123, 125]), (52, [123, 125])], [], false⟩, ⟨framesOf [(104, [123, 125])], [], false⟩])
    = [⟨[], [(104, [123, 125]), (52, [123, 125])], false⟩, ⟨[], [(104, [123, 125])], false⟩] := by decide +kernel
example : udpContent (udpPack [1, 2, 3, 4]) = some [1, 2, 3, 4] := by decide
-- the predicate rejects a retained payload that changed after the batch, and one that was wrong at once
example : udpItemHolds [1, 2, 3] [1, 2, 3] [1, 2, 3] = true := by decide
example : udpItemHolds [1, 2, 3] [1, 2, 3] [7, 7, 7] = false := by decide
example : udpItemHolds [1, 2, 3] [7, 7, 7] [7, 7, 7] = false := by decide

end C17
end Frp
