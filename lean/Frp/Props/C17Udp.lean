import Frp.Props.C17
import Frp.Props.C17Batch
import Frp.Model.UdpPacket
/-
  C17, the lossless clause for the ADDRESSES of a udp message ("… incl. nil / zero / IPv6 UDP addresses"), stated for
  the message as the udp paths build it — `udp.NewUDPPacket` — and read it — `udp.GetContent` —, not only for a
  struct literal handed to the codec.

  * the shape (Props/C17UdpFacts.lean, kept apart so that the driver does not depend on the regenerated facts):
    net.UDPAddr has exactly the fields the model carries (`addr_fields_eq_source`, regenerated from
    GOROOT), no method of its own that would replace the member-wise JSON encoding (`addr_no_custom_codec`), an IP is a
    byte slice of 4 / 16 bytes (`ip_shape`); the constructor stores its arguments as given and every caller in the
    repository wraps the address it got from the socket / the inbound packet (`ctor_shape`, `ctor_callers`)
  * the clause: for EVERY payload and EVERY pair of addresses — nil, zero value, any IP whose text obeys the IP text
    law, any port, any zone string — the peer decodes a packet with the same content and, field by field, the same
    addresses; the only identification is IPv4 4-byte ≙ 16-byte (`packet_wire`, `packet_fields_preserved`,
    `packet_content_roundtrip`, `zone_preserved`); a second trip changes nothing (`wire_norm_fixed`)
  * the forwarders: what frps packs for a datagram of user `a` and what frpc's Forwarder packs for the answer both
    arrive with remote address `a` (`user_packet_wire`, `fwd_reply_wire`, `fwd_end_to_end`)

  Go anchors: pkg/proto/udp/udp.go NewUDPPacket / GetContent / ForwardUserConn / Forwarder, pkg/msg/msg.go UDPPacket,
  GOROOT/src/net/udpsock.go UDPAddr, net/ip.go IP.MarshalText / UnmarshalText.
-/
namespace Frp
namespace C17
open MsgObj UdpPacket

/-! ## 1. the clause -/

/-- what the peer decodes: the object encoding/json writes for the message value, read back through the regenerated
    table (JSON text level and framing: `decode_encode`, trusted text) -/
def wire (p : Packet) : Option Packet :=
  Packet.ofVal (fromObj2 schema "UDPPacket" (toObj2 schema "UDPPacket" p.toVal))

theorem udpPacket_fields : schema.fieldsOf "UDPPacket" =
    [{ goName := "Content", json := [99], omitE := true, kind := .str },
     { goName := "LocalAddr", json := [108], omitE := true, kind := .udp },
     { goName := "RemoteAddr", json := [114], omitE := true, kind := .udp }] := by decide +kernel

theorem packet_typed (p : Packet) : typed2 schema "UDPPacket" p.toVal = true := by
  simp [typed2, udpPacket_fields, Packet.toVal, typedMembers, typedF]

theorem packet_norm (p : Packet) : norm2 schema "UDPPacket" p.toVal = p.toVal := by
  simp [norm2, udpPacket_fields, Packet.toVal, normMembersF, normF]

/-- one address through `toUDP` / `ofUDP`: every field comes back, the IP in its 16-byte form -/
theorem ofUDP_toUDP (a : Addr) (h : ipLaw a.ip = true) : Addr.ofUDP a.toUDP = some a.norm := by
  simp only [ipLaw, Bool.and_eq_true, beq_iff_eq] at h
  simp [Addr.ofUDP, Addr.toUDP, Addr.norm, h.2]

theorem optAddr_toUDP (o : Option Addr) (h : addrOk o = true) : optAddr (o.map Addr.toUDP) = some (o.map Addr.norm) := by
  cases o with
  | none => rfl
  | some a => simp [optAddr, ofUDP_toUDP a h]

/-- LOSSLESS, any packet value: the peer decodes the same content and the same two addresses -/
theorem wire_eq (p : Packet) (hl : addrOk p.laddr = true) (hr : addrOk p.raddr = true) :
    wire p = some { content := p.content, laddr := p.laddr.map Addr.norm, raddr := p.raddr.map Addr.norm } := by
  unfold wire
  rw [fromObj_toObj "UDPPacket" p.toVal (packet_typed p), packet_norm]
  simp [Packet.toVal, Packet.ofVal, optAddr_toUDP _ hl, optAddr_toUDP _ hr]

/-- LOSSLESS for the message as the udp paths build it: every payload, every pair of addresses -/
theorem packet_wire (buf : Str) (l r : Option Addr) (hl : addrOk l = true) (hr : addrOk r = true) :
    wire (newUDPPacket buf l r) = some { content := Base64.encode buf, laddr := l.map Addr.norm, raddr := r.map Addr.norm } :=
  wire_eq (newUDPPacket buf l r) hl hr

/-- … spelled out field by field: a nil address stays nil; a non-nil one comes back non-nil with the same Port, the
    same Zone — whatever string it is — and the same IP (16-byte form); as local and as remote address -/
theorem packet_fields_preserved (buf : Str) (l r : Option Addr) (hl : addrOk l = true) (hr : addrOk r = true) :
    ∃ q, wire (newUDPPacket buf l r) = some q ∧
      (l = none → q.laddr = none) ∧ (r = none → q.raddr = none) ∧
      (∀ a, l = some a → ∃ b, q.laddr = some b ∧ b.ip = to16 a.ip ∧ b.port = a.port ∧ b.zone = a.zone) ∧
      (∀ a, r = some a → ∃ b, q.raddr = some b ∧ b.ip = to16 a.ip ∧ b.port = a.port ∧ b.zone = a.zone) := by
  refine ⟨_, packet_wire buf l r hl hr, ?_, ?_, ?_, ?_⟩
  · intro h; simp [h]
  · intro h; simp [h]
  · intro a h; exact ⟨a.norm, by simp [h], rfl, rfl, rfl⟩
  · intro a h; exact ⟨a.norm, by simp [h], rfl, rfl, rfl⟩

/-- the zone in particular: ANY string (the law constrains the IP only) -/
theorem zone_preserved (buf ip : Str) (port : Int) (zone : Str) (h : ipLaw ip = true) :
    (wire (newUDPPacket buf none (some ⟨ip, port, zone⟩))).map (fun q => q.raddr.map (·.zone)) = some (some zone) ∧
    (wire (newUDPPacket buf (some ⟨ip, port, zone⟩) none)).map (fun q => q.laddr.map (·.zone)) = some (some zone) := by
  constructor
  · rw [packet_wire buf none (some ⟨ip, port, zone⟩) rfl h]; rfl
  · rw [packet_wire buf (some ⟨ip, port, zone⟩) none h rfl]; rfl

/-- the payload: `GetContent` of what the peer decoded is what `NewUDPPacket` was given -/
theorem packet_content_roundtrip (buf : Str) (hb : Base64.bytes buf) (l r : Option Addr)
    (hl : addrOk l = true) (hr : addrOk r = true) :
    (wire (newUDPPacket buf l r)).bind getContent = some buf := by
  rw [packet_wire buf l r hl hr]
  exact Base64.decode_encode buf hb

theorem to16_to16 (ip : Str) : to16 (to16 ip) = to16 ip := by
  unfold to16
  by_cases h4 : ip.length = 4
  · simp [h4, IPText.v4in6]
  · simp [h4]

theorem ipLaw_to16 (ip : Str) (h : ipLaw ip = true) : ipLaw (to16 ip) = true := by
  by_cases h4 : ip.length = 4
  · -- a 4-byte address and its 16-byte form have the same text
    have hne : ip ≠ [] := by intro e; simp [e] at h4
    have ht : ipText (to16 ip) = ipText ip := by
      simp [ipText, to16_to16, to16, h4, IPText.v4in6, hne]
    simp only [ipLaw, Bool.and_eq_true, beq_iff_eq] at h ⊢
    refine ⟨by simp [to16, h4, IPText.v4in6], ?_⟩
    rw [ht, to16_to16]
    exact h.2
  · rwa [to16, if_neg h4]

theorem addrOk_norm (o : Option Addr) (h : addrOk o = true) : addrOk (o.map Addr.norm) = true := by
  cases o with
  | none => rfl
  | some a => exact ipLaw_to16 a.ip h

theorem norm_norm (a : Addr) : a.norm.norm = a.norm := by
  simp [Addr.norm, to16_to16 a.ip]

/-- a packet that came off the wire goes over it unchanged (re-encoding / relaying loses nothing) -/
theorem wire_norm_fixed (p q : Packet) (hl : addrOk p.laddr = true) (hr : addrOk p.raddr = true) (h : wire p = some q) :
    wire q = some q := by
  rw [wire_eq p hl hr] at h
  injection h with h
  subst h
  -- normalising an address twice is normalising it once
  have hnn : ∀ o : Option Addr, (o.map Addr.norm).map Addr.norm = o.map Addr.norm := by
    intro o
    cases o with
    | none => rfl
    | some a => exact congrArg some (norm_norm a)
  rw [wire_eq _ (addrOk_norm _ hl) (addrOk_norm _ hr)]
  simp only [hnn]

/-! ## 2. the forwarders -/

/-- server side (`ForwardUserConn`): the datagram `d` of user `a` reaches frpc with remote address `a` and content `d` -/
theorem user_packet_wire (a : Addr) (d : Str) (ha : ipLaw a.ip = true) :
    wire (userPacket a d) = some { content := Base64.encode d, laddr := none, raddr := some a.norm } :=
  packet_wire d none (some a) rfl ha

/-- client side (`Forwarder`): the answer to an inbound packet goes back under the remote address that packet carried -/
theorem fwd_reply_wire (req : Packet) (ans : Str) (hr : addrOk req.raddr = true) :
    wire (fwdReply req ans) = some { content := Base64.encode ans, laddr := none, raddr := req.raddr.map Addr.norm } :=
  packet_wire ans none req.raddr rfl hr

/-- both together: user `a` sends `d`, frps packs it, frpc decodes it, the local service answers `ans`, the Forwarder
    packs the answer, frps decodes it: the answer is addressed to `a` — IP, Port and Zone — and its content is `ans` -/
theorem fwd_end_to_end (a : Addr) (d ans : Str) (ha : ipLaw a.ip = true) (hb : Base64.bytes ans)
    (q : Packet) (hq : wire (userPacket a d) = some q) :
    ∃ q', wire (fwdReply q ans) = some q' ∧ q'.raddr = some a.norm ∧ q'.laddr = none ∧ getContent q' = some ans := by
  rw [user_packet_wire a d ha] at hq
  injection hq with hq
  subst hq
  refine ⟨_, fwd_reply_wire _ ans (ipLaw_to16 a.ip ha), ?_, rfl, ?_⟩
  · simp [norm_norm a]
  · exact Base64.decode_encode ans hb

/-! ## 3. the executable predicate of the driver -/

/-- `addrKept vin out`: the address that came out has, field by field, what went in -/
theorem addrKept_sound (vin out : Option Addr) (h : addrKept vin out = true) : out = vin.map Addr.norm := by
  match vin, out, h with
  | none, none, _ => rfl
  | some a, some ⟨ip, port, zone⟩, h =>
    simp only [addrKept, Bool.and_eq_true, beq_iff_eq] at h
    obtain ⟨⟨rfl, rfl⟩, rfl⟩ := h
    rfl

/-- the model's own result satisfies the predicate -/
theorem model_addrKept (buf : Str) (l r : Option Addr) (hl : addrOk l = true) (hr : addrOk r = true) :
    ∃ q, wire (newUDPPacket buf l r) = some q ∧ addrKept l q.laddr = true ∧ addrKept r q.raddr = true := by
  refine ⟨_, packet_wire buf l r hl hr, ?_, ?_⟩
  · cases l <;> simp [addrKept, Addr.norm]
  · cases r <;> simp [addrKept, Addr.norm]

/-- one item of a udp batch / one packet of a forwarder run, as the harness reports it -/
structure UdpObs where
  payload : Str
  lin : Option Addr
  rin : Option Addr
  content : Str            -- GetContent of the packet the peer decoded
  lout : Option Addr       -- its LocalAddr
  rout : Option Addr       -- its RemoteAddr

def udpObsHolds (o : UdpObs) : Bool :=
  o.content == o.payload && addrKept o.lin o.lout && addrKept o.rin o.rout

/-- the predicate says what the clause says: the observed packet IS the model's decoding of the packet the
    constructor builds from what went in -/
theorem udpObsHolds_sound (o : UdpObs) (hb : Base64.bytes o.payload) (hl : addrOk o.lin = true) (hr : addrOk o.rin = true)
    (h : udpObsHolds o = true) :
    wire (newUDPPacket o.payload o.lin o.rin) = some ⟨Base64.encode o.payload, o.lout, o.rout⟩ ∧
      udpContent (udpPack o.payload) = some o.content := by
  simp only [udpObsHolds, Bool.and_eq_true, beq_iff_eq] at h
  obtain ⟨⟨hc, h1⟩, h2⟩ := h
  rw [packet_wire _ _ _ hl hr, addrKept_sound _ _ h1, addrKept_sound _ _ h2, hc]
  exact ⟨rfl, udp_content_roundtrip o.payload hb⟩

/-! ## non-vacuity: the IP text law holds for addresses of every family; zones of any kind; a lost zone is refused -/

example : ipLaw [] = true := by decide +kernel
example : ipLaw [10, 1, 2, 3] = true := by decide +kernel
example : ipLaw [0, 0, 0, 0] = true := by decide +kernel
example : ipLaw (IPText.v4in6 [192, 0, 2, 7]) = true := by decide +kernel
example : ipLaw [254, 128, 0, 0, 0, 0, 0, 0, 28, 43, 58, 255, 254, 77, 94, 111] = true := by decide +kernel
example : ipLaw [0, 0, 0, 0, 0, 0, 0, 0, 0, 0, 0, 0, 0, 0, 0, 0] = true := by decide +kernel
example : ipLaw [255, 2, 0, 0, 0, 0, 0, 0, 0, 0, 0, 0, 0, 0, 0, 251] = true := by decide +kernel
example : ipLaw [1, 2, 3] = false := by decide +kernel
example : wire (newUDPPacket [1, 2, 3] none (some ⟨[254, 128, 0, 0, 0, 0, 0, 0, 0, 0, 0, 0, 0, 0, 0, 1], 5353, [101, 116, 104, 48]⟩))
    = some ⟨[65, 81, 73, 68], none, some ⟨[254, 128, 0, 0, 0, 0, 0, 0, 0, 0, 0, 0, 0, 0, 0, 1], 5353, [101, 116, 104, 48]⟩⟩ := by
  decide +kernel
example : wire (newUDPPacket [] (some ⟨[], 0, []⟩) (some ⟨[10, 0, 0, 1], 65535, [37, 32, 34]⟩))
    = some ⟨[], some ⟨[], 0, []⟩, some ⟨IPText.v4in6 [10, 0, 0, 1], 65535, [37, 32, 34]⟩⟩ := by decide +kernel
example : addrKept (some ⟨[10, 0, 0, 1], 7, [101]⟩) (some ⟨IPText.v4in6 [10, 0, 0, 1], 7, [101]⟩) = true := by decide
example : addrKept (some ⟨[10, 0, 0, 1], 7, [101]⟩) (some ⟨IPText.v4in6 [10, 0, 0, 1], 7, []⟩) = false := by decide
example : addrKept (some ⟨[], 0, []⟩) none = false := by decide
example : addrKept none (some ⟨[], 0, []⟩) = false := by decide

end C17
end Frp
