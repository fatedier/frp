import Frp.Props.C06
import Frp.Model.HttpConn
import Frp.Gen.RouteCtxFacts
/-
  C06, continued — requests that SHARE A CLIENT CONNECTION (HTTP/1.1 keep-alive; the streams of an h2c
  connection opened by the RFC 7540 section 3.2 upgrade or by prior knowledge), interleaved with registration
  changes, and the idle BACKEND connections the reverse proxy's transport re-uses:

    "all register/unregister/re-register histories interleaved with traffic, all request hosts/paths/users,
     and all sequences of requests sharing keep-alive connections";
    "once a route has been closed or re-registered by another proxy no new request reaches the former owner's
     backend; all of this holds across connection reuse to backends".

  Model: Frp/Model/HttpConn.lean (pkg/util/vhost/http.go: ServeHTTP, authorize, injectRequestInfoToCtx, the
  handler wrapped by h2c.NewHandler, Rewrite's pool key, DialContext → CreateConnection).
-/
namespace Frp
namespace C06
open Str Router HttpConn

/-- every idle backend connection sits under the pool key of the registration whose backend it leads to -/
def PoolInv (S : Srv) : Prop := ∀ e ∈ S.pool, e.1 = e.2

/-- what a step may do to the server besides answering -/
structure Keeps (S S' : Srv) : Prop where
  R    : S'.R = S.R
  next : S'.next = S.next
  pool : PoolInv S'

/-- the reverse proxy + transport, for a context whose route information was resolved NOW for the request
    itself: the backend of that route's registration answers — over a new connection or an idle one -/
theorem forward_resolved {S : Srv} (hP : PoolInv S) (q : Req) (rc : Route) (reuse : Bool)
    (h : resolve S.R q = some rc) :
    (forward S { host := q.host, path := q.path, user := q.user, peer := q.peer } rc reuse).2 = some rc.payload ∧
    Keeps S (forward S { host := q.host, path := q.path, user := q.user, peer := q.peer } rc reuse).1 := by
  unfold forward
  cases hl : (if reuse then S.pool.lookup rc.payload else none) with
  | some b =>
    simp only
    have hb : S.pool.lookup rc.payload = some b := by
      cases reuse
      · simp at hl
      · simpa using hl
    have : rc.payload = b := hP _ (lookup_mem hb)
    exact ⟨by rw [this], ⟨rfl, rfl, hP⟩⟩
  | none =>
    simp only
    unfold HttpConn.resolve at h
    simp only [h]
    refine ⟨by simp, ⟨rfl, rfl, ?_⟩⟩
    intro e he
    simp only [List.mem_cons] at he
    rcases he with rfl | he
    · rfl
    · exact hP e he

/-- **A stream is routed by its own request and the table as it is — whatever context it inherits.**  The
    handler wrapped by `h2c.NewHandler`, handed ANY context (that of whichever request opened the connection,
    resolved against whichever earlier table), answers request `q` from the backend of the registration that
    `getVhost` finds for `q`'s own (host, path, user) in the table at that moment, nobody if there is none. -/
theorem wrapped_own_route {S : Srv} (hP : PoolInv S) (ctx : Ctx) (q : Req) (reuse : Bool) :
    (wrapped never S ctx q reuse).2 = (resolve S.R q).map (·.payload) ∧
    Keeps S (wrapped never S ctx q reuse).1 := by
  unfold wrapped
  simp only [never, Bool.false_eq_true, if_false, inject]
  cases h : resolve S.R q with
  | none => exact ⟨rfl, ⟨rfl, rfl, hP⟩⟩
  | some rc => exact forward_resolved hP q rc reuse h

/-- the same for a request that passes `ServeHTTP` (HTTP/1.1, incl. the request that opens an h2c connection) -/
theorem serveHTTP_own_route {S : Srv} (hP : PoolInv S) (q : Req) (reuse : Bool) :
    (serveHTTP never S q reuse).2.1 = (resolve S.R q).map (·.payload) ∧
    Keeps S (serveHTTP never S q reuse).1 := by
  unfold serveHTTP
  simp only [inject]
  cases h : resolve S.R q with
  | none => exact ⟨rfl, ⟨rfl, rfl, hP⟩⟩
  | some rc =>
    simp only
    have := wrapped_own_route hP (some ({ host := q.host, path := q.path, user := q.user, peer := q.peer }, some rc)) q reuse
    rw [h] at this
    exact this

/-- a request — on a new connection, a kept-alive one, or as a stream of an h2c connection, whatever that
    connection carried before — is answered by the lookup of ITS OWN host, path and user in the table as it
    is; the table and `nextRegID` stay, the pool invariant is kept.  (A registration change moves the table
    and `nextRegID` as `register` / `unregister` say, by definition of `step`.) -/
theorem step_req {S : Srv} (hP : PoolInv S) (cs : Conns) (c : Nat) (up : Bool) (q : Req) (reuse : Bool) :
    Keeps S (step never S cs (.req c up q reuse)).1 ∧
    (step never S cs (.req c up q reuse)).2.2 = some ((resolve S.R q).map (·.payload)) := by
  simp only [step]
  split
  · rename_i ctx _
    have := wrapped_own_route hP ctx q reuse
    exact ⟨this.2, by rw [this.1]⟩
  · have := serveHTTP_own_route hP q reuse
    exact ⟨this.2, by rw [this.1]⟩

/-- the prior-knowledge preface opens a connection and does nothing else -/
theorem step_pri (S : Srv) (cs : Conns) (c : Nat) :
    (step never S cs (.pri c)).1 = S ∧ (step never S cs (.pri c)).2.2 = none := by
  simp only [step]
  split <;> exact ⟨rfl, rfl⟩

/-- **The route of the k-th request of a connection is a function of that request and the current table
    only.**  For every history of registration changes, connections opened in any way (HTTP/1.1, `Upgrade: h2c`,
    prior knowledge), requests on them in any order and number, closes, and every choice of the transport
    between an idle backend connection and a new one: the answers are those of the reference server that has
    no connections, no contexts and no pool and looks every request up in the table produced by the
    registration changes before it. -/
theorem conn_history_eq_ref (evs : List Ev) :
    ∀ (S : Srv) (cs : Conns), PoolInv S → HttpConn.run never S cs evs = ref S.R S.next evs := by
  induction evs with
  | nil => intro S cs _; rfl
  | cons e es ih =>
    intro S cs hP
    cases e with
    | reg d l u => exact ih (register S d l u).1 cs hP
    | unreg d l u => exact ih (unregister S d l u) cs hP
    | close c => exact ih S _ hP
    | pri c =>
      obtain ⟨hS, ha⟩ := step_pri S cs c
      simp only [HttpConn.run, ha, ref]
      rw [ih _ _ (by rw [hS]; exact hP), hS]
    | req c up q reuse =>
      obtain ⟨hk, ha⟩ := step_req hP cs c up q reuse
      simp only [HttpConn.run, ha, ref]
      rw [ih _ _ hk.pool, hk.R, hk.next]

/-- the same traffic with the connection structure erased: every request on a fresh HTTP/1.1 connection of
    its own, nothing upgraded, nothing re-used -/
def plain : Ev → Ev
  | .req _ _ q _ => .req 0 false q false
  | .pri _ => .close 0
  | e => e

theorem ref_plain (evs : List Ev) : ∀ R n, ref R n (evs.map plain) = ref R n evs := by
  induction evs with
  | nil => intro R n; rfl
  | cons e es ih =>
    intro R n
    cases e <;> simp only [List.map_cons, plain, ref, ih]

/-- **Independent of the connection's earlier streams**: which connection a request arrives on, how that
    connection was opened, what was asked on it before (same host and path or not, same user or not) and which
    backend connections lie idle does not enter — the answers equal those of the same requests sent one per
    fresh connection. -/
theorem conn_structure_irrelevant (evs : List Ev) (S : Srv) (cs : Conns) (hP : PoolInv S) :
    HttpConn.run never S cs evs = HttpConn.run never { S with pool := [] } [] (evs.map plain) := by
  rw [conn_history_eq_ref evs S cs hP, conn_history_eq_ref (evs.map plain) { S with pool := [] } []
    (by intro e he; cases he), ref_plain]

/-! ### most specific route at that moment, and nobody's former backend -/

/-- state and connection table after a history -/
def after (trust : Trust) (S : Srv) (cs : Conns) : List Ev → Srv × Conns
  | [] => (S, cs)
  | e :: es => after trust (step trust S cs e).1 (step trust S cs e).2.1 es

/-- registrations are numbered apart: every registered route carries a registration number below
    `nextRegID`, and no two registered routes carry the same -/
structure RegInv (S : Srv) : Prop where
  inv    : Router.Inv S.R
  pool   : PoolInv S
  below  : ∀ r, Registered S.R r → r.payload < S.next
  apart  : ∀ r r', Registered S.R r → Registered S.R r' → r.payload = r'.payload → r = r'
  filed  : ∀ d u, ∀ r ∈ S.R d u, r.domain = d ∧ r.user = u

theorem regInv_empty : RegInv Srv.empty where
  inv := inv_empty
  pool := fun _ he => nomatch he
  below := fun _ h => nomatch h
  apart := fun _ _ h => nomatch h
  filed := inv_empty.keyed

/-- the invariant looks at the table, `nextRegID` and the pool invariant only -/
theorem RegInv.keeps {S S' : Srv} (h : RegInv S) (k : Keeps S S') : RegInv S' where
  inv := by rw [k.R]; exact h.inv
  pool := k.pool
  below := by rw [k.R, k.next]; exact h.below
  apart := by rw [k.R]; exact h.apart
  filed := by rw [k.R]; exact h.filed

theorem regInv_register {S : Srv} (h : RegInv S) (d l u : Str) : RegInv (register S d l u).1 := by
  have hinv := inv_add h.inv d l u S.next
  -- accepted or refused, a stored route is an old one or the one numbered `S.next`
  have hm := fun r (hr : Registered (register S d l u).1.R r) => mem_add_sub S.R d l u S.next hr
  refine ⟨hinv, h.pool, ?_, ?_, hinv.keyed⟩
  · intro r hr
    rcases hm r hr with hr | rfl
    · exact Nat.lt_succ_of_lt (h.below r hr)
    · exact Nat.lt_succ_self _
  · intro r r' hr hr' hp
    rcases hm r hr with hr | rfl <;> rcases hm r' hr' with hr' | rfl
    · exact h.apart r r' hr hr' hp
    · have := h.below r hr; dsimp only at hp; omega
    · have := h.below r' hr'; dsimp only at hp; omega
    · rfl

theorem regInv_unregister {S : Srv} (h : RegInv S) (d l u : Str) : RegInv (unregister S d l u) := by
  have hinv := inv_del h.inv d l u
  have hm : ∀ r, Registered (del S.R d l u) r → Registered S.R r := fun r hr => ((mem_del S.R d l u _ _ r).mp hr).1
  exact ⟨hinv, h.pool, fun r hr => h.below r (hm r hr),
    fun r r' hr hr' hp => h.apart r r' (hm r hr) (hm r' hr') hp, hinv.keyed⟩

theorem regInv_step {S : Srv} (h : RegInv S) (cs : Conns) (e : Ev) : RegInv (step never S cs e).1 := by
  cases e with
  | reg d l u => exact regInv_register h d l u
  | unreg d l u => exact regInv_unregister h d l u
  | close c => exact h
  | pri c => rw [(step_pri S cs c).1]; exact h
  | req c up q reuse => exact h.keeps (step_req h.pool cs c up q reuse).1

/-- every state the server reaches, under any history with any connection structure -/
theorem regInv_reachable (evs : List Ev) : ∀ (S : Srv) (cs : Conns), RegInv S → RegInv (after never S cs evs).1 := by
  induction evs with
  | nil => intro S cs h; exact h
  | cons e es ih => intro S cs h; exact ih _ _ (regInv_step h cs e)

/-- `a` is a correct answer to request `q` against table `R`: the registration of a registered route that
    matches the request and is at least as specific as every registered route that matches; nobody only if
    nothing matches -/
def GoodAns (R : Routers) (q : Req) (a : Option Nat) : Prop :=
  match a with
  | none => ∀ r, Registered R r → ¬ Matches r (canon q.host) q.path q.user
  | some p => ∃ r, Registered R r ∧ r.payload = p ∧ Matches r (canon q.host) q.path q.user ∧
      ∀ r', Registered R r' → Matches r' (canon q.host) q.path q.user → AtLeastAsSpecific (canon q.host) q.user r r'

/-- **Most specific route live at that moment, for every request of every connection.**  After any history
    `pre` (registration changes, connections of every kind, requests on them), the next request — on
    connection `c` whatever it is: new, kept alive, or an h2c connection opened by any earlier request — is
    answered by the backend of the most specific route registered at that moment for the request's own
    host, path and user. -/
theorem conn_request_most_specific (pre : List Ev) (c : Nat) (up : Bool) (q : Req) (reuse : Bool) :
    ∃ a, (step never (after never Srv.empty [] pre).1 (after never Srv.empty [] pre).2 (.req c up q reuse)).2.2 = some a ∧
      GoodAns (after never Srv.empty [] pre).1.R q a := by
  have hI := regInv_reachable pre Srv.empty [] regInv_empty
  refine ⟨_, (step_req hI.pool (after never Srv.empty [] pre).2 c up q reuse).2, ?_⟩
  unfold GoodAns HttpConn.resolve
  cases h : getVhost (after never Srv.empty [] pre).1.R (canon q.host) q.path q.user with
  | none =>
    simp only [Option.map_none]
    exact fun r hr => getVhost_none h r hr
  | some r =>
    simp only [Option.map_some]
    obtain ⟨hreg, hm, hbest⟩ := getVhost_some hI.inv h
    exact ⟨r, hreg, rfl, hm, hbest⟩

/-- a registration `p` is gone: no registered route carries it, and it is not a future one -/
def Gone (S : Srv) (p : Nat) : Prop := p < S.next ∧ ∀ r, Registered S.R r → r.payload ≠ p

theorem gone_step {S : Srv} (hI : RegInv S) (cs : Conns) (e : Ev) {p : Nat} (hg : Gone S p) :
    Gone (step never S cs e).1 p := by
  cases e with
  | reg d l u =>
    refine ⟨Nat.lt_succ_of_lt hg.1, fun r hr => ?_⟩
    rcases mem_add_sub S.R d l u S.next hr with hr | rfl
    · exact hg.2 r hr
    · exact Nat.ne_of_gt hg.1
  | unreg d l u => exact ⟨hg.1, fun r hr => hg.2 r ((mem_del S.R d l u _ _ r).mp hr).1⟩
  | close c => exact hg
  | pri c => rw [(step_pri S cs c).1]; exact hg
  | req c up q reuse =>
    obtain ⟨hR, hn, _⟩ := (step_req hI.pool cs c up q reuse).1
    exact ⟨by rw [hn]; exact hg.1, by rw [hR]; exact hg.2⟩

/-- un-registering the route of registration `p` makes `p` gone -/
theorem unregister_gone {S : Srv} (hI : RegInv S) {r : Route} (hr : Registered S.R r) :
    Gone (unregister S r.domain r.location r.user) r.payload := by
  refine ⟨hI.below r hr, ?_⟩
  intro r' hr' hp
  unfold unregister at hr'
  have hm := (mem_del S.R r.domain r.location r.user _ _ r').mp hr'
  cases hI.apart r' r hm.1 hr hp
  exact hm.2 ⟨(hI.inv.lower _ _ r hr).symm, rfl, rfl⟩

/-- **No new request reaches the former owner's backend.**  Once the route of registration `p` has been
    un-registered — and whether or not the same (host, location, user) triple is registered again by another
    owner, which is then ANOTHER registration — no request of any later history is answered by `p`'s backend:
    not on a new connection, not on a connection kept alive since before, not as a later stream of an h2c
    connection that `p` answered the opening request of, and not over a backend connection left idle in the
    transport's pool. -/
theorem former_owner_never_answers (evs : List Ev) :
    ∀ (S : Srv) (cs : Conns) (p : Nat), RegInv S → Gone S p → some p ∉ HttpConn.run never S cs evs := by
  induction evs with
  | nil => intro S cs p _ _ h; cases h
  | cons e es ih =>
    intro S cs p hI hg
    have hI' := regInv_step hI cs e
    have hg' := gone_step hI cs e hg
    cases e with
    | reg d l u => exact ih _ _ p hI' hg'
    | unreg d l u => exact ih _ _ p hI' hg'
    | close c => exact ih _ _ p hI' hg'
    | pri c => simp only [HttpConn.run, (step_pri S cs c).2]; exact ih _ _ p hI' hg'
    | req c up q reuse =>
      simp only [HttpConn.run, (step_req hI.pool cs c up q reuse).2, List.mem_cons, not_or]
      refine ⟨fun heq => ?_, ih _ _ p hI' hg'⟩
      unfold HttpConn.resolve at heq
      cases h : getVhost S.R (canon q.host) q.path q.user with
      | none => rw [h] at heq; cases heq
      | some r =>
        rw [h] at heq
        exact hg.2 r (getVhost_some hI.inv h).1 (Option.some.inj heq).symm

/-! ### the shape `never` stands for, read from the source (Gen/RouteCtxFacts, regenerated on every run) -/

/-- a handler resolves first: the first thing its body does with route information is an UNCONDITIONAL call of
    `authorize` / `injectRequestInfoToCtx` on the request it was handed, and nothing afterwards reads route
    information from that request (only from the request the resolution returned) -/
def ResolvesFirst (h : Gen.RouteCtxFacts.Handler) : Bool :=
  match h.events with
  | e :: rest =>
    e.kind = "resolve" && e.depth = 0 && e.on.contains h.param &&
      (e.what = "authorize" || e.what = "injectRequestInfoToCtx") &&
      rest.all (fun e' => e'.kind = "pass" && !e'.on.contains h.param ||
                          e'.kind = "read" && !e'.on.contains h.param)
  | [] => false

/-- **No handler of pkg/util/vhost reads route information out of the request context before it has resolved it
    itself** — `ServeHTTP` and the handler wrapped by `h2c.NewHandler` are both there and both resolve first
    (the policy `never` of the model); `authorize` and `injectRequestInfoToCtx` are the resolvers. -/
theorem source_handlers_resolve_first :
    Gen.RouteCtxFacts.handlers.all ResolvesFirst = true ∧
    (Gen.RouteCtxFacts.handlers.map (·.name)).contains "NewHTTPReverseProxy:h2c.NewHandler" = true ∧
    (Gen.RouteCtxFacts.handlers.map (·.name)).contains "HTTPReverseProxy.ServeHTTP" = true ∧
    Gen.RouteCtxFacts.resolvers.contains "authorize" = true ∧
    Gen.RouteCtxFacts.resolvers.contains "injectRequestInfoToCtx" = true ∧
    Gen.RouteCtxFacts.readers.contains "authorize" = false ∧
    Gen.RouteCtxFacts.readers.contains "injectRequestInfoToCtx" = false := by
  decide +kernel

/-! ### what a handler that trusts the inherited context does (non-vacuity of the statements above) -/

def hostA : Str := s "app.example.com"
def reqA (user : String) : Req := { host := hostA, path := s "/page", user := s user, peer := 7 }

/-- a route restricted to alice next to an unrestricted one; alice opens an h2c connection; the next stream
    has the same host and path and no user -/
def userWitness : List Ev :=
  [ .reg hostA (s "/") (s "alice"), .reg hostA (s "/") []
  , .req 1 true (reqA "alice") true, .req 1 true (reqA "") true, .req 1 true (reqA "bob") true ]

/-- the opening request is answered, the route changes owner, the same request again as the next stream -/
def ownerWitness : List Ev :=
  [ .reg hostA (s "/") [], .req 1 true (reqA "") true
  , .unreg hostA (s "/") [], .reg hostA (s "/") [], .req 1 true (reqA "") true ]

example : HttpConn.run never Srv.empty [] userWitness = [some 1, some 2, some 2] := by decide +kernel
example : HttpConn.run never Srv.empty [] ownerWitness = [some 1, some 2] := by decide +kernel

/-- a wrapped handler that takes the inherited context for the request's when host, path and peer agree
    forwards later streams along the OPENING request's route: here another user's route -/
theorem trusting_context_user_witness :
    HttpConn.run sameHostPathPeer Srv.empty [] userWitness = [some 1, some 1, some 1] ∧
    HttpConn.run sameHostPathPeer Srv.empty [] userWitness ≠ ref Srv.empty.R Srv.empty.next userWitness := by
  decide +kernel

/-- the same handler reaches the former owner's backend, over the connection left idle under the old
    registration's pool key -/
theorem trusting_context_owner_witness :
    HttpConn.run sameHostPathPeer Srv.empty [] ownerWitness = [some 1, some 1] ∧
    ¬ (some 1 ∉ (HttpConn.run sameHostPathPeer Srv.empty [] ownerWitness).drop 1) := by
  decide +kernel

end C06
end Frp
