import Frp.Lemmas.NatHole
import Frp.Lemmas.ListFacts
import Frp.Model.NatPunch
/-
  C20 — NAT hole punching: authenticated, complementary instructions, bounded state.

  Model: Frp/Model/NatHole.lean (pkg/nathole/{classify,analysis,controller}.go),
  tables: Frp/Gen/NatTables.lean (REGENERATED from analysis.go on every run).

  The model describes the REPAIRED code: f51e354 (ClassifyNATFeature rejects ports outside
  1..65535), 8d80cd3 (the notify send of HandleVisitor is bounded by NatHoleTimeout) and the
  C08 fix (the session branch of HandleVisitor consults allowUsers).  The pinned tree's functions
  are kept as `classifyOld`, `analysisOld`, `stepOld`, `runOld` with their witness theorems.

  The many-socket hand-over of MakeHole's result (§8) is modelled with both the unbuffered channel of the pinned tree
  (`hrun false`, `handover_lost_witness`) and the buffered one of 0205ff9 (`hrun true`, `handover_buffered_never_lost`).
-/
namespace Frp
namespace C20
open NatBeh NatHole Gen.NatTables

/-! ## 1. The regenerated tables -/

/-- a pair of behaviours is complementary: exactly one sender and one receiver -/
def Complementary (a b : Beh) : Prop :=
  (a.role = .sender ∧ b.role = .receiver) ∨ (a.role = .receiver ∧ b.role = .sender)

instance (a b : Beh) : Decidable (Complementary a b) := by unfold Complementary; exact inferInstance

/-- every row of every table has exactly one sender and one receiver -/
theorem tables_complementary : ∀ t ∈ allTables, ∀ p ∈ t, Complementary p.1 p.2 := by decide

/-- the switch of `getBehaviorByMode` only ever returns one of the tables -/
theorem byMode_mem (mode : Nat) : behaviorsByMode mode ∈ allTables := by
  have h1 : ∀ p ∈ modeCases, p.2 ∈ allTables := by decide
  have h2 : modeDefault ∈ allTables := by decide
  unfold behaviorsByMode
  split
  · next t ht =>
    exact h1 _ (lookup_mem ht)
  · exact h2

/-- expectation pinning what the extractor must have found (a silently empty extraction cannot
    make the theorems vacuous) -/
theorem tables_shape :
    allTables.length = 5 ∧ allTables.map List.length = [10, 6, 3, 6, 3] ∧ modeCases.map Prod.fst = [0, 1, 2, 3, 4] := by
  decide

/-- mode 1 and 2 and 4: the A column is the sender in every row (what the swap rules rely on) -/
theorem modes124_A_sends :
    (∀ p ∈ behaviorsByMode detectMode1, p.1.role = .sender ∧ p.2.role = .receiver) ∧
    (∀ p ∈ behaviorsByMode detectMode2, p.1.role = .sender ∧ p.2.role = .receiver) ∧
    (∀ p ∈ behaviorsByMode detectMode4, p.1.role = .sender ∧ p.2.role = .receiver) := by decide

/-- controller.go `analysis()`: `timeoutMs := max(cBehavior.SendDelayMs, vBehavior.SendDelayMs) + 5000;
    if cBehavior.ListenRandomPorts > 0 || vBehavior.ListenRandomPorts > 0 { timeoutMs += 30000 }` -/
def timeoutMsOf (a b : Beh) : Nat :=
  if a.listenRandomPorts > 0 ∨ b.listenRandomPorts > 0 then max a.sendDelayMs b.sendDelayMs + 5000 + 30000
  else max a.sendDelayMs b.sendDelayMs + 5000

/-- controller.go `analysis()`, `ReadTimeoutMs: timeoutMs - xBehavior.SendDelayMs` for each party: the party that is not
    the sender reads for at least the sender's send delay plus 5 s, the sender itself for at least
    5 s after its delay (natural-number subtraction: nothing underflows) -/
def RowTiming (a b : Beh) : Prop :=
  (a.role = .sender → timeoutMsOf a b - b.sendDelayMs ≥ a.sendDelayMs + 5000 ∧ timeoutMsOf a b - a.sendDelayMs ≥ 5000) ∧
  (b.role = .sender → timeoutMsOf a b - a.sendDelayMs ≥ b.sendDelayMs + 5000 ∧ timeoutMsOf a b - b.sendDelayMs ≥ 5000)

instance (a b : Beh) : Decidable (RowTiming a b) := by unfold RowTiming; exact inferInstance

/-- EVERY row of EVERY regenerated table, in either assignment of its two columns to client and
    visitor (the swap rules): the read timeouts `analysis()` derives cover the peer's send delay -/
theorem tables_timing : ∀ t ∈ allTables, ∀ p ∈ t, RowTiming p.1 p.2 ∧ RowTiming p.2 p.1 := by decide

/-! ## 2. The executable predicates (evaluated by the driver on the implementation's own responses) -/

def roleCompl (a b : Role) : Bool :=
  (a == .sender && b == .receiver) || (a == .receiver && b == .sender)

def rangeOk (r : Int × Int) : Bool := decide (1 ≤ r.1) && decide (r.1 ≤ r.2) && decide (r.2 ≤ 65535)

/-- the address splits and its port is a decimal in 1..65535 -/
def portValid (a : Str) : Bool :=
  match splitHostPort a with
  | some (_, p) =>
    match atoi p with
    | some n => decide (1 ≤ n) && decide (n ≤ 65535)
    | none => false
  | none => false

def addrsValid (l : List Str) : Bool := l.all portValid

/-- both parties are told about an error and get no instruction at all -/
def errPairOk (v c : Resp) : Bool :=
  v.error != .none && c.error != .none && v.sid == [] && c.sid == [] &&
  v.role == .none && c.role == .none && v.candidatePorts == [] && c.candidatePorts == [] &&
  v.candidateAddrs == [] && c.candidateAddrs == []

/-- a well-formed pair of instructions for session `sid`: same sid, same mode, complementary
    roles, each side gets the other side's (compacted) addresses -/
def instrOk (sid : Str) (vm : VMsg) (cm : CMsg) (v c : Resp) : Bool :=
  v.error == .none && c.error == .none && sid != [] && v.sid == sid && c.sid == sid &&
  v.mode == c.mode && roleCompl v.role c.role &&
  v.candidateAddrs == compact cm.mapped && c.candidateAddrs == compact vm.mapped &&
  v.assistedAddrs == compact cm.assisted && c.assistedAddrs == compact vm.assisted &&
  v.tid == vm.tid && c.tid == cm.tid && v.protocol == vm.protocol && c.protocol == vm.protocol

def rangesOk (v c : Resp) : Bool := (v.candidatePorts ++ c.candidatePorts).all rangeOk

/-- nathole.go `MakeHole`: `timeout := 5 * time.Second; if ReadTimeoutMs > 0 { timeout = ReadTimeoutMs ms }` -/
def effReadMs (ms : Nat) : Nat := if ms > 0 then ms else 5000

/-- controller.go `HandleVisitor`: the response of the party whose role is sender is held back by
    `time.Sleep(1 * time.Second)`; the other party gets its response at once -/
def senderHoldMs : Nat := 1000

/-- the instructions fit together IN TIME: the party that is not the sender starts reading when its
    response arrives; the sender gets its response `senderHoldMs` later, sleeps `SendDelayMs` and only
    then sends its first detect message.  The receiver must still be reading at that moment:
    its (effective) read timeout exceeds the sender's hold-back plus send delay.  (The demand is the
    weakest one that makes "follow the instructions ⇒ find each other" possible on a network without
    latency; `Controller.analysis` gives 5 s — or 35 s — more than the sender's delay: `analysis_timing`.) -/
def timingOk (v c : Resp) : Bool :=
  (v.role != .sender || decide (effReadMs c.readTimeoutMs > v.sendDelayMs + senderHoldMs)) &&
  (c.role != .sender || decide (effReadMs v.readTimeoutMs > c.sendDelayMs + senderHoldMs))

/-- clauses 1 and 4 without the port-range clause -/
def pairOk (sid : Str) (vm : VMsg) (cm : CMsg) (v c : Resp) : Bool :=
  errPairOk v c || instrOk sid vm cm v c

/-- the full statement: either an error pair, or instructions computed from valid addresses with
    valid port ranges (malformed / out-of-range addresses must give the error pair) that also fit
    together in time (`timingOk`) -/
def fullOk (sid : Str) (vm : VMsg) (cm : CMsg) (v c : Resp) : Bool :=
  errPairOk v c ||
  (instrOk sid vm cm v c && addrsValid vm.mapped && addrsValid cm.mapped && rangesOk v c && timingOk v c)

/-- `report`: what the driver demands of the implementation's own answer to a NatHoleReport.
    `frameSame` = between the snapshots taken before and after `HandleReport` nothing differs but
    the score list of the reported session's own analysis key (sessions, the lists of all other
    keys, the number of keys); a session that is not analysed (or unknown) moreover has no score
    list of its own.  A panic is judged by the engine before this predicate (prop=FAILS).
    Model side: `report_frame`, `report_not_analysed_noop`. -/
def reportOk (analysed ownScores frameSame : Bool) : Bool := frameSame && (analysed || !ownScores)

/-! ## 3. Recommendations: all histories -/

inductive AOp
  | recm (key : Str) (c v : Feature)           -- GetRecommandBehaviors
  | succ (key : Str) (mode index : Nat)        -- ReportSuccess (any numbers, also ones never recommended)
  | forget (key : Str)                         -- Clean

def applyA (A : Analyzer) : AOp → Analyzer
  | .recm k c v => (getRecommand A k c v).1
  | .succ k m i => analyzerReport A k m i
  | .forget k => analyzerForget A k

def runA (ops : List AOp) : Analyzer := ops.foldl applyA {}

/-- in every reachable analyzer state (any history of recommendations, success
    reports and clean-ups, any keys, any features) every stored (mode, index) indexes an existing
    table row. -/
theorem scores_valid (ops : List AOp) : AInv (runA ops) := by
  refine foldl_invariant ainv_init fun A op _ h => ?_
  cases op with
  | recm k c v => exact ainv_getRecommand h k c v
  | succ k m i => exact ainv_report h k m i
  | forget k => exact ainv_forget h k

theorem row_of_valid {mode index : Nat} (h : index < (behaviorsByMode mode).length) :
    behaviorByModeAndIndex mode index ∈ behaviorsByMode mode := by
  unfold behaviorByModeAndIndex
  split
  · next p hp => exact List.mem_of_getElem? hp
  · next hn => rw [List.getElem?_eq_none_iff] at hn; omega

theorem swapRule_cases (mode : Nat) (c : Feature) (ab : Beh × Beh) :
    swapRule mode c ab = ab ∨ swapRule mode c ab = (ab.2, ab.1) := by
  unfold swapRule
  repeat' split
  all_goals first | exact Or.inl rfl | exact Or.inr rfl

theorem complementary_symm {a b : Beh} (h : Complementary a b) : Complementary b a :=
  h.symm.imp And.symm And.symm

theorem swapRule_complementary (mode : Nat) (c : Feature) (ab : Beh × Beh)
    (h : Complementary ab.1 ab.2) : Complementary (swapRule mode c ab).1 (swapRule mode c ab).2 := by
  rcases swapRule_cases mode c ab with e | e <;> rw [e]
  · exact h
  · exact complementary_symm h

/-- whatever the analyzer has seen: the recommended pair is a row of the recommended mode's table, its two columns
    assigned to client and visitor by the swap rule -/
theorem getRecommand_row {A : Analyzer} (hA : AInv A) (key : Str) (c v : Feature) :
    ∃ ab ∈ behaviorsByMode (getRecommand A key c v).2.mode,
      (getRecommand A key c v).2.cBeh = (swapRule (getRecommand A key c v).2.mode c ab).1 ∧
      (getRecommand A key c v).2.vBeh = (swapRule (getRecommand A key c v).2.mode c ab).2 :=
  ⟨_, row_of_valid (getRecommand_index_lt hA key c v), rfl, rfl⟩

theorem getRecommand_complementary {A : Analyzer} (hA : AInv A) (key : Str) (c v : Feature) :
    Complementary (getRecommand A key c v).2.cBeh (getRecommand A key c v).2.vBeh := by
  obtain ⟨ab, hab, hc, hv⟩ := getRecommand_row hA key c v
  rw [hc, hv]
  exact swapRule_complementary _ c ab (tables_complementary _ (byMode_mem _) _ hab)

theorem getRecommand_timing {A : Analyzer} (hA : AInv A) (key : Str) (c v : Feature) :
    RowTiming (getRecommand A key c v).2.cBeh (getRecommand A key c v).2.vBeh := by
  obtain ⟨ab, hab, hc, hv⟩ := getRecommand_row hA key c v
  have ht := tables_timing _ (byMode_mem _) _ hab
  rcases swapRule_cases (getRecommand A key c v).2.mode c ab with e | e <;> rw [hc, hv, e]
  · exact ht.1
  · exact ht.2

/-- the recommendation indexes an existing row, whatever happened before -/
theorem recommand_row (ops : List AOp) (key : Str) (c v : Feature) :
    (getRecommand (runA ops) key c v).2.index <
      (behaviorsByMode (getRecommand (runA ops) key c v).2.mode).length :=
  getRecommand_index_lt (scores_valid ops) key c v

/-- for every feature pair, every key and every history: exactly one sender and one receiver -/
theorem recommand_complementary (ops : List AOp) (key : Str) (c v : Feature) :
    Complementary (getRecommand (runA ops) key c v).2.cBeh (getRecommand (runA ops) key c v).2.vBeh :=
  getRecommand_complementary (scores_valid ops) key c v

/-! ### role rules (from the comments in analysis.go: "HardNAT is always the sender" (mode 1),
    "HardNAT is always the receiver" (mode 2), "Regular ports changes is always the sender" (mode 4)) -/

/-- a row whose first column sends, handed out by a rule of the form "swap iff `p`": who sends -/
theorem roles_of_swap {ab : Beh × Beh} (hA : ab.1.role = .sender ∧ ab.2.role = .receiver) {p : Prop} [Decidable p]
    {cB vB : Beh} (hc : cB = (if p then (ab.2, ab.1) else ab).1) (hv : vB = (if p then (ab.2, ab.1) else ab).2) :
    (¬ p → cB.role = .sender ∧ vB.role = .receiver) ∧ (p → vB.role = .sender ∧ cB.role = .receiver) := by
  subst hc hv
  constructor
  · intro hp; rw [if_neg hp]; exact hA
  · intro hp; rw [if_pos hp]; exact hA

/-- mode 1: a hard client sends; an easy client listens and the visitor sends.  Hence whenever
    exactly one side is a hard NAT, the hard NAT is the sender. -/
theorem mode1_hard_sends (ops : List AOp) (key : Str) (c v : Feature)
    (hm : (getRecommand (runA ops) key c v).2.mode = detectMode1) :
    let r := (getRecommand (runA ops) key c v).2
    (c.natType = .hard → r.cBeh.role = .sender ∧ r.vBeh.role = .receiver) ∧
    (c.natType = .easy → r.vBeh.role = .sender ∧ r.cBeh.role = .receiver) := by
  obtain ⟨ab, hab, hc, hv⟩ := getRecommand_row (scores_valid ops) key c v
  rw [hm] at hab hc hv
  have h := roles_of_swap (modes124_A_sends.1 ab hab) (p := c.natType = .easy) hc hv
  exact ⟨fun hh => h.1 (by rw [hh]; decide), h.2⟩

/-- mode 2: a hard client listens (visitor sends); an easy client sends and the visitor listens -/
theorem mode2_hard_listens (ops : List AOp) (key : Str) (c v : Feature)
    (hm : (getRecommand (runA ops) key c v).2.mode = detectMode2) :
    let r := (getRecommand (runA ops) key c v).2
    (c.natType = .hard → r.cBeh.role = .receiver ∧ r.vBeh.role = .sender) ∧
    (c.natType = .easy → r.cBeh.role = .sender ∧ r.vBeh.role = .receiver) := by
  obtain ⟨ab, hab, hc, hv⟩ := getRecommand_row (scores_valid ops) key c v
  rw [hm] at hab hc hv
  have h := roles_of_swap (modes124_A_sends.2.1 ab hab) (p := c.natType = .hard) hc hv
  exact ⟨fun hh => (h.2 hh).symm, fun he => h.1 (by rw [he]; decide)⟩

/-- mode 4: the client sends iff its port changes are regular; otherwise the visitor sends.  Hence
    whenever exactly one side has regular port changes and it is the client, or the client has not,
    the sender is on the side the code treats as regular. -/
theorem mode4_regular_sends (ops : List AOp) (key : Str) (c v : Feature)
    (hm : (getRecommand (runA ops) key c v).2.mode = detectMode4) :
    let r := (getRecommand (runA ops) key c v).2
    (c.regular = true → r.cBeh.role = .sender ∧ r.vBeh.role = .receiver) ∧
    (c.regular = false → r.vBeh.role = .sender ∧ r.cBeh.role = .receiver) := by
  obtain ⟨ab, hab, hc, hv⟩ := getRecommand_row (scores_valid ops) key c v
  rw [hm] at hab hc hv
  have h := roles_of_swap (modes124_A_sends.2.2 ab hab) (p := (!c.regular) = true) hc hv
  exact ⟨fun hh => h.1 (by rw [hh]; decide), fun hf => h.2 (by rw [hf]; rfl)⟩

/-- the role rules as one executable predicate (evaluated by the driver on the implementation's
    recommendations): whenever exactly one side is the hard NAT it sends in mode 1 and listens in
    mode 2; whenever exactly one side has regular port changes it sends in mode 4 -/
def roleRulesOk (mode : Nat) (c v : Feature) (cr vr : Role) : Bool :=
  if mode = detectMode1 then
    (!(c.natType == .hard && v.natType == .easy) || cr == .sender) &&
    (!(c.natType == .easy && v.natType == .hard) || vr == .sender)
  else if mode = detectMode2 then
    (!(c.natType == .hard && v.natType == .easy) || cr == .receiver) &&
    (!(c.natType == .easy && v.natType == .hard) || vr == .receiver)
  else if mode = detectMode4 then
    (!(c.regular && !v.regular) || cr == .sender) &&
    (!(!c.regular && v.regular) || vr == .sender)
  else true

/-- the role rules hold for every feature pair, key and history -/
theorem role_rules_hold (ops : List AOp) (key : Str) (c v : Feature) :
    roleRulesOk (getRecommand (runA ops) key c v).2.mode c v
      (getRecommand (runA ops) key c v).2.cBeh.role (getRecommand (runA ops) key c v).2.vBeh.role = true := by
  unfold roleRulesOk
  split
  · next hm =>
    have h := mode1_hard_sends ops key c v hm
    cases hc : c.natType <;> simp [hc, h.1, h.2]
  · split
    · next hm =>
      have h := mode2_hard_listens ops key c v hm
      cases hc : c.natType <;> simp [hc, h.1, h.2]
    · split
      · next hm =>
        have h := mode4_regular_sends ops key c v hm
        cases hc : c.regular <;> simp [hc, h.1, h.2]
      · rfl

/-- non-vacuity: mode 1, 2 and 4 recommendations do occur -/
example : (getRecommand (runA []) [] { natType := .hard, behavior := .portChanged, regular := true } {}).2.mode = detectMode1 := by decide
example : (getRecommand (runA []) [] { natType := .hard, behavior := .portChanged } {}).2.mode = detectMode2 := by decide
example : (getRecommand (runA []) [] { natType := .hard, behavior := .portChanged, regular := true }
            { natType := .hard, behavior := .portChanged }).2.mode = detectMode4 := by decide

/-! ## 4. Port ranges -/

/-- core of `ports_in_range`: the address `getRangePorts` looks at either does not split (no range
    at all) or has a port in 1..65535; `difference ≥ -5` -/
theorem ports_in_range_core (addrs : List Str) (d : Int) (n : Nat) (hd : -5 ≤ d)
    (hv : ∀ a, addrs.getLast? = some a → portValid a = true ∨ splitHostPort a = none) :
    ∀ r ∈ getRangePorts addrs d n, rangeOk r = true := by
  intro r hr
  unfold getRangePorts at hr
  split at hr
  · cases hr
  · next hn =>
    split at hr
    · cases hr
    · next addr hlast =>
      split at hr
      · cases hr
      · next h ps hsplit =>
        split at hr
        · cases hr
        · next port hatoi =>
          rcases hv addr hlast with hpv | hnone
          · unfold portValid at hpv
            rw [hsplit] at hpv
            simp only [hatoi, Bool.and_eq_true, decide_eq_true_eq] at hpv
            simp only [List.mem_singleton] at hr
            subst hr
            simp only [rangeOk, Bool.and_eq_true, decide_eq_true_eq]
            have : (1 : Int) ≤ (n : Int) := by omega
            omega
          · rw [hsplit] at hnone; cases hnone

/-- for ports within 1..65535 (every address of the list) and a non-negative
    difference, every produced range satisfies 1 ≤ From ≤ To ≤ 65535 -/
theorem ports_in_range (addrs : List Str) (d : Int) (n : Nat) (hd : 0 ≤ d) (hv : addrsValid addrs = true) :
    ∀ r ∈ getRangePorts addrs d n, rangeOk r = true := by
  apply ports_in_range_core addrs d n (by omega)
  intro a ha
  left
  exact List.all_eq_true.mp hv a (List.mem_of_getLast? ha)

def addr70000 : Str := Str.ofString "1.2.3.4:70000"

/-- for unvalidated ports the statement is false: port 70000 gives From 69995 > To 65535 -/
theorem ports_out_of_range_witness :
    getRangePorts [addr70000] 0 10 = [(69995, 65535)] ∧
    ¬ (∀ r ∈ getRangePorts [addr70000] 0 10, rangeOk r = true) := by
  decide +kernel

/-- non-vacuity of `ports_in_range` -/
example : addrsValid [Str.ofString "1.2.3.4:65533"] = true ∧
    getRangePorts [Str.ofString "1.2.3.4:65533"] 2 10 = [(65526, 65535)] := by decide +kernel

/-! ## 5. `Controller.analysis`: the two responses -/

theorem roleCompl_of {a b : Beh} (h : Complementary a b) : roleCompl a.role b.role = true := by
  rcases h with h | h <;> simp [roleCompl, h.1, h.2]

/-- whatever the analyzer has seen before (`AInv`, which `scores_valid` gives for every history),
    a successful analysis (over any classifier) produces a well-formed pair: same sid, same mode,
    complementary roles, each side gets the other side's addresses; the analyzer invariant is kept -/
theorem analysisWith_pair_ok (cls : List Str → List Str → Option Feature)
    (A A' : Analyzer) (sid : Str) (vm : VMsg) (cm : CMsg) (o : AnalysisOut)
    (hA : AInv A) (hsid : sid ≠ []) (h : analysisWith cls A sid vm cm = .ok (A', o)) :
    instrOk sid vm cm o.vResp o.cResp = true ∧ AInv A' ∧ o.vResp.mode = o.mode ∧
    o.index < (behaviorsByMode o.mode).length := by
  obtain ⟨cf, vf, _, _, rfl, rfl⟩ := analysisWith_ok h
  have hc' := roleCompl_of (complementary_symm (getRecommand_complementary hA (analysisKey vm vf cm cf) cf vf))
  refine ⟨?_, ainv_getRecommand hA _ cf vf, rfl, getRecommand_index_lt hA _ cf vf⟩
  simp only [instrOk, hc', beq_self_eq_true, Bool.and_true, Bool.true_and, bne_iff_ne, ne_eq]
  simp [hsid]

/-- the current `Controller.analysis` -/
theorem analysis_pair_ok (A A' : Analyzer) (sid : Str) (vm : VMsg) (cm : CMsg) (o : AnalysisOut)
    (hA : AInv A) (hsid : sid ≠ []) (h : analysis A sid vm cm = .ok (A', o)) :
    instrOk sid vm cm o.vResp o.cResp = true ∧ AInv A' ∧ o.vResp.mode = o.mode ∧
    o.index < (behaviorsByMode o.mode).length :=
  analysisWith_pair_ok classify A A' sid vm cm o hA hsid h

/-- an analysis error is told to both parties as an error pair without any instruction -/
theorem analysis_error_both (A : Analyzer) (sid : Str) (vm : VMsg) (cm : CMsg) (e : ErrKind)
    (h : analysis A sid vm cm = .error e) :
    e ≠ .none ∧ errPairOk (errResp vm.tid e) (errResp cm.tid e) = true := by
  have he : e ≠ .none := by
    rcases analysisWith_error h with rfl | rfl <;> decide
  refine ⟨he, ?_⟩
  simp [errPairOk, errResp, he]

/-- the loop validates EVERY entry, wherever the NAT type is decided: it fails exactly when some
    entry is not `portValid` — the running state (base IP, "IP changed", "port changed") has no
    influence on acceptance -/
theorem classifyLoop_isSome (loc : List Str) : ∀ (addrs : List Str) (st : ClsSt),
    (classifyLoop loc addrs st).isSome = addrsValid addrs := by
  intro addrs
  induction addrs with
  | nil => intro st; rfl
  | cons x r ih =>
    intro st
    have hall : addrsValid (x :: r) = (portValid x && addrsValid r) := by simp [addrsValid]
    rw [hall]
    simp only [classifyLoop, portValid]
    cases hsp : splitHostPort x with
    | none => simp
    | some ipp =>
      obtain ⟨ip, port⟩ := ipp
      simp only
      cases hpn : atoi port with
      | none => simp
      | some pn =>
        simp only
        by_cases hr : pn < 1 ∨ pn > 65535
        · have hf : (decide (1 ≤ pn) && decide (pn ≤ 65535)) = false := by
            simp only [Bool.and_eq_false_iff, decide_eq_false_iff_not]; omega
          simp [hr, hf]
        · have ht : (decide (1 ≤ pn) && decide (pn ≤ 65535)) = true := by
            simp only [Bool.and_eq_true, decide_eq_true_eq]; omega
          simp only [hr, if_false, ht, Bool.true_and]
          split <;> exact ih _

/-- `ClassifyNATFeature` succeeds exactly on lists of at least two entries ALL of which split and
    carry a decimal port in 1..65535 -/
theorem classify_some_iff (addrs loc : List Str) :
    (classify addrs loc).isSome = (decide (2 ≤ addrs.length) && addrsValid addrs) := by
  unfold classify
  by_cases hl : addrs.length ≤ 1
  · have : decide (2 ≤ addrs.length) = false := by simp only [decide_eq_false_iff_not]; omega
    simp [hl, this]
  · have : decide (2 ≤ addrs.length) = true := by simp only [decide_eq_true_eq]; omega
    simp only [hl, if_false, this, Bool.true_and]
    rw [← classifyLoop_isSome loc addrs {}]
    cases classifyLoop loc addrs {} <;> rfl

/-- f51e354: `ClassifyNATFeature` only accepts addresses that split and whose port is a decimal in 1..65535 -/
theorem classify_ok_valid {addrs loc : List Str} {f : Feature} (h : classify addrs loc = some f) :
    addrsValid addrs = true := by
  have hs := classify_some_iff addrs loc
  rw [h] at hs
  exact (Bool.and_eq_true_iff.mp hs.symm).2

/-- any malformed / unparsable / out-of-range entry ⇒ error, at EVERY position of the list and
    whatever the entries before it decided (same address, port-only change, IP + port change) -/
theorem classify_malformed_error (pre post : List Str) (a : Str) (loc : List Str) (hbad : portValid a = false) :
    classify (pre ++ a :: post) loc = none := by
  have h := classify_some_iff (pre ++ a :: post) loc
  have hv : addrsValid (pre ++ a :: post) = false := by
    simp [addrsValid, hbad]
  rw [hv, Bool.and_false] at h
  cases hc : classify (pre ++ a :: post) loc with
  | none => rfl
  | some f => rw [hc] at h; cases h

example : classify [Str.ofString "198.51.100.7:4000", Str.ofString "198.51.100.9:4010", Str.ofString "198.51.100.9:70000"] [] = none := by
  decide +kernel
example : (classify [Str.ofString "198.51.100.7:4000", Str.ofString "198.51.100.9:4010", Str.ofString "198.51.100.9:4011"] []).map (·.behavior)
    = some .bothChanged := by decide +kernel

/-- a mapped address on either side that is malformed (does not split, port not a decimal
    integer) or, with f51e354, has a port outside 1..65535 makes the analysis fail — both
    parties then get the error pair (`analysis_error_both`), never an instruction -/
theorem analysis_malformed_error (A : Analyzer) (sid : Str) (vm : VMsg) (cm : CMsg) (a : Str)
    (hmem : a ∈ vm.mapped ∨ a ∈ cm.mapped) (hbad : portValid a = false) :
    ∃ e, analysis A sid vm cm = .error e := by
  have hcls : ∀ l loc, a ∈ l → classify l loc = none := by
    intro l loc hl
    cases hc : classify l loc with
    | none => rfl
    | some f =>
      have := List.all_eq_true.mp (classify_ok_valid hc) a hl
      rw [hbad] at this; cases this
  unfold analysis analysisWith
  rcases hmem with hv | hc
  · split
    · exact ⟨_, rfl⟩
    · rw [hcls vm.mapped _ hv]; exact ⟨_, rfl⟩
  · rw [hcls cm.mapped _ hc]; exact ⟨_, rfl⟩

/-- what `timingOk` needs of the two behaviours `analysis()` works with -/
theorem timingOk_of_row (v c : Resp) (cB vB : Beh) (h : RowTiming cB vB)
    (hvr : v.role = vB.role) (hcr : c.role = cB.role)
    (hvd : v.sendDelayMs = vB.sendDelayMs) (hcd : c.sendDelayMs = cB.sendDelayMs)
    (hvt : v.readTimeoutMs = timeoutMsOf cB vB - vB.sendDelayMs)
    (hct : c.readTimeoutMs = timeoutMsOf cB vB - cB.sendDelayMs) : timingOk v c = true := by
  obtain ⟨h1, h2⟩ := h
  simp only [timingOk, Bool.and_eq_true, Bool.or_eq_true, bne_iff_ne, ne_eq, decide_eq_true_eq,
    effReadMs, senderHoldMs, hvr, hcr, hvd, hcd, hvt, hct]
  constructor
  · by_cases hs : vB.role = .sender
    · right
      have := (h2 hs).1
      split <;> omega
    · left; exact hs
  · by_cases hs : cB.role = .sender
    · right
      have := (h1 hs).1
      split <;> omega
    · left; exact hs

/-- instruction timing, ALL histories: whatever the analyzer has seen before, whichever table row
    is recommended (`getRecommand_index_lt`) and however the swap rules assign its columns, the party that
    is not the sender is told to read for longer than the sender is held back and told to wait
    before its first detect message (by the 5 s / 35 s `analysis()` adds: `tables_timing`) -/
theorem analysisWith_timing (cls : List Str → List Str → Option Feature)
    (A A' : Analyzer) (sid : Str) (vm : VMsg) (cm : CMsg) (o : AnalysisOut)
    (hA : AInv A) (h : analysisWith cls A sid vm cm = .ok (A', o)) :
    timingOk o.vResp o.cResp = true := by
  obtain ⟨cf, vf, _, _, _, rfl⟩ := analysisWith_ok h
  exact timingOk_of_row _ _ _ _ (getRecommand_timing hA (analysisKey vm vf cm cf) cf vf) rfl rfl rfl rfl rfl rfl

theorem analysis_timing (A A' : Analyzer) (sid : Str) (vm : VMsg) (cm : CMsg) (o : AnalysisOut)
    (hA : AInv A) (h : analysis A sid vm cm = .ok (A', o)) : timingOk o.vResp o.cResp = true :=
  analysisWith_timing classify A A' sid vm cm o hA h

/-- the response clause at full strength (over a classifier) -/
def AnalysisFullFor (cls : List Str → List Str → Option Feature) : Prop :=
  ∀ (A A' : Analyzer) (sid : Str) (vm : VMsg) (cm : CMsg) (o : AnalysisOut),
    AInv A → sid ≠ [] → analysisWith cls A sid vm cm = .ok (A', o) → fullOk sid vm cm o.vResp o.cResp = true

/-- generic core: with every mapped port inside 1..65535 the pair is fully correct, port ranges
    included -/
theorem analysis_full_partial (cls : List Str → List Str → Option Feature)
    (hdiff : ∀ l loc f, cls l loc = some f → 0 ≤ f.portsDifference)
    (A A' : Analyzer) (sid : Str) (vm : VMsg) (cm : CMsg) (o : AnalysisOut)
    (hA : AInv A) (hsid : sid ≠ []) (hv : addrsValid vm.mapped = true) (hc : addrsValid cm.mapped = true)
    (h : analysisWith cls A sid vm cm = .ok (A', o)) :
    fullOk sid vm cm o.vResp o.cResp = true := by
  have hpair := (analysisWith_pair_ok cls A A' sid vm cm o hA hsid h).1
  have htime := analysisWith_timing cls A A' sid vm cm o hA h
  -- `getRangePorts` sees the slice `slices.Compact` left behind: its last entry is a valid address or ""
  have hrange (l : List Str) (d : Int) (n : Nat) (hl : addrsValid l = true) (hd : 0 ≤ d) :
      ∀ r ∈ getRangePorts (compactZeroed l) d n, rangeOk r = true :=
    ports_in_range_core _ d n (by omega) fun a ha =>
      (getLast_compactZeroed ha).imp (List.all_eq_true.mp hl a) fun (he : a = []) => he ▸ splitHostPort_nil
  obtain ⟨cf, vf, hcf, hvf, _, rfl⟩ := analysisWith_ok h
  simp only [fullOk, hpair, hv, hc, htime, Bool.true_and, Bool.and_true, Bool.or_eq_true]
  right
  simp only [rangesOk, List.all_eq_true, List.mem_append]
  intro r hr
  rcases hr with hr | hr
  · exact hrange _ _ _ hc (hdiff _ _ _ hcf) r hr
  · exact hrange _ _ _ hv (hdiff _ _ _ hvf) r hr

/-- FULL statement for the current code (f51e354), no hypothesis on the ports: every successful
    analysis was computed from validated addresses and all its port ranges are inside 1..65535
    with From ≤ To; anything else is answered with the error pair (`analysis_malformed_error`) -/
theorem analysis_full : AnalysisFullFor classify := by
  intro A A' sid vm cm o hA hsid h
  obtain ⟨cf, vf, hcf, hvf, _⟩ := analysisWith_ok h
  exact analysis_full_partial classify (fun l loc f hf => classify_diff_nonneg hf)
    A A' sid vm cm o hA hsid (classify_ok_valid hvf) (classify_ok_valid hcf) h

def vmW : VMsg := { tid := [118], mapped := [Str.ofString "1.2.3.4:80", Str.ofString "1.2.3.4:80"] }
def cmW : CMsg := { tid := [99], sid := [115],
                    mapped := [Str.ofString "9.9.9.9:70000", Str.ofString "9.9.9.9:70001"] }

/-- PINNED TREE (before f51e354): the full statement was false — ports 70000/70001 were
    accepted and the visitor was told to probe the range 69995..65535 -/
theorem analysis_oor_witness : ¬ AnalysisFullFor classifyOld := by
  intro h
  have hw : (match analysisOld {} [115] vmW cmW with
      | .ok (_, o) => fullOk [115] vmW cmW o.vResp o.cResp
      | .error _ => true) = false := by decide +kernel
  match hh : analysisOld {} [115] vmW cmW with
  | .ok (A', o) =>
    rw [hh] at hw
    exact Bool.noConfusion ((h {} A' [115] vmW cmW o ainv_init (by decide) hh).symm.trans hw)
  | .error e => rw [hh] at hw; cases hw

/-- the input of `analysis_oor_witness` (ports 70000 / 70001) on the repaired code (f51e354) is answered with the error pair -/
theorem analysis_oor_now_error :
    (match analysis {} [115] vmW cmW with
     | .error e => decide (e = .classifyClient) | .ok _ => false) = true := by decide +kernel

/-! ## 6. Controller sessions: small-step model, all interleavings -/

def handlerOf : Label → Option Str
  | .notify sid | .notifyTimeout sid | .wake sid | .timeout sid | .sendV sid | .sendC sid | .sleepDone sid => some sid
  | _ => none

def phaseRank : Phase → Nat
  | .notifying _ => 6
  | .waiting => 5
  | .responding _ _ false false => 4
  | .responding _ _ true false => 3
  | .responding _ _ false true => 3
  | .responding _ _ true true => 2
  | .sleeping => 1

def rank (s : State) (sid : Str) : Nat :=
  match aget s.sessions sid with
  | none => 0
  | some x => phaseRank x.phase

theorem phaseRank_bounds (p : Phase) : 1 ≤ phaseRank p ∧ phaseRank p ≤ 6 := by
  cases p
  case responding vr cr v c => cases v <;> cases c <;> simp [phaseRank]
  all_goals simp [phaseRank]

/-- the session a label addresses: the one its handler runs for, the one a NatHoleClient names, the one a visitor
    request would create -/
def target : Label → Option Str
  | .clientMsg m _ => some m.sid
  | .visitorLookup sid _ _ _ => some sid
  | l => handlerOf l

section
variable {s s' : State} {l : Label} {o : Out}

theorem step_untargeted (h : step s l = some (s', o)) (hl : target l = none) :
    s'.sessions = s.sessions := by
  cases step_spec h
  all_goals first | rfl | cases hl

theorem finishSend_rank (sess : Session) (vr cr : Resp) (v c : Bool) :
    phaseRank (finishSend sess vr cr true c).phase < phaseRank (.responding vr cr false c) ∧
    phaseRank (finishSend sess vr cr v true).phase < phaseRank (.responding vr cr v false) := by
  cases v <;> cases c <;> simp [finishSend, phaseRank]

theorem step_frame {k : Str} (h : step s l = some (s', o))
    (hk : target l ≠ some k) : aget s'.sessions k = aget s.sessions k := by
  have put (sid : Str) (x : Session) (hne : some sid ≠ some k) : aget (aput s.sessions sid x) k = aget s.sessions k := by
    rw [aget_aput, if_neg fun e => hne (congrArg some e)]
  have del (sid : Str) (hne : some sid ≠ some k) : aget (adel s.sessions sid) k = aget s.sessions k := by
    rw [aget_adel, if_neg fun e => hne (congrArg some e)]
  cases step_spec h with
  | created | client | notify | analysed | analysisFailed | sendV | sendC => exact put _ _ hk
  | notifyTimeout | timeout | sleepDone => exact del _ hk
  | _ => rfl

end

theorem rank_put {s s' : State} {k : Str} {x : Session} (h : s'.sessions = aput s.sessions k x) (sid : Str) :
    rank s' sid = if k = sid then phaseRank x.phase else rank s sid := by
  simp only [rank, h, aget_aput]
  by_cases e : k = sid <;> simp only [e, if_true, if_false]

theorem rank_del {s s' : State} {k : Str} (h : s'.sessions = adel s.sessions k) (sid : Str) :
    rank s' sid = if k = sid then 0 else rank s sid := by
  simp only [rank, h, aget_adel]
  by_cases e : k = sid <;> simp only [e, if_true, if_false]

theorem rank_of_get {s : State} {sid : Str} {x : Session} (h : aget s.sessions sid = some x) :
    rank s sid = phaseRank x.phase := by simp only [rank, h]

/-- every step of a session's own handler strictly lowers its rank -/
theorem handler_rank_decreases (s s' : State) (l : Label) (o : Out) (sid : Str)
    (hl : handlerOf l = some sid) (h : step s l = some (s', o)) : rank s' sid < rank s sid := by
  cases step_spec h with
  | notify hs hp =>
    cases hl
    rw [rank_put rfl, if_pos rfl, rank_of_get hs, hp]
    exact Nat.lt_succ_self 5
  | analysed hs hp | analysisFailed hs hp =>
    cases hl
    rw [rank_put rfl, if_pos rfl, rank_of_get hs, hp]
    exact Nat.lt_succ_self 4
  | sendV hs hp =>
    cases hl
    rw [rank_put rfl, if_pos rfl, rank_of_get hs, hp]
    exact (finishSend_rank _ _ _ false _).1
  | sendC hs hp =>
    cases hl
    rw [rank_put rfl, if_pos rfl, rank_of_get hs, hp]
    exact (finishSend_rank _ _ _ _ false).2
  | notifyTimeout hs | timeout hs | sleepDone hs =>
    cases hl
    rw [rank_del rfl, if_pos rfl, rank_of_get hs]
    exact (phaseRank_bounds _).1
  | _ => cases hl

/-- no label other than the creating `visitorLookup sid …` raises the rank of `sid` -/
theorem rank_not_increased (s s' : State) (l : Label) (o : Out) (sid : Str)
    (hnl : ∀ m t u, l ≠ .visitorLookup sid m t u) (h : step s l = some (s', o)) :
    rank s' sid ≤ rank s sid := by
  by_cases ht : target l = some sid
  · cases step_spec h with
    | created => cases ht; exact absurd rfl (hnl _ _ _)
    | refused | clientUnknown => exact Nat.le_refl _
    | client hs => cases ht; rw [rank_put rfl, if_pos rfl, rank_of_get hs]; exact Nat.le_refl _
    | _ => exact Nat.le_of_lt (handler_rank_decreases s _ _ _ sid (by exact ht) h)
  · simp only [rank, step_frame h ht, Nat.le_refl]

def handlerCount (sid : Str) (ls : List Label) : Nat := (ls.filter (fun l => handlerOf l == some sid)).length

/-- bounded state, all interleavings: along any enabled label sequence that does not re-create
    `sid`, every step of `sid`'s own handler lowers its rank and nothing raises it -/
theorem sessions_deleted (sid : Str) : ∀ (ls : List Label) (s s' : State) (o : Out),
    (∀ l ∈ ls, ∀ m t u, l ≠ .visitorLookup sid m t u) → run s ls = some (s', o) →
    rank s' sid + handlerCount sid ls ≤ rank s sid := by
  intro ls
  induction ls with
  | nil => intro s s' o _ h; cases h; exact Nat.le_refl _
  | cons l ls ih =>
    intro s s' o hnl h
    obtain ⟨s1, o1, o2, hstep, hrun, _⟩ := run_cons h
    have ih' := ih s1 s' o2 (fun l' hl' => hnl l' (List.mem_cons_of_mem _ hl')) hrun
    by_cases hh : handlerOf l = some sid
    · have := handler_rank_decreases s s1 l o1 sid hh hstep
      have hc : handlerCount sid (l :: ls) = handlerCount sid ls + 1 := by
        simp [handlerCount, List.filter, hh]
      omega
    · have := rank_not_increased s s1 l o1 sid (hnl l List.mem_cons_self) hstep
      have hc : handlerCount sid (l :: ls) = handlerCount sid ls := by
        have : (handlerOf l == some sid) = false := by simp [hh]
        simp [handlerCount, List.filter, this]
      omega

theorem rank_le_six (s : State) (sid : Str) : rank s sid ≤ 6 := by
  unfold rank
  split
  · exact Nat.zero_le 6
  · exact (phaseRank_bounds _).2

theorem rank_zero_iff (s : State) (sid : Str) : rank s sid = 0 ↔ aget s.sessions sid = none := by
  unfold rank
  split
  · next h => simp [h]
  · next x h =>
    have := (phaseRank_bounds x.phase).1
    simp only [h, reduceCtorEq, iff_false]
    omega

/-! ### creation, addressing, unknown sids -/

/-- a session appears only through `visitorLookup` for a registered proxy name, with a correct
    signature (`SignKey = md5(sk ++ timestamp)`) AND a user on the proxy's allow list (C08 fix);
    every other label keeps the key set or shrinks it -/
theorem session_created_only_signed (s s' : State) (l : Label) (o : Out) (sid : Str)
    (h : step s l = some (s', o)) (hnew : aget s.sessions sid = none) (hs' : aget s'.sessions sid ≠ none) :
    ∃ m t u cfg, l = .visitorLookup sid m t u ∧ aget s.cfgs m.proxyName = some cfg ∧
      m.signed = authInput cfg.sk m.timestamp ∧ userAllowed cfg.allow u = true ∧ o = [] := by
  by_cases ht : target l = some sid
  · cases step_spec h with
    | created _ hcfg hsig hal => cases ht; exact ⟨_, _, _, _, rfl, hcfg, hsig, hal, rfl⟩
    | client hs | notify hs | notifyTimeout hs | analysed hs | analysisFailed hs | timeout hs | sendV hs | sendC hs
    | sleepDone hs => cases ht; rw [hnew] at hs; cases hs
    | _ => exact absurd hnew hs'
  · rw [step_frame h ht] at hs'; exact absurd hnew hs'

/-- who may be sent something by a step: the requester of a refused / pre-check request, the
    visitor of a session whose notify send timed out (8d80cd3: an error, no sid), or — for a
    stored session — its visitor transporter (sendV) or the transporter that submitted the
    session's current NatHoleClient (sendC); the message is the response built for that party -/
def Involved (s : State) (l : Label) (t : Nat) (r : Resp) : Prop :=
  (∃ m u, l = .precheck m t u ∧ r.sid = []) ∨
  (∃ sid m u, l = .visitorLookup sid m t u ∧ r.sid = [] ∧ r.error ≠ .none) ∨
  (∃ sid sess, aget s.sessions sid = some sess ∧ l = .notifyTimeout sid ∧ t = sess.vT ∧ r.sid = [] ∧ r.error ≠ .none) ∨
  (∃ sid sess vr cr v c, aget s.sessions sid = some sess ∧ sess.phase = .responding vr cr v c ∧
     ((l = .sendV sid ∧ t = sess.vT ∧ r = vr ∧ v = false) ∨ (l = .sendC sid ∧ sess.cT = some t ∧ r = cr ∧ c = false)))

theorem responses_only_to_involved (s s' : State) (l : Label) (o : Out) (t : Nat) (r : Resp)
    (h : step s l = some (s', o)) (hm : (t, r) ∈ o) : Involved s l t r := by
  cases step_spec h with
  | precheck e =>
    cases List.mem_singleton.mp hm
    exact Or.inl ⟨_, _, rfl, rfl⟩
  | refused e _ he =>
    cases List.mem_singleton.mp hm
    exact Or.inr (Or.inl ⟨_, _, _, rfl, rfl, he⟩)
  | notifyTimeout hs =>
    cases List.mem_singleton.mp hm
    exact Or.inr (Or.inr (Or.inl ⟨_, _, hs, rfl, rfl, rfl, by simp [errResp]⟩))
  | sendV hs hp =>
    cases List.mem_singleton.mp hm
    exact Or.inr (Or.inr (Or.inr ⟨_, _, _, _, _, _, hs, hp, Or.inl ⟨rfl, rfl, rfl, rfl⟩⟩))
  | sendC hs hp ht =>
    cases List.mem_singleton.mp hm
    exact Or.inr (Or.inr (Or.inr ⟨_, _, _, _, _, _, hs, hp, Or.inr ⟨rfl, ht, rfl, rfl⟩⟩))
  | _ => cases hm

/-- a client message or a report naming an unknown session id changes nothing and sends nothing -/
theorem unknown_sid_noop (s : State) (m : CMsg) (t : Nat) (b : Bool) (h : aget s.sessions m.sid = none) :
    step s (.clientMsg m t) = some (s, []) ∧ step s (.report m.sid b) = some (s, []) := by
  simp [step, h]

/-! ### progress: no handler is ever stuck (8d80cd3) -/

/-- which handler step is enabled in which phase; with 8d80cd3 the notify phase always has
    the timeout alternative, whatever the state of the owner's channel.  (`cT ≠ none` in
    the responding phase is an invariant of reachable states, see `wf_run`.) -/
theorem handler_progress (s : State) (sid : Str) (x : Session) (h : aget s.sessions sid = some x) :
    (x.phase = .waiting → (step s (.timeout sid)).isSome) ∧
    (x.phase = .sleeping → (step s (.sleepDone sid)).isSome) ∧
    (∀ ch, x.phase = .notifying ch → (step s (.notifyTimeout sid)).isSome) ∧
    (∀ vr cr c, x.phase = .responding vr cr false c → (step s (.sendV sid)).isSome) ∧
    (∀ vr cr v, x.phase = .responding vr cr v false → x.cT ≠ none → (step s (.sendC sid)).isSome) := by
  refine ⟨?_, ?_, ?_, ?_, ?_⟩
  · intro hp; simp [step, h, hp]
  · intro hp; simp [step, h, hp]
  · intro ch hp; simp [step, h, hp]
  · intro vr cr c hp; simp [step, h, hp]
  · intro vr cr v hp hc
    cases hct : x.cT with
    | none => exact absurd hct hc
    | some t => simp [step, h, hp, hct]

/-- invariant of reachable states: a session whose responses are being sent has a client
    transporter, and the two "sent" flags are never both set (that state is `sleeping`) -/
def WF (s : State) : Prop :=
  ∀ sid x, aget s.sessions sid = some x →
    ∀ vr cr v c, x.phase = .responding vr cr v c → x.cT ≠ none ∧ (v = false ∨ c = false)

theorem wf_init : WF {} := by intro sid x h; simp [aget] at h

theorem wf_same {s : State} (hw : WF s) (cf : List (Str × Cfg)) (A : Analyzer) (n : Nat) :
    WF { cfgs := cf, sessions := s.sessions, analyzer := A, nextChan := n } := hw

theorem wf_step (s s' : State) (l : Label) (o : Out) (hw : WF s) (h : step s l = some (s', o)) : WF s' := by
  cases step_spec h with
  | created | notify => exact all_aput hw _ (fun vr cr v c hp => by cases hp)
  | client hs => exact all_aput hw _ (fun vr cr v c hp => ⟨by simp, (hw _ _ hs vr cr v c hp).2⟩)
  | analysed _ _ _ hct | analysisFailed _ _ _ hct =>
    refine all_aput hw _ (fun vr cr v c hp => ?_)
    cases hp
    exact ⟨by simp [hct], Or.inl rfl⟩
  | sendV hs hp =>
    refine all_aput hw _ (fun vr' cr' v' c' hp' => ?_)
    obtain ⟨_, _, rfl, rfl, hvc⟩ := finishSend_responding hp'
    exact ⟨by rw [finishSend_cT]; exact (hw _ _ hs _ _ _ _ hp).1, Or.inr (by simpa using hvc)⟩
  | sendC hs hp ht =>
    refine all_aput hw _ (fun vr' cr' v' c' hp' => ?_)
    obtain ⟨_, _, rfl, rfl, hvc⟩ := finishSend_responding hp'
    exact ⟨by simp [finishSend_cT, ht], Or.inl (by simpa using hvc)⟩
  | notifyTimeout | timeout | sleepDone => exact all_adel hw _
  | _ => exact hw

theorem wf_run : ∀ (ls : List Label) (s s' : State) (o : Out), WF s → run s ls = some (s', o) → WF s' :=
  run_keeps wf_step

/-- FULL progress statement for the repaired code (8d80cd3): in every state reachable from the initial one
    by any label sequence, every stored session has an enabled step of its own handler, whatever
    the state of the owner's channel.  With `sessions_deleted` (each such step lowers the rank,
    nothing raises it, rank ≤ 6): under fair scheduling of its handler every inserted session is
    deleted after at most 6 handler steps. -/
theorem handler_never_stuck (ls : List Label) (s : State) (o : Out) (sid : Str) (x : Session)
    (hr : run {} ls = some (s, o)) (hx : aget s.sessions sid = some x) :
    ∃ l, handlerOf l = some sid ∧ (step s l).isSome = true := by
  have hw := wf_run ls {} s o wf_init hr
  have hp := handler_progress s sid x hx
  cases hph : x.phase with
  | notifying ch => exact ⟨.notifyTimeout sid, rfl, hp.2.2.1 ch hph⟩
  | waiting => exact ⟨.timeout sid, rfl, hp.1 hph⟩
  | sleeping => exact ⟨.sleepDone sid, rfl, hp.2.1 hph⟩
  | responding vr cr v c =>
    have hwf := hw sid x hx vr cr v c hph
    cases v with
    | false => exact ⟨.sendV sid, rfl, hp.2.2.2.1 vr cr c hph⟩
    | true =>
      cases c with
      | false => exact ⟨.sendC sid, rfl, hp.2.2.2.2 vr cr true hph hwf.1⟩
      | true => rcases hwf.2 with h | h <;> cases h

/-! ### reports: enabled in every state, change nothing but one score list (all interleavings)

  `HandleReport` runs on its own goroutine of whichever control sent the NatHoleReport; the sid is
  known to the owner from the NatHoleSid notification on, i.e. before any analysis.  So a report
  may meet its session in EVERY phase: `notifying`, `waiting` (no NatHoleClient analysed yet),
  `responding` / `sleeping` after a successful analysis, `responding` / `sleeping` after a FAILED
  analysis (error pair, the session is kept for the report window), or not at all. -/

/-- the label is enabled in EVERY state, whatever phase the named session is in, stored or not
    (the model is total; for the real code the nat engine turns a panic into prop=FAILS) -/
theorem report_enabled (s : State) (sid : Str) (b : Bool) : (step s (.report sid b)).isSome = true := by
  simp only [step]
  split
  · rfl
  · split <;> rfl

/-- a report sends nothing and changes neither the sessions (so no rank: it can neither finish nor
    prolong a session) nor the registered proxies; in the analyzer only the score list stored under
    the key of the reported session can differ -/
theorem report_frame (s s' : State) (sid : Str) (b : Bool) (o : Out)
    (h : step s (.report sid b) = some (s', o)) :
    o = [] ∧ s'.sessions = s.sessions ∧ s'.cfgs = s.cfgs ∧ s'.nextChan = s.nextChan ∧
    ∀ k, (∀ x, aget s.sessions sid = some x → x.key ≠ k) →
      aget s'.analyzer.records k = aget s.analyzer.records k := by
  cases step_spec h with
  | reportNoop => exact ⟨rfl, rfl, rfl, rfl, fun _ _ => rfl⟩
  | reported hs => exact ⟨rfl, rfl, rfl, rfl, fun k hk => by rw [aget_analyzerReport, if_neg (hk _ hs)]⟩

theorem report_no_leak (s s' : State) (sid sid' : Str) (b : Bool) (o : Out)
    (h : step s (.report sid b) = some (s', o)) : rank s' sid' = rank s sid' := by
  have hf := report_frame s s' sid b o h
  simp only [rank, hf.2.1]

/-- `Success == false` is a no-op -/
theorem report_failure_noop (s : State) (sid : Str) : step s (.report sid false) = some (s, []) := by
  simp only [step]
  split
  · rfl
  · simp

/-- `ReportSuccess` only ever changes a score: the (mode, index) rows of a list stay what they are -/
theorem reportSuccess_rows (m i : Nat) : ∀ l : List Score,
    (reportSuccess m i l).map (fun s => (s.mode, s.index)) = l.map (fun s => (s.mode, s.index)) :=
  shape_reportSuccess m i

/-- for a stored session a successful report rewrites exactly the score list of the session's key
    by `ReportSuccess(mode, index)` (if that key has a list at all) -/
theorem report_score_only (s s' : State) (sid : Str) (x : Session) (o : Out)
    (hx : aget s.sessions sid = some x) (h : step s (.report sid true) = some (s', o)) :
    aget s'.analyzer.records x.key = (aget s.analyzer.records x.key).map (reportSuccess x.mode x.index) := by
  simp only [step, hx] at h
  cases h
  rw [aget_analyzerReport, if_pos rfl]

theorem featStr_ne_nil (f : Feature) : featStr f ≠ [] := by
  intro h
  have hl : (featStr f).length = 0 := by rw [h]; rfl
  simp only [featStr, List.length_append] at hl
  have : (if f.regular = true then Str.ofString "true" else Str.ofString "false").length ≥ 4 := by
    cases f.regular <;> decide +kernel
  omega

/-- the analysis key (what `genAnalysisKey` hashes) is never empty -/
theorem analysisKey_ne_nil (vm : VMsg) (vf : Feature) (cm : CMsg) (cf : Feature) : analysisKey vm vf cm cf ≠ [] := by
  intro h
  simp only [analysisKey, List.append_eq_nil_iff] at h
  exact featStr_ne_nil cf h.2

/-- no successful analysis ran for the session yet: it is `notifying` or `waiting`, or its analysis failed (error pair) -/
def NotAnalysed (x : Session) : Prop :=
  x.phase = .waiting ∨ (∃ ch, x.phase = .notifying ch) ∨ (∃ vr cr v c, x.phase = .responding vr cr v c ∧ vr.error ≠ .none)

/-- invariant of reachable states: the analyzer holds nothing under the empty key, and a session
    carries an analysis key only once a SUCCESSFUL analysis ran for it -/
def KInv (s : State) : Prop :=
  aget s.analyzer.records [] = none ∧ ∀ sid x, aget s.sessions sid = some x → NotAnalysed x → x.key = []

theorem kinv_init : KInv {} := ⟨rfl, by intro sid x h; simp [aget] at h⟩

theorem getRecommand_empty_key (A : Analyzer) (key : Str) (c v : Feature) (hk : key ≠ [])
    (h : aget A.records [] = none) : aget (getRecommand A key c v).1.records [] = none := by
  simp only [getRecommand, aget_aput]
  split
  · next he => exact absurd he hk
  · exact h

/-- a successful analysis answers without error and files its scores under a non-empty key -/
theorem analysis_ok_facts {A A' : Analyzer} {sid : Str} {vm : VMsg} {cm : CMsg} {r : AnalysisOut}
    (h : analysis A sid vm cm = .ok (A', r)) :
    r.vResp.error = .none ∧ (aget A.records [] = none → aget A'.records [] = none) := by
  obtain ⟨cf, vf, _, _, rfl, rfl⟩ := analysisWith_ok h
  exact ⟨rfl, getRecommand_empty_key _ _ _ _ (analysisKey_ne_nil _ _ _ _)⟩

theorem notAnalysed_finishSend {sess : Session} {vr cr : Resp} {v c v' c' : Bool}
    (hp : sess.phase = .responding vr cr v' c') (h : NotAnalysed (finishSend sess vr cr v c)) : NotAnalysed sess := by
  rcases h with hw | ⟨ch, hc⟩ | ⟨vr', cr', v'', c'', hr, he⟩
  · unfold finishSend at hw; split at hw <;> cases hw
  · unfold finishSend at hc; split at hc <;> cases hc
  · obtain ⟨rfl, _⟩ := finishSend_responding hr
    exact Or.inr (Or.inr ⟨vr, cr, v', c', hp, he⟩)

theorem kinv_step (s s' : State) (l : Label) (o : Out) (hk : KInv s) (h : step s l = some (s', o)) : KInv s' := by
  cases step_spec h with
  | created => exact ⟨hk.1, all_aput hk.2 _ (fun _ => rfl)⟩
  | @client _ _ sess hs => exact ⟨hk.1, all_aput hk.2 _ (fun hn => hk.2 _ sess hs hn)⟩
  | @notify _ sess _ hs hp => exact ⟨hk.1, all_aput hk.2 _ (fun _ => hk.2 _ sess hs (Or.inr (Or.inl ⟨_, hp⟩)))⟩
  | analysed hs hp _ _ ha =>
    obtain ⟨herr, hkey⟩ := analysis_ok_facts ha
    refine ⟨hkey hk.1, all_aput hk.2 _ (fun hna => ?_)⟩
    rcases hna with hw | ⟨ch, hc⟩ | ⟨vr, cr, v', c', hr, he⟩
    · cases hw
    · cases hc
    · cases hr; exact absurd herr he
  | @analysisFailed _ sess _ _ _ hs hp => exact ⟨hk.1, all_aput hk.2 _ (fun _ => hk.2 _ sess hs (Or.inl hp))⟩
  | sendV hs hp | sendC hs hp =>
    refine ⟨hk.1, all_aput hk.2 _ (fun hna => ?_)⟩
    rw [finishSend_key]
    exact hk.2 _ _ hs (notAnalysed_finishSend hp hna)
  | notifyTimeout | timeout | sleepDone => exact ⟨hk.1, all_adel hk.2 _⟩
  | clean => exact ⟨analyzerForget_absent hk.1 _, hk.2⟩
  | reported => exact ⟨by rw [aget_analyzerReport, hk.1]; split <;> rfl, hk.2⟩
  | _ => exact hk

theorem kinv_run : ∀ (ls : List Label) (s s' : State) (o : Out), KInv s → run s ls = some (s', o) → KInv s' :=
  run_keeps kinv_step

/-- FULL statement of the clause "a report with an unknown or not-yet-analysed sid is a no-op":
    in every state reachable from the initial one by ANY label sequence (all interleavings of
    visitor, client and report messages, duplicates included), a report — successful or not — that
    names no stored session, or a session that is still `notifying` or `waiting`, or one whose
    analysis failed, changes nothing and sends nothing -/
theorem report_not_analysed_noop (ls : List Label) (s : State) (o : Out) (sid : Str) (b : Bool)
    (hr : run {} ls = some (s, o))
    (hx : ∀ x, aget s.sessions sid = some x → NotAnalysed x) :
    step s (.report sid b) = some (s, []) := by
  have hk := kinv_run ls {} s o kinv_init hr
  simp only [step]
  split
  · rfl
  · next sess hs =>
    have hkey := hk.2 sid sess hs (hx sess hs)
    split
    · simp only [analyzerReport, hkey, hk.1]
    · rfl

/-- reports never disable anything and never create work: after ANY run, a report is enabled, and
    afterwards every session has the rank it had (so `sessions_deleted` / `handler_never_stuck`
    are indifferent to reports arriving at any point of the schedule) -/
theorem report_any_time (ls : List Label) (s : State) (o : Out) (sid : Str) (b : Bool)
    (hr : run {} ls = some (s, o)) :
    ∃ s', run {} (ls ++ [.report sid b]) = some (s', o) ∧ s'.sessions = s.sessions ∧ s'.cfgs = s.cfgs := by
  have he := report_enabled s sid b
  cases hst : step s (.report sid b) with
  | none => rw [hst] at he; cases he
  | some r =>
    obtain ⟨s', o'⟩ := r
    have hf := report_frame s s' sid b o' hst
    refine ⟨s', ?_, hf.2.1, hf.2.2.1⟩
    have := run_snoc ls {} s s' o o' (.report sid b) hr hst
    rw [this, hf.1, List.append_nil]

/-! non-vacuity (`reportTraces` and the two `example`s below): a report meets a session in each of the
    not-analysed phases (before the notify, between notify and NatHoleClient, after a failed analysis of a
    malformed client address) and in the analysed one, where the score of the recommended row goes up -/

def rV : VMsg := { tid := [118], proxyName := [112], signed := authInput [115] 7, timestamp := 7,
                   mapped := [Str.ofString "1.2.3.4:80", Str.ofString "1.2.3.4:80"] }
def rCok : CMsg := { tid := [99], sid := [1], mapped := [Str.ofString "9.9.9.9:80", Str.ofString "9.9.9.9:80"] }
def rCbad : CMsg := { tid := [99], sid := [1], mapped := [Str.ofString "nocolon", Str.ofString "9.9.9.9:80"] }
def rPre : List Label := [.listen [112] [115] [[Str.star]], .visitorLookup [1] rV 0 []]

def reportTraces : List (List Label) :=
  [ rPre ++ [.report [1] true, .notify [1], .report [1] true, .clientMsg rCok 1, .report [1] true],
    rPre ++ [.notify [1], .clientMsg rCbad 1, .wake [1], .report [1] true, .sendV [1], .sendC [1], .report [1] true,
             .report [2] true, .clientMsg rCbad 1, .clientMsg rCok 2, .report [1] false] ]

def analyzerEmpty (ls : List Label) : Bool :=
  match run {} ls with
  | some (s, _) => s.analyzer.records.isEmpty && (aget s.sessions [1]).isSome
  | none => false

example : reportTraces.all analyzerEmpty = true := by decide +kernel

example : (match run {} (rPre ++ [.notify [1], .clientMsg rCok 1, .wake [1], .report [1] true, .report [1] true]) with
    | some (s, _) => (s.analyzer.records.map (fun p => p.2.map (·.score))) == [[3, 0, 0, 0, 0, 0, 0, 0, 0, 0]]
    | none => false) = true := by decide +kernel


/-! ### the pinned tree (`stepOld`, `runOld`): the two session findings -/

/-- PINNED TREE (before 8d80cd3): a handler blocked in `clientCfg.sidCh <- sid` on a channel
    nobody receives from had no enabled step at all: NatHoleTimeout did not cover the send -/
theorem blocked_no_handler_step (s : State) (sid : Str) (x : Session) (ch : Nat)
    (h : aget s.sessions sid = some x) (hp : x.phase = .notifying ch) (hd : chanAlive s.cfgs ch = false) :
    ∀ l, handlerOf l = some sid → stepOld s l = none := by
  intro l hl
  cases l <;> simp only [handlerOf, Option.some.injEq, reduceCtorEq] at hl
  all_goals subst hl
  all_goals simp [stepOld, step, h, hp, hd]

def mW : VMsg := { tid := [118], proxyName := [112], signed := authInput [115] 7, timestamp := 7,
                   mapped := [Str.ofString "1.2.3.4:80", Str.ofString "1.2.3.4:80"] }

/-- listen p (allowUsers = ["alice"]); a correctly signed visitor request by user "alice";
    close p — all three enabled from the initial state -/
def leakTrace : List Label :=
  [.listen [112] [115] [Str.ofString "alice"], .visitorLookup [115, 49] mW 5 (Str.ofString "alice"), .close [112]]

/-- PINNED TREE: `every session is eventually deleted` was false — after `leakTrace` the session
    s1 is stored, its handler is blocked on a dead channel, and no step of its handler is enabled. -/
theorem leak_witness :
    ∃ s x, runOld {} leakTrace = some (s, []) ∧ aget s.sessions [115, 49] = some x ∧
      x.phase = .notifying 0 ∧ chanAlive s.cfgs 0 = false ∧
      ∀ l, handlerOf l = some [115, 49] → stepOld s l = none := by
  have h1 : (match runOld {} leakTrace with
    | some (s, o) => o.isEmpty && (match aget s.sessions [115, 49] with
        | some x => decide (x.phase = .notifying 0) | none => false) && !chanAlive s.cfgs 0
    | none => false) = true := by decide +kernel
  match hr : runOld {} leakTrace with
  | none => rw [hr] at h1; cases h1
  | some (s, o) =>
    rw [hr] at h1
    simp only [Bool.and_eq_true, Bool.not_eq_true', List.isEmpty_iff] at h1
    obtain ⟨⟨rfl, hx⟩, hc⟩ := h1
    split at hx
    · next x hx' =>
      have hp : x.phase = .notifying 0 := by simpa using hx
      exact ⟨s, x, rfl, hx', hp, hc, blocked_no_handler_step s _ x 0 hx' hp hc⟩
    · cases hx

/-- on the repaired code (8d80cd3) `leakTrace` leaves the handler with its timeout alternative, which
    deletes the session and tells the visitor -/
theorem leak_trace_now_recovers :
    (match run {} (leakTrace ++ [.notifyTimeout [115, 49]]) with
     | some (s, o) => (aget s.sessions [115, 49]).isNone && decide (o = [(5, errResp [118] .notifyTimeout)])
     | none => false) = true := by decide +kernel

def allowTrace : List Label :=
  [.listen [112] [115] [Str.ofString "alice"], .visitorLookup [115, 49] mW 5 (Str.ofString "mallory")]

/-- PINNED TREE (before the C08 fix): the non-pre-check branch of HandleVisitor did not consult
    AllowUsers — "mallory" is not in ["alice"], the pre-check refuses her, the real request created
    a session.  On the current code (`step`) the same request is refused with `notAllowed`
    (general statement: `session_created_only_signed`). -/
theorem allow_users_not_checked_witness :
    (match run {} [.listen [112] [115] [Str.ofString "alice"], .precheck mW 5 (Str.ofString "mallory")] with
     | some (_, o) => decide (o = [(5, errResp [118] .notAllowed)]) | none => false) = true ∧
    (match runOld {} allowTrace with
     | some (s, o) => o.isEmpty && (aget s.sessions [115, 49]).isSome | none => false) = true ∧
    (match run {} allowTrace with
     | some (s, o) => (aget s.sessions [115, 49]).isNone && decide (o = [(5, errResp [118] .notAllowed)])
     | none => false) = true := by
  refine ⟨?_, ?_, ?_⟩ <;> decide +kernel

/-! ## 7. Soundness of the executable predicates -/

def ErrPair (v c : Resp) : Prop :=
  v.error ≠ .none ∧ c.error ≠ .none ∧ v.sid = [] ∧ c.sid = [] ∧ v.role = .none ∧ c.role = .none ∧
  v.candidatePorts = [] ∧ c.candidatePorts = [] ∧ v.candidateAddrs = [] ∧ c.candidateAddrs = []

def Instr (sid : Str) (vm : VMsg) (cm : CMsg) (v c : Resp) : Prop :=
  v.error = .none ∧ c.error = .none ∧ sid ≠ [] ∧ v.sid = sid ∧ c.sid = sid ∧ v.mode = c.mode ∧
  ((v.role = .sender ∧ c.role = .receiver) ∨ (v.role = .receiver ∧ c.role = .sender)) ∧
  v.candidateAddrs = compact cm.mapped ∧ c.candidateAddrs = compact vm.mapped ∧
  v.assistedAddrs = compact cm.assisted ∧ c.assistedAddrs = compact vm.assisted ∧
  v.tid = vm.tid ∧ c.tid = cm.tid ∧ v.protocol = vm.protocol ∧ c.protocol = vm.protocol

def RangesIn (v c : Resp) : Prop :=
  ∀ r ∈ v.candidatePorts ++ c.candidatePorts, 1 ≤ r.1 ∧ r.1 ≤ r.2 ∧ r.2 ≤ 65535

/-- whoever is the sender: the other party's effective read timeout (nathole.go MakeHole: 5 s when
    ReadTimeoutMs is 0) is longer than the sender's hold-back at the server plus its send delay -/
def TimingFits (v c : Resp) : Prop :=
  (v.role = .sender → effReadMs c.readTimeoutMs > v.sendDelayMs + senderHoldMs) ∧
  (c.role = .sender → effReadMs v.readTimeoutMs > c.sendDelayMs + senderHoldMs)

theorem timingOk_iff (v c : Resp) : timingOk v c = true ↔ TimingFits v c := by
  simp only [timingOk, TimingFits, Bool.and_eq_true, Bool.or_eq_true, bne_iff_ne, ne_eq, decide_eq_true_eq,
    Decidable.imp_iff_not_or]

theorem errPairOk_iff (v c : Resp) : errPairOk v c = true ↔ ErrPair v c := by
  simp only [errPairOk, ErrPair, Bool.and_eq_true, bne_iff_ne, ne_eq, beq_iff_eq, and_assoc]

theorem instrOk_iff (sid : Str) (vm : VMsg) (cm : CMsg) (v c : Resp) :
    instrOk sid vm cm v c = true ↔ Instr sid vm cm v c := by
  simp only [instrOk, Instr, roleCompl, Bool.and_eq_true, Bool.or_eq_true, bne_iff_ne, ne_eq, beq_iff_eq, and_assoc]

theorem rangesOk_iff (v c : Resp) : rangesOk v c = true ↔ RangesIn v c := by
  simp only [rangesOk, RangesIn, List.all_eq_true, rangeOk, Bool.and_eq_true, decide_eq_true_eq, and_assoc]

/-- what the driver evaluates on every response pair of the implementation -/
theorem pairOk_sound (sid : Str) (vm : VMsg) (cm : CMsg) (v c : Resp) :
    pairOk sid vm cm v c = true ↔ (ErrPair v c ∨ Instr sid vm cm v c) := by
  simp only [pairOk, Bool.or_eq_true, errPairOk_iff, instrOk_iff]

/-- the full clause incl. address validation and port ranges -/
theorem fullOk_sound (sid : Str) (vm : VMsg) (cm : CMsg) (v c : Resp) :
    fullOk sid vm cm v c = true ↔
      (ErrPair v c ∨ (Instr sid vm cm v c ∧ addrsValid vm.mapped = true ∧ addrsValid cm.mapped = true ∧ RangesIn v c ∧
        TimingFits v c)) := by
  simp only [fullOk, Bool.or_eq_true, Bool.and_eq_true, errPairOk_iff, instrOk_iff, rangesOk_iff, timingOk_iff, and_assoc]

/-- the model's own responses satisfy the driver predicate (ties §5 to §7) -/
theorem model_pairOk (A A' : Analyzer) (sid : Str) (vm : VMsg) (cm : CMsg) (o : AnalysisOut)
    (hA : AInv A) (hsid : sid ≠ []) (h : analysis A sid vm cm = .ok (A', o)) :
    pairOk sid vm cm o.vResp o.cResp = true := by
  simp only [pairOk, (analysis_pair_ok A A' sid vm cm o hA hsid h).1, Bool.or_true]

/-- "two honest peers on an unfiltered network that follow the instructions find each other", on
    the logic level: the sender probes `AssistedAddrs ++ CandidateAddrs` (nathole.go MakeHole); on
    an unfiltered network the receiver is reachable at the address it reported; the instructions
    name exactly one sender, and its candidate list contains every address the receiver reported. -/
theorem honest_peers_meet (sid : Str) (vm : VMsg) (cm : CMsg) (v c : Resp)
    (h : instrOk sid vm cm v c = true) :
    ((v.role = .sender ∧ c.role = .receiver ∧ ∀ a ∈ cm.mapped, a ∈ v.assistedAddrs ++ v.candidateAddrs) ∨
     (c.role = .sender ∧ v.role = .receiver ∧ ∀ a ∈ vm.mapped, a ∈ c.assistedAddrs ++ c.candidateAddrs)) := by
  obtain ⟨_, _, _, _, _, _, hrole, hvc, hcc, _⟩ := (instrOk_iff sid vm cm v c).mp h
  rcases hrole with hr | hr
  · left
    refine ⟨hr.1, hr.2, ?_⟩
    intro a ha
    rw [hvc]; exact List.mem_append_right _ ((mem_compact a _).mpr ha)
  · right
    refine ⟨hr.2, hr.1, ?_⟩
    intro a ha
    rw [hcc]; exact List.mem_append_right _ ((mem_compact a _).mpr ha)

/-! ## 8. The client side of hole punching (nathole.go MakeHole / waitDetectMessage)

  Model: Frp/Model/NatPunch.lean.  `honest_peers_meet` says the sender's candidate list
  contains every address the receiver reported; here the two `MakeHole` runs themselves are
  followed step by step. -/
section Punch
open NatPunch

/-- datagrams the wait loop must pass over -/
def Harmless (role : Role) (sid : Str) (l : List (Str × Dgram)) : Prop :=
  ∀ p ∈ l, waitOne role sid p.2 = .skip

theorem waitLoop_skips (role : Role) (sid : Str) : ∀ (l rest : List (Str × Dgram)),
    Harmless role sid l → waitLoop role sid (l ++ rest) = waitLoop role sid rest := by
  intro l
  induction l with
  | nil => intro rest _; rfl
  | cons p l ih =>
    intro rest h
    obtain ⟨src, d⟩ := p
    have hp : waitOne role sid d = .skip := h (src, d) List.mem_cons_self
    simp only [List.cons_append, waitLoop, hp]
    exact ih rest (fun q hq => h q (List.mem_cons_of_mem _ hq))

/-- undecodable datagrams, messages of other sessions and — for a sender — non-response messages
    are harmless: exactly the three `continue`s of `waitDetectMessage` -/
theorem harmless_iff (role : Role) (sid : Str) (d : Dgram) :
    waitOne role sid d = .skip ↔
      (d = .junk ∨ (∃ s r, d = .sid s r ∧ s ≠ sid) ∨ (role = .sender ∧ d = .sid sid false)) := by
  cases d with
  | junk => simp [waitOne]
  | sid s r =>
    simp only [waitOne]
    by_cases hs : s = sid
    · subst hs
      cases r <;> by_cases hr : role = .sender <;> simp [hr]
    · simp [hs]

/-! ### no state is carried from one datagram to the next

  `waitDetectMessage` declares its decode target (`var m msg.NatHoleSid`) inside the read loop: what
  it does with a datagram depends on that datagram alone (`waitOne`), never on the ones it passed
  over before.  (`Response` is `omitempty`: a detect message carries no "response" key, and the JSON
  decoder leaves absent fields of a reused target untouched — a target that outlived an iteration
  would hand the flag of a discarded message of ANOTHER session to the next genuine one.) -/

/-- does this datagram, by itself, end the wait? — it decodes with our key, carries OUR sid and,
    for a sender, is a response -/
def decides (role : Role) (sid : Str) : Dgram → Bool
  | .junk => false
  | .sid s response => s == sid && (response || role != .sender)

/-- the specification of the wait: the first datagram that decides by itself; the party answers
    (Response = true, to that datagram's source) exactly when it was not itself a response -/
def specWait (role : Role) (sid : Str) (inbox : List (Str × Dgram)) : Option (Str × Bool) :=
  (inbox.find? (fun p => decides role sid p.2)).map
    (fun p => (p.1, match p.2 with | .sid _ response => !response | .junk => false))

theorem waitOne_skip_iff (role : Role) (sid : Str) (d : Dgram) :
    waitOne role sid d = .skip ↔ decides role sid d = false := by
  cases d with
  | junk => simp [waitOne, decides]
  | sid s r =>
    by_cases hs : s = sid
    · subst hs
      cases r <;> by_cases hr : role = .sender <;> simp [waitOne, decides, hr]
    · simp [waitOne, decides, hs]

/-- ALL inboxes: the loop is the memoryless specification -/
theorem waitLoop_eq_spec (role : Role) (sid : Str) : ∀ inbox : List (Str × Dgram),
    waitLoop role sid inbox = specWait role sid inbox := by
  intro inbox
  induction inbox with
  | nil => rfl
  | cons p l ih =>
    obtain ⟨src, d⟩ := p
    by_cases hd : decides role sid d = true
    · have hns : waitOne role sid d ≠ .skip := fun h => by
        rw [(waitOne_skip_iff role sid d).mp h] at hd; cases hd
      cases d with
      | junk => simp [decides] at hd
      | sid s r =>
        simp only [decides, Bool.and_eq_true, beq_iff_eq] at hd
        obtain ⟨hs, hr⟩ := hd
        subst hs
        cases r with
        | true => simp [waitLoop, waitOne, specWait, decides, List.find?]
        | false =>
          have hrs : role ≠ .sender := by simpa using hr
          have hb : (role != Role.sender) = true := by simpa using hrs
          simp [waitLoop, waitOne, specWait, decides, List.find?, hrs, hb]
    · have hd' : decides role sid d = false := by cases h : decides role sid d <;> simp_all
      have hs := (waitOne_skip_iff role sid d).mpr hd'
      simp only [waitLoop, hs, specWait, List.find?, hd']
      exact ih

/-- ALL inboxes (any senders, any order, any noise): `waitDetectMessage` returns only on a
    NatHoleSid that decoded with our key and carries OUR sid; a sender only on a response; and the
    party answers (Response = true) exactly when what it accepted was not a response -/
theorem wait_accepts_only (role : Role) (sid : Str) : ∀ (inbox : List (Str × Dgram)) (a : Str) (b : Bool),
    waitLoop role sid inbox = some (a, b) →
    ∃ resp, (a, Dgram.sid sid resp) ∈ inbox ∧ (role = .sender → resp = true) ∧ b = !resp := by
  intro inbox a b h
  rw [waitLoop_eq_spec] at h
  simp only [specWait, Option.map_eq_some_iff] at h
  obtain ⟨⟨src, d⟩, hf, he⟩ := h
  have hd := List.find?_some hf
  have hm := List.mem_of_find?_eq_some hf
  cases d with
  | junk => cases hd
  | sid s resp =>
    simp only [decides, Bool.and_eq_true, beq_iff_eq, Bool.or_eq_true, bne_iff_ne] at hd
    obtain ⟨rfl, hr⟩ := hd
    cases he
    exact ⟨resp, hm, fun hs => hr.resolve_right (fun hn => hn hs), rfl⟩

/-- whatever the loop has passed over leaves no trace: after a prefix on which it did not return,
    it behaves exactly as if it had just started on the rest -/
theorem waitLoop_memoryless (role : Role) (sid : Str) (pre rest : List (Str × Dgram))
    (h : waitLoop role sid pre = none) : waitLoop role sid (pre ++ rest) = waitLoop role sid rest := by
  rw [waitLoop_eq_spec, specWait, Option.map_eq_none_iff] at h
  rw [waitLoop_eq_spec, waitLoop_eq_spec, specWait, List.find?_append, h, Option.none_or, specWait]

/-- a NatHoleSid of ANOTHER session — same key, well-formed, Response true or false — changes
    nothing, wherever it is queued: before the genuine detect message, after it, in between -/
theorem foreign_sid_anywhere (role : Role) (sid s : Str) (response : Bool) (src : Str)
    (l1 l2 : List (Str × Dgram)) (hs : s ≠ sid) :
    waitLoop role sid (l1 ++ (src, Dgram.sid s response) :: l2) = waitLoop role sid (l1 ++ l2) := by
  rw [waitLoop_eq_spec, waitLoop_eq_spec]
  simp only [specWait, List.find?_append, List.find?]
  have : decides role sid (Dgram.sid s response) = false := by simp [decides, hs]
  simp only [this]

/-- removing every datagram the loop skips (garbage, other key, truncated, other session,
    non-responses at a sender) leaves the outcome unchanged -/
theorem waitLoop_filter_harmless (role : Role) (sid : Str) (inbox : List (Str × Dgram)) :
    waitLoop role sid (inbox.filter (fun p => decides role sid p.2)) = waitLoop role sid inbox := by
  rw [waitLoop_eq_spec, waitLoop_eq_spec]
  simp only [specWait]
  congr 1
  induction inbox with
  | nil => rfl
  | cons p l ih =>
    by_cases hd : decides role sid p.2 = true
    · simp [List.filter, List.find?, hd]
    · have hd' : decides role sid p.2 = false := by cases h : decides role sid p.2 <;> simp_all
      simp only [List.filter, List.find?, hd']
      exact ih

example : waitLoop .receiver [1] [([9], .sid [2] true), ([7], .sid [1] false)] = some ([7], true) := by decide
example : waitLoop .sender [1] [([9], .sid [2] true), ([7], .sid [1] false), ([7], .sid [1] true)] = some ([7], false) := by decide

/-- the sender probes every address the receiver reported (so, on an unfiltered network, the
    address the receiver really listens on) -/
theorem sender_probes_reported (r : Resp) (a : Str) (hr : r.role = .sender) (ha : a ∈ r.candidateAddrs) :
    (probes r).contains a = true := by
  simp only [List.contains_iff_mem, probes, detectAddrs, hr, if_true, List.mem_append]
  left
  exact (mem_compact a _).mpr (List.mem_append_right _ ha)

/-- at most one datagram, and the loop passes over it -/
theorem harmless_ite {role : Role} {sid : Str} {c : Prop} [Decidable c] {p : Str × Dgram}
    (h : waitOne role sid p.2 = .skip) : Harmless role sid (if c then [p] else []) := by
  intro q hq
  split at hq
  · cases List.mem_singleton.mp hq; exact h
  · cases hq

theorem meet_oriented (sid : Str) (s r : Resp) (aS aR : Str) (nS nR : List (Str × Dgram))
    (hs : s.role = .sender) (hr : r.role = .receiver) (hss : s.sid = sid) (hrs : r.sid = sid)
    (hp : (probes s).contains aR = true)
    (hnS : Harmless .sender sid nS) (hnR : Harmless .receiver sid nR) :
    outcome true { resp := s, addr := aS, noise := nS } { resp := r, addr := aR, noise := nR } = some aR ∧
    outcome true { resp := r, addr := aR, noise := nR } { resp := s, addr := aS, noise := nS } = some aS := by
  have hearly : early true { resp := r, addr := aR, noise := nR } { resp := s, addr := aS, noise := nS } = some (aS, true) := by
    simp only [early, probeFrom, hp, if_true, hr, hrs, hss, recode, Bool.and_self]
    rw [waitLoop_skips _ _ _ _ hnR]
    simp [waitLoop, waitOne]
  constructor
  · simp only [outcome, replyFrom, hearly, if_true, hs, hss, hrs, recode, Bool.and_self]
    rw [List.append_assoc, waitLoop_skips _ _ _ _ hnS]
    have hpr : Harmless .sender sid (probeFrom true { resp := s, addr := aS, noise := nS } { resp := r, addr := aR, noise := nR }) :=
      harmless_ite (by simp [recode, waitOne, hrs])
    rw [waitLoop_skips _ _ _ _ hpr]
    simp [waitLoop, waitOne]
  · simp only [outcome, probeFrom, hp, if_true, hr, hrs, hss, recode, Bool.and_self]
    rw [List.append_assoc, waitLoop_skips _ _ _ _ hnR]
    simp [waitLoop, waitOne]

/-- FULL statement of "two honest peers on an unfiltered network that follow the instructions do
    find each other": for every pair of instructions that satisfies `instrOk` (every successful
    analysis does: `analysis_pair_ok`), parties bound at addresses they reported, holding the same
    key, with ANY harmless noise arriving first at either socket: both `MakeHole` runs return, each
    with the other party's address -/
theorem honest_peers_meet_steps (sid : Str) (vm : VMsg) (cm : CMsg) (v c : Resp) (aV aC : Str)
    (nV nC : List (Str × Dgram))
    (h : instrOk sid vm cm v c = true) (hV : aV ∈ vm.mapped) (hC : aC ∈ cm.mapped)
    (hnV : Harmless v.role sid nV) (hnC : Harmless c.role sid nC) :
    outcome true { resp := v, addr := aV, noise := nV } { resp := c, addr := aC, noise := nC } = some aC ∧
    outcome true { resp := c, addr := aC, noise := nC } { resp := v, addr := aV, noise := nV } = some aV := by
  obtain ⟨_, _, _, hvs, hcs, _, hrole, hvc, hcc, _⟩ := (instrOk_iff sid vm cm v c).mp h
  rcases hrole with hr | hr
  · rw [hr.1] at hnV; rw [hr.2] at hnC
    exact meet_oriented sid v c aV aC nV nC hr.1 hr.2 hvs hcs
      (sender_probes_reported v aC hr.1 (by rw [hvc]; exact (mem_compact aC _).mpr hC)) hnV hnC
  · rw [hr.1] at hnV; rw [hr.2] at hnC
    have := meet_oriented sid c v aC aV nC nV hr.2 hr.1 hcs hvs
      (sender_probes_reported c aV hr.2 (by rw [hcc]; exact (mem_compact aV _).mpr hV)) hnC hnV
    exact ⟨this.2, this.1⟩

/-- with different secret keys nobody ever returns (every datagram of the peer is junk) -/
theorem key_mismatch_never_meets (x y : Party) (hx : Harmless x.resp.role x.resp.sid x.noise) :
    outcome false x y = none := by
  have hp : Harmless x.resp.role x.resp.sid (probeFrom false x y) := harmless_ite rfl
  have hr : Harmless x.resp.role x.resp.sid (replyFrom false x y) := by
    unfold replyFrom
    split
    · exact harmless_ite rfl
    · intro p hp'; cases hp'
  simp only [outcome]
  rw [List.append_assoc, waitLoop_skips _ _ _ _ hx, waitLoop_skips _ _ _ _ hp]
  have : waitLoop x.resp.role x.resp.sid (replyFrom false x y ++ []) = waitLoop x.resp.role x.resp.sid [] :=
    waitLoop_skips _ _ _ _ hr
  rw [List.append_nil] at this
  rw [this]; rfl

/-! ### the hand-over of a socket's result in the many-socket modes (2 and 4)

  `honest_peers_meet_steps` follows the messages; with ListenRandomPorts > 0 the receiver's
  `MakeHole` additionally has to take the result from the goroutine of the socket that was reached.
  On the pinned tree (unbuffered `resultCh`, `hrun false`) that hand-over can be LOST (KNOWN_FINDINGS
  C20-makehole-lost-result, fixed by 0205ff9: `make(chan result, 1)`, `hrun true`): -/

/-- WITNESS (pinned tree, unbuffered channel): the goroutine of socket 0 accepts the sender's probe
    and answers it — so the sender's MakeHole returns successfully — before the caller waits on
    resultCh: the result is dropped, the socket closed, and the receiver's MakeHole returns nothing
    (it ends in "wait detect message timeout") although the two parties did exchange messages -/
theorem handover_lost_witness :
    (hrun false [.deliver 0, .mainWaits]).result = none ∧
    (hrun false [.deliver 0, .mainWaits]).answered = [0] ∧
    (hrun false [.deliver 0, .mainWaits]).closed = [0] := by decide

theorem hstep_answered (b : Bool) (s : HState) (l : HLabel) :
    (hstep b s l).answered = match l with | .deliver c => c :: s.answered | .mainWaits => s.answered := by
  cases l <;> simp only [hstep] <;> repeat' split
  all_goals rfl

theorem hstep_mainWaits (b : Bool) (s : HState) : (hstep b s .mainWaits).mainWaiting = true := by
  simp only [hstep]; split <;> rfl

theorem hstep_mainWaiting (b : Bool) (s : HState) (l : HLabel) (h : s.mainWaiting = true) :
    (hstep b s l).mainWaiting = true := by
  cases l
  · exact hstep_mainWaits b s
  · simp only [hstep]; repeat' split
    all_goals exact h

theorem hstep_result (b : Bool) (s : HState) (l : HLabel) (h : s.result.isSome = true) :
    (hstep b s l).result.isSome = true := by
  cases l <;> simp only [hstep]
  · split
    · next hn => rw [hn] at h; cases h
    · exact h
  · repeat' split
    · rfl
    · exact h
    · exact h

/-- PARTIAL (pinned tree, unbuffered channel): if the caller reaches its select before any socket delivers, the first
    delivery is taken and MakeHole returns it -/
theorem handover_main_first_partial (c : Nat) (rest : List HLabel) :
    (hrun false (.mainWaits :: .deliver c :: rest)).result.isSome = true :=
  foldl_invariant (P := fun s => s.result.isSome = true) (l := rest) rfl fun s l _ => hstep_result false s l

/-- invariant of the REPAIRED hand-over (`make(chan result, 1)`): a buffered result is still
    untaken and the caller not yet waiting; once a socket answered, its result is buffered or taken -/
def HInv (s : HState) : Prop :=
  (s.slot.isSome = true → s.result = none ∧ s.mainWaiting = false) ∧
  (s.answered ≠ [] → s.slot.isSome = true ∨ s.result.isSome = true)

theorem hinv_step (s : HState) (l : HLabel) (h : HInv s) : HInv (hstep true s l) := by
  obtain ⟨mw, slot, result, answered, closed⟩ := s
  cases l <;> cases mw <;> cases slot <;> cases result <;> simp_all [HInv, hstep]

/-- FULL statement for the repaired hand-over, ALL schedules: whenever some socket accepted and
    answered a message and the caller has reached its select — in any order, any number of sockets
    delivering — MakeHole returns a result -/
theorem handover_buffered_never_lost (ls : List HLabel) (hm : HLabel.mainWaits ∈ ls)
    (hd : ∃ c, HLabel.deliver c ∈ ls) : (hrun true ls).result.isSome = true := by
  have hi : HInv (hrun true ls) := foldl_invariant (by simp [HInv]) fun s l _ => hinv_step s l
  have hmw : (hrun true ls).mainWaiting = true :=
    foldl_reaches (hstep_mainWaiting true) hm (hstep_mainWaits true) {}
  have han : (hrun true ls).answered ≠ [] := by
    obtain ⟨c, hc⟩ := hd
    refine foldl_reaches (f := hstep true) (P := fun s => s.answered ≠ []) (fun s l h => ?_) hc (fun s => ?_) {}
    · rw [hstep_answered]; cases l
      · exact h
      · exact List.cons_ne_nil _ _
    · rw [hstep_answered]; exact List.cons_ne_nil _ _
  rcases hi.2 han with h | h
  · have := (hi.1 h).2; rw [hmw] at this; cases this
  · exact h

/-- the buffered hand-over on the schedule of `handover_lost_witness` -/
example : (hrun true [.deliver 0, .mainWaits]).result = some 0 := by decide

end Punch

end C20
end Frp
