import Frp.Lemmas.Health
import Frp.Lemmas.Client
import Frp.Lemmas.WrapperConc
/-
  C19 — The client keeps exactly the configured-and-healthy proxies registered.

  Models: Frp/Model/Health.lean (client/health/health.go), Frp/Model/Wrapper.lean
  (client/proxy/proxy_wrapper.go), Frp/Model/Reconcile.lean (client/proxy/proxy_manager.go,
  client/visitor/visitor_manager.go).

  Part H — health counting.   Part W — wrapper phase machine.   Part R — reload diff.
  (Part V — visitors: Frp/Props/C19Visitors.lean over Frp/Model/VisitorMgr.lean;  Part F — the reload diff per
  running proxy, any field — and Part S — the configuration a session is started with after a loss of the
  connection, over C14's Frp/Model/Rereg.lean: Frp/Props/C19Reload.lean.  All are audited by Frp/Audit/C19.lean.)
  Part K — the wrapper's goroutines and its mutex (Frp/Model/WrapperConc.lean): every interleaving
  of the worker iteration, Stop, SetRunningStatus and the monitor callbacks refines the atomic
  machine of Part W, so the theorems of Part W hold for the concurrent code, in particular "a stopped
  proxy sends no further registration" in wire order.

  TWO FINDINGS of the models of the pinned code (both reproduced on the real code by the engines,
  both repaired in /repo since: H by 75a9f5a — the driver uses `HealthFixed` —, R by eab68f8 —
  `Reconcile.updateAll` is the repaired reload, `updateAllOld` the former one):
   * H: `failedTimes` is never reset, so the failed callback fires after `maxFailed` failures IN
     TOTAL, not in a row (`health_consecutive_witness`).  `HealthFixed` is the repaired machine
     with the full theorem `withdraw_iff_consecutive`; `Health.activeStep` (what the driver engine
     `health` compares the real Monitor with) is `HealthFixed.step`.
   * R: for a name that occurs twice with different contents the delete loop compares with the
     LAST entry and the add loop starts the FIRST, so reloading the very same configuration stops
     and re-registers that proxy every time (`reload_dup_witness`, about `updateAllOld`).  After the
     fix (`cfg = proxyCfgsMap[name]` in the add loop) the full statement `reload_idempotent` holds
     for EVERY configuration list, duplicates included.
-/
namespace Frp
namespace C19
section H
open Health

/-! # Part H — health monitor -/

/-- the full statement of the property clause ("withdrawn after exactly the configured number of consecutive
    failed probes — never fewer, a success restarts the count — registered again after the next
    success, not before the first"): the callbacks fired by a machine on every history are the
    prescribed ones. -/
def ConsecutiveFull (run : Nat → List Bool → HState × List (Option Cb)) : Prop :=
  ∀ m hist, 1 ≤ m → (run m hist).2 = specCbs m hist

/-- the machine of the pinned tree violates it: 3 failures, never two in a row, maxFailed = 3 -/
theorem health_consecutive_witness :
    (Health.run 3 [true, false, true, false, true, false]).2
      ≠ specCbs 3 [true, false, true, false, true, false] := by decide

theorem health_not_ConsecutiveFull : ¬ ConsecutiveFull Health.run :=
  fun h => health_consecutive_witness (h 3 _ (by decide))

/-- second shape: failures BEFORE the first success count as well (maxFailed = 2, F S F) -/
theorem health_consecutive_witness2 :
    (Health.run 2 [false, true, false]).2 ≠ specCbs 2 [false, true, false] := by decide

/-- after one withdrawal and recovery a single failure withdraws again -/
theorem health_consecutive_witness3 :
    (Health.run 3 [true, false, false, false, true, false]).2
      = [some .normal, none, none, some .failed, some .normal, some .failed] := by decide

/-- the repaired machine satisfies the full statement, with its state in closed form -/
theorem fixed_run_eq_spec {m : Nat} (hm : 1 ≤ m) (hist : List Bool) :
    HealthFixed.run m hist = (specState m hist, specCbs m hist) := by
  have h := fixed_fold_spec hm hist []
  have h0 : specState m [] = Health.init := by
    simp [specState, statusSpec, trailingFails, Health.init]
  rw [h0] at h
  simpa [HealthFixed.run, specCbs] using h

theorem fixed_ConsecutiveFull : ConsecutiveFull HealthFixed.run := by
  intro m hist hm
  rw [fixed_run_eq_spec hm]

/-- repaired machine: the probe after history `pre` fires the failed
    callback iff it failed, some earlier probe succeeded, and it is exactly the `m`-th failure in
    a row; it fires the normal callback iff it succeeded and the proxy was not up. -/
theorem withdraw_iff_consecutive {m : Nat} (hm : 1 ≤ m) (pre : List Bool) (o : Bool) :
    ((HealthFixed.step m (HealthFixed.run m pre).1 o).2 = some .failed ↔
        (o = false ∧ pre.any id = true ∧ trailingFails (pre ++ [o]) = m)) ∧
    ((HealthFixed.step m (HealthFixed.run m pre).1 o).2 = some .normal ↔
        (o = true ∧ statusSpec m pre = false)) := by
  rw [fixed_run_eq_spec hm]
  simp only [fixed_step_spec hm, cbSpec, trailingFails_snoc]
  cases o <;> cases hany : pre.any id <;> cases hs : statusSpec m pre <;> simp
  all_goals (by_cases h : trailingFails pre + 1 = m <;> simp [h])

/-! ## what the machine of the pinned tree does satisfy -/

theorem fold_append (m : Nat) (s : HState) (a b : List Bool) :
    Health.fold m s (a ++ b) =
      ((Health.fold m (Health.fold m s a).1 b).1, (Health.fold m s a).2 ++ (Health.fold m (Health.fold m s a).1 b).2) := by
  induction a generalizing s with
  | nil => simp [Health.fold]
  | cons o a ih => simp [Health.fold, ih]

/-- the counter counts ALL failed probes of the history (this is the defect, stated positively) -/
theorem step_failedTimes (m : Nat) (s : HState) (o : Bool) :
    (Health.step m s o).1.failedTimes = s.failedTimes + (if o then 0 else 1) := by
  obtain ⟨f, st⟩ := s
  cases o <;> cases st <;> simp [Health.step]
  by_cases h : m ≤ f + 1 <;> simp [h]

theorem health_failedTimes_total (m : Nat) (s : HState) (hist : List Bool) :
    (Health.fold m s hist).1.failedTimes = s.failedTimes + hist.count false := by
  induction hist generalizing s with
  | nil => simp [Health.fold]
  | cons o os ih =>
    simp only [Health.fold]
    rw [ih, step_failedTimes]
    cases o <;> simp <;> omega

/-- soundness of each callback: normal only on a successful probe while down; failed only on a
    failed probe while up and with at least `m` failures counted — and the verdict flips. -/
theorem health_cb_sound (m : Nat) (s : HState) (o : Bool) :
    ((Health.step m s o).2 = some .normal →
        o = true ∧ s.statusOK = false ∧ (Health.step m s o).1.statusOK = true) ∧
    ((Health.step m s o).2 = some .failed →
        o = false ∧ s.statusOK = true ∧ m ≤ (Health.step m s o).1.failedTimes ∧
        (Health.step m s o).1.statusOK = false) ∧
    ((Health.step m s o).2 = none → (Health.step m s o).1.statusOK = s.statusOK) := by
  obtain ⟨f, st⟩ := s
  cases o <;> cases st <;> simp [Health.step]
  by_cases h2 : m ≤ f + 1 <;> simp [h2]

/-- "a health-checked proxy is not registered before its first successful probe": while every
    probe fails nothing fires and the verdict stays down; the first success fires `normal`. -/
theorem health_silent_until_first_success (m k : Nat) :
    Health.run m (List.replicate k false) =
      ({ failedTimes := k, statusOK := false }, List.replicate k none) := by
  have h : ∀ (k f : Nat), Health.fold m { failedTimes := f, statusOK := false } (List.replicate k false) =
      ({ failedTimes := f + k, statusOK := false }, List.replicate k none) := by
    intro k
    induction k with
    | zero => intro f; simp [Health.fold]
    | succ k ih =>
      intro f
      simp only [List.replicate_succ, Health.fold, Health.step]
      simp only [Bool.false_and, Bool.false_eq_true, if_false]
      rw [ih]
      simp; omega
  simpa [Health.run, Health.init] using h k 0

theorem health_first_success_registers (m k : Nat) :
    (Health.run m (List.replicate k false ++ [true])).2 = List.replicate k none ++ [some .normal] ∧
    (Health.run m (List.replicate k false ++ [true])).1.statusOK = true := by
  unfold Health.run
  rw [fold_append]
  have h := health_silent_until_first_success m k
  unfold Health.run at h
  rw [h]
  simp [Health.fold, Health.step]

/-- automaton for "the history contains failure … success … failure" -/
def fsfFrom : Nat → List Bool → Bool
  | _, [] => false
  | 0, o :: os => if o then fsfFrom 0 os else fsfFrom 1 os
  | 1, o :: os => if o then fsfFrom 2 os else fsfFrom 1 os
  | _, o :: os => if o then fsfFrom 2 os else true

/-- all failed probes of the history are adjacent -/
def NoFSF (hist : List Bool) : Prop := fsfFrom 0 hist = false
instance (hist : List Bool) : Decidable (NoFSF hist) := by unfold NoFSF; infer_instance

/-- how the state `a` of the pinned machine and `b` of the repaired one are related while `fsfFrom` is in
    state 0 (no failure yet: equal, counter zero), 1 (inside the run of failures: equal) or 2 (after the
    run: same verdict; the counters have parted) -/
private def Rel : Nat → HState → HState → Prop
  | 0, a, b => a = b ∧ a.failedTimes = 0
  | 1, a, b => a = b
  | _, a, b => a.statusOK = b.statusOK

/-- the two machines differ only in what a success does to a counter that is not zero -/
private theorem step_ok_zero (m : Nat) (a : HState) (h0 : a.failedTimes = 0) :
    Health.step m a true = HealthFixed.step m a true ∧ (Health.step m a true).1.failedTimes = 0 := by
  obtain ⟨f, s⟩ := a
  cases h0
  cases s <;> exact ⟨rfl, rfl⟩

/-- the verdict and the callback of a success depend on the verdict alone -/
private theorem step_ok_status (m : Nat) (a b : HState) (h : a.statusOK = b.statusOK) :
    (Health.step m a true).2 = (HealthFixed.step m b true).2 ∧
    (Health.step m a true).1.statusOK = (HealthFixed.step m b true).1.statusOK := by
  obtain ⟨f, s⟩ := a
  obtain ⟨g, t⟩ := b
  cases h
  cases s <;> exact ⟨rfl, rfl⟩

private theorem agree_aux (m : Nat) (os : List Bool) :
    ∀ (st : Nat) (a b : HState), st ≤ 2 → Rel st a b → fsfFrom st os = false →
      (Health.fold m a os).2 = (HealthFixed.fold m b os).2 := by
  induction os with
  | nil => intros; rfl
  | cons o os ih =>
    intro st a b hst hr hf
    simp only [Health.fold, HealthFixed.fold]
    have hst' : st = 0 ∨ st = 1 ∨ st = 2 := by omega
    rcases hst' with rfl | rfl | rfl <;> cases o <;>
      simp only [fsfFrom, if_true, Bool.false_eq_true, if_false, reduceCtorEq] at hf
    · -- no failure so far, a failure: the run of failures begins
      obtain ⟨rfl, _⟩ := hr
      exact congrArg _ (ih 1 _ _ (by omega) rfl hf)
    · obtain ⟨rfl, h0⟩ := hr
      obtain ⟨hs, hz⟩ := step_ok_zero m a h0
      rw [hs]
      exact congrArg _ (ih 0 _ _ (by omega) ⟨rfl, hs ▸ hz⟩ hf)
    · -- inside the run of failures
      cases (hr : a = b)
      exact congrArg _ (ih 1 _ _ (by omega) rfl hf)
    · cases (hr : a = b)
      obtain ⟨hc, hk⟩ := step_ok_status m a a rfl
      rw [hc]
      exact congrArg _ (ih 2 _ _ (by omega) hk hf)
    · -- after the run only successes may follow
      obtain ⟨hc, hk⟩ := step_ok_status m a b hr
      rw [hc]
      exact congrArg _ (ih 2 _ _ (by omega) hk hf)

/-- partial statement for the machine of the pinned tree: on every history whose failed probes are all adjacent — in
    particular up to and including the first withdrawal — the fired callbacks are exactly the
    prescribed ones.  Missing for the full statement: histories with failure … success … failure,
    where it is false (`health_consecutive_witness`). -/
theorem health_consecutive_partial {m : Nat} (hm : 1 ≤ m) (hist : List Bool) (h : NoFSF hist) :
    (Health.run m hist).2 = specCbs m hist := by
  have := agree_aux m hist 0 Health.init Health.init (by omega) ⟨rfl, rfl⟩ h
  unfold Health.run
  rw [this]
  have h2 := fixed_run_eq_spec hm hist
  unfold HealthFixed.run at h2
  rw [h2]

example : NoFSF [true, true, false, false, false, true, true] := by decide
example : NoFSF [false, false, true, true] := by decide
example : ¬ NoFSF [true, false, true, false] := by decide
example : (Health.run 3 [true, true, false, false, false, true, true]).2 =
    [some .normal, none, none, none, some .failed, some .normal, none] := by decide

/-- doHTTPCheck: exactly the codes 200…299 are successes -/
theorem httpOK_iff (c : Nat) : httpOK c = true ↔ 200 ≤ c ∧ c ≤ 299 := by
  unfold httpOK
  simp only [beq_iff_eq]
  omega

/-- a timed-out probe, a reset, a refused connection and every non-2xx answer count as failed -/
theorem outcome_failed (o : Outcome) :
    o.ok = false ↔ (o = .reset ∨ o = .timeout ∨ o = .tcpRefuse ∨ ∃ c, o = .http c ∧ ¬ (200 ≤ c ∧ c ≤ 299)) := by
  cases o with
  | http c =>
    simp only [Outcome.ok, reduceCtorEq, false_or, Outcome.http.injEq, exists_eq_left']
    rw [← httpOK_iff]; simp
  | reset => simp [Outcome.ok]
  | timeout => simp [Outcome.ok]
  | tcpAccept => simp [Outcome.ok]
  | tcpRefuse => simp [Outcome.ok]

/-- NewMonitor normalisation -/
theorem normMax_pos (m : Int) : 1 ≤ normMax m := by
  unfold normMax; split <;> omega

end H

/-! # Part W — the wrapper phase machine -/
section W
open Wrapper

/-- the legal transitions of the reported status (besides staying put) -/
def Legal : Phase → Phase → Bool
  | .new, .waitStart | .new, .closed => true
  | .waitStart, .waitStart | .waitStart, .running | .waitStart, .startErr
  | .waitStart, .checkFailed | .waitStart, .closed => true
  | .startErr, .waitStart | .startErr, .closed => true
  | .running, .checkFailed | .running, .closed => true
  | .checkFailed, .waitStart | .checkFailed, .closed => true
  | _, _ => false

/-- every single event moves the status along a legal edge or leaves it where it is -/
theorem step_legal (w : W) (e : Event) :
    (step w e).1.phase = w.phase ∨ Legal w.phase (step w e).1.phase = true := by
  have h := step_move w e
  generalize (step w e).1.phase = q, (step w e).2.1 = ms at h ⊢
  generalize w.phase = p at h ⊢
  cases h with
  | stay => exact .inl rfl
  | register _ hp => rcases hp with rfl | rfl | rfl | rfl <;> exact .inr rfl
  | withdraw _ hp => rcases hp with rfl | rfl <;> exact .inr rfl
  | stop hp => cases p <;> simp [Legal] at hp ⊢
  | _ => exact .inr rfl

def runPhases : W → List Event → List Phase
  | _, [] => []
  | w, e :: es => (step w e).1.phase :: runPhases (step w e).1 es

def LegalPath : Phase → List Phase → Prop
  | _, [] => True
  | p, q :: rest => (q = p ∨ Legal p q = true) ∧ LegalPath q rest

/-- "reported status follows only the legal transitions": for EVERY event sequence -/
theorem run_legal (w : W) (es : List Event) : LegalPath w.phase (runPhases w es) := by
  induction es generalizing w with
  | nil => trivial
  | cons e es ih => exact ⟨step_legal w e, ih _⟩

theorem step_closed (w : W) (e : Event) (h : w.phase = .closed) :
    (step w e).1.phase = .closed ∧ (step w e).2.1 = [] ∧
    (step w e).2.2 ≠ .handed ∧ (step w e).2.2 ≠ .ok := by
  cases e <;> simp [step, wantsStart, h]

/-- a stopped wrapper is inert: whatever arrives later (ticks of a lingering worker, late server
    replies, monitor callbacks, work connections) it stays closed, sends nothing, accepts nothing -/
theorem closed_absorbing (w : W) (es : List Event) (h : w.phase = .closed) :
    (run w es).1.phase = .closed ∧ (run w es).2.1 = [] ∧
    ∀ r ∈ (run w es).2.2, r ≠ .handed ∧ r ≠ .ok := by
  induction es generalizing w with
  | nil => simp [run, h]
  | cons e es ih =>
    obtain ⟨h1, h2, h3, h4⟩ := step_closed w e h
    obtain ⟨i1, i2, i3⟩ := ih (step w e).1 h1
    simp only [run]
    refine ⟨i1, by simp [h2, i2], ?_⟩
    intro r hr
    rcases List.mem_cons.mp hr with rfl | hr
    · exact ⟨h3, h4⟩
    · exact i3 r hr

theorem stop_closes (w : W) : (step w .stop).1.phase = .closed := by
  simp only [step]; split <;> simp_all

/-- "a stopped proxy sends no further registration and accepts no further work connection" -/
theorem no_newProxy_after_stop (w : W) (es : List Event) :
    Msg.newProxy ∉ (run (step w .stop).1 es).2.1 ∧ Res.handed ∉ (run (step w .stop).1 es).2.2 := by
  obtain ⟨_, h2, h3⟩ := closed_absorbing (step w .stop).1 es (stop_closes w)
  refine ⟨by simp [h2], fun hm => (h3 _ hm).1 rfl⟩

/-- stopping a live wrapper tells the server exactly once -/
theorem stop_emits_one_close (w : W) (h : w.phase ≠ .closed) : (step w .stop).2.1 = [.closeProxy] := by
  simp [step, h]

/-- a work connection is handed to the proxy iff the status is `running`; the state is untouched -/
theorem inWorkConn_handed_iff (w : W) :
    ((step w .inWorkConn).2.2 = .handed ↔ w.phase = .running) ∧ (step w .inWorkConn).1 = w ∧
    (step w .inWorkConn).2.1 = [] := by
  simp only [step]; split <;> simp_all

/-- a start error is retried exactly when the back-off has passed (and the backend is healthy) -/
theorem startErr_retry (w : W) (now : Nat) (hp : w.phase = .startErr) (hh : w.health = 0) :
    (w.lastErr + startErrTimeout < now →
        (step w (.tick now)).1.phase = .waitStart ∧ (step w (.tick now)).2.1 = [.newProxy] ∧
        (step w (.tick now)).1.lastSend = now) ∧
    (now ≤ w.lastErr + startErrTimeout →
        (step w (.tick now)).1 = w ∧ (step w (.tick now)).2.1 = []) := by
  constructor
  · intro h; simp [step, wantsStart, hp, hh, h]
  · intro h
    have : ¬ (w.lastErr + startErrTimeout < now) := by omega
    simp [step, wantsStart, hp, hh, this]

/-- `start error` is never absorbing: from any wrapper in that status there is a continuation
    (backend healthy, worker runs after the back-off) that registers again -/
theorem startErr_not_absorbing (w : W) (hp : w.phase = .startErr) :
    (run w [.healthUp, .tick (w.lastErr + startErrTimeout + 1)]).1.phase = .waitStart ∧
    (run w [.healthUp, .tick (w.lastErr + startErrTimeout + 1)]).2.1 = [.newProxy] := by
  simp [run, step, wantsStart, hp]

/-- a server error or a local Run() error on the reply lands in `start error` with the clock set -/
theorem startResp_error (w : W) (now : Nat) (respErr : Bool) (hp : w.phase = .waitStart)
    (he : respErr = true ∨ w.cfg.runFails = true) :
    (step w (.startResp now respErr)).1.phase = .startErr ∧
    (step w (.startResp now respErr)).1.lastErr = now := by
  cases respErr <;> cases hr : w.cfg.runFails <;> simp_all [step]

theorem step_unhealthy (w : W) (e : Event) (hh : w.health ≠ 0) (he : e ≠ .healthUp) :
    (step w e).1.health ≠ 0 ∧ Msg.newProxy ∉ (step w e).2.1 := by
  cases e <;> simp [step, hh, apply_ite Prod.fst, apply_ite Prod.snd, apply_ite W.health] at he ⊢

/-- "not registered before its first successful probe": while the monitor has not reported
    success no event sequence makes the wrapper send NewProxy -/
theorem no_register_while_unhealthy (w : W) (es : List Event) (hh : w.health ≠ 0)
    (hes : ∀ e ∈ es, e ≠ .healthUp) : Msg.newProxy ∉ (run w es).2.1 := by
  induction es generalizing w with
  | nil => simp [run]
  | cons e es ih =>
    obtain ⟨h1, h2⟩ := step_unhealthy w e hh (hes e List.mem_cons_self)
    have := ih (step w e).1 h1 (fun e' he' => hes e' (List.mem_cons_of_mem _ he'))
    simp only [run, List.mem_append, not_or]
    exact ⟨h2, this⟩

theorem mk_health (c : Cfg) (id : Nat) (h : c.health = true) : (mk c id).health ≠ 0 := by
  simp [mk, h]

/-- withdrawal: once the monitor reports failure the next worker iteration closes the proxy at
    the server (if it was registered or being registered) and refuses work connections -/
theorem unhealthy_withdraws (w : W) (now : Nat) (hh : w.health ≠ 0)
    (hp : w.phase = .running ∨ w.phase = .waitStart) :
    (step w (.tick now)).1.phase = .checkFailed ∧ (step w (.tick now)).2.1 = [.closeProxy] := by
  simp [step, hh, hp]

/-- a wrapper whose health check failed registers again after the next success -/
theorem recovery_registers (w : W) (now : Nat) (hp : w.phase = .checkFailed) :
    (run w [.healthUp, .tick now]).1.phase = .waitStart ∧
    (run w [.healthUp, .tick now]).2.1 = [.newProxy] := by
  simp [run, step, wantsStart, hp]

/-- what the server was last told, given the previous value and newly emitted messages -/
def lastOf (prev : Option Msg) (ms : List Msg) : Option Msg :=
  match ms.getLast? with
  | some m => some m
  | none => prev

theorem lastOf_nil (p : Option Msg) : lastOf p [] = p := rfl
theorem lastOf_single (p : Option Msg) (m : Msg) : lastOf p [m] = some m := rfl

/-- status and the server's view are in step: waiting/running ⇒ the last message was NewProxy;
    check-failed/closed ⇒ it was CloseProxy; new ⇒ nothing was sent yet -/
def Sync (w : W) (last : Option Msg) : Prop :=
  ((w.phase = .running ∨ w.phase = .waitStart) → last = some .newProxy) ∧
  ((w.phase = .checkFailed ∨ w.phase = .closed) → last = some .closeProxy) ∧
  (w.phase = .new → last = none)

theorem sync_step (w : W) (e : Event) (last : Option Msg) (h : Sync w last) :
    Sync (step w e).1 (lastOf last (step w e).2.1) := by
  have hm := step_move w e
  unfold Sync at h ⊢
  generalize (step w e).1.phase = q, (step w e).2.1 = ms at hm ⊢
  generalize w.phase = p at hm h
  cases hm with
  | stay => exact h
  | started => exact ⟨fun _ => h.1 (.inr rfl), nofun, nofun⟩
  | _ => simp [lastOf_single]

def lastRun (last : Option Msg) (w : W) : List Event → Option Msg
  | [] => last
  | e :: es => lastRun (lastOf last (step w e).2.1) (step w e).1 es

/-- for EVERY event sequence from a fresh wrapper the status agrees with what the server was told -/
theorem sync_run (c : Cfg) (id : Nat) (es : List Event) :
    Sync (run (mk c id) es).1 (lastRun none (mk c id) es) := by
  have h : ∀ (es : List Event) (w : W) (last : Option Msg), Sync w last →
      Sync (run w es).1 (lastRun last w es) := by
    intro es
    induction es with
    | nil => intro w last h; simpa [run, lastRun] using h
    | cons e es ih =>
      intro w last h
      simp only [run, lastRun]
      exact ih _ _ (sync_step w e last h)
  exact h es _ _ (by simp [Sync, mk])

/-- convergence of one wrapper against a server that accepts: healthy ⇒ one worker iteration
    after the deadlines plus the reply make it `running`; unhealthy ⇒ it is neither waiting nor running -/
theorem converge_wrapper (w : W) (now : Nat) (hc : w.phase ≠ .closed) (hr : w.cfg.runFails = false)
    (h1 : w.lastSend + waitResponseTimeout < now) (h2 : w.lastErr + startErrTimeout < now) :
    (w.health = 0 → (run w [.tick now, .startResp now false]).1.phase = .running) ∧
    (w.health ≠ 0 → (step w (.tick now)).1.phase ≠ .running ∧ (step w (.tick now)).1.phase ≠ .waitStart) := by
  constructor
  · intro hh
    cases hp : w.phase <;> simp_all [run, step, wantsStart]
  · intro hh
    cases hp : w.phase <;> simp_all [step]

example : (run (mk ⟨1, 0, true, false⟩ 1)
    [.tick 0, .healthUp, .tick 600, .startResp 700 false, .inWorkConn, .healthDown, .tick 4000,
     .inWorkConn, .healthUp, .tick 7000, .startResp 7100 true, .tick 8000, .tick 37101, .stop, .tick 40000]).2 =
    ([.newProxy, .closeProxy, .newProxy, .newProxy, .closeProxy],
     [.none, .none, .none, .ok, .handed, .none, .none, .closed, .none, .none, .respErr, .none, .none, .none, .none]) := by
  decide +kernel

end W

/-! # Part R — reload -/
section R
open Wrapper Reconcile

theorem inv_init : Inv Reconcile.init := by
  simp [Inv, Reconcile.init, NamesNodup]

theorem filter_nodup (ws : List W) (p : W → Bool) (h : NamesNodup ws) : NamesNodup (ws.filter p) :=
  List.Pairwise.sublist List.filter_sublist h

/-- the invariant survives every reload -/
theorem inv_updateAll (m : Mgr) (cfgs : List Cfg) (now : Nat) (h : Inv m) :
    Inv (updateAll m cfgs now).1 := by
  obtain ⟨hnd, hall⟩ := h
  simp only [updateAll, addLoopNew_eq]
  refine ⟨addLoop_nodup _ _ _ _ (filter_nodup _ _ hnd), ?_⟩
  intro w hw
  rcases addLoop_mem _ _ _ _ _ hw with h1 | ⟨c, _, he, _⟩
  · have := hall w (List.mem_filter.mp h1).1
    exact ⟨this.1, by simp only; omega⟩
  · subst he
    exact ⟨start_mk_phase _ _ _, by rw [start_mk_id]; simp only; omega⟩

/-- the running names after a reload are exactly the configured names -/
theorem update_names (m : Mgr) (cfgs : List Cfg) (now : Nat) (n : Nat) :
    hasName (updateAll m cfgs now).1.proxies n = true ↔ ∃ c ∈ cfgs, c.name = n := by
  simp only [updateAll, addLoopNew_eq]
  rw [addLoop_hasName, map_sel_any, Bool.or_eq_true, hasName_iff, List.any_eq_true]
  constructor
  · rintro (⟨w, hw, hn⟩ | ⟨c, hc, hn⟩)
    · exact ⟨w.cfg, (lookupLast_mem (beq_iff_eq.mp (List.mem_filter.mp hw).2)).1, hn⟩
    · exact ⟨c, hc, beq_iff_eq.mp hn⟩
  · rintro ⟨c, hc, hn⟩
    exact .inr ⟨c, hc, beq_iff_eq.mpr hn⟩

/-- "unchanged entries keep running without re-registration": a wrapper whose configuration is
    (deep-)equal to the configured entry of its name is the SAME wrapper afterwards (same object
    stamp, same status, same clocks) -/
theorem update_kept_same_wrapper (m : Mgr) (cfgs : List Cfg) (now : Nat) (w : W)
    (hw : w ∈ m.proxies) (hk : keeps cfgs w = true) : w ∈ (updateAll m cfgs now).1.proxies := by
  simp only [updateAll, addLoopNew_eq]
  exact addLoop_sub _ _ _ _ _ (List.mem_filter.mpr ⟨hw, hk⟩)

/-- exact number of CloseProxy per name emitted by a reload: one iff a running wrapper of that
    name disappeared or changed, else none -/
theorem update_close_count (m : Mgr) (cfgs : List Cfg) (now : Nat) (h : Inv m) (n : Nat) :
    (updateAll m cfgs now).2.2.count (n, Msg.closeProxy) =
      if m.proxies.any (fun w => w.cfg.name == n && !keeps cfgs w) then 1 else 0 := by
  obtain ⟨hnd, hall⟩ := h
  simp only [updateAll, addLoopNew_eq]
  rw [List.count_append]
  have h0 : (addLoop m.nextId now (m.proxies.filter (keeps cfgs)) (cfgs.map (sel cfgs))).2.count (n, Msg.closeProxy) = 0 := by
    rw [List.count_eq_zero]
    intro hm
    have := addLoop_events_new _ _ _ _ _ hm
    simp at this
  rw [h0, stopEvents_eq _ (fun w hw => (hall w (List.mem_filter.mp hw).1).1),
    count_close_map _ (filter_nodup _ _ hnd)]
  simp [hasName, List.any_filter, Bool.and_comm]

theorem stopEvents_count_new (ws : List W) (n : Nat) : (stopEvents ws).count (n, Msg.newProxy) = 0 := by
  rw [List.count_eq_zero]
  intro hm
  simp only [stopEvents, List.mem_flatMap, List.mem_map] at hm
  obtain ⟨w, _, m', hm', he⟩ := hm
  simp only [step] at hm'
  split at hm' <;> simp_all

/-- exact number of NewProxy per name emitted by a reload: one iff no wrapper of that name is
    kept and the configured entry of the name (`proxyCfgsMap[name]`, the last one) exists and is
    not health-gated -/
theorem update_new_count (m : Mgr) (cfgs : List Cfg) (now : Nat) (n : Nat) :
    (updateAll m cfgs now).2.2.count (n, Msg.newProxy) =
      if hasName (m.proxies.filter (keeps cfgs)) n then 0 else startCount (lookupLast cfgs n) := by
  simp only [updateAll, addLoopNew_eq]
  rw [List.count_append, stopEvents_count_new, addLoop_count_new, Nat.zero_add, map_sel_find]

/-- every wrapper after a reload is a kept one or a new object created for the configured entry
    of its name -/
theorem update_new_wrappers (m : Mgr) (cfgs : List Cfg) (now : Nat) (w : W)
    (hw : w ∈ (updateAll m cfgs now).1.proxies) :
    (w ∈ m.proxies ∧ keeps cfgs w = true) ∨
    (w.id = m.nextId ∧ lookupLast cfgs w.cfg.name = some w.cfg ∧ w.phase ≠ .closed) := by
  simp only [updateAll, addLoopNew_eq] at hw
  rcases addLoop_mem _ _ _ _ _ hw with h1 | ⟨c, hc, he, _⟩
  · exact Or.inl (List.mem_filter.mp h1)
  · subst he
    obtain ⟨c0, hc0, rfl⟩ := List.mem_map.mp hc
    refine Or.inr ⟨start_mk_id _ _ _, ?_, start_mk_phase _ _ _⟩
    rw [start_mk_cfg, sel_name]
    exact sel_spec hc0

/-- the removed / changed wrapper objects are gone from the map (stamps of new ones are fresh) -/
theorem update_changed_gone (m : Mgr) (cfgs : List Cfg) (now : Nat) (h : Inv m) (w : W)
    (hw : w ∈ m.proxies) (hk : keeps cfgs w = false) : w ∉ (updateAll m cfgs now).1.proxies := by
  intro hmem
  rcases update_new_wrappers m cfgs now w hmem with ⟨_, hk'⟩ | ⟨hid, _, _⟩
  · rw [hk] at hk'; cases hk'
  · have := (h.2 w hw).2
    omega

/-- "converge to exactly those of the last loaded configuration": after a reload every running
    wrapper carries exactly the configured entry of its name — for EVERY configuration list -/
theorem update_running_cfgs (m : Mgr) (cfgs : List Cfg) (now : Nat) (w : W)
    (hw : w ∈ (updateAll m cfgs now).1.proxies) : lookupLast cfgs w.cfg.name = some w.cfg := by
  rcases update_new_wrappers m cfgs now w hw with ⟨_, hk⟩ | ⟨_, hl, _⟩
  · simpa [keeps] using hk
  · exact hl

/-- the full statement of "reloading the configuration that is already loaded changes nothing": no
    message, no wrapper stopped, the very same wrapper objects — for every manager state and every
    configuration list, duplicate names included -/
def ReloadIdempotentFull (upd : Mgr → List Cfg → Nat → Mgr × List W × List (Nat × Msg)) : Prop :=
  ∀ (m : Mgr) (cfgs : List Cfg) (now now' : Nat),
    (upd (upd m cfgs now).1 cfgs now').2.2 = [] ∧
    (upd (upd m cfgs now).1 cfgs now').2.1 = [] ∧
    (upd (upd m cfgs now).1 cfgs now').1.proxies = (upd m cfgs now).1.proxies

/-- the reload BEFORE fix eab68f8 violated it for a name configured twice with different
    contents: the second, identical reload stops and re-registers the proxy -/
theorem reload_dup_witness :
    (updateAllOld (updateAllOld Reconcile.init [⟨1, 0, false, false⟩, ⟨1, 1, false, false⟩] 0).1
        [⟨1, 0, false, false⟩, ⟨1, 1, false, false⟩] 10).2.2
      = [(1, .closeProxy), (1, .newProxy)] := by decide

theorem not_ReloadIdempotentFull_old : ¬ ReloadIdempotentFull updateAllOld := by
  intro h
  have := (h Reconcile.init [⟨1, 0, false, false⟩, ⟨1, 1, false, false⟩] 0 10).1
  rw [reload_dup_witness] at this
  cases this

/-- on the reload before fix eab68f8 the FIRST entry of a duplicated name ran although the diff compared
    with the LAST -/
theorem reload_dup_runs_first :
    ((updateAllOld Reconcile.init [⟨1, 0, false, false⟩, ⟨1, 1, false, false⟩] 0).1.proxies.map (·.cfg.variant))
      = [0] := by decide

/-- the same witness on the repaired reload: the LAST entry runs and the identical reload is silent -/
theorem reload_dup_fixed_witness :
    ((updateAll Reconcile.init [⟨1, 0, false, false⟩, ⟨1, 1, false, false⟩] 0).1.proxies.map (·.cfg.variant)) = [1] ∧
    (updateAll (updateAll Reconcile.init [⟨1, 0, false, false⟩, ⟨1, 1, false, false⟩] 0).1
        [⟨1, 0, false, false⟩, ⟨1, 1, false, false⟩] 10).2.2 = [] := by decide

/-- a reload is silent on a manager whose wrappers all carry the configured entry of their name and
    cover every configured name: nothing to delete, nothing to add -/
theorem updateAll_noop (m : Mgr) (cfgs : List Cfg) (now : Nat) (hall : ∀ w ∈ m.proxies, keeps cfgs w = true)
    (hnames : ∀ c ∈ cfgs, hasName m.proxies c.name = true) :
    (updateAll m cfgs now).2.2 = [] ∧ (updateAll m cfgs now).2.1 = [] ∧
    (updateAll m cfgs now).1.proxies = m.proxies := by
  have hf : m.proxies.filter (keeps cfgs) = m.proxies := List.filter_eq_self.mpr hall
  have hg : m.proxies.filter (fun w => !keeps cfgs w) = [] := by
    rw [List.filter_eq_nil_iff]
    intro w hw
    simp [hall w hw]
  have hno : addLoop m.nextId now m.proxies (cfgs.map (sel cfgs)) = (m.proxies, []) := by
    apply addLoop_noop
    intro c hcm
    obtain ⟨c0, hc0, rfl⟩ := List.mem_map.mp hcm
    rw [sel_name]
    exact hnames c0 hc0
  simp only [updateAll, addLoopNew_eq, hf, hg, hno, stopEvents, stopAll]
  simp

/-- the full statement holds for the repaired reload -/
theorem reload_idempotent : ReloadIdempotentFull updateAll := by
  intro m cfgs now now'
  refine updateAll_noop _ cfgs now' (fun w hw => ?_) (fun c hc => (update_names m cfgs now c.name).mpr ⟨c, hc, rfl⟩)
  simp [keeps, update_running_cfgs m cfgs now w hw]

/-- no event of a wrapper's life changes the configuration it was created with, nor its identity -/
theorem step_cfg (w : W) (e : Event) : (step w e).1.cfg = w.cfg ∧ (step w e).1.id = w.id := by
  -- projections go inside the `if`s, and every branch keeps both fields
  cases e <;> simp only [step, apply_ite Prod.fst, apply_ite W.cfg, apply_ite W.id, ite_self, and_self]

/-- an event delivered under a name replaces the wrapper registered under it by its successor -/
theorem deliver_eq {m m' : Mgr} {n : Nat} {e : Event} {ms : List Msg} {r : Res}
    (hd : deliver m n e = some (m', ms, r)) : ∃ w ∈ m.proxies, w.cfg.name = n ∧
      m' = { m with proxies := m.proxies.map (fun x => if x.cfg.name == n then (step w e).1 else x) } := by
  unfold deliver at hd
  split at hd
  · cases hd
  · rename_i w hf
    simp only [Option.some.injEq, Prod.mk.injEq] at hd
    exact ⟨w, List.mem_of_find?_eq_some hf, by simpa using List.find?_some hf, hd.1.symm⟩

/-- the wrapper-level events delivered through the manager keep the invariant (the manager never
    delivers `stop` this way: Stop is only called by the two loops above) -/
theorem inv_deliver (m : Mgr) (n : Nat) (e : Event) (he : e ≠ .stop) (h : Inv m)
    (m' : Mgr) (ms : List Msg) (r : Res) (hd : deliver m n e = some (m', ms, r)) : Inv m' := by
  obtain ⟨w, hwm, hwn, rfl⟩ := deliver_eq hd
  obtain ⟨hcfg, hid⟩ := step_cfg w e
  obtain ⟨hnd, hall⟩ := h
  have hname : ∀ x : W, (if x.cfg.name == n then (step w e).1 else x).cfg.name = x.cfg.name := by
    intro x
    split
    · rw [hcfg, hwn]; exact (beq_iff_eq.mp ‹_›).symm
    · rfl
  constructor
  · unfold NamesNodup
    rw [List.pairwise_map]
    exact hnd.imp (fun hab => by rw [hname, hname]; exact hab)
  · intro x hx
    obtain ⟨y, hy, rfl⟩ := List.mem_map.mp hx
    split
    · exact ⟨step_ne_closed he (hall w hwm).1, by rw [hid]; exact (hall w hwm).2⟩
    · exact hall y hy

/-! ### the stored configuration is immutable

    `pw.Cfg` is the very object `UpdateAll` was given; the `UpdateAll` of a later reload compares it
    (`reflect.DeepEqual`) with a FRESHLY LOADED one.  The clause "unchanged entries keep running
    without re-registration" therefore needs that nothing in a wrapper's life writes into that
    object — not NewWrapper, not the monitor, not the proxy or its plugin, not a reply, not a health
    callback.  On the model: no event other than a reload changes `cfg` (or the object stamp), for
    every history; hence a reload of the loaded list is silent after ANY history of the wrappers,
    not only immediately after the load (`reload_idempotent`). -/

theorem nodup_same_name {ws : List W} (h : NamesNodup ws) {a b : W} (ha : a ∈ ws) (hb : b ∈ ws)
    (hn : a.cfg.name = b.cfg.name) : a = b :=
  eq_of_pairwise_ne h ha hb hn

theorem run_cfg (es : List Event) : ∀ (w : W), (run w es).1.cfg = w.cfg ∧ (run w es).1.id = w.id := by
  induction es with
  | nil => intro w; exact ⟨rfl, rfl⟩
  | cons e es ih =>
    intro w
    have h1 := step_cfg w e
    have h2 := ih (step w e).1
    simp only [run]
    exact ⟨h2.1.trans h1.1, h2.2.trans h1.2⟩

/-- (configuration, object stamp) of every wrapper in the map -/
def stored (m : Mgr) : List (Cfg × Nat) := m.proxies.map (fun w => (w.cfg, w.id))

/-- an event delivered through the manager (StartProxy, HandleWorkConn, a worker iteration, a
    monitor callback — under whichever name) leaves every stored configuration and every wrapper
    object in place -/
theorem deliver_stored (m : Mgr) (n : Nat) (e : Event) (h : Inv m)
    (m' : Mgr) (ms : List Msg) (r : Res) (hd : deliver m n e = some (m', ms, r)) : stored m' = stored m := by
  obtain ⟨w, hwm, hwn, rfl⟩ := deliver_eq hd
  simp only [stored, List.map_map]
  apply List.map_congr_left
  intro x hx
  by_cases hxn : x.cfg.name = n
  · have hxw : x = w := nodup_same_name h.1 hx hwm (hxn.trans hwn.symm)
    subst hxw
    simp [Function.comp, hxn, (step_cfg x e).1, (step_cfg x e).2]
  · have : (x.cfg.name == n) = false := by simpa using hxn
    simp [Function.comp, this]

/-- a history between two reloads: events delivered under names (an event for a name that is not
    in the map is dropped, as StartProxy / HandleWorkConn do) -/
def deliverAll (m : Mgr) : List (Nat × Event) → Mgr
  | [] => m
  | (n, e) :: rest =>
    match deliver m n e with
    | some (m', _, _) => deliverAll m' rest
    | none => deliverAll m rest

/-- no event other than a reload changes a stored configuration — for every history (the manager
    never delivers `stop` this way: Stop is only called by UpdateAll and Close) -/
theorem stored_immutable (es : List (Nat × Event)) : ∀ (m : Mgr), Inv m → (∀ x ∈ es, x.2 ≠ .stop) →
    stored (deliverAll m es) = stored m ∧ Inv (deliverAll m es) := by
  induction es with
  | nil => intro m h _; exact ⟨rfl, h⟩
  | cons x es ih =>
    intro m h hes
    obtain ⟨n, e⟩ := x
    have he : e ≠ .stop := hes (n, e) List.mem_cons_self
    have hrest : ∀ x ∈ es, x.2 ≠ .stop := fun x hx => hes x (List.mem_cons_of_mem _ hx)
    simp only [deliverAll]
    split
    · rename_i m' ms r hd
      have h' := inv_deliver m n e he h m' ms r hd
      have := ih m' h' hrest
      exact ⟨this.1.trans (deliver_stored m n e h m' ms r hd), this.2⟩
    · exact ih m h hrest

theorem hasName_of_stored {m1 m2 : Mgr} (h : stored m1 = stored m2) (n : Nat) :
    hasName m1.proxies n = hasName m2.proxies n := by
  have h1 : ∀ m : Mgr, hasName m.proxies n = (stored m).any (fun p => p.1.name == n) := by
    intro m
    simp only [hasName, stored, List.any_map]
    rfl
  rw [h1, h1, h]

/-- "converge to exactly those of the last loaded configuration", at every later moment: after a
    reload of `cfgs` and any history of events, every wrapper in the map carries exactly the
    configured entry of its name -/
theorem running_cfgs_history (m : Mgr) (cfgs : List Cfg) (now : Nat) (h : Inv m) (es : List (Nat × Event))
    (hes : ∀ x ∈ es, x.2 ≠ .stop) (w : W) (hw : w ∈ (deliverAll (updateAll m cfgs now).1 es).proxies) :
    lookupLast cfgs w.cfg.name = some w.cfg := by
  have hs := (stored_immutable es _ (inv_updateAll m cfgs now h) hes).1
  have hm : (w.cfg, w.id) ∈ stored _ := List.mem_map.mpr ⟨w, hw, rfl⟩
  rw [hs] at hm
  obtain ⟨w0, hw0, he⟩ := List.mem_map.mp hm
  have hc : w0.cfg = w.cfg := congrArg Prod.fst he
  rw [← hc]
  exact update_running_cfgs m cfgs now w0 hw0

/-- reloading the loaded configuration is silent after any history: whatever the wrappers have gone
    through since the load (registrations, replies, errors, health changes, work connections), the
    same list loaded again sends nothing, stops nothing and keeps every wrapper object -/
theorem reload_silent_after_history (m : Mgr) (cfgs : List Cfg) (now now' : Nat) (h : Inv m)
    (es : List (Nat × Event)) (hes : ∀ x ∈ es, x.2 ≠ .stop) :
    (updateAll (deliverAll (updateAll m cfgs now).1 es) cfgs now').2.2 = [] ∧
    (updateAll (deliverAll (updateAll m cfgs now).1 es) cfgs now').2.1 = [] ∧
    (updateAll (deliverAll (updateAll m cfgs now).1 es) cfgs now').1.proxies =
      (deliverAll (updateAll m cfgs now).1 es).proxies := by
  have hs := (stored_immutable es _ (inv_updateAll m cfgs now h) hes).1
  refine updateAll_noop _ cfgs now' (fun w hw => ?_) (fun c hc => ?_)
  · simp [keeps, running_cfgs_history m cfgs now h es hes w hw]
  · rw [hasName_of_stored hs]
    exact (update_names m cfgs now c.name).mpr ⟨c, hc, rfl⟩

example : Consistent [⟨1, 0, false, false⟩, ⟨2, 3, true, false⟩, ⟨1, 0, false, false⟩] := by decide
example : ¬ Consistent [⟨1, 0, false, false⟩, ⟨1, 1, false, false⟩] := by decide
example : Inv (updateAll (updateAll Reconcile.init [⟨1, 0, false, false⟩, ⟨2, 3, true, false⟩] 0).1
    [⟨2, 3, true, false⟩, ⟨1, 5, false, false⟩, ⟨3, 0, false, false⟩] 5).1 :=
  inv_updateAll _ _ _ (inv_updateAll _ _ _ inv_init)
example : (updateAll (updateAll Reconcile.init [⟨1, 0, false, false⟩, ⟨2, 3, true, false⟩] 0).1
    [⟨2, 3, true, false⟩, ⟨1, 5, false, false⟩, ⟨3, 0, false, false⟩] 5).2.2 =
    [(1, .closeProxy), (1, .newProxy), (3, .newProxy)] := by decide

end R

/-! # Part K — goroutines and `pw.mu`: all interleavings -/
section K
open Wrapper WrapperConc

/-- refinement, for EVERY schedule (label list) of the worker goroutine, any number of `Stop` and
    `SetRunningStatus` callers and monitor callbacks: the atomic machine of Part W, run over the
    events in the order in which their critical sections were entered (`lin`), reaches exactly the
    state the lock holder will leave behind (`fin`), and has emitted exactly the messages that are on
    the wire plus those the lock holder has decided to send but not handed over yet. -/
theorem conc_refines (w0 : W) (ls : List Label) : Ref w0 (exec (WrapperConc.init w0) ls) :=
  ref_exec w0 ls _ (ref_init w0)

/-- nobody inside a critical section and the worker not between its health load and its Lock() -/
def Quiescent (s : S) : Prop := s.hold = .free ∧ ∀ now h, s.wpc ≠ .loaded now h

/-- at every quiescent point of every schedule the wrapper and the wire are those of a SEQUENTIAL
    run of the atomic machine -/
theorem conc_quiescent_atomic (w0 : W) (ls : List Label)
    (hq : Quiescent (exec (WrapperConc.init w0) ls)) :
    (run w0 (exec (WrapperConc.init w0) ls).lin).1 = (exec (WrapperConc.init w0) ls).w ∧
    (run w0 (exec (WrapperConc.init w0) ls).lin).2.1 = (exec (WrapperConc.init w0) ls).wire := by
  have h := conc_refines w0 ls
  generalize exec (WrapperConc.init w0) ls = s at h hq
  obtain ⟨hf, hn⟩ := hq
  have hlq : hl s = s.w.health := by
    simp only [hl]
  refine ⟨?_, ?_⟩
  · rw [h.st, hlq]; simp [fin, hf]
  · rw [h.ms]; simp [fin, hf]

/-- mutual exclusion as the model has it: while any goroutine is inside its critical section — e.g.
    the worker between its phase write and the hand-over of NewProxy — `Stop`, `SetRunningStatus`
    and the worker's `Lock()` do not return -/
theorem conc_lock_excludes (s : S) (h : s.hold ≠ .free) :
    sstep s .stopLock = s ∧ (∀ now e, sstep s (.respLock now e) = s) ∧ sstep s .wLock = s := by
  refine ⟨?_, ?_, ?_⟩
  · simp only [sstep, sstepG]
  · intro now e; simp only [sstep, sstepG]
  · simp only [sstep, sstepG]
    split
    · contradiction
    · rfl

/-- "A stopped proxy sends no further registration", in WIRE ORDER and for ALL interleavings: from
    the moment Stop has written `Phase = closed` (which is before its own CloseProxy goes out),
    whatever any goroutine does afterwards, the status stays closed and nothing but CloseProxy is
    ever appended to the wire -/
theorem conc_no_newProxy_after_stop (w0 : W) (ls ls' : List Label)
    (hc : (exec (WrapperConc.init w0) ls).w.phase = .closed) :
    (exec (WrapperConc.init w0) (ls ++ ls')).w.phase = .closed ∧
    ∃ extra, (exec (WrapperConc.init w0) (ls ++ ls')).wire = (exec (WrapperConc.init w0) ls).wire ++ extra ∧
      Msg.newProxy ∉ extra := by
  rw [exec_append]
  obtain ⟨h1, extra, h2, h3⟩ := closed_exec ls' _ (sendInv_exec ls _ (sendInv_init w0)) hc
  refine ⟨h1, extra, h2, ?_⟩
  intro hm
  have := h3 _ hm
  cases this

theorem lastOf_append (p : Option Msg) (a b : List Msg) : lastOf (lastOf p a) b = lastOf p (a ++ b) := by
  unfold lastOf
  cases b with
  | nil => simp
  | cons x xs =>
    rw [List.getLast?_append]
    cases h : (x :: xs).getLast? <;> simp_all

theorem lastRun_eq (es : List Event) : ∀ (w : W) (p : Option Msg),
    lastRun p w es = lastOf p (run w es).2.1 := by
  induction es with
  | nil => intro w p; simp [lastRun, run, lastOf]
  | cons e es ih =>
    intro w p
    simp only [lastRun, run]
    rw [ih, lastOf_append]

/-- status and the server's view are in step at every quiescent point of every schedule: the LAST
    message on the wire is NewProxy iff the status is waiting/running, CloseProxy iff it is
    check-failed/closed -/
theorem conc_sync (c : Cfg) (id : Nat) (ls : List Label)
    (hq : Quiescent (exec (WrapperConc.init (mk c id)) ls)) :
    Sync (exec (WrapperConc.init (mk c id)) ls).w (lastOf none (exec (WrapperConc.init (mk c id)) ls).wire) := by
  obtain ⟨h1, h2⟩ := conc_quiescent_atomic (mk c id) ls hq
  have := sync_run c id (exec (WrapperConc.init (mk c id)) ls).lin
  rw [lastRun_eq, h1, h2] at this
  exact this

/-- the schedule of the `race` op: the worker decides to register, a reload calls Stop while the
    message is being handed over, Stop has to wait, the wire order is NewProxy, CloseProxy -/
def raceSchedule : List Label :=
  [.wWake 0, .wLock, .hold, .stopLock, .hold, .stopLock, .hold, .stopLock, .hold, .hold, .hold, .wLate]

theorem race_schedule_wire :
    (exec (WrapperConc.init (mk ⟨1, 0, false, false⟩ 1)) raceSchedule).wire = [.newProxy, .closeProxy] ∧
    (exec (WrapperConc.init (mk ⟨1, 0, false, false⟩ 1)) raceSchedule).lin = [.tick 0, .stop] ∧
    (exec (WrapperConc.init (mk ⟨1, 0, false, false⟩ 1)) raceSchedule).w.phase = .closed := by decide

/-- the theorems above discriminate: in the variant that releases the mutex between the phase write
    and the hand-over (`early`; NOT the code) the same schedule puts NewProxy on the wire AFTER the
    CloseProxy of Stop — the server keeps a proxy the client has closed -/
theorem earlyUnlock_witness :
    (execG true (WrapperConc.init (mk ⟨1, 0, false, false⟩ 1)) raceSchedule).wire = [.closeProxy, .newProxy] ∧
    (execG true (WrapperConc.init (mk ⟨1, 0, false, false⟩ 1)) raceSchedule).w.phase = .closed := by decide

/-- the "no registration after Stop" statement is false for the variant that unlocks early -/
theorem earlyUnlock_not_quiet :
    ¬ (∀ (w0 : W) (ls ls' : List Label), (execG true (WrapperConc.init w0) ls).w.phase = .closed →
        ∃ extra, (execG true (WrapperConc.init w0) (ls ++ ls')).wire =
          (execG true (WrapperConc.init w0) ls).wire ++ extra ∧ Msg.newProxy ∉ extra) := by
  intro h
  obtain ⟨extra, h1, h2⟩ := h (mk ⟨1, 0, false, false⟩ 1) (raceSchedule.take 9) (raceSchedule.drop 9) (by decide)
  have e : (execG true (WrapperConc.init (mk ⟨1, 0, false, false⟩ 1)) (raceSchedule.take 9 ++ raceSchedule.drop 9)).wire =
      (execG true (WrapperConc.init (mk ⟨1, 0, false, false⟩ 1)) (raceSchedule.take 9)).wire ++ [.newProxy] := by decide
  rw [e] at h1
  exact h2 (List.append_cancel_left h1 ▸ List.mem_singleton.mpr rfl)

end K

/-! # Executable predicates (run by the driver on the implementation's answers) -/
section Exec
open Wrapper Reconcile
open Health (Cb HState)

/-- CloseProxy messages the property prescribes for name `n` on a reload -/
def expectC (old : List W) (cfgs : List Cfg) (n : Nat) : Nat :=
  if old.any (fun w => w.cfg.name == n && !keeps cfgs w) then 1 else 0

/-- NewProxy messages the property prescribes for name `n` on a reload (the configured entry of a
    name is `lookupLast`; a health-gated proxy is not registered at start) -/
def expectN (old : List W) (cfgs : List Cfg) (n : Nat) : Nat :=
  if hasName (old.filter (keeps cfgs)) n then 0 else startCount (lookupLast cfgs n)

def UpdHolds (old : List W) (cfgs : List Cfg) (evs : List (Nat × Msg)) : Prop :=
  ∀ n, evs.count (n, Msg.closeProxy) = expectC old cfgs n ∧ evs.count (n, Msg.newProxy) = expectN old cfgs n

/-- the names a reload can concern -/
def updNames (old : List W) (cfgs : List Cfg) (evs : List (Nat × Msg)) : List Nat :=
  evs.map (·.1) ++ old.map (·.cfg.name) ++ cfgs.map (·.name)

def updHoldsOnEv (old : List W) (cfgs : List Cfg) (evs : List (Nat × Msg)) : Bool :=
  (updNames old cfgs evs).all (fun n =>
    evs.count (n, Msg.closeProxy) == expectC old cfgs n && evs.count (n, Msg.newProxy) == expectN old cfgs n)

theorem updHoldsOn_of_UpdHolds (old : List W) (cfgs : List Cfg) (evs : List (Nat × Msg))
    (h : UpdHolds old cfgs evs) : updHoldsOnEv old cfgs evs = true := by
  simp only [updHoldsOnEv, List.all_eq_true, Bool.and_eq_true, beq_iff_eq]
  intro n _
  exact h n

/-- the model's reload satisfies the predicate for every reachable manager and EVERY
    configuration list (so the predicate cannot raise a false alarm on conforming behaviour) -/
theorem model_UpdHolds (m : Mgr) (cfgs : List Cfg) (now : Nat) (h : Inv m) :
    UpdHolds m.proxies cfgs (updateAll m cfgs now).2.2 := by
  intro n
  exact ⟨update_close_count m cfgs now h n, update_new_count m cfgs now n⟩

def parseEv (s : String) : Option (Nat × Msg) :=
  match s.toList with
  | 'N' :: r => (String.ofList r).toNat?.map (fun n => (n, Msg.newProxy))
  | 'C' :: r => (String.ofList r).toNat?.map (fun n => (n, Msg.closeProxy))
  | _ => none

/-- predicate on the implementation's event list of an `upd` op (unparsable ⇒ false) -/
def updHoldsOn (old : List W) (cfgs : List Cfg) (evs : List String) : Bool :=
  match evs.mapM parseEv with
  | some es => updHoldsOnEv old cfgs es
  | none => false

/-- what the harness reads off the real manager with `status`: per wrapper its name and the code of the
    configuration object it holds (decoded against a pristine load of the text it came from: a code no
    list contains if anything has written into the object) -/
def statusObs (m : Mgr) : List (Nat × Nat) := m.proxies.map (fun w => (w.cfg.name, w.cfg.variant))

/-- the clause "the running proxies are exactly those of the last loaded configuration, each with
    the configured entry of its name", `cfgs` being the last loaded list -/
def statusHoldsOn (cfgs : List Cfg) (obs : List (Nat × Nat)) : Bool :=
  obs.all (fun p => (lookupLast cfgs p.1).map (·.variant) == some p.2) &&
  cfgs.all (fun c => obs.any (fun p => p.1 == c.name))

/-- the model's own status satisfies it after a reload and EVERY history of wrapper events -/
theorem model_statusHolds (m : Mgr) (cfgs : List Cfg) (now : Nat) (h : Inv m) (es : List (Nat × Event))
    (hes : ∀ x ∈ es, x.2 ≠ .stop) :
    statusHoldsOn cfgs (statusObs (deliverAll (updateAll m cfgs now).1 es)) = true := by
  have hs := (stored_immutable es _ (inv_updateAll m cfgs now h) hes).1
  simp only [statusHoldsOn, statusObs, Bool.and_eq_true, List.all_eq_true, List.any_eq_true, List.mem_map]
  constructor
  · rintro p ⟨w, hw, rfl⟩
    simp [running_cfgs_history m cfgs now h es hes w hw]
  · intro c hc
    have hn : hasName (deliverAll (updateAll m cfgs now).1 es).proxies c.name = true := by
      rw [hasName_of_stored hs]
      exact (update_names m cfgs now c.name).mpr ⟨c, hc, rfl⟩
    obtain ⟨w, hw, hwn⟩ := (hasName_iff _ _).mp hn
    exact ⟨(w.cfg.name, w.cfg.variant), ⟨w, hw, rfl⟩, by simp [hwn]⟩

/-- a result of an operation on a STOPPED wrapper is acceptable iff nothing was registered and
    no work connection was accepted -/
def stoppedQuiet (impl : String) : Bool :=
  !(impl.toList.contains 'N') && impl != "handed" && !impl.startsWith "ok"

/-! ### predicates for overlapping operations (op `race`) -/

/-- by name: the status reported after the operations and the LAST message of that name on the wire
    are in step — `Sync` read on the implementation's answer (`none` = no proxy of that name is
    configured any more; `start error` is reached both after a refusal, last message NewProxy, and
    after a local Run() failure, last message CloseProxy) -/
def raceSyncOK (seq : List Msg) (ph : Option Phase) : Bool :=
  match seq.getLast?, ph with
  | none, _ => true
  | some m, some .waitStart => m == .newProxy
  | some m, some .running => m == .newProxy
  | some _, some .startErr => true
  | some m, _ => m == .closeProxy

/-- `Sync` (proved for every schedule: `conc_sync`) implies the executable predicate -/
theorem raceSyncOK_of_Sync (w : W) (seq : List Msg) (h : Sync w (lastOf none seq)) :
    raceSyncOK seq (some w.phase) = true := by
  obtain ⟨h1, h2, h3⟩ := h
  unfold lastOf at h1 h2 h3
  unfold raceSyncOK
  cases hl : seq.getLast? <;> cases hp : w.phase <;> simp_all

/-- the wrapper whose registration was held in the transporter is closed at the end ⇒ a CloseProxy
    follows that registration on the wire (messages: kind, held?) -/
def raceStopOK (seq : List (Msg × Bool)) (aClosed : Bool) : Bool :=
  !aClosed ||
    match seq.dropWhile (fun m => !m.2) with
    | (.newProxy, _) :: rest => rest.any (fun m => m.1 == .closeProxy)
    | _ => true

/-- a wire that ends with CloseProxy — which `conc_sync` gives for every schedule that ends with the
    wrapper closed — passes it -/
theorem raceStopOK_of_last (seq : List (Msg × Bool)) (b : Bool)
    (h : (seq.map (·.1)).getLast? = some .closeProxy) : raceStopOK seq b = true := by
  cases b
  · rfl
  · simp only [raceStopOK, Bool.not_true, Bool.false_or]
    split
    · -- the held registration and what follows it are a suffix of the wire, so they end with its last message
      rename_i x rest hd
      obtain ⟨pre, rfl⟩ : (Msg.newProxy, x) :: rest <:+ seq := hd ▸ List.dropWhile_suffix _
      rw [List.map_append, List.getLast?_append, List.map_cons, List.getLast?_cons] at h
      cases hr : (rest.map (·.1)).getLast? with
      | none => simp [hr] at h
      | some y =>
        have hy : y = .closeProxy := by simpa [hr] using h
        obtain ⟨z, hz, hk⟩ := List.mem_map.mp (List.mem_of_getLast? (hy ▸ hr))
        exact List.any_eq_true.mpr ⟨z, hz, by simp [hk]⟩
    · rfl

def cbChar : Option Cb → String
  | none => "." | some .normal => "N" | some .failed => "F"

def renderCbs (l : List (Option Cb)) : String := String.join (l.map cbChar)

/-- predicate on the callbacks the real monitor fired for a probe history -/
def healthHoldsOn (m : Nat) (hist : List Bool) (impl : String) : Bool :=
  impl == renderCbs (specCbs m hist)

theorem healthHoldsOn_sound (m : Nat) (hist : List Bool) (impl : String) :
    healthHoldsOn m hist impl = true ↔ impl = renderCbs (specCbs m hist) := by
  simp [healthHoldsOn]

/-- the repaired machine always passes the health predicate -/
theorem fixed_healthHoldsOn {m : Nat} (hm : 1 ≤ m) (hist : List Bool) :
    healthHoldsOn m hist (renderCbs (HealthFixed.run m hist).2) = true := by
  rw [healthHoldsOn_sound, fixed_run_eq_spec hm]

end Exec

end C19
end Frp
