import Frp.Model.HttpRewrite
import Frp.Model.HttpPool
import Frp.Model.HttpTime
import Frp.Lemmas.HttpRewrite
import Frp.Props.C01
import Frp.Lemmas.CodecPool
import Frp.Gen.CodecFacts
import Frp.Model.ConnReader
import Frp.Props.C02Faults
import Frp.Props.C02Routes
/-
  C02 — HTTP proxying preserves requests and responses apart from declared rewrites.   (partial)

  Models: Frp/Model/HttpRewrite.lean (what the backend / the user receives), Frp/Model/HttpPool.lean
  (idle backend connections), Frp/Model/HttpTime.lean (which clocks can end an exchange early).  All statements are for EVERY request, header map, route config.

  What is proved
    * request line, body and framing are not touched (`request_line_body_untouched`);
    * per header key: every key outside the declared/standard set reaches the backend unchanged
      (`request_headers_preserved`), the declared ones have exactly the declared value
      (`configured_header_spec`, `xff_spec`, `xfh_spec`, `xfp_spec`, `host_spec`), hop-by-hop
      headers and client-supplied `Forwarded` are dropped (`hop_removed`, `forwarded_stripped`);
      the order in which Go ranges over the configured map is irrelevant as long as the configured
      keys stay distinct after canonicalisation (`configured_order_irrelevant`), and it is NOT
      irrelevant otherwise (`configured_dup_witness`);
    * the four client plugins (http2http, http2https, https2http, https2https): end-to-end headers untouched
      (`plugin_headers_preserved`), X-Forwarded-For handed through resp. extended by the peer address
      (`plugin_copy_keeps_forwarded`, `plugin_tls_xff`), predicate `plugHolds`;
    * responses: status and body untouched, headers likewise per key (`response_*`);
    * `errorMap` is total with exactly two answers;
    * time (Frp/Model/HttpTime.lean): the only clock on an exchange is the response-header timeout —
      for every time line a header block inside the timeout means every body piece of both directions
      and every tunnel piece is relayed (`streamed_exchange_complete`, `upgrade_tunnel_transparent`,
      `connect_tunnel_transparent`), a late one means 504 exactly `timeout` after the request was
      written (`header_timeout_bounded`); any deadline on the whole exchange would cut some stream
      and some tunnel (`ctx_deadline_cuts_stream`, `ctx_deadline_cuts_tunnel`);
    * the synthetic pool host determines (domain, location, routeUser, endpoint)
      (`poolKey_injective`, `distinct_routes_distinct_keys`);
    * upgrades need a hijackable writer, and `ServeHTTP` hands the reverse proxy the server's own
      (`frp_upgrade_switches`, `upgrade_needs_hijacker`, predicate `tunnelHolds`);
    * end to end (section Tunnel, on top of Frp/Props/C01.lean): through frps' `GetRealConn` stack and
      frpc's stack the request / answer bodies arrive unchanged for every combination of
      useEncryption / useCompression / bandwidthLimit mode, every burst > 0, any framing, any write
      pattern, any chunking of the wire (`e2e_request_delivered`, `e2e_response_delivered`,
      `e2e_*_prefix`, `e2e_exchange_transparent`, `limited_write_whole`, predicate `e2eHolds`).

    * concurrent exchanges (section Concurrent, Frp/Model/CodecPool.lean): the pooled snappy reader / writer of
      compressed work connections are recycled by client/proxy/proxy.go only after `libio.Join` returned and
      never on the plugin path; under that discipline, for EVERY interleaving of work connections (plain and
      plugin path mixed) and every choice of `sync.Pool.Get`, no two live connections hold the same object and
      every Read / Write works on the stream of its own connection (`codec_exclusive`, `codec_own_stream`,
      `codec_frp_own_stream`); recycling at the return of the plugin path or twice breaks it
      (`codec_release_at_return_witness`, `codec_double_release_witness`, `codec_unsafe_breaks`); predicate
      `roundHolds` = every user of a round of simultaneous exchanges gets exactly its own answer.

    * grouping is transparent to every route option; the error answer does not wait for the request body:
      Frp/Props/C02Routes.lean (same namespace)
    * faults in the middle of an exchange and long-lived concurrent exchanges: Frp/Props/C02Faults.lean (same
      namespace; Frp/Model/HttpAbort.lean, Frp/Model/ConnLimit.lean, Gen/HttpFacts): `abort_chain_faithful`,
      `upload_chain_faithful`, `abort_source_no_recover`, `limit_unlimited_forwards_all`,
      `limit_kth_concurrent_forwarded`, `limit_source_paths_forward`, predicates `abortHolds`, `longHolds`.

  What FAILED on the pinned tree (witnesses on the unrepaired models, reproduced by engine `http`; repaired in /repo
  by cada90e and 305e9a5, the models' switches `HttpPool.poolIsFixed`, `pluginH2HIsFixed` are `true`)
    * `pool_stale_owner_witness`: idle backend connections survive `UnRegister`, a route
      re-registered by somebody else is served through the former owner's connection;
    * `pool_noroute_witness`: a request matching no route whose `Host` spells a synthetic pool host
      is served through that route's idle connection.
    `pool_fresh_partial` holds with the excluded case as hypothesis; `pool_fresh_fixed` is the full
    statement for the repaired model (`HttpPool.step true`, hooks/C02-fix-pool-key.patch).
    * `plugin_h2h_drops_forwarded`, `plugin_h2h_witness`: the http2http plugin lost the X-Forwarded-* headers frps
      had set; `plugin_copy_keeps_forwarded` is the repaired hook.
  What FAILS on the code as it is (KNOWN_FINDINGS C02-plugin-keepalive-wrapped)
    * `plugin_wrapped_serves_one`, `plugin_wrapped_keepalive_witness` (Frp/Model/ConnReader.lean): a work connection with
      useEncryption or useCompression served by an HTTP client plugin answers one request only
      (`plugin_raw_serves_all`: a bare or only rate-limited one answers all).

  Outside (assumed, only sampled): net/http parsing/serialisation, Transport pooling, chunked and
  Content-Length framing, bodies as byte streams (a body is an opaque value here), the unparsable
  query stripping of `cleanQueryParams` (queries with ';' or a bad '%' escape are re-encoded by the
  standard library before the hook runs: excluded by `queryClean`), gzip transparency of Transport.
-/
namespace Frp
namespace C02
open Str HttpRewrite HttpPool

/-! ## requests -/

theorem xff_ne_xfh : kXFF ≠ kXFH := fwd_keys_distinct.1
theorem xff_ne_xfp : kXFF ≠ kXFP := fwd_keys_distinct.2.1
theorem xfh_ne_xfp : kXFH ≠ kXFP := fwd_keys_distinct.2.2.1
theorem xfh_ne_xff : kXFH ≠ kXFF := xff_ne_xfh.symm
theorem xfp_ne_xff : kXFP ≠ kXFF := xff_ne_xfp.symm
theorem xfp_ne_xfh : kXFP ≠ kXFH := xfh_ne_xfp.symm

/-- canonical keys of the configured request headers -/
def cfgKeys (rc : Option RouteCfg) : List Str :=
  match rc with
  | some rc => rc.headers.map (fun kv => canonKey kv.1)
  | none => []

def cfgSets (rc : Option RouteCfg) : List (Str × Str) :=
  match rc with
  | some rc => rc.headers
  | none => []

/-- every header key the proxy may legitimately change on the way to the backend -/
def touched (rc : Option RouteCfg) (q : Req) : List Str :=
  cfgKeys rc ++ [kXFF, kXFH, kXFP, kForwarded, kUA, kAE] ++ connNamed q.hdr ++ hopHeaders ++ wireExcluded

theorem request_line_body_untouched (rc : Option RouteCfg) (q : Req) (peer : Option Str) (tls : Bool) :
    let o := backendSees rc q peer tls
    o.method = q.method ∧ o.absForm = q.absForm ∧ o.path = q.path ∧ o.query = q.query ∧
    o.body = q.body ∧ o.chunked = q.chunked := by
  simp [backendSees]

/-- **Host**: rewritten iff `RewriteHost` is non-empty -/
theorem host_spec (rc : Option RouteCfg) (q : Req) (peer : Option Str) (tls : Bool) :
    (backendSees rc q peer tls).host =
      match rc with
      | some c => if c.rewriteHost ≠ [] then c.rewriteHost else q.host
      | none => q.host := by
  cases rc <;> rfl

theorem lastSet_cfg_none {rc : Option RouteCfg} {k : Str} (h : k ∉ cfgKeys rc) :
    lastSet (cfgSets rc) k = none := by
  cases rc <;> exact lastSet_none_of_not_mem h

theorem rewriteHdr_eq (rc : Option RouteCfg) (q : Req) (peer : Option Str) (tls : Bool) :
    rewriteHdr rc q peer tls =
      (let h := applySets (setXForwarded q peer tls (preRewrite q)) (cfgSets rc)
       if get h kUA = [] then set h kUA [] else h) := by
  cases rc <;> rfl

section
variable {rc : Option RouteCfg} {q : Req} {peer : Option Str} {tls : Bool} {k : Str}

/-- what the backend receives under a key, the `Transport`'s own `User-Agent` / `Accept-Encoding` aside: nothing
    for a key `Request.write` skips, else the configured value, else what the hook found and `SetXForwarded` left.
    Every request clause below is this equation at a key of its kind. -/
theorem get_backendSees (h1 : k ≠ kUA) (h2 : k ≠ kAE) :
    get (backendSees rc q peer tls).hdr k =
      if k ∈ wireExcluded then []
      else match lastSet (cfgSets rc) k with
        | some v => [v]
        | none => get (setXForwarded q peer tls (preRewrite q)) k := by
  show get (transportHdr q.method (rewriteHdr rc q peer tls)) k = _
  rw [get_transportHdr h1 h2, rewriteHdr_eq, get_uaRule_applySets h1]
  rfl

theorem get_backendSees_fwd (hk : k ∈ [kForwarded, kXFF, kXFH, kXFP]) (hc : k ∉ cfgKeys rc) :
    get (backendSees rc q peer tls).hdr k = get (setXForwarded q peer tls (preRewrite q)) k := by
  obtain ⟨h1, h2, h3⟩ := fwd_key_plain k hk
  rw [get_backendSees h1 h2, if_neg h3, lastSet_cfg_none hc]

end

/-- **end-to-end request headers**: every key outside `touched` reaches the backend with exactly
    the values (and value order) the user sent -/
theorem request_headers_preserved (rc : Option RouteCfg) (q : Req) (peer : Option Str) (tls : Bool)
    (k : Str) (hk : k ∉ touched rc q) :
    get (backendSees rc q peer tls).hdr k = get q.hdr k := by
  simp only [touched, List.mem_append, List.mem_cons, List.not_mem_nil, or_false, not_or] at hk
  obtain ⟨⟨⟨⟨hcfg, hx1, hx2, hx3, hfw, hua, hae⟩, hconn⟩, hhop⟩, hwire⟩ := hk
  rw [get_backendSees hua hae, if_neg hwire, lastSet_cfg_none hcfg, get_setXForwarded,
      if_neg hx3, if_neg hx2, if_neg hx1, get_preRewrite]
  · simp [hfw, hx1, hx2, hx3]
  · simp [hconn, hhop]

/-- **configured request headers**: a configured key (other than the ones the Transport writes
    itself) carries exactly the configured value -/
theorem configured_header_spec (rc : Option RouteCfg) (q : Req) (peer : Option Str) (tls : Bool)
    (k v : Str) (hv : lastSet (cfgSets rc) k = some v)
    (h1 : k ≠ kUA) (h2 : k ≠ kAE) (h3 : k ∉ wireExcluded) :
    get (backendSees rc q peer tls).hdr k = [v] := by
  rw [get_backendSees h1 h2, if_neg h3, hv]

/-- iteration order of the configured map does not matter while keys stay distinct -/
theorem configured_order_irrelevant {s₁ s₂ : List (Str × Str)} (hp : s₁.Perm s₂)
    (hnd : (s₁.map (fun kv => canonKey kv.1)).Nodup) (h : Hdr) (k : Str) :
    get (applySets h s₁) k = get (applySets h s₂) k := by
  have hnd2 : (s₂.map (fun kv => canonKey kv.1)).Nodup := (hp.map _).nodup_iff.1 hnd
  have key : lastSet s₁ k = lastSet s₂ k :=
    Option.ext fun v => by rw [lastSet_some_iff s₁ hnd, lastSet_some_iff s₂ hnd2]; simp only [hp.mem_iff]
  rw [get_applySets, get_applySets, key]

/-- the iteration order does matter when two configured keys canonicalise to the same key
    (`{"X-Dup": "a", "x-dup": "b"}`): the backend sees "a" or "b" depending on map order -/
theorem configured_dup_witness :
    get (applySets [] [([88, 45, 68], [97]), ([120, 45, 100], [98])]) [88, 45, 68] ≠
    get (applySets [] [([120, 45, 100], [98]), ([88, 45, 68], [97])]) [88, 45, 68] := by decide +kernel

/-- **X-Forwarded-For** = what the user sent (all values joined) extended by the user's address -/
theorem xff_spec (rc : Option RouteCfg) (q : Req) (ip : Str) (tls : Bool) (hc : kXFF ∉ cfgKeys rc) :
    get (backendSees rc q (some ip) tls).hdr kXFF =
      [if get q.hdr kXFF ≠ [] then joinCS (get q.hdr kXFF) ++ 44 :: 32 :: ip else ip] := by
  rw [get_backendSees_fwd (by simp) hc, get_setXForwarded, if_neg xff_ne_xfp, if_neg xff_ne_xfh,
      if_pos rfl]

theorem xfh_spec (rc : Option RouteCfg) (q : Req) (peer : Option Str) (tls : Bool) (hc : kXFH ∉ cfgKeys rc) :
    get (backendSees rc q peer tls).hdr kXFH = [q.host] := by
  rw [get_backendSees_fwd (by simp) hc, get_setXForwarded, if_neg xfh_ne_xfp, if_pos rfl]

theorem xfp_spec (rc : Option RouteCfg) (q : Req) (peer : Option Str) (hc : kXFP ∉ cfgKeys rc) :
    get (backendSees rc q peer false).hdr kXFP = [ofString "http"] := by
  rw [get_backendSees_fwd (by simp) hc, get_setXForwarded, if_pos rfl]
  rfl

/-- client-supplied `Forwarded` never reaches the backend (unless configured) -/
theorem forwarded_stripped (rc : Option RouteCfg) (q : Req) (peer : Option Str) (tls : Bool)
    (hc : kForwarded ∉ cfgKeys rc) : get (backendSees rc q peer tls).hdr kForwarded = [] := by
  obtain ⟨_, _, _, h1, h2, h3⟩ := fwd_keys_distinct
  rw [get_backendSees_fwd (by simp) hc, get_setXForwarded, if_neg h3, if_neg h2, if_neg h1,
      get_preRewrite_fwd q (by simp)]

/-- hop-by-hop headers (the standard list and everything named by `Connection`) are dropped;
    `Te: trailers` and the upgrade pair are the standard proxy's two exceptions -/
theorem hop_removed (rc : Option RouteCfg) (q : Req) (peer : Option Str) (tls : Bool) (k : Str)
    (hk : k ∈ connNamed q.hdr ++ hopHeaders) (hc : k ∉ cfgKeys rc)
    (h1 : k ≠ kXFF) (h2 : k ≠ kXFH) (h3 : k ≠ kXFP) (hua : k ≠ kUA) (hae : k ≠ kAE)
    (hte : k ≠ kTe) (hup : upgradeType q.hdr = []) :
    get (backendSees rc q peer tls).hdr k = [] := by
  rw [get_backendSees hua hae]
  split
  · rfl
  · rw [lastSet_cfg_none hc, get_setXForwarded, if_neg h3, if_neg h2, if_neg h1]
    exact get_preRewrite_hop q k hk hte hup

/-! ## the client plugins http2http / http2https / https2http / https2https -/

section
variable {fixed : Bool} {kind : PluginKind} {hr : Str} {sets : List (Str × Str)} {q : Req} {peer : Option Str} {k : Str}

/-- the plugins' counterpart of `get_backendSees` -/
theorem get_pluginSees (h1 : k ≠ kUA) (h2 : k ≠ kAE) :
    get (pluginSees fixed kind hr sets q peer).hdr k =
      if k ∈ wireExcluded then []
      else match lastSet sets k with
        | some v => [v]
        | none => get (pluginBase fixed kind q peer) k := by
  show get (transportHdr q.method (pluginHdr fixed kind sets q peer)) k = _
  rw [get_transportHdr h1 h2, pluginHdr, get_uaRule_applySets h1]
  rfl

theorem get_pluginSees_fwd (hk : k = kXFF ∨ k = kXFH ∨ k = kXFP) (hc : lastSet sets k = none) :
    get (pluginSees fixed kind hr sets q peer).hdr k = get (pluginBase fixed kind q peer) k := by
  obtain ⟨h1, h2, h3⟩ := fwd_key_plain k (by rcases hk with rfl | rfl | rfl <;> simp)
  rw [get_pluginSees h1 h2, if_neg h3, hc]

/-- `r.Out.Header[k] = r.In.Header[k]` for the three forwarding keys -/
theorem get_copy3 (q : Req) (h : Hdr) (k : Str) :
    get (copyKey q (copyKey q (copyKey q h kXFF) kXFH) kXFP) k =
      if k = kXFF ∨ k = kXFH ∨ k = kXFP then get q.hdr k else get h k := by
  simp only [get_copyKey]
  by_cases h3 : k = kXFP
  · simp [h3]
  · by_cases h2 : k = kXFH
    · simp [h2]
    · simp [h2, h3]

theorem get_pluginBase (h1 : k ≠ kXFF) (h2 : k ≠ kXFH) (h3 : k ≠ kXFP) :
    get (pluginBase fixed kind q peer) k = get (preRewrite q) k := by
  have hcopy := get_copy3 q (preRewrite q) k
  rw [if_neg (by simp [h1, h2, h3])] at hcopy
  have hset := get_setXForwarded q peer true (preRewrite q) k
  rw [if_neg h3, if_neg h2, if_neg h1] at hset
  cases kind
  · cases fixed
    · rfl
    · exact hcopy
  · exact hcopy
  · exact hset
  · exact hset

end

/-- **plugins, end-to-end request headers**: untouched outside the declared/standard set, for all
    four plugins -/
theorem plugin_headers_preserved (fixed : Bool) (kind : PluginKind) (hr : Str) (sets : List (Str × Str))
    (q : Req) (peer : Option Str) (k : Str)
    (hk : k ∉ sets.map (fun kv => canonKey kv.1) ++ [kXFF, kXFH, kXFP, kForwarded, kUA, kAE] ++
              connNamed q.hdr ++ hopHeaders ++ wireExcluded) :
    get (pluginSees fixed kind hr sets q peer).hdr k = get q.hdr k := by
  simp only [List.mem_append, List.mem_cons, List.not_mem_nil, or_false, not_or] at hk
  obtain ⟨⟨⟨⟨hcfg, hx1, hx2, hx3, hfw, hua, hae⟩, hconn⟩, hhop⟩, hwire⟩ := hk
  rw [get_pluginSees hua hae, if_neg hwire, lastSet_none_of_not_mem hcfg,
      get_pluginBase hx1 hx2 hx3, get_preRewrite]
  · simp [hfw, hx1, hx2, hx3]
  · simp [hconn, hhop]

/-- **http2http on the pinned tree (before 305e9a5): the user's address is lost.**  Whatever X-Forwarded-For the request
    carries when it reaches the plugin (frps has just appended the user's address), the local
    service receives none — the standard proxy strips it before the hook and the hook does not put
    it back.  Same for X-Forwarded-Host / -Proto. -/
theorem plugin_h2h_drops_forwarded (hr : Str) (sets : List (Str × Str)) (q : Req) (peer : Option Str)
    (k : Str) (hk : k = kXFF ∨ k = kXFH ∨ k = kXFP) (hc : lastSet sets k = none) :
    get (pluginSees false .h2h hr sets q peer).hdr k = [] := by
  rw [get_pluginSees_fwd hk hc]
  exact get_preRewrite_fwd q (by rcases hk with rfl | rfl | rfl <;> simp)

/-- concrete instance: frps forwarded `X-Forwarded-For: 203.0.113.9`, the service behind
    http2http sees no such header -/
theorem plugin_h2h_witness :
    get (pluginSees false .h2h [] []
          { method := ofString "GET", absForm := false, path := [47], query := none, host := ofString "h",
            hdr := parseHdr [(kXFF, ofString "203.0.113.9")], chunked := false, body := [] } none).hdr kXFF = [] :=
  plugin_h2h_drops_forwarded [] [] _ none kXFF (Or.inl rfl) rfl

/-- http2https, and http2http once repaired, hand the forwarded headers through unchanged -/
theorem plugin_copy_keeps_forwarded (kind : PluginKind) (hk2 : kind = .h2hs ∨ kind = .h2h) (hr : Str)
    (sets : List (Str × Str)) (q : Req) (peer : Option Str)
    (k : Str) (hk : k = kXFF ∨ k = kXFH ∨ k = kXFP) (hc : lastSet sets k = none) :
    get (pluginSees true kind hr sets q peer).hdr k = get q.hdr k := by
  rw [get_pluginSees_fwd hk hc]
  have hbase : pluginBase true kind q peer = copyKey q (copyKey q (copyKey q (preRewrite q) kXFF) kXFH) kXFP := by
    rcases hk2 with rfl | rfl <;> rfl
  rw [hbase, get_copy3, if_pos hk]

/-- https2http / https2https extend X-Forwarded-For by the peer address -/
theorem plugin_tls_xff (fixed : Bool) (kind : PluginKind) (hk2 : kind = .hs2h ∨ kind = .hs2hs) (hr : Str)
    (sets : List (Str × Str)) (q : Req) (ip : Str) (hc : lastSet sets kXFF = none) :
    get (pluginSees fixed kind hr sets q (some ip)).hdr kXFF =
      [if get q.hdr kXFF ≠ [] then joinCS (get q.hdr kXFF) ++ 44 :: 32 :: ip else ip] := by
  rw [get_pluginSees_fwd (Or.inl rfl) hc]
  have hbase : pluginBase fixed kind q (some ip) = setXForwarded q (some ip) true (preRewrite q) := by
    rcases hk2 with rfl | rfl <;> rfl
  rw [hbase, get_setXForwarded, if_neg xff_ne_xfp, if_neg xff_ne_xfh, if_pos rfl]

/-! ## responses -/

def cfgRespSets (rc : Option RouteCfg) : List (Str × Str) :=
  match rc with
  | some rc => rc.respHeaders
  | none => []

def respTouched (rc : Option RouteCfg) (r : Resp) : List Str :=
  (cfgRespSets rc).map (fun kv => canonKey kv.1) ++ connNamed r.hdr ++ hopHeaders ++ [kCL, kTE, kDate, kCT]

theorem modifyResponse_eq (rc : Option RouteCfg) (h : Hdr) :
    modifyResponse rc h = applySets h (cfgRespSets rc) := by
  cases rc <;> simp [modifyResponse, cfgRespSets, applySets]

/-- status untouched; body untouched (none for HEAD) -/
theorem response_status_body (rc : Option RouteCfg) (m : Str) (r : Resp) :
    (userSees rc m r).status = r.status ∧
    (userSees rc m r).body = if m = ofString "HEAD" then [] else r.body := by
  simp [userSees, serverFinish]

/-- what the user receives under a key the server does not fill in itself: nothing for the two framing keys, else
    the configured value, else what the backend sent and the hop-by-hop removal left -/
theorem get_userSees {rc : Option RouteCfg} {m : Str} {r : Resp} {k : Str} (h1 : k ≠ kDate) (h2 : k ≠ kCT) :
    get (userSees rc m r).hdr k =
      if k ∈ [kCL, kTE] then []
      else match lastSet (cfgRespSets rc) k with
        | some v => [v]
        | none => get (removeHop (transportResp r.hdr)) k := by
  rw [userSees, get_serverFinish h1 h2]
  simp only [get_delAll, modifyResponse_eq, get_applySets]
  rfl

/-- **end-to-end response headers** reach the user unchanged -/
theorem response_headers_preserved (rc : Option RouteCfg) (m : Str) (r : Resp) (k : Str)
    (hk : k ∉ respTouched rc r) : get (userSees rc m r).hdr k = get r.hdr k := by
  simp only [respTouched, List.mem_append, not_or] at hk
  obtain ⟨⟨⟨hcfg, hconn⟩, hhop⟩, hfin⟩ := hk
  simp only [List.mem_cons, List.not_mem_nil, or_false, not_or] at hfin
  obtain ⟨hcl, hte, hdate, hct⟩ := hfin
  rw [get_userSees hdate hct, if_neg (by simp [hcl, hte]), lastSet_none_of_not_mem hcfg]
  exact get_removeHop_transportResp r.hdr k (by simp [hconn, hhop])

/-- **configured response headers** carry exactly the configured value -/
theorem response_configured (rc : Option RouteCfg) (m : Str) (r : Resp) (k v : Str)
    (hv : lastSet (cfgRespSets rc) k = some v) (hk : k ∉ [kCL, kTE, kDate, kCT]) :
    get (userSees rc m r).hdr k = [v] := by
  simp only [List.mem_cons, List.not_mem_nil, or_false, not_or] at hk
  obtain ⟨hcl, hte, hdate, hct⟩ := hk
  rw [get_userSees hdate hct, if_neg (by simp [hcl, hte]), hv]

/-- `Date` / `Content-Type` supplied by the backend or the configuration are kept (304 aside,
    where net/http drops Content-Type); the server only fills them in when absent -/
theorem response_date_ctype_kept (m : Str) (r : Resp) (k : Str) (hk : k = kDate ∨ k = kCT)
    (hs : r.status ≠ 304) (hp : get r.hdr k ≠ []) : get (serverFinish m r).hdr k = get r.hdr k := by
  have hne : kDate ≠ kCT := by decide +kernel
  rcases hk with rfl | rfl
  · rw [serverFinish, get_ite_set, get_ite_set_ne hne, if_neg hs, if_neg (fun h => hp h.1)]
  · rw [serverFinish, get_ite_set_ne hne.symm, get_ite_set, if_neg hs, if_neg (fun h => hp h.1.1)]

/-! ## error answers -/

theorem errorMap_total (t : Bool) :
    errorMap t = { status := 504, hdr := [], body := [] } ∨
    errorMap t = { status := 404, hdr := [], body := notFoundPage } := by
  cases t <;> simp [errorMap]

theorem errorMap_timeout : (errorMap true).status = 504 ∧ (errorMap true).body = [] := by
  simp [errorMap]

theorem errorMap_other : (errorMap false).status = 404 ∧ (errorMap false).body = notFoundPage := by
  simp [errorMap]

/-! ## pool key -/

/-- the synthetic host determines (domain, location, routeUser, endpoint): the domain may contain dots, the
    base64 parts never do -/
theorem poolKey_injective {d l u e d' l' u' e' : Str}
    (hl : Base64.bytes l) (hu : Base64.bytes u) (he : Base64.bytes e)
    (hl' : Base64.bytes l') (hu' : Base64.bytes u') (he' : Base64.bytes e')
    (h : poolKey d l u e = poolKey d' l' u' e') : d = d' ∧ l = l' ∧ u = u' ∧ e = e' := by
  -- regroup as ((d . L) . U) . E and peel from the right
  have r : ∀ a b c : Str, a ++ 46 :: (b ++ 46 :: c) = (a ++ 46 :: b) ++ 46 :: c := by intros; simp
  simp only [poolKey, r] at h
  obtain ⟨h1, hE⟩ := split_last (Base64.encode_no_dot e he) (Base64.encode_no_dot e' he') h
  obtain ⟨h2, hU⟩ := split_last (Base64.encode_no_dot u hu) (Base64.encode_no_dot u' hu') h1
  obtain ⟨hd, hL⟩ := split_last (Base64.encode_no_dot l hl) (Base64.encode_no_dot l' hl') h2
  exact ⟨hd, Base64.encode_injective hl hl' hL, Base64.encode_injective hu hu' hU,
         Base64.encode_injective he he' hE⟩

/-- requests resolved to routes that differ in (domain, location, routeUser) never share an idle
    backend connection: their pool keys differ -/
theorem distinct_routes_distinct_keys {d l u d' l' u' : Str}
    (hl : Base64.bytes l) (hu : Base64.bytes u) (hl' : Base64.bytes l') (hu' : Base64.bytes u')
    (hne : (d, l, u) ≠ (d', l', u')) : poolKey d l u [] ≠ poolKey d' l' u' [] := by
  intro h
  obtain ⟨h1, h2, h3, _⟩ := poolKey_injective hl hu Base64.bytes_nil hl' hu' Base64.bytes_nil h
  exact hne (by rw [h1, h2, h3])

/-! ## who answers: the idle pool -/

/-- the clause of C06/C10 at stake: a request is answered by the backend of the registration that
    currently owns the route the request resolves to -/
def Fresh (s : St) (host path user : Str) (out : Out) : Prop :=
  ∀ o c r, out = .answered o c r → ∃ rt, routeOf s host path user = some rt ∧ rt.payload = o

/-- executable form used by the driver on the implementation's own answers -/
def freshB (s : St) (host path user : Str) (owner : Nat) : Bool :=
  match routeOf s host path user with
  | some rt => rt.payload = owner
  | none => false

theorem freshB_iff (s : St) (host path user : Str) (o c : Nat) (r : Bool) :
    freshB s host path user o = true ↔ Fresh s host path user (.answered o c r) := by
  unfold freshB Fresh
  constructor
  · intro h o' c' r' e
    injection e with e1; subst e1
    cases hr : routeOf s host path user with
    | none => simp [hr] at h
    | some rt => exact ⟨rt, rfl, by simpa [hr] using h⟩
  · intro h
    obtain ⟨rt, hr, hp⟩ := h o c r rfl
    simp [hr, hp]

instance (s : St) (host path user : Str) : (out : Out) → Decidable (Fresh s host path user out)
  | .answered o c r => decidable_of_iff _ (freshB_iff s host path user o c r)
  | .ok | .conflict | .notFound => isTrue (fun _ _ _ e => nomatch e)

private def wA : Str := [97]            -- domain "a"
private def wCfg (d : Str) : Cfg :=
  { rc := { domain := d, location := [], routeUser := [], rewriteHost := [], headers := [], respHeaders := [] },
    reachable := true }

/-- ops: A registers `a`, one keep-alive request, A unregisters, B registers `a`, next request -/
def staleOps : List Op :=
  [.reg 1 (wCfg wA), .serve wA [47] [] none none 10 true, .unreg wA [] [], .reg 2 (wCfg wA)]

/-- **witness (pinned tree, unrepaired model)**: after `staleOps` the request for `a` is answered by registration 1
    although the route now belongs to registration 2 -/
theorem pool_stale_owner_witness :
    let s := (run false St.init staleOps).1
    (step false s (.serve wA [47] [] none (some 10) 11 true)).2 = .answered 1 10 true ∧
    ¬ Fresh s wA [47] [] (step false s (.serve wA [47] [] none (some 10) 11 true)).2 := by
  decide +kernel

/-- the host spelled like the synthetic pool host of route (`a`, "", "") -/
def craftedHost : Str := poolKey wA [] [] []

/-- **witness (pinned tree, unrepaired model)**: no route matches `craftedHost`, yet the request is answered by
    registration 1 through its idle connection -/
theorem pool_noroute_witness :
    let s := (run false St.init [.reg 1 (wCfg wA), .serve wA [47] [] none none 10 true]).1
    routeOf s craftedHost [47] [] = none ∧
    (step false s (.serve craftedHost [47] [] none (some 10) 11 true)).2 = .answered 1 10 true := by
  decide +kernel

/-- the same two histories on the repaired model -/
theorem pool_witnesses_fixed :
    (let s := (run true St.init staleOps).1
     (step true s (.serve wA [47] [] none (some 10) 11 true)).2 = .answered 2 11 false) ∧
    (let s := (run true St.init [.reg 1 (wCfg wA), .serve wA [47] [] none none 10 true]).1
     (step true s (.serve craftedHost [47] [] none (some 10) 11 true)).2 = .notFound) := by
  decide +kernel

theorem takeIdle_some {idle : List (Key × Conn)} {k : Key} {c : Nat} {x : Conn}
    (h : takeIdle idle k c = some x) : (k, x) ∈ idle := by
  obtain ⟨e, hf, rfl⟩ := Option.map_eq_some_iff.1 h
  have hp := List.find?_some hf
  simp only [decide_eq_true_eq] at hp
  rw [← hp.1]
  exact List.mem_of_find?_eq_some hf

/-- the connection of the exchange is the only one the idle list can gain -/
theorem mem_keep {keep : Bool} {kc e : Key × Conn} {l' l : List (Key × Conn)} (hsub : ∀ e ∈ l', e ∈ l)
    (he : e ∈ (if keep then kc :: l' else l')) : e ∈ l ∨ e = kc := by
  cases keep with
  | false => exact Or.inl (hsub e he)
  | true =>
    rcases List.mem_cons.1 he with rfl | he
    · exact Or.inr rfl
    · exact Or.inl (hsub e he)

section
variable (fixed : Bool) (s : St) (host path user : Str) (via : Option (Str × Option Str)) (reuse : Option Nat)
  (newId : Nat) (keep : Bool)

/-- `serve` of either model, case by case (`k` the pool key of the request, `res` the step's result): no answer and
    nothing changed; or an idle connection under `k` answers; or a newly dialled connection of the route's
    registration does -/
theorem serve_cases {k : Key} {res : St × Out}
    (hk : keyOf fixed s (routeOf s host path user) host via = k)
    (hres : step fixed s (.serve host path user via reuse newId keep) = res) :
    res = (s, .notFound) ∨
    (∃ x, (k, x) ∈ s.idle ∧ res.2 = .answered x.owner x.id true ∧ ∀ e ∈ res.1.idle, e ∈ s.idle ∨ e = (k, x)) ∨
    (∃ rt cfg, routeOf s host path user = some rt ∧ s.cfgOf rt.payload = some cfg ∧
        res.2 = .answered rt.payload newId false ∧ ∀ e ∈ res.1.idle, e ∈ s.idle ∨ e = (k, ⟨newId, rt.payload⟩)) := by
  simp only [step, hk] at hres
  by_cases hg : fixed = true ∧ routeOf s host path user = none
  · rw [if_pos hg] at hres; exact Or.inl hres.symm
  · rw [if_neg hg] at hres
    cases hb : reuse.bind (takeIdle s.idle k) with
    | some x =>
      have hx : (k, x) ∈ s.idle := by
        cases reuse with
        | none => cases hb
        | some n => exact takeIdle_some hb
      rw [hb] at hres
      subst hres
      exact Or.inr (Or.inl ⟨x, hx, rfl, fun e he => mem_keep (fun e he => (List.mem_filter.1 he).1) he⟩)
    | none =>
      rw [hb] at hres
      cases hr : routeOf s host path user with
      | none => rw [hr] at hres; exact Or.inl hres.symm
      | some rt =>
        rw [hr] at hres
        cases hc : s.cfgOf rt.payload with
        | none => simp only [hc] at hres; exact Or.inl hres.symm
        | some cfg =>
          simp only [hc] at hres
          cases hre : cfg.reachable with
          | false => simp only [hre, Bool.false_eq_true, if_false] at hres; exact Or.inl hres.symm
          | true =>
            simp only [hre, if_true] at hres
            subst hres
            exact Or.inr (Or.inr ⟨rt, cfg, rfl, hc, rfl, fun e he => mem_keep (fun _ h => h) he⟩)

/-- **either model answers freshly** as long as the idle connections under the request's key belong to the owner of
    the route; what the repair adds is that this becomes an invariant -/
theorem serve_fresh
    (hidle : ∀ c, (keyOf fixed s (routeOf s host path user) host via, c) ∈ s.idle →
              ∃ rt, routeOf s host path user = some rt ∧ rt.payload = c.owner) :
    Fresh s host path user (step fixed s (.serve host path user via reuse newId keep)).2 := by
  intro o c r hout
  rcases serve_cases fixed s host path user via reuse newId keep rfl rfl with h | ⟨x, hx, hres, _⟩ | ⟨rt, cfg, hr, _, hres, _⟩
  · rw [h] at hout; cases hout
  · rw [hres] at hout
    injection hout with h1 _ _
    obtain ⟨rt, hrt, hp⟩ := hidle x hx
    exact ⟨rt, hrt, by rw [hp, h1]⟩
  · rw [hres] at hout
    injection hout with h1 _ _
    exact ⟨rt, hr, h1⟩

end

/-- **partial (pinned tree, unrepaired model)**: a request is answered by the current owner provided no idle
    connection under its key belongs to somebody else — the excluded case is exactly the one the
    witnesses exhibit -/
theorem pool_fresh_partial (s : St) (host path user : Str) (via : Option (Str × Option Str))
    (reuse : Option Nat) (newId : Nat) (keep : Bool)
    (hidle : ∀ c, (keyOf false s (routeOf s host path user) host via, c) ∈ s.idle →
              ∃ rt, routeOf s host path user = some rt ∧ rt.payload = c.owner) :
    Fresh s host path user (step false s (.serve host path user via reuse newId keep)).2 :=
  serve_fresh false s host path user via reuse newId keep hidle

/-- invariant of the repaired model: an idle connection sits under a key that names its owner -/
def PoolInv (s : St) : Prop := ∀ e ∈ s.idle, e.1.nonce = some e.2.owner

theorem poolInv_init : PoolInv St.init := nofun

theorem keyOf_fixed_nonce {s : St} {rt : Route} {host : Str} {via : Option (Str × Option Str)} {c : Cfg}
    (hc : s.cfgOf rt.payload = some c) : (keyOf true s (some rt) host via).nonce = some rt.payload := by
  simp [keyOf, hc]

theorem keyOf_fixed_owner {s : St} {r : Option Route} {host : Str} {via : Option (Str × Option Str)} {o : Nat}
    (h : (keyOf true s r host via).nonce = some o) : ∃ rt, r = some rt ∧ rt.payload = o := by
  cases r with
  | none => cases h
  | some rt =>
    cases hc : s.cfgOf rt.payload with
    | none => simp [keyOf, hc] at h
    | some cfg => rw [keyOf_fixed_nonce hc] at h; exact ⟨rt, rfl, Option.some.inj h⟩

/-- one step of the repaired model keeps the invariant -/
theorem step_fixed_inv (s : St) (op : Op) (hinv : PoolInv s) : PoolInv (step true s op).1 := by
  cases op with
  | reg id c =>
    simp only [step]
    split
    · exact hinv
    · exact hinv
  | unreg d l u => exact hinv
  | serve host path user via reuse newId keep =>
    rcases serve_cases true s host path user via reuse newId keep rfl rfl with h | ⟨x, hx, _, hsub⟩ | ⟨rt, cfg, hr, hc, _, hsub⟩
    · rw [h]; exact hinv
    · intro e he
      rcases hsub e he with h | rfl
      · exact hinv e h
      · exact hinv _ hx
    · intro e he
      rcases hsub e he with h | rfl
      · exact hinv e h
      · rw [hr]; exact keyOf_fixed_nonce hc

/-- under the invariant a step of the repaired model answers freshly -/
theorem serve_fixed_fresh (s : St) (hinv : PoolInv s) (host path user : Str) (via : Option (Str × Option Str))
    (reuse : Option Nat) (newId : Nat) (keep : Bool) :
    Fresh s host path user (step true s (.serve host path user via reuse newId keep)).2 :=
  serve_fresh true s host path user via reuse newId keep fun _ hc => keyOf_fixed_owner (hinv _ hc)

theorem run_fixed_inv (ops : List Op) (s : St) (hinv : PoolInv s) : PoolInv (run true s ops).1 := by
  induction ops generalizing s with
  | nil => exact hinv
  | cons o os ih =>
    simp only [run]
    exact ih _ (step_fixed_inv s o hinv)

/-- **repaired model, full statement**: after ANY history of registrations, unregistrations and
    requests (any reuse choices of the Transport), every request is answered by the registration
    that currently owns the route it resolves to — in particular never by a former owner and never
    without a route -/
theorem pool_fresh_fixed (ops : List Op) (host path user : Str) (via : Option (Str × Option Str))
    (reuse : Option Nat) (newId : Nat) (keep : Bool) :
    Fresh (run true St.init ops).1 host path user
      (step true (run true St.init ops).1 (.serve host path user via reuse newId keep)).2 :=
  serve_fixed_fresh _ (run_fixed_inv ops St.init poolInv_init) _ _ _ _ _ _ _

/-! ## executable predicates for the driver (evaluated on the implementation's own results) -/

/-- all keys of a header map -/
def keysOf (h : Hdr) : List Str := h.map (·.1)

/-- the request the backend saw satisfies every request clause -/
def reqHolds (rc : Option RouteCfg) (q : Req) (ip : Str) (seen : Req) : Bool :=
  let ks := keysOf seen.hdr ++ keysOf q.hdr ++ cfgKeys rc ++ [kXFF, kXFH, kXFP, kForwarded]
  decide (seen.method = q.method ∧ seen.absForm = q.absForm ∧ seen.path = q.path ∧ seen.query = q.query ∧
          seen.body = q.body) &&
  decide (seen.host = match rc with
                      | some c => if c.rewriteHost ≠ [] then c.rewriteHost else q.host
                      | none => q.host) &&
  ks.all (fun k =>
    -- end-to-end keys unchanged
    (decide (k ∈ touched rc q) || decide (get seen.hdr k = get q.hdr k)) &&
    -- configured keys carry the configured value
    (match lastSet (cfgSets rc) k with
     | some v => decide (k = kUA ∨ k = kAE ∨ k ∈ wireExcluded) || decide (get seen.hdr k = [v])
     | none => true)) &&
  (decide (kXFF ∈ cfgKeys rc) ||
    decide (get seen.hdr kXFF = [if get q.hdr kXFF ≠ [] then joinCS (get q.hdr kXFF) ++ 44 :: 32 :: ip else ip])) &&
  (decide (kXFH ∈ cfgKeys rc) || decide (get seen.hdr kXFH = [q.host])) &&
  (decide (kXFP ∈ cfgKeys rc) || decide (get seen.hdr kXFP = [ofString "http"])) &&
  (decide (kForwarded ∈ cfgKeys rc) || decide (get seen.hdr kForwarded = []))

/-- the model's own output satisfies the predicate (so a `prop=FAILS` is never the model's doing) -/
theorem model_reqHolds (rc : Option RouteCfg) (q : Req) (ip : Str) :
    reqHolds rc q ip (backendSees rc q (some ip) false) = true := by
  unfold reqHolds
  have hl := request_line_body_untouched rc q (some ip) false
  simp only at hl
  simp only [Bool.and_eq_true, Bool.or_eq_true, decide_eq_true_eq, List.all_eq_true]
  -- every clause is "the key is excused, or the theorem for it applies"
  refine ⟨⟨⟨⟨⟨⟨⟨hl.1, hl.2.1, hl.2.2.1, hl.2.2.2.1, hl.2.2.2.2.1⟩, host_spec rc q _ _⟩, fun k _ => ⟨?_, ?_⟩⟩,
    ?_⟩, ?_⟩, ?_⟩, ?_⟩
  · exact Decidable.or_iff_not_imp_left.2 (request_headers_preserved rc q _ _ k)
  · cases hv : lastSet (cfgSets rc) k with
    | none => rfl
    | some v =>
      simp only [Bool.or_eq_true, decide_eq_true_eq]
      refine Decidable.or_iff_not_imp_left.2 fun hx => ?_
      simp only [not_or] at hx
      exact configured_header_spec rc q _ _ k v hv hx.1 hx.2.1 hx.2.2
  · exact Decidable.or_iff_not_imp_left.2 (xff_spec rc q ip false)
  · exact Decidable.or_iff_not_imp_left.2 (xfh_spec rc q _ false)
  · exact Decidable.or_iff_not_imp_left.2 (xfp_spec rc q _)
  · exact Decidable.or_iff_not_imp_left.2 (forwarded_stripped rc q _ false)

/-- keys a plugin may legitimately change -/
def pluginTouched (sets : List (Str × Str)) (q : Req) : List Str :=
  sets.map (fun kv => canonKey kv.1) ++ [kXFF, kXFH, kXFP, kForwarded, kUA, kAE] ++
    connNamed q.hdr ++ hopHeaders ++ wireExcluded

/-- executable predicate for the driver: what the service behind a plugin received keeps the
    request line, the body, every end-to-end header, and the X-Forwarded-For chain (handed through
    by the http2* plugins, extended by the peer address by the https2* plugins) -/
def plugHolds (kind : PluginKind) (hr : Str) (sets : List (Str × Str)) (q : Req) (ip : Str) (seen : Req) : Bool :=
  decide (seen.method = q.method ∧ seen.absForm = q.absForm ∧ seen.path = q.path ∧ seen.query = q.query ∧
          seen.body = q.body) &&
  decide (seen.host = if hr ≠ [] then hr else q.host) &&
  (keysOf seen.hdr ++ keysOf q.hdr).all (fun k =>
    decide (k ∈ pluginTouched sets q) || decide (get seen.hdr k = get q.hdr k)) &&
  (decide (lastSet sets kXFF ≠ none) ||
    (match kind with
     | .h2h => decide (get seen.hdr kXFF = get q.hdr kXFF)
     | .h2hs => decide (get seen.hdr kXFF = get q.hdr kXFF)
     | _ => decide (get seen.hdr kXFF =
              [if get q.hdr kXFF ≠ [] then joinCS (get q.hdr kXFF) ++ 44 :: 32 :: ip else ip])))

/-- the repaired plugin model satisfies the predicate for all four plugins -/
theorem model_plugHolds (kind : PluginKind) (hr : Str) (sets : List (Str × Str)) (q : Req) (ip : Str) :
    plugHolds kind hr sets q ip (pluginSees true kind hr sets q (some ip)) = true := by
  unfold plugHolds
  simp only [Bool.and_eq_true, Bool.or_eq_true, decide_eq_true_eq, List.all_eq_true]
  refine ⟨⟨⟨by simp [pluginSees], by simp [pluginSees]⟩, fun k _ => ?_⟩, ?_⟩
  · exact Decidable.or_iff_not_imp_left.2 (plugin_headers_preserved true kind hr sets q _ k)
  · cases hc : lastSet sets kXFF with
    | some v => left; simp
    | none =>
      right
      cases kind with
      | h2h => simpa using plugin_copy_keeps_forwarded .h2h (Or.inr rfl) hr sets q _ kXFF (Or.inl rfl) hc
      | h2hs => simpa using plugin_copy_keeps_forwarded .h2hs (Or.inl rfl) hr sets q _ kXFF (Or.inl rfl) hc
      | hs2h => simpa using plugin_tls_xff true .hs2h (Or.inl rfl) hr sets q ip hc
      | hs2hs => simpa using plugin_tls_xff true .hs2hs (Or.inr rfl) hr sets q ip hc

/-- the answer the user saw satisfies every response clause -/
def respHolds (rc : Option RouteCfg) (m : Str) (r : Resp) (seen : Resp) : Bool :=
  let ks := keysOf seen.hdr ++ keysOf r.hdr ++ (cfgRespSets rc).map (fun kv => canonKey kv.1)
  decide (seen.status = r.status) &&
  decide (seen.body = if m = ofString "HEAD" then [] else r.body) &&
  ks.all (fun k =>
    (decide (k ∈ respTouched rc r) || decide (get seen.hdr k = get r.hdr k)) &&
    (match lastSet (cfgRespSets rc) k with
     | some v => decide (k ∈ [kCL, kTE, kDate, kCT]) || decide (get seen.hdr k = [v])
     | none => true))

theorem model_respHolds (rc : Option RouteCfg) (m : Str) (r : Resp) :
    respHolds rc m r (userSees rc m r) = true := by
  unfold respHolds
  have hs := response_status_body rc m r
  simp only [Bool.and_eq_true, Bool.or_eq_true, decide_eq_true_eq, List.all_eq_true]
  refine ⟨⟨hs.1, hs.2⟩, fun k _ => ⟨?_, ?_⟩⟩
  · exact Decidable.or_iff_not_imp_left.2 (response_headers_preserved rc m r k)
  · cases hv : lastSet (cfgRespSets rc) k with
    | none => rfl
    | some v =>
      simp only [Bool.or_eq_true, decide_eq_true_eq]
      exact Decidable.or_iff_not_imp_left.2 (response_configured rc m r k v hv)

/-! ## time: streamed bodies, tunnels, the response-header timeout

  Model: Frp/Model/HttpTime.lean.  `L.reqCtx = none` is what pkg/util/vhost/http.go does (the request
  context gets values, never a deadline); `frpLimits` is that instance.  The clauses are stated for
  EVERY time line: any work-connection wait, any pace of upload and download, any idle period inside
  a tunnel — in particular exchanges that last (much) longer than the response-header timeout. -/
section Time
open HttpTime

theorem deliver_none (t : Nat) (ps : List Piece) :
    deliver none t ps = (cat ps, t + dur ps, false) := by
  induction ps generalizing t with
  | nil => simp [deliver, cat, dur]
  | cons p ps ih => simp [deliver, expired, ih, cat, dur, Nat.add_assoc]

/-- the configured timeout is always a positive finite time (`<= 0` means 60 s): an exchange whose
    backend stays silent is never waited for for ever -/
theorem headerTimeout_pos (s : Int) : 0 < headerTimeoutMs s := by
  unfold headerTimeoutMs
  split
  · omega
  · omega

/-- **streamed bodies of any duration**: if the response header block arrives within the timeout,
    the backend receives every request-body byte and the user every response-body byte, in order,
    and the user's read ends at the end of the body — whatever the dial time, the pace of the upload
    and the pace of the download (nothing bounds the exchange as a whole) -/
theorem streamed_exchange_complete (L : Limits) (hL : L.reqCtx = none) (x : Exchange) (h : Nat)
    (hth : x.think = some h) (hlt : h < L.respHeader) :
    relay L x = { answer := .backend, answerAt := x.dial + dur x.upload + h, up := cat x.upload,
                  down := cat x.download, complete := true } := by
  simp [relay, hL, expired, deliver_none, hth, hlt]

/-- the same for frp's own limits, any `vhostHTTPTimeout` -/
theorem frp_streamed_exchange_complete (s : Int) (x : Exchange) (h : Nat)
    (hth : x.think = some h) (hlt : h < headerTimeoutMs s) :
    (relay (frpLimits s) x).answer = .backend ∧ (relay (frpLimits s) x).up = cat x.upload ∧
    (relay (frpLimits s) x).down = cat x.download ∧ (relay (frpLimits s) x).complete = true := by
  rw [streamed_exchange_complete (frpLimits s) rfl x h hth hlt]
  simp

/-- **response-header timeout**: a backend that does not send its header block within the timeout
    gives the 504 answer exactly `respHeader` after the request was written (bounded, no hang); the
    request body was still delivered in full -/
theorem header_timeout_bounded (L : Limits) (hL : L.reqCtx = none) (x : Exchange)
    (hth : x.think = none ∨ ∃ h, x.think = some h ∧ L.respHeader ≤ h) :
    (relay L x).answer = .gatewayTimeout ∧ (relay L x).answerAt = x.dial + dur x.upload + L.respHeader ∧
    (relay L x).up = cat x.upload ∧ (relay L x).down = [] := by
  rcases hth with hn | ⟨h, hs, hle⟩
  · simp [relay, hL, expired, deliver_none, hn, giveUpAt]
  · have : ¬ h < L.respHeader := by omega
    simp [relay, hL, expired, deliver_none, hs, this, giveUpAt]

/-- the timeout is about the header block ONLY: which of the two answers the user gets is decided
    by `think` alone -/
theorem answer_backend_iff (L : Limits) (hL : L.reqCtx = none) (x : Exchange) :
    (relay L x).answer = .backend ↔ ∃ h, x.think = some h ∧ h < L.respHeader := by
  constructor
  · intro ha
    cases hth : x.think with
    | none => rw [(header_timeout_bounded L hL x (Or.inl hth)).1] at ha; cases ha
    | some h =>
      by_cases hlt : h < L.respHeader
      · exact ⟨h, rfl, hlt⟩
      · rw [(header_timeout_bounded L hL x (Or.inr ⟨h, hth, by omega⟩)).1] at ha; cases ha
  · rintro ⟨h, hth, hlt⟩
    rw [streamed_exchange_complete L hL x h hth hlt]

/-- **why `reqCtx = none` is needed**: under ANY deadline on the request context there is an
    exchange whose header block arrives at once and whose body is nevertheless cut (a whole-exchange
    deadline is not a response-header timeout) -/
theorem ctx_deadline_cuts_stream (L : Limits) (d : Nat) (hL : L.reqCtx = some d) (hpos : 0 < L.respHeader) :
    ∃ x : Exchange, x.think = some 0 ∧ (relay L x).complete = false ∧
      (relay { L with reqCtx := none } x).complete = true := by
  refine ⟨{ dial := 0, upload := [], think := some 0, download := [⟨d, [0]⟩] }, rfl, ?_, ?_⟩
  · -- cut at the dial (`d = 0`) or at the one body piece: incomplete on every branch
    simp [relay, hL, expired, deliver, hpos, apply_ite Outcome.complete]
  · rw [streamed_exchange_complete { L with reqCtx := none } rfl _ 0 rfl hpos]

theorem tunnel_none (t : Nat) (ps : List TPiece) :
    tunnel none t ps = (ps.map (fun p => (p.dir, p.data)), false) := by
  induction ps generalizing t with
  | nil => simp [tunnel]
  | cons p ps ih => simp [tunnel, expired, ih]

/-- **CONNECT tunnels** (`connectHandler`, no clock at all): every piece of either direction is
    relayed, in order, whatever the idle periods -/
theorem connect_tunnel_transparent (t : Nat) (ps : List TPiece) :
    (tunnel none t ps).1 = ps.map (fun p => (p.dir, p.data)) ∧ (tunnel none t ps).2 = false := by
  rw [tunnel_none]; exact ⟨rfl, rfl⟩

/-- **protocol upgrades**: once the 101 arrived within the timeout the tunnel relays every piece of
    either direction, in order, whatever the idle periods and however long it stays open -/
theorem upgrade_tunnel_transparent (L : Limits) (hL : L.reqCtx = none) (dial think : Nat)
    (hlt : think < L.respHeader) (ps : List TPiece) :
    upgrade L dial think ps = (.backend, ps.map (fun p => (p.dir, p.data)), false) := by
  unfold upgrade
  rw [streamed_exchange_complete L hL _ think rfl hlt]
  simp [hL, tunnel_none]

/-- under any deadline on the request context some upgraded connection is closed while in use -/
theorem ctx_deadline_cuts_tunnel (L : Limits) (d : Nat) (hL : L.reqCtx = some d) (hpos : 0 < L.respHeader) :
    ∃ ps : List TPiece, (upgrade L 0 0 ps).2.2 = true ∧
      (upgrade { L with reqCtx := none } 0 0 ps).2.2 = false := by
  refine ⟨[⟨d, .up, [0]⟩], ?_, ?_⟩
  · by_cases hd : d = 0
    · simp [upgrade, relay, hL, expired, hd]
    · have h0 : ¬ d ≤ 0 := by omega
      simp [upgrade, relay, hL, expired, deliver, hpos, h0, tunnel]
  · rw [upgrade_tunnel_transparent { L with reqCtx := none } rfl 0 0 hpos]

/-- `ServeHTTP` hands the reverse proxy a writer that can be hijacked, so an upgrade IS the model's
    `upgrade` (and not the error answer) -/
theorem frp_upgrade_switches (L : Limits) (dial think : Nat) (ps : List TPiece) :
    upgradeThrough frpRW L dial think ps = some (upgrade L dial think ps) := rfl

/-- why the capability matters: behind a writer that is not a Hijacker no upgrade ever becomes a tunnel -/
theorem upgrade_needs_hijacker (L : Limits) (dial think : Nat) (ps : List TPiece) :
    upgradeThrough { hijacker := false } L dial think ps = none := rfl

/-- executable predicate for upgrade / CONNECT ops, evaluated on the implementation's own result:
    `reached` = a backend received the handshake of THIS op (and, being the recording backend, accepted
    it with 101 / 200), `fresh` = `freshB` for that backend, `st` = the status the user got, `want` =
    101 (upgrade) or 200 (CONNECT), `upOk` / `downOk` = every tunnel byte of that direction arrived
    (len + FNV), `page` = the user got frp's not-found page.  The backend's acceptance must reach the
    user and the connection must then be a byte-transparent tunnel; without a backend the only answer
    is 404 + page. -/
def tunnelHolds (reached fresh : Bool) (st want : Nat) (upOk downOk page : Bool) : Bool :=
  if reached then fresh && decide (st = want) && upOk && downOk else decide (st = 404) && page

theorem tunnelHolds_sound (reached fresh : Bool) (st want : Nat) (upOk downOk page : Bool) :
    tunnelHolds reached fresh st want upOk downOk page = true ↔
      (reached = true → fresh = true ∧ st = want ∧ upOk = true ∧ downOk = true) ∧
      (reached = false → st = 404 ∧ page = true) := by
  cases reached <;> simp [tunnelHolds, and_assoc]

/-- the model of the code as it is meets the predicate for every time line: the 101 arrives, and what
    the tunnel relays is, per direction, exactly what was sent -/
theorem tunnelHolds_model (L : Limits) (hL : L.reqCtx = none) (dial think : Nat)
    (hlt : think < L.respHeader) (ps : List TPiece) :
    ∃ rel, upgradeThrough frpRW L dial think ps = some (.backend, rel, false) ∧
      tunnelHolds true true 101 101
        (dirData .up rel == dirData .up (ps.map (fun p => (p.dir, p.data))))
        (dirData .down rel == dirData .down (ps.map (fun p => (p.dir, p.data)))) false = true := by
  refine ⟨ps.map (fun p => (p.dir, p.data)), ?_, ?_⟩
  · rw [frp_upgrade_switches, upgrade_tunnel_transparent L hL dial think hlt]
  · simp [tunnelHolds]

/-- executable predicate for the driver, evaluated on what the implementation reported for an
    exchange with time line outcome `o` (an untimed exchange is the time line without gaps):
    `reached` = the backend recorded the complete request, `st504` = the user got 504 with an empty
    body, `reqOk` / `respOk` = `freshB` + `reqHolds` / `respHolds` (bodies byte for byte) on what the
    backend / the user received, `endOk` = the user's read ended at the end of the body.
    When the model says the backend answers in time, the backend must have been reached and the
    whole answer relayed; a 504 is acceptable only when the header block is late. -/
def timedHolds (o : Outcome) (reached st504 reqOk respOk endOk : Bool) : Bool :=
  match o.answer with
  | .backend => reached && reqOk && respOk && endOk && o.complete
  | .gatewayTimeout => st504 && (!reached || reqOk)

/-- the predicate never asks for more than the model delivers: for frp's limits and a header block
    inside the timeout it reduces to "reached, both predicates hold, body ended properly" -/
theorem timedHolds_frp (s : Int) (x : Exchange) (h : Nat) (hth : x.think = some h) (hlt : h < headerTimeoutMs s)
    (st504 reqOk respOk endOk : Bool) :
    timedHolds (relay (frpLimits s) x) true st504 reqOk respOk endOk = (reqOk && respOk && endOk) := by
  rw [streamed_exchange_complete (frpLimits s) rfl x h hth hlt]
  simp [timedHolds]

/-- non-vacuity: a download of 2.5 s under `vhostHTTPTimeout = 1` is relayed in full by the model of
    the code as it is, and is cut after the pieces of the first second under a 1 s context deadline -/
example :
    let x : Exchange := { dial := 0, upload := [⟨700, [1]⟩, ⟨700, [2]⟩], think := some 100,
                              download := [⟨0, [3]⟩, ⟨800, [4]⟩, ⟨800, [5]⟩, ⟨900, [6]⟩] }
    (relay (frpLimits 1) x).down = [3, 4, 5, 6] ∧ (relay (frpLimits 1) x).complete = true ∧
    (relay (frpLimits 1) x).up = [1, 2] ∧
    (relay { respHeader := 1000, reqCtx := some 3000 } x).down = [3, 4] ∧
    (relay { respHeader := 1000, reqCtx := some 3000 } x).complete = false ∧
    (relay (frpLimits 1) { x with think := some 1000 }).answer = .gatewayTimeout ∧
    (relay (frpLimits 1) { x with think := some 1000 }).answerAt = 2400 := by
  decide +kernel

end Time

/-! ## end to end: the exchange through the tunnel (every tunnel option, every burst)

  Between frps' `http.Transport` and the local service lies the work connection with the wrappers of
  server/proxy/http.go `GetRealConn` on one end (`Layers.httpRealConnStack`: encryption, compression,
  server-side limiter) and those of client/proxy/proxy.go `HandleTCPWorkConnection` on the other
  (`Layers.clientStack`: client-side limiter, encryption, compression).  C01 proves that pair byte
  transparent for every option combination (`C01.tunnel_down_complete`, `C01.tunnel_up_complete`; the
  limiter's part is `C01.writer_chunks`).  Composed with the body clauses above: whatever the rewrite
  hook leaves of a request / an answer is what the other side of the tunnel receives — for any lawful
  cipher / compression layers, any write pattern of the sender, any chunking of the wire, any
  framing `frame` (identity for Content-Length, chunked encoding, …: net/http's, opaque here) and any
  serialised header block `head`. -/
section Tunnel
open Layers Limit

/-- server/proxy/http.go `GetRealConn`: the wrappers frps puts on the work connection of an http
    proxy, as one layer -/
def httpServerLayer (encL compL : Layer) (burst : Nat) (o : Opts) : Layer :=
  stackLayer (instantiate encL compL burst (httpRealConnStack o))

/-- it is the stack of `handleUserTCPConnection` (same wrappers, same order) -/
theorem httpServerLayer_eq (encL compL : Layer) (burst : Nat) (o : Opts) :
    httpServerLayer encL compL burst o = C01.serverLayer encL compL burst o := rfl

/-- **request, complete**: the `Transport` writes the request of `backendSees` in any pieces `ps`; once
    the wire carried all of it, the local service has received the header block followed by the
    body the USER sent, framed as sent — for every option combination and every burst > 0 -/
theorem e2e_request_delivered {encL compL : Layer} (he : Lawful encL) (hc : Lawful compL)
    (burst : Nat) (hb : 0 < burst) (o : Opts)
    (rc : Option RouteCfg) (q : Req) (peer : Option Str) (tls : Bool)
    (head : C01Bytes) (frame : Str → C01Bytes) (ps cs : List C01Bytes)
    (hps : ps.flatten = head ++ frame (backendSees rc q peer tls).body)
    (hw : cs.flatten = ((httpServerLayer encL compL burst o).Eout ps).flatten) :
    (C01.clientLayer encL compL burst o).Dout cs = head ++ frame q.body := by
  rw [C01.tunnel_down_complete he hc burst hb o ps cs hw, hps,
      (request_line_body_untouched rc q peer tls).2.2.2.2.1]

/-- **request, at any moment**: whatever part of the wire arrived so far, in whatever chunking, what
    the local service has received is a prefix of that — never other bytes -/
theorem e2e_request_prefix {encL compL : Layer} (he : Lawful encL) (hc : Lawful compL)
    (burst : Nat) (hb : 0 < burst) (o : Opts)
    (rc : Option RouteCfg) (q : Req) (peer : Option Str) (tls : Bool)
    (head : C01Bytes) (frame : Str → C01Bytes) (ps cs : List C01Bytes)
    (hps : ps.flatten = head ++ frame (backendSees rc q peer tls).body)
    (hw : cs.flatten <+: ((httpServerLayer encL compL burst o).Eout ps).flatten) :
    (C01.clientLayer encL compL burst o).Dout cs <+: head ++ frame q.body := by
  have h := C01.tunnel_down_prefix he hc burst hb o ps cs hw
  rwa [hps, (request_line_body_untouched rc q peer tls).2.2.2.2.1] at h

/-- **answer, complete**: the local service writes its answer (header block, framed body `r.body`) in
    any pieces `rs`; once the wire carried all of it the `Transport` has read exactly that, and the
    user is given status and body of `r` -/
theorem e2e_response_delivered {encL compL : Layer} (he : Lawful encL) (hc : Lawful compL)
    (burst : Nat) (hb : 0 < burst) (o : Opts)
    (rc : Option RouteCfg) (m : Str) (r : Resp)
    (head : C01Bytes) (frame : Str → C01Bytes) (rs cs : List C01Bytes)
    (hrs : rs.flatten = head ++ frame r.body)
    (hw : cs.flatten = ((C01.clientLayer encL compL burst o).Eout rs).flatten) :
    (httpServerLayer encL compL burst o).Dout cs = head ++ frame r.body ∧
    (userSees rc m r).status = r.status ∧
    (userSees rc m r).body = if m = ofString "HEAD" then [] else r.body := by
  refine ⟨?_, response_status_body rc m r⟩
  rw [httpServerLayer_eq, C01.tunnel_up_complete he hc burst hb o rs cs hw, hrs]

theorem e2e_response_prefix {encL compL : Layer} (he : Lawful encL) (hc : Lawful compL)
    (burst : Nat) (hb : 0 < burst) (o : Opts) (r : Resp)
    (head : C01Bytes) (frame : Str → C01Bytes) (rs cs : List C01Bytes)
    (hrs : rs.flatten = head ++ frame r.body)
    (hw : cs.flatten <+: ((C01.clientLayer encL compL burst o).Eout rs).flatten) :
    (httpServerLayer encL compL burst o).Dout cs <+: head ++ frame r.body := by
  have h := C01.tunnel_up_prefix he hc burst hb o rs cs hw
  rwa [hrs] at h

/-- **the whole exchange**, all tunnel options at once: request and answer bodies cross the tunnel
    unchanged whatever `useEncryption`, `useCompression`, `bandwidthLimit` (> 0, either mode) are -/
theorem e2e_exchange_transparent {encL compL : Layer} (he : Lawful encL) (hc : Lawful compL)
    (rc : Option RouteCfg) (q : Req) (peer : Option Str) (tls : Bool) (r : Resp)
    (hq hr : C01Bytes) (frame : Str → C01Bytes) (ps rs : List C01Bytes)
    (hps : ps.flatten = hq ++ frame (backendSees rc q peer tls).body)
    (hrs : rs.flatten = hr ++ frame r.body) :
    ∀ (o : Opts) (burst : Nat), 0 < burst →
      (∀ cs, cs.flatten = ((httpServerLayer encL compL burst o).Eout ps).flatten →
        (C01.clientLayer encL compL burst o).Dout cs = hq ++ frame q.body) ∧
      (∀ cs, cs.flatten = ((C01.clientLayer encL compL burst o).Eout rs).flatten →
        (httpServerLayer encL compL burst o).Dout cs = hr ++ frame r.body) ∧
      (userSees rc q.method r).status = r.status ∧
      (q.method ≠ ofString "HEAD" → (userSees rc q.method r).body = r.body) := by
  intro o burst hb
  refine ⟨fun cs hw => e2e_request_delivered he hc burst hb o rc q peer tls hq frame ps cs hps hw,
          fun cs hw => (e2e_response_delivered he hc burst hb o rc q.method r hr frame rs cs hrs hw).1,
          (response_status_body rc q.method r).1, fun hm => ?_⟩
  rw [(response_status_body rc q.method r).2, if_neg hm]

/-- **the limiter's share**: ONE `Write` of a body of ANY size through `limit.Writer` (the 16 KiB /
    32 KiB copy buffers of `libio.Join` / `http.Transport` are larger than a small `bandwidthLimit`)
    leaves as pieces that concatenate to the body, each `WaitN` request is for the piece itself and
    never exceeds the burst (so `WaitN` cannot refuse it), and the `n` returned is `len(p)` -/
theorem limited_write_whole (b : Nat) (hb : 0 < b) (p : C01Bytes) :
    (chunks b p).flatten = p ∧ (∀ x ∈ writerTrace b p, x.1 ≤ b ∧ x.1 = x.2.length) ∧
    writerN b p = p.length :=
  ⟨C01.writer_chunks b hb p, C01.writer_requests_admissible b hb p, (C01.writer_tokens b hb p).2⟩

/-- what engine `httpe2e` observed of one exchange through a real frps + frpc pair -/
structure E2eObs where
  beOk     : Bool      -- the request reached the backend of the proxy its Host names
  tagOk    : Bool      -- the answer the user got is that backend's
  lineOk   : Bool      -- method and request target as sent
  upWant   : Str       -- request body sent (value: `len.fnv`, or the bytes themselves when short)
  upGot    : Str       -- request body the backend received
  stWant   : Nat
  st       : Nat
  downWant : Str
  downGot  : Str
  ended    : Bool      -- the user's read ended at the end of the body
deriving DecidableEq, Repr

/-- executable predicate for the driver, evaluated on the implementation's own result -/
def e2eHolds (o : E2eObs) : Bool :=
  o.beOk && o.tagOk && o.lineOk && o.upGot == o.upWant && o.st == o.stWant && o.downGot == o.downWant && o.ended

theorem e2eHolds_sound (o : E2eObs) :
    e2eHolds o = true ↔ o.beOk = true ∧ o.tagOk = true ∧ o.lineOk = true ∧ o.upGot = o.upWant ∧
      o.st = o.stWant ∧ o.downGot = o.downWant ∧ o.ended = true := by
  simp [e2eHolds, and_assoc]

/-- the predicate asks for no more than the theorems give: an observation made of what the model's
    tunnel delivers (both directions complete) satisfies it, for every option combination -/
theorem model_e2eHolds {encL compL : Layer} (he : Lawful encL) (hc : Lawful compL)
    (burst : Nat) (hb : 0 < burst) (o : Opts)
    (rc : Option RouteCfg) (q : Req) (peer : Option Str) (tls : Bool) (r : Resp)
    (ps rs : List C01Bytes)
    (hps : ps.flatten = (backendSees rc q peer tls).body) (hrs : rs.flatten = r.body) :
    e2eHolds { beOk := true, tagOk := true, lineOk := true,
               upWant := q.body,
               upGot := (C01.clientLayer encL compL burst o).Dout ((httpServerLayer encL compL burst o).Eout ps),
               stWant := r.status, st := (userSees rc q.method r).status,
               downWant := r.body,
               downGot := (httpServerLayer encL compL burst o).Dout ((C01.clientLayer encL compL burst o).Eout rs),
               ended := true } = true := by
  have h1 := e2e_request_delivered he hc burst hb o rc q peer tls [] id ps _ (by simpa using hps) rfl
  have h2 := e2e_response_delivered he hc burst hb o rc q.method r [] id rs _ (by simpa using hrs) rfl
  simp only [List.nil_append, id] at h1 h2
  simp [e2eHolds, h1, h2.1, h2.2.1]

/-- non-vacuity: cipher- and compression-shaped lawful layers exist (`C01.toyEnc`, `C01.toyComp`); a
    7-byte body written as [2 bytes][5 bytes] through encryption + compression + a server-side
    limiter of burst 3 arrives whole, and so does the answer on the way back -/
example : (C01.clientLayer C01.toyEnc C01.toyComp 3 ⟨true, true, true, false⟩).Dout
    ((httpServerLayer C01.toyEnc C01.toyComp 3 ⟨true, true, true, false⟩).Eout [[1, 2], [3, 4, 5, 6, 7]]) = [1, 2, 3, 4, 5, 6, 7] := by
  decide +kernel
example : (httpServerLayer C01.toyEnc C01.toyComp 3 ⟨true, true, false, true⟩).Dout
    ((C01.clientLayer C01.toyEnc C01.toyComp 3 ⟨true, true, false, true⟩).Eout [[1, 2, 3, 4, 5, 6, 7]]) = [1, 2, 3, 4, 5, 6, 7] := by
  decide +kernel
example : chunks 3 [1, 2, 3, 4, 5, 6, 7] = [[1, 2, 3], [4, 5, 6], [7]] ∧
    (writerTrace 3 [1, 2, 3, 4, 5, 6, 7]).map (·.1) = [3, 3, 1] := by decide +kernel

end Tunnel


/-! ## concurrent exchanges: the pooled compression objects, and who may still use them

  `useCompression` on frpc takes the snappy reader and writer of a work connection from ONE process-wide
  `sync.Pool` (golib `WithCompressionFromPool`).  An object that goes back to the pool while somebody still
  reads or writes through it is `Reset` onto the stream of the NEXT work connection: from then on the first
  user's bytes are decoded from / written into the second user's stream (hung requests, answers on another
  user's connection).  client/proxy/proxy.go `HandleTCPWorkConnection` recycles only after `libio.Join`
  returned (plain path) and NEVER on the plugin path, where `Handle` of the HTTP plugins merely queues the
  connection for the plugin's http.Server and returns (`CodecPool.frpDisc`). -/
section Concurrent
open CodecPool

/-- what client/proxy/proxy.go does is a safe discipline -/
theorem codec_frp_safe : Safe frpDisc := by decide

/-- tie to the source: the recycle sites that translate/gen_codecfacts.go reads from client/proxy/proxy.go on every
    run (`Gen.CodecFacts.disc`) are the hand-written `frpDisc` -/
theorem codec_source_disc : Gen.CodecFacts.disc = frpDisc := by decide

/-- the recycle sites read from the source form a safe discipline (breaks when a recycle site is added or moved) -/
theorem codec_source_safe : Safe Gen.CodecFacts.disc := by decide

/-- read from the source: `Handle` of the four HTTP plugins only queues the connection; it stays in use after
    HandleTCPWorkConnection returned, which is why the plugin path of the model keeps it live until `done` -/
theorem codec_source_plugins_queue :
    ∀ p ∈ ["http2http", "http2https", "https2http", "https2https"], p ∈ Gen.CodecFacts.queueingPlugins := by decide +kernel

/-- **no sharing, all interleavings**: under a safe discipline, after ANY sequence of events (work connections
    of the plain and the plugin path starting, reading / writing, returning, failing, ending, in any order, any
    number of them alive at once) and for ANY choices of `sync.Pool.Get`, no two live connections hold the
    same object -/
theorem codec_exclusive (d : Disc) (hd : Safe d) (evs : List Ev) :
    exclusive (run d St.init evs).1 = true :=
  exclusive_of_inv (run_inv hd evs inv_init)

/-- **own stream, all interleavings**: every Read / Write of every connection works on that connection's stream -/
theorem codec_own_stream (d : Disc) (hd : Safe d) (evs : List Ev) :
    ownStream (run d St.init evs).2 = true :=
  run_ownStream hd evs inv_init

/-- own stream from any reachable state on (rounds follow rounds; the engine carries the pool from op to op) -/
theorem codec_own_stream_from (d : Disc) (hd : Safe d) (pre evs : List Ev) :
    ownStream (run d (run d St.init pre).1 evs).2 = true :=
  run_ownStream hd evs (run_inv hd pre inv_init)

/-- the code as it is -/
theorem codec_frp_own_stream (evs : List Ev) :
    ownStream (run frpDisc St.init evs).2 = true ∧ exclusive (run frpDisc St.init evs).1 = true :=
  ⟨codec_own_stream _ codec_frp_safe evs, codec_exclusive _ codec_frp_safe evs⟩

/-- **release at return on the plugin path** (a `defer` right after `WithCompressionFromPool`): connection 1 is
    queued for the plugin's server, the function returns and recycles, connection 2 takes the object out of the
    pool — the server of connection 1 now reads connection 2's stream -/
theorem codec_release_at_return_witness :
    let d : Disc := { plainRel := 1, pluginRelAtReturn := true, errRel := true }
    let evs := [Ev.start 1 true none, .ret 1, .start 2 true (some 0), .io 1]
    (run d St.init evs).2.getLast? = some (Ev.io 1, some 2) ∧
    ownStream (run d St.init evs).2 = false ∧ exclusive (run d St.init evs).1 = false := by decide +kernel

/-- **double recycle on the plain path** (a `defer` plus the call after Join): the object lies in the pool
    twice, the next two connections both get it -/
theorem codec_double_release_witness :
    let d : Disc := { plainRel := 2, pluginRelAtReturn := false, errRel := true }
    let evs := [Ev.start 1 false none, .ret 1, .start 2 false (some 0), .start 3 false (some 0), .io 2]
    (run d St.init evs).2.getLast? = some (Ev.io 2, some 3) ∧
    ownStream (run d St.init evs).2 = false ∧ exclusive (run d St.init evs).1 = false := by decide +kernel

/-- the hypothesis is needed: EVERY discipline that is not safe has a schedule on which a connection reads
    another connection's stream -/
theorem codec_unsafe_breaks (d : Disc) (hd : ¬ Safe d) : ∃ evs, ownStream (run d St.init evs).2 = false := by
  obtain ⟨n, p, e⟩ := d
  -- the two witness schedules above; running them never looks at the fields left open
  cases p with
  | true => exact ⟨[Ev.start 1 true none, .ret 1, .start 2 true (some 0), .io 1], rfl⟩
  | false =>
    obtain ⟨m, rfl⟩ : ∃ m, n = m + 2 := ⟨n - 2, by have : ¬ n ≤ 1 := fun h => hd ⟨h, rfl⟩; omega⟩
    exact ⟨[Ev.start 1 false none, .ret 1, .start 2 false (some 0), .start 3 false (some 0), .io 2], rfl⟩

/-- what engine `httpe2e` observed of ONE exchange of a round of simultaneous users -/
structure ConcObs where
  ex : E2eObs
  echoOk : Bool      -- the answer carries the id of THIS exchange: it is the user's own answer, nobody else's
  deriving DecidableEq, Repr

def ownAnswer (o : ConcObs) : Bool := e2eHolds o.ex && o.echoOk

/-- a round: for every user the exchanges it carried on its connection -/
def roundHolds (us : List (List ConcObs)) : Bool := us.all (·.all ownAnswer)

theorem roundHolds_sound (us : List (List ConcObs)) :
    roundHolds us = true ↔ ∀ u ∈ us, ∀ o ∈ u, e2eHolds o.ex = true ∧ o.echoOk = true := by
  simp [roundHolds, ownAnswer]

/-- `roundHolds` is the conjunction of the single exchanges: a round whose observations each satisfy `e2eHolds` and
    are marked as the user's own answer (`echoOk := true`) satisfies it.  (That every exchange of a round IS a single
    exchange is `codec_own_stream`; this theorem does not use it.) -/
theorem model_roundHolds (us : List (List E2eObs)) (h : ∀ u ∈ us, ∀ o ∈ u, e2eHolds o = true) :
    roundHolds (us.map (·.map fun o => { ex := o, echoOk := true })) = true := by
  rw [roundHolds_sound]
  intro u hu o ho
  obtain ⟨u', hu', rfl⟩ := List.mem_map.mp hu
  obtain ⟨o', ho', rfl⟩ := List.mem_map.mp ho
  exact ⟨h u' hu' o' ho', rfl⟩

/-! ### keep-alive on a work connection served by a client plugin (Frp/Model/ConnReader.lean) -/
open ConnReader Layers

/-- a bare (or only rate-limited) work connection: every request offered on it is answered -/
theorem plugin_raw_serves_all (o : Opts) (h : wrapperSticky o = false) (n : Nat) : pluginConnServes o n = n := by
  unfold pluginConnServes
  rw [h]
  induction n with
  | zero => rfl
  | succ n ih => simp only [serve, rstep, Bool.or_false, Bool.not_false, if_true]; omega

theorem serve_err (s : Bool) (n : Nat) : serve { sticky := s, err := true } n = 0 := by
  cases n <;> simp [serve, rstep]

/-- NOT what the property asks: with useEncryption or useCompression the plugin's server answers exactly ONE
    request per work connection, however many follow -/
theorem plugin_wrapped_serves_one (o : Opts) (h : wrapperSticky o = true) (n : Nat) :
    pluginConnServes o (n + 1) = 1 := by
  unfold pluginConnServes
  rw [h]
  simp [serve, rstep, serve_err]

/-- witness: two requests on one keep-alive connection through an https2http proxy with useCompression —
    the second is never answered -/
theorem plugin_wrapped_keepalive_witness :
    pluginConnServes { enc := false, comp := true, limSrv := false, limCli := false } 2 = 1 ∧
    pluginConnServes { enc := false, comp := false, limSrv := false, limCli := true } 2 = 2 := by decide

end Concurrent

/-! ## non-vacuity -/

private def exReq : Req :=
  { method := ofString "POST", absForm := false, path := ofString "/a%2Fb", query := some (ofString "x=1"),
    host := ofString "a.example.com",
    hdr := parseHdr [(ofString "x-custom", ofString "one"), (ofString "X-Custom", ofString "two"),
                     (ofString "Connection", ofString "X-Hop, keep-alive"), (ofString "X-Hop", ofString "h"),
                     (ofString "X-Forwarded-For", ofString "10.1.1.1"), (ofString "Cookie", ofString "a=1")],
    chunked := false, body := [1, 2, 3] }

private def exRc : RouteCfg :=
  { domain := ofString "a.example.com", location := [], routeUser := [], rewriteHost := ofString "internal",
    headers := [(ofString "x-from-where", ofString "frp")], respHeaders := [(ofString "X-Resp", ofString "1")] }

/-- a concrete request: the multi-valued mixed-case header arrives with both values in order, the
    `Connection`-named header is gone, XFF is extended, the configured header is set, Host rewritten -/
example :
    let o := backendSees (some exRc) exReq (some (ofString "127.0.0.2")) false
    get o.hdr (ofString "X-Custom") = [ofString "one", ofString "two"] ∧
    get o.hdr (ofString "X-Hop") = [] ∧
    get o.hdr kXFF = [ofString "10.1.1.1, 127.0.0.2"] ∧
    get o.hdr (ofString "X-From-Where") = [ofString "frp"] ∧
    o.host = ofString "internal" ∧ o.body = [1, 2, 3] ∧
    ofString "X-Custom" ∉ touched (some exRc) exReq ∧ ofString "Cookie" ∉ touched (some exRc) exReq := by
  decide +kernel

example : PoolInv (run true St.init staleOps).1 ∧ (run true St.init staleOps).1.idle ≠ [] :=
  ⟨run_fixed_inv _ _ poolInv_init, by decide +kernel⟩

example : Base64.bytes (ofString "/ab") := by decide +kernel

end C02
end Frp
