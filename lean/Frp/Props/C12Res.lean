import Frp.Props.C12
/-
  C12, clause "a second registration of a live name is refused AND THE INCUMBENT KEEPS WORKING".

  The name-keyed resources behind a proxy — the visitor listener of an stcp / sudp proxy
  (server/visitor/visitor.go Manager.listeners) and the nat hole client entry of an xtcp proxy
  (pkg/nathole/controller.go Controller.clientCfgs) — are part of the session model (`St.vis`, `St.nat`,
  Model/Sess.lean): `Run` creates the entry unless the name has one, `Close` deletes the entry BY NAME.
  Proved here, for every interleaving (`Reachable`):
    * an entry is held by a live session with an open proxy object of that name (`VInv`, Lemmas/Sess.lean);
    * an entry stays exactly as it is unless the session that holds it closes that proxy itself;
    * a refused registration — at the Exist check, at `Run` (entry repeated), at the `Add` — changes no entry of
      any other session, no other session's record, no table of names or run ids; a failed `Run` changes no
      table at all;
    * a session that has closed its done channel holds no entry (nothing leaks past the teardown), hence a
      re-login is acknowledged only after every rendez-vous entry of its predecessors is gone.
-/
namespace Frp
namespace C12
open Sess

theorem reachable_vinv {S : St} (h : Reachable S) : VInv S := by
  obtain ⟨ls, h⟩ := h
  exact (run_inv (P := fun S => NInv S ∧ VInv S) (fun a hs => ⟨ninv_step a.1 hs, vinv_step a.1 a.2 hs⟩) h
    ⟨ninv_init, vinv_init⟩).2

/-- session `t` holds the rendez-vous entry of name `p` (visitor listener or nat hole client entry) -/
def HoldsEntry (S : St) (t p : Nat) : Prop := S.vis.get p = some t ∨ S.nat.get p = some t

/-- **who stands in the rendez-vous tables**: a live (acknowledged, not torn down) session that has an open proxy
    object of that name — in flight between `Run` and the own-table insert, or registered and not closed -/
theorem entry_holder_open {S : St} {t p : Nat} (hR : Reachable S) (h : HoldsEntry S t p) :
    (S.s t).phase.live = true ∧ ObjOpen (S.s t) p := by
  have hV := reachable_vinv hR t p
  have ho : ObjOpen (S.s t) p := by
    rcases h with h | h
    · exact hV.vres_open (hV.vis_iff.mp h)
    · exact hV.nres_open (hV.nat_iff.mp h)
  -- a handler that has run or added `p` is busy, hence its session runs
  have busy : (S.s t).hp ≠ .idle → (S.s t).phase.live = true := fun hb => by
    rw [((reachable_inv hR).1 t p).busy_running hb]
    rfl
  refine ⟨?_, ho⟩
  rcases ho with ho | ho | ho
  · exact busy (by rw [ho]; exact HP.noConfusion)
  · exact busy (by rw [ho]; exact HP.noConfusion)
  · exact ho.2.2.1

/-- the registered proxy of the name table and the holder of the listener under that name are the same session
    whenever that session's proxy is of a rendez-vous kind: the incumbent's listener IS the entry -/
theorem incumbent_owns_entry {S : St} {t p : Nat} (hR : Reachable S) :
    (p ∈ (S.s t).vres → S.vis.get p = some t) ∧ (p ∈ (S.s t).nres → S.nat.get p = some t) := by
  have hV := reachable_vinv hR t p
  exact ⟨hV.vis_iff.mpr, hV.nat_iff.mpr⟩

/-! ### an entry changes only by an action of its holder -/

/-- **the incumbent keeps its listener**: an entry `p ↦ t` of the visitor-listener table stays as it is unless
    session `t` itself closes that proxy (CloseProxy, its teardown, or the rollback of its OWN refused Add);
    it is never overwritten and never removed by another session -/
theorem vis_entry_stable {S S' : St} {l : Label} {p t : Nat} (hR : Reachable S)
    (h : step S l = some S') (hv : S.vis.get p = some t) :
    S'.vis.get p = some t ∨ (S'.vis.get p = none ∧ l.sid = t) :=
  (step_entries h p).2.1.stable (reachable_vinv hR l.sid p).vis_iff.mpr hv

/-- the same for the nat hole client table (xtcp) -/
theorem nat_entry_stable {S S' : St} {l : Label} {p t : Nat} (hR : Reachable S)
    (h : step S l = some S') (hv : S.nat.get p = some t) :
    S'.nat.get p = some t ∨ (S'.nat.get p = none ∧ l.sid = t) :=
  (step_entries h p).2.2.stable (reachable_vinv hR l.sid p).nat_iff.mpr hv

/-! ### a refused registration leaves everybody else's resources alone -/

/-- `pxy.Run()` fails (visitor listener / nat hole entry repeated, or no port …): NOTHING changes but the caller's
    program counter — no table, no other session, not the caller's own table.  (stcp / sudp / xtcp `Run` return at
    once on the error; there is nothing of the new proxy to release, and what is stored under the name is the
    incumbent's.) -/
theorem reg_run_refused {S S' : St} {n p : Nat} {k : Kind} {ok : Bool}
    (h : step S (.regRun n p k ok) = some S') (hr : res S (.regRun n p k ok) = .refused) :
    S'.names = S.names ∧ S'.vis = S.vis ∧ S'.nat = S.nat ∧ S'.byRun = S.byRun ∧ S'.closed = S.closed ∧
      (∀ m, m ≠ n → S'.s m = S.s m) ∧
      (S'.s n).own = (S.s n).own ∧ (S'.s n).vres = (S.s n).vres ∧ (S'.s n).nres = (S.s n).nres ∧
      (S'.s n).hp = .idle := by
  -- whatever the kind, a refused `Run` only sends the handler back to `idle`
  have key : ∀ T, T = S.upd n (fun y => { y with hp := .idle }) →
      T.names = S.names ∧ T.vis = S.vis ∧ T.nat = S.nat ∧ T.byRun = S.byRun ∧ T.closed = S.closed ∧
        (∀ m, m ≠ n → T.s m = S.s m) ∧
        (T.s n).own = (S.s n).own ∧ (T.s n).vres = (S.s n).vres ∧ (T.s n).nres = (S.s n).nres ∧
        (T.s n).hp = .idle := by
    rintro _ rfl
    exact ⟨rfl, rfl, rfl, rfl, rfl, fun m hm => by simp [hm], by simp, by simp, by simp, by simp⟩
  cases step_spec h with
  | regRunVisRefused | regRunNatRefused => exact key _ rfl
  | regRunVis _ hf => simp [res, hf] at hr
  | regRunNat _ hf => simp [res, hf] at hr
  | regRunPlain =>
    cases ok
    · exact key _ rfl
    · cases hr

/-- `Run` of a rendez-vous proxy is refused ⇔ the name has an entry in that table -/
theorem reg_run_refused_iff_occupied (S : St) (n p : Nat) (ok : Bool) :
    (res S (.regRun n p .vis ok) = .refused ↔ ∃ t, S.vis.get p = some t) ∧
    (res S (.regRun n p .nat ok) = .refused ↔ ∃ t, S.nat.get p = some t) := by
  simp only [res]
  constructor
  · cases h : S.vis.get p <;> simp
  · cases h : S.nat.get p <;> simp

/-- `Run` on a free name creates the entry for the caller and touches no other name -/
theorem reg_run_free {S S' : St} {n p : Nat} {ok : Bool}
    (h : step S (.regRun n p .vis ok) = some S') (hf : S.vis.get p = none) :
    S'.vis.get p = some n ∧ (∀ q, q ≠ p → S'.vis.get q = S.vis.get q) ∧ S'.nat = S.nat ∧ S'.names = S.names := by
  cases step_spec h with
  | regRunVisRefused _ hs =>
    rw [hf] at hs
    cases hs
  | regRunVis => exact ⟨by simp, fun q hq => by simp [hq], rfl, rfl⟩

/-- the registration actions of a NewProxy -/
def isReg : Label → Bool
  | .regExist _ _ | .regRun _ _ _ _ | .regAdd _ _ => true
  | _ => false

/-- **a refused registration and the incumbent** (Exist check, Run, Add — whichever refuses): the name table and
    the run-id table are unchanged, no other session's record changes, and every rendez-vous entry held by ANOTHER
    session is exactly as before.  (The only entries that may go are the caller's own: the rollback `pxy.Close()`
    of the proxy it has just run.) -/
theorem refused_reg_frame {S S' : St} {l : Label} (hR : Reachable S) (h : step S l = some S')
    (hl : isReg l = true) (hr : res S l = .refused) :
    S'.names = S.names ∧ S'.byRun = S.byRun ∧ (∀ m, m ≠ l.sid → S'.s m = S.s m) ∧
      (∀ q t, t ≠ l.sid → S.vis.get q = some t → S'.vis.get q = some t) ∧
      (∀ q t, t ≠ l.sid → S.nat.get q = some t → S'.nat.get q = some t) := by
  have hnb : S'.names = S.names ∧ S'.byRun = S.byRun := by
    cases l <;> simp only [isReg] at hl <;> try cases hl
    · rename_i n p
      obtain ⟨t, ht⟩ := (refused_iff_occupied S n p).1.mp hr
      rw [reg_exist_refused h (by rw [ht]; rfl)]
      exact ⟨rfl, rfl⟩
    · exact ⟨(reg_run_refused h hr).1, (reg_run_refused h hr).2.2.2.1⟩
    · rename_i n p
      obtain ⟨t, ht⟩ := (refused_iff_occupied S n p).2.mp hr
      have := reg_add_refused h (by rw [ht]; rfl)
      exact ⟨this.1, this.2.1⟩
  refine ⟨hnb.1, hnb.2, fun m hm => step_frame h hm, ?_, ?_⟩
  · intro q t ht hv
    rcases vis_entry_stable hR h hv with h1 | ⟨_, h2⟩
    · exact h1
    · exact absurd h2.symm ht
  · intro q t ht hv
    rcases nat_entry_stable hR h hv with h1 | ⟨_, h2⟩
    · exact h1
    · exact absurd h2.symm ht

/-! ### nothing leaks past the teardown -/

/-- a session that has closed its done channel holds no visitor listener, no nat hole entry (and no name) -/
theorem teardown_releases_all {S : St} {t : Nat} (hR : Reachable S) (hd : (S.s t).phase = .done) (p : Nat) :
    S.vis.get p ≠ some t ∧ S.nat.get p ≠ some t ∧ S.names.get p ≠ some t := by
  refine ⟨?_, ?_, ?_⟩
  · intro hv
    have := (entry_holder_open hR (Or.inl hv)).1
    simp [hd, Phase.live] at this
  · intro hv
    have := (entry_holder_open hR (Or.inr hv)).1
    simp [hd, Phase.live] at this
  · intro hv
    have := (named_is_live hR hv).1
    simp [hd, Phase.live] at this

/-- **re-login**: when session `n` is acknowledged, no earlier session of its run id holds a visitor listener
    or a nat hole entry any more — the client's own earlier stcp / sudp / xtcp registrations cannot make the
    `Run` of its new ones fail -/
theorem ack_after_entries_released {S : St} {n k : Nat} (hR : Reachable S)
    (hs : (S.s n).phase.started = true) (hk : (S.s k).phase.isAdded = true)
    (hr : (S.s k).rid = (S.s n).rid) (hlt : (S.s k).stamp < (S.s n).stamp) (p : Nat) :
    ¬ HoldsEntry S k p := by
  have hd := (ack_after_all_earlier hR hs hk hr hlt).1
  have := teardown_releases_all hR hd p
  rintro (h | h)
  · exact this.1 h
  · exact this.2.1 h

/-! ### the model satisfies the executable clause `resOn` -/

/-- an entry of the visitor-listener table that was not there before the label belongs to the acting session -/
theorem vis_entry_new {S S' : St} {l : Label} {p t : Nat}
    (h : step S l = some S') (hv : S'.vis.get p = some t) :
    S.vis.get p = some t ∨ t = l.sid :=
  (step_entries h p).2.1.new hv

theorem nat_entry_new {S S' : St} {l : Label} {p t : Nat}
    (h : step S l = some S') (hv : S'.nat.get p = some t) :
    S.nat.get p = some t ∨ t = l.sid :=
  (step_entries h p).2.2.new hv

/-- **the model satisfies the executable clause**: for a reachable state `P`, a label `l` with `step P l = some S`,
    and dumps that are the model's own tables before and after, `ResSpec` holds -/
theorem model_resSpec {P S : St} {l : Label} (hR : Reachable P) (h : step P l = some S)
    (pv v pn n : List Nat) (names own : List (Nat × Nat)) (run prevRun prevNames : List (Nat × Nat)) (acked : List Nat)
    (hpv : ∀ p ∈ pv, ∃ t, P.vis.get p = some t) (hv : ∀ p, p ∈ v ↔ ∃ t, S.vis.get p = some t)
    (hpn : ∀ p ∈ pn, ∃ t, P.nat.get p = some t) (hn : ∀ p, p ∈ n ↔ ∃ t, S.nat.get p = some t)
    (hpv' : ∀ p, (∃ t, P.vis.get p = some t) → p ∈ pv) (hpn' : ∀ p, (∃ t, P.nat.get p = some t) → p ∈ pn)
    (hnm : ∀ p m, S.names.get p = some m → (p, m) ∈ names)
    (how : ∀ e ∈ own, e.2 ∈ (S.s e.1).own) :
    ResSpec { S := S, actor := l.sid, actorRid := 0, isDel := false, prevRun := prevRun, prevNames := prevNames,
              run := run, names := names, acked := acked, P := P, prevVis := pv, vis := v, prevNat := pn, nat := n,
              own := own } := by
  have hS := reachable_step hR h
  refine ⟨?_, ?_, ?_, ?_, ?_, ?_, ?_⟩
  · intro p hp
    obtain ⟨t, ht⟩ := hpv p hp
    rcases vis_entry_stable hR h ht with h1 | ⟨_, h2⟩
    · exact Or.inl ((hv p).mpr ⟨t, h1⟩)
    · exact Or.inr (by rw [ht, h2])
  · intro p hp
    obtain ⟨t, ht⟩ := hpn p hp
    rcases nat_entry_stable hR h ht with h1 | ⟨_, h2⟩
    · exact Or.inl ((hn p).mpr ⟨t, h1⟩)
    · exact Or.inr (by rw [ht, h2])
  · intro p hp
    obtain ⟨t, ht⟩ := (hv p).mp hp
    rcases vis_entry_new h ht with h1 | h2
    · exact Or.inl (hpv' p ⟨t, h1⟩)
    · exact Or.inr (by rw [ht, h2])
  · intro p hp
    obtain ⟨t, ht⟩ := (hn p).mp hp
    rcases nat_entry_new h ht with h1 | h2
    · exact Or.inl (hpn' p ⟨t, h1⟩)
    · exact Or.inr (by rw [ht, h2])
  · intro p hp
    obtain ⟨t, ht⟩ := (hv p).mp hp
    exact ⟨t, ht, (entry_holder_open hS (Or.inl ht)).1⟩
  · intro p hp
    obtain ⟨t, ht⟩ := (hn p).mp hp
    exact ⟨t, ht, (entry_holder_open hS (Or.inr ht)).1⟩
  · intro e he hph hc
    have hN := (reachable_inv hS).1 e.1 e.2
    exact hnm _ _ (hN.own_named (how e he) hph hc)

/-! ### non-vacuity -/

/-- two sessions race for one stcp name between the Exist check and the Add: the second `Run` is refused and the
    first one's listener entry is untouched; after the winner's Add the loser's next attempt is stopped at Exist -/
example :
    (run init [.login 1 1 true, .add 1, .start 1, .login 2 2 true, .add 2, .start 2,
               .regExist 1 5, .regExist 2 5, .regRun 1 5 .vis true, .regRun 2 5 .vis true, .regAdd 1 5, .regOwn 1 5,
               .regExist 2 5]).map (fun S => (S.vis.get 5, S.names.get 5, (S.s 2).hp, (S.s 2).vres, (S.s 1).vres)) =
      some (some 1, some 1, HP.idle, [], [5]) := by decide

/-- session 1 registered the name as tcp, session 2 passed Exist before and runs an stcp proxy under it: its
    Add is refused and the rollback removes ITS listener entry (the only one under that name) -/
example :
    (run init [.login 1 1 true, .add 1, .start 1, .login 2 2 true, .add 2, .start 2,
               .regExist 1 5, .regExist 2 5, .regRun 1 5 .plain true, .regAdd 1 5, .regRun 2 5 .vis true,
               .regAdd 2 5]).map (fun S => (S.vis.get 5, S.names.get 5, (S.s 2).hp, (S.s 2).vres)) =
      some (none, some 1, HP.idle, []) := by decide

/-- `HoldsEntry` is inhabited -/
example : HoldsEntry ((run init [.login 1 1 true, .add 1, .start 1, .regExist 1 5, .regRun 1 5 .nat true]).getD init) 1 5 :=
  Or.inr (by decide)

/-- what the clause excludes: a `Run` that, on failure, closes "its" proxy, i.e. deletes the entry under the name
    (`run_fail_close_witness`: in a reachable state that is the INCUMBENT's listener) -/
def runFailClosesByName (S : St) (p : Nat) : St := { S with vis := S.vis.set p none }

theorem run_fail_close_witness :
    let S := (run init [.login 1 1 true, .add 1, .start 1, .login 2 2 true, .add 2, .start 2,
                        .regExist 1 5, .regExist 2 5, .regRun 1 5 .vis true]).getD init
    S.vis.get 5 = some 1 ∧ res S (.regRun 2 5 .vis true) = .refused ∧
      ((step S (.regRun 2 5 .vis true)).map (·.vis.get 5)) = some (some 1) ∧
      (runFailClosesByName S 5).vis.get 5 = none := by decide

end C12
end Frp
