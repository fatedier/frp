import Frp.Props.C17
import Frp.Model.CodecProc
import Frp.Gen.MsgLimit
/-
  C17, clause "bounded" as a property of the PROCESS in every configuration.

  `Frame.decodeFull max …` is proved bounded by `max` for every `max` (Props/C17.lean); frp's `max` is a field of the
  one codec object of the process (Model/CodecProc.lean).  Here: the limit of that object is the constant 10240 after
  EVERY history of the process — whatever services were constructed with whatever configuration —, because the
  regenerated facts (`Frp.Gen.MsgLimit`, go/ast over every package of the repository + the golib module of go.mod)
  show that nothing in frp can write it:

  * golib: the field is written by NewMsgCtl (to the package's default, the literal 10240, which nobody assigns) and
    by SetMaxMsgLength only;
  * frp: no `.SetMaxMsgLength` anywhere; one `.NewMsgCtl` (pkg/msg/ctl.go init); the variable holding the object is
    assigned there only and otherwise used only as the receiver of RegisterMsg / ReadMsg / ReadMsgInto / WriteMsg — it
    never escapes pkg/msg; nobody names the field (reflection).
-/
namespace Frp
namespace C17
open Frame CodecProc
open Gen.MsgLimit (Site)

/-! ## 1. the object: only SetMaxMsgLength moves the limit -/

theorem limit_only_setMax (c : Ctl) (op : Op) (h : op.isSetMax = false) : (step c op).max = c.max := by
  cases op <;> simp_all [step, Op.isSetMax]

/-- after any history without a SetMaxMsgLength the limit is what NewMsgCtl put there -/
theorem limit_invariant (ops : List Op) (h : ∀ op ∈ ops, op.isSetMax = false) : (run ops).max = maxLen :=
  foldl_invariant (P := fun c => c.max = maxLen) rfl fun c op ho hc => (limit_only_setMax c op (h op ho)).trans hc

/-- … and the hypothesis is needed: one SetMaxMsgLength lifts the bound for every type on every connection
    (a 20000-byte body is decoded after `SetMaxMsgLength(87856)`) -/
theorem limit_writer_witness :
    (run [.register 111, .setMax 87856]).max = 87856 ∧
    ∀ body : Str, body.length = 20000 →
      decode (run [.register 111, .setMax 87856]).max (fun _ => true) (encode 111 body) = .ok 111 body [] := by
  refine ⟨rfl, fun body hb => ?_⟩
  have := decode_encode_res 87856 (fun _ => true) 111 body [] rfl (by omega) (by decide)
  simpa [run, step, newCtl] using this

/-! ## 2. the regenerated facts -/

/-- golib msg/json as the Frame / CodecProc models assume it (the module go.mod requires, unreplaced) -/
theorem golib_limit_facts :
    Gen.MsgLimit.golibVersion = "v0.5.1" ∧ Gen.MsgLimit.golibReplaced = false
    ∧ Gen.MsgLimit.golibDefault = maxLen
    ∧ Gen.MsgLimit.golibCtorInit = "defaultMaxMsgLength"
    ∧ Gen.MsgLimit.golibFieldWriters = ["MsgCtl.SetMaxMsgLength"]
    ∧ Gen.MsgLimit.golibDefaultWriters = []
    ∧ Gen.MsgLimit.golibLimitChecks = ["length > msgCtl.maxMsgLength"] := ⟨rfl, rfl, rfl, rfl, rfl, rfl, rfl⟩

/-- how pkg/msg may touch its codec variable without handing the object (or its limit) to anybody -/
def harmlessUse (s : Site) : Bool :=
  (s.text == "assign" && s.file == "pkg/msg/ctl.go" && s.fn == "init")
  || s.text == "call:RegisterMsg" || s.text == "call:ReadMsg" || s.text == "call:ReadMsgInto" || s.text == "call:WriteMsg"
  || s.text == "call:Pack" || s.text == "call:UnPack" || s.text == "call:UnPackInto"

/-- every place of the repository through which the limit of a codec object could be written: a SetMaxMsgLength
    selector, a second codec object, the object leaving pkg/msg's hands, the field named by reflection -/
def limitWriters : List Site :=
  Gen.MsgLimit.setMaxSites
  ++ Gen.MsgLimit.ctorSites.filter (fun s => !(s.file == "pkg/msg/ctl.go" && s.fn == "init"))
  ++ Gen.MsgLimit.codecVarUses.filter (fun s => !harmlessUse s)
  ++ Gen.MsgLimit.fieldMentions
  ++ Gen.MsgLimit.jsonImporters.filter (fun s => s.file != "pkg/msg/ctl.go")

/-- there is exactly one codec object, made in pkg/msg/ctl.go `init`, held in one variable -/
theorem codec_object_single :
    Gen.MsgLimit.ctorSites.length = 1 ∧ Gen.MsgLimit.codecVars = ["msgCtl"]
    ∧ (Gen.MsgLimit.codecVarUses.filter (fun s => s.text == "assign")).length = 1 := by decide +kernel

/-- nothing in frp can write the limit -/
theorem frp_no_limit_writer : limitWriters = [] := by decide +kernel

/-! ## 3. the process -/

/-- histories a program with the writer sites `ws` can produce: a SetMaxMsgLength needs a site -/
def Admissible (ws : List Site) (ops : List Op) : Prop := ∀ op ∈ ops, op.isSetMax = true → ws ≠ []

/-- the limit of frp's codec object is 10240 after every history of the process: constructing frps / frpc with
    any configuration, any number of connections, reads and writes — a configuration could act on the limit only
    through a writer site, and there is none -/
theorem proc_limit_constant (ops : List Op) (h : Admissible limitWriters ops) : (run ops).max = 10240 := by
  have := limit_invariant ops (fun op ho => by
    cases hs : op.isSetMax with
    | false => rfl
    | true => exact absurd frp_no_limit_writer (h op ho hs))
  simpa [maxLen] using this

/-- bounded, in every process state: no body allocation above 10240 for any input -/
theorem proc_decode_bounded (ops : List Op) (h : Admissible limitWriters ops) (known : Nat → Bool) (inp : Str) :
    (decodeFull (run ops).max known inp).bodyAlloc ≤ 10240 := by
  rw [proc_limit_constant ops h]
  exact (decode_bounded 10240 known inp).1

/-- oversize lengths are errors, in every process state: a declared length above 10240 — with the body supplied or
    not — is ErrMaxMsgLength after the nine header bytes, nothing allocated -/
theorem proc_oversize_refused (ops : List Op) (h : Admissible limitWriters ops) (known : Nat → Bool) (t n : Nat) (r : Str)
    (hk : known t = true) (hn : 10240 < n) (hn2 : n < 9223372036854775808) :
    decodeFull (run ops).max known (t :: (be64 n ++ r)) = ⟨.err .maxLen, 9, 0⟩ := by
  rw [proc_limit_constant ops h]
  exact decode_oversize 10240 known t n r hk hn hn2

/-- … in particular a whole well-formed frame with a body above the bound -/
theorem proc_oversize_frame_refused (ops : List Op) (h : Admissible limitWriters ops) (known : Nat → Bool) (t : Nat)
    (body rest : Str) (hk : known t = true) (hn : 10240 < body.length) (hn2 : body.length < 9223372036854775808) :
    decode (run ops).max known (encode t body ++ rest) = .err .maxLen := by
  have := proc_oversize_refused ops h known t body.length (body ++ rest) hk hn hn2
  simp only [decode, encode, List.cons_append, List.append_assoc, this]

/-- and everything within the bound still decodes, in every process state -/
theorem proc_roundtrip (ops : List Op) (h : Admissible limitWriters ops) (known : Nat → Bool) (t : Nat) (body rest : Str)
    (hk : known t = true) (hlen : body.length ≤ 10240) :
    decode (run ops).max known (encode t body ++ rest) = .ok t body rest := by
  rw [proc_limit_constant ops h]
  exact decode_encode_res 10240 known t body rest hk hlen (by decide)

/-! non-vacuity: a real history (registrations, reads, writes) is admissible and has the limit -/
example : Admissible limitWriters [.register 111, .register 104, .read [104, 0, 0, 0, 0, 0, 0, 0, 2, 123, 125], .write 104 [123, 125]] := by
  intro op ho hs
  simp only [List.mem_cons, List.mem_nil_iff, or_false] at ho
  rcases ho with rfl | rfl | rfl | rfl <;> simp [Op.isSetMax] at hs
example : (run [.register 111, .register 104, .read [], .write 104 [123, 125]]).max = 10240 := by decide

end C17
end Frp
