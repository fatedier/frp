import Frp.Props.C14Heal
/-
  C19: the reload diff looks at EVERY field; the configuration a session is started with after a loss of
  the connection.

  Every field.  `Wrapper.Cfg` collapses all fields of a proxy configuration other than the name into
  `variant`; the harness builds `variant` as an injective code of one value per field of
  v1.ProxyBaseConfig (whole transport block, metadatas, annotations, load balancer, health check,
  backend, plugin) and of the type's own struct (harness/eng_client_fields.go), so "some field
  differs" is "the configurations differ".  The two theorems restate the reload theorems of Frp/Props/C19.lean (`update_close_count`, `update_new_count`) per
  running proxy: ANY difference ⇒ exactly one CloseProxy, then the registration of a NEW wrapper
  object that carries the new configuration; NO difference ⇒ no message at all and the very same
  wrapper object.

  After a reconnect.  The service model is C14's `Rereg` (Frp/Model/Rereg.lean, client/service.go
  loopLoginUntilSuccess / UpdateAllConfigurer / keepControllerWorking) over this property's
  `Reconcile.updateAll`; C14 proves `healed_run` / `login_sends_all` about it.  Here the C19 clause is
  stated on top: "the proxies the client has registered converge to exactly those of the LAST LOADED
  configuration" across losses of the session — `lastLoaded` is read off the history syntactically.
-/
namespace Frp
namespace C19
open Wrapper Reconcile

section EveryField

/-! Names of running proxies are unique, so what a reload does to the name of a running wrapper `w` is decided
    by `w` alone. -/

theorem any_dropped_eq {m : Mgr} (h : Inv m) {w : W} (hw : w ∈ m.proxies) (cfgs : List Cfg) :
    m.proxies.any (fun x => x.cfg.name == w.cfg.name && !keeps cfgs x) = !keeps cfgs w := by
  rw [Bool.eq_iff_iff, List.any_eq_true]
  constructor
  · rintro ⟨x, hx, hxp⟩
    simp only [Bool.and_eq_true, beq_iff_eq] at hxp
    rw [← nodup_same_name h.1 hx hw hxp.1]; exact hxp.2
  · intro hk; exact ⟨w, hw, by simpa using hk⟩

theorem hasName_kept_eq {m : Mgr} (h : Inv m) {w : W} (hw : w ∈ m.proxies) (cfgs : List Cfg) :
    hasName (m.proxies.filter (keeps cfgs)) w.cfg.name = keeps cfgs w := by
  rw [Bool.eq_iff_iff, hasName_iff]
  constructor
  · rintro ⟨x, hx, hn⟩
    obtain ⟨hx1, hx2⟩ := List.mem_filter.mp hx
    rw [← nodup_same_name h.1 hx1 hw hn]; exact hx2
  · intro hk; exact ⟨w, List.mem_filter.mpr ⟨hw, hk⟩, rfl⟩

/-- ANY DIFFERENCE ⇒ STOP + START WITH THE NEW CONFIGURATION.  A running proxy whose configured
    entry `c` (the last one of its name in the loaded list) differs from what the wrapper carries —
    in whatever field — gets exactly one CloseProxy; its wrapper object is gone; exactly one NewProxy
    follows (none while health-gated); and whatever runs under that name afterwards is a new object
    that carries `c`. -/
theorem reload_changed_restarts (m : Mgr) (cfgs : List Cfg) (now : Nat) (h : Inv m) (w : W) (hw : w ∈ m.proxies)
    (c : Cfg) (hc : lookupLast cfgs w.cfg.name = some c) (hne : c ≠ w.cfg) :
    (updateAll m cfgs now).2.2.count (w.cfg.name, Msg.closeProxy) = 1 ∧
    (updateAll m cfgs now).2.2.count (w.cfg.name, Msg.newProxy) = startCount (some c) ∧
    w ∉ (updateAll m cfgs now).1.proxies ∧
    ∀ w' ∈ (updateAll m cfgs now).1.proxies, w'.cfg.name = w.cfg.name → w'.cfg = c ∧ w'.id = m.nextId := by
  have hk : keeps cfgs w = false := by simpa [keeps, hc] using hne
  refine ⟨?_, ?_, update_changed_gone m cfgs now h w hw hk, ?_⟩
  · rw [update_close_count m cfgs now h, any_dropped_eq h hw, hk]; rfl
  · rw [update_new_count, hasName_kept_eq h hw, hk, hc]; rfl
  · intro w' hw' hn
    have hl := update_running_cfgs m cfgs now w' hw'
    rw [hn, hc] at hl
    refine ⟨(Option.some.inj hl).symm, ?_⟩
    rcases update_new_wrappers m cfgs now w' hw' with ⟨hold, hkeep⟩ | ⟨hid, _, _⟩
    · rw [nodup_same_name h.1 hold hw hn, hk] at hkeep; cases hkeep
    · exact hid

/-- NO DIFFERENCE ⇒ NOTHING.  A running proxy whose configured entry equals what the wrapper
    carries gets no message at all and stays the very same wrapper object (same status, same
    clocks): no re-registration, no interruption. -/
theorem reload_unchanged_silent (m : Mgr) (cfgs : List Cfg) (now : Nat) (h : Inv m) (w : W) (hw : w ∈ m.proxies)
    (hc : lookupLast cfgs w.cfg.name = some w.cfg) :
    (updateAll m cfgs now).2.2.count (w.cfg.name, Msg.closeProxy) = 0 ∧
    (updateAll m cfgs now).2.2.count (w.cfg.name, Msg.newProxy) = 0 ∧
    w ∈ (updateAll m cfgs now).1.proxies := by
  have hk : keeps cfgs w = true := by simp [keeps, hc]
  refine ⟨?_, ?_, update_kept_same_wrapper m cfgs now w hw hk⟩
  · rw [update_close_count m cfgs now h, any_dropped_eq h hw, hk]; rfl
  · rw [update_new_count, hasName_kept_eq h hw, hk]; rfl

-- one field of proxy 1 differs (variant 7 instead of 5): CloseProxy, then NewProxy; proxy 2 is not touched
example : (updateAll (updateAll Reconcile.init [⟨1, 5, false, false⟩, ⟨2, 9, false, false⟩] 0).1
    [⟨1, 7, false, false⟩, ⟨2, 9, false, false⟩] 10).2.2 = [(1, .closeProxy), (1, .newProxy)] := by decide

end EveryField

section Reconnect
open Rereg

/-- the configuration in force after a history of the service: the list of its last reload, the
    initial one if there was none -/
def lastLoaded (store0 : List Cfg) : List Rereg.Ev → List Cfg
  | [] => store0
  | .reload cfgs :: es => lastLoaded cfgs es
  | .sessionEnd :: es => lastLoaded store0 es
  | .loopStart :: es => lastLoaded store0 es
  | .loginRun :: es => lastLoaded store0 es
  | .loginSwap :: es => lastLoaded store0 es

theorem step_store (s : Rereg.St) (now : Nat) (e : Rereg.Ev) :
    (Rereg.step s now e).1.store = lastLoaded s.store [e] := by
  cases e <;> simp only [Rereg.step, lastLoaded] <;> (try split) <;> rfl

/-- what the service has stored is the last loaded configuration, after every history -/
theorem store_run (now : Nat) : ∀ (es : List Rereg.Ev) (s : Rereg.St),
    (Rereg.run s now es).store = lastLoaded s.store es := by
  intro es
  induction es with
  | nil => intro s; rfl
  | cons e es ih =>
    intro s
    show (Rereg.run (Rereg.step s now e).1 now es).store = _
    rw [ih, step_store]
    cases e <;> rfl

theorem early_run (now : Nat) : ∀ (es : List Rereg.Ev) (s : Rereg.St), (Rereg.run s now es).early = s.early := by
  intro es
  induction es with
  | nil => intro s; rfl
  | cons e es ih =>
    intro s
    show (Rereg.run (Rereg.step s now e).1 now es).early = _
    rw [ih, C14.early_step]

/-- CONVERGENCE ACROSS SESSION LOSSES.  After ANY history of reloads (while connected, during an
    outage, between two login attempts), connection losses, login-loop entries and successful logins:
    whenever a control is live, the names it runs are exactly the names of the LAST LOADED
    configuration and every wrapper carries that configuration's entry of its name.  (Hypothesis:
    no reload between the two adjacent statements `ctl.Run(…)` and `svr.ctl = ctl` of one loginFunc
    call — C14 `reload_in_window_witness`.) -/
theorem reconnect_runs_last_loaded (now : Nat) (store0 : List Cfg) (es : List Rereg.Ev)
    (hadm : C14.admissible { store := store0 } now es = true) (c : Rereg.Ctl)
    (hc : (Rereg.run { store := store0 } now es).ctl = some c) (ha : c.alive = true) :
    C14.Synced (lastLoaded store0 es) c.pm := by
  have hh := C14.healed_run now es { store := store0 } rfl (C14.healed_init store0) hadm
  have := hh.1 c hc ha
  rwa [store_run] at this

/-- …and what the re-login puts on the NEW session: for every name exactly one NewProxy iff the last
    loaded configuration has an entry of that name that is not health-gated — reloads that arrived
    while the server was unreachable included —, and no CloseProxy -/
theorem relogin_registers_last_loaded (now : Nat) (store0 : List Cfg) (es : List Rereg.Ev) (n : Nat) :
    (Rereg.step (Rereg.run { store := store0 } now es) now .loginRun).2.count (n, Msg.newProxy)
      = startCount (lookupLast (lastLoaded store0 es) n) ∧
    (Rereg.step (Rereg.run { store := store0 } now es) now .loginRun).2.count (n, Msg.closeProxy) = 0 := by
  have he : (Rereg.run { store := store0 } now es).early = false := by rw [early_run]
  have := C14.login_sends_all (Rereg.run { store := store0 } now es) now he n
  rwa [store_run] at this

/-- nothing reaches the server from a control whose session is over: a reload during an outage is
    silent on the wire (it is stored, and registered by the next login) -/
theorem outage_reload_silent (s : Rereg.St) (now : Nat) (cfgs : List Cfg)
    (hd : ∀ c, s.ctl = some c → c.alive = false) :
    (Rereg.step s now (.reload cfgs)).2 = [] ∧ (Rereg.step s now (.reload cfgs)).1.store = cfgs := by
  simp only [Rereg.step]
  cases hc : s.ctl with
  | none => exact ⟨rfl, rfl⟩
  | some c => simp [hd c hc]

/-- the same for the snapshot point found in the source (translate/gen_sessfacts.go: the stored
    configuration is read inside loginFunc, after `svr.login()`, and `ctl.Run` gets that snapshot) -/
theorem reconnect_code (now : Nat) (store0 : List Cfg) (es : List Rereg.Ev)
    (hadm : C14.admissible { early := C14.codeEarly, store := store0 } now es = true) (c : Rereg.Ctl)
    (hc : (Rereg.run { early := C14.codeEarly, store := store0 } now es).ctl = some c) (ha : c.alive = true) :
    C14.Synced (lastLoaded store0 es) c.pm := by
  rw [C14.code_snapshot_at_login] at hadm hc
  exact reconnect_runs_last_loaded now store0 es hadm c hc ha

/-- the theorems notice where the snapshot is taken: with the snapshot taken when the login loop is
    entered, a reload during the outage is lost — after the re-login the live control does not run the
    last loaded configuration -/
theorem reconnect_early_witness :
    let a : Cfg := ⟨1, 1, false, false⟩
    let b : Cfg := ⟨2, 1, false, false⟩
    let hist : List Rereg.Ev :=
      [.loopStart, .loginRun, .loginSwap, .sessionEnd, .loopStart, .reload [b], .loginRun, .loginSwap]
    lastLoaded [a] hist = [b] ∧
    ((Rereg.run { early := true, store := [a] } 0 hist).ctl.map (fun c => Rereg.view c.pm)) = some [(1, 1)] ∧
    ((Rereg.run { early := false, store := [a] } 0 hist).ctl.map (fun c => Rereg.view c.pm)) = some [(2, 1)] := by
  decide

/-! ### executable predicates for the engine `svc` -/

/-- the registrations a new session has received (name, variant): all of the stored configuration,
    nothing else, each name once -/
def sessionRegOK (store : List Cfg) (regs : List (Nat × Nat)) : Bool :=
  C14.regHolds store regs && (regs.map (·.1)).eraseDups.length == regs.length

/-- the model's own new session satisfies it (proxies that are not health-gated) -/
theorem model_sessionRegOK (store : List Cfg) (now : Nat) :
    C14.regHolds store (Rereg.view (updateAll Reconcile.init store now).1) = true :=
  C14.model_regHolds store _ (C14.updateAll_synced _ _ _)

end Reconnect
end C19
end Frp
