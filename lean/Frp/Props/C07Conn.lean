import Frp.Props.C07
import Frp.Model.HttpAuthConn
import Frp.Lemmas.ListFacts
/-
  C07, continued — (1) every stream of a connection that was upgraded to HTTP/2 (h2c) is a request that
  must pass the credential decision for ITS OWN route; (2) the server-side tcpmux proxy registers its
  listeners with the configured user name and password, so that the CONNECT muxer's check protects the
  proxy as configured.

  Model: Frp/Model/HttpAuthConn.lean.
-/
namespace Frp
namespace C07
open Str Router HttpAuth

/-! ### h2c -/

/-- the answer to one stream respects the property: the backend of route `id` answered only if THE
    STREAM presents exactly that route's user name and password (or the route is not protected) -/
def StreamOK (T : Table) (w : WireReq) (r : StreamResp) : Prop :=
  ∀ id, r = .resp (.forward id) → CredsOK T id w.auth

theorem mem_zip_map_self {α β : Type} (f : α → β) (l : List α) (p : α × β)
    (h : p ∈ l.zip (l.map f)) : p.2 = f p.1 := by
  rw [← List.map_prod_left_eq_zip] at h
  obtain ⟨a, _, rfl⟩ := List.mem_map.mp h
  rfl

theorem serve_forward_eq {T : Table} {q : Req} {id : Nat} (h : serve T q = .forward id) :
    forwardOf T q = .forward id := by
  rw [serve_eq] at h
  generalize checkAuth T _ _ _ _ _ = ok at h
  cases ok
  · cases h
  · exact h

/-- the opening request is answered by `ServeHTTP`; streams are answered only if it was forwarded -/
theorem h2cConnReq_cases {c : Bool} {T : Table} {q0 : Req} {ws : List WireReq} {first : Resp}
    {rs : List StreamResp} (h : h2cConnReq c T q0 ws = (first, rs)) :
    first = serve T q0 ∧
      (rs = [] ∨ (∃ id, first = .forward id) ∧ rs = ws.map (h2cStream c T q0)) := by
  unfold h2cConnReq at h
  split at h
  · rename_i id hs
    cases h
    exact ⟨hs.symm, Or.inr ⟨⟨id, rfl⟩, rfl⟩⟩
  · cases h
    exact ⟨rfl, Or.inl rfl⟩

theorem h2cStream_checked {T : Table} {q0 : Req} {w : WireReq} {r : Resp}
    (h : h2cStream true T q0 w = .resp r) : ∃ q, w.parse = some q ∧ serve T q = r := by
  unfold h2cStream at h
  split at h
  · cases h
  · rename_i q hp
    exact ⟨q, hp, StreamResp.resp.inj h⟩

/-- **the request that opens the connection** (upgrade request or prior-knowledge preface) is
    answered by `ServeHTTP` in both versions: forwarded only with its route's exact credentials -/
theorem h2cConn_first_sound (c : Bool) (T : Table) (w0 : WireReq) (ws : List WireReq) (first : Resp)
    (rs : List StreamResp) (h : h2cConn c T w0 ws = some (first, rs)) (id : Nat) (hf : first = .forward id) :
    CredsOK T id w0.auth := by
  obtain ⟨q0, hp, h⟩ := Option.map_eq_some_iff.mp h
  have h1 := (h2cConnReq_cases h).1
  exact serveWire_sound T w0 id ((congrArg (Option.map (serve T)) hp).trans (congrArg some (h1.symm.trans hf)))

/-- **a stream, repaired handler**: the stream is forwarded only with the exact credentials of the
    route it is forwarded to -/
theorem h2cStream_checked_sound (T : Table) (q0 : Req) (w : WireReq) :
    StreamOK T w (h2cStream true T q0 w) := by
  intro id h
  obtain ⟨q, hp, hs⟩ := h2cStream_checked h
  exact serveWire_sound T w id ((congrArg (Option.map (serve T)) hp).trans (congrArg some hs))

/-- **a stream, repaired handler**: the route it is forwarded to is the one selected by the stream's OWN
    :authority, :path and user -/
theorem h2cStream_checked_same_route (T : Table) (q0 : Req) (w : WireReq) (id : Nat)
    (h : h2cStream true T q0 w = .resp (.forward id)) :
    ∃ q, w.parse = some q ∧ ∃ r, getVhost T.R (canon q.host) q.path (routeUser q) = some r ∧
      r.payload = id ∧ hasPrefix q.path r.location = true := by
  obtain ⟨q, hp, hs⟩ := h2cStream_checked h
  exact ⟨q, hp, serve_forward_prefix T q id hs⟩

/-- **a whole connection, repaired handler**: for every route table, every opening request and every
    sequence of further streams (each with its own :authority, :path, authorization), every request of
    the connection — the first and each stream — reaches a backend only with the exact credentials of
    the route it reaches.  Credentials of the opening request do not count for a later stream. -/
theorem h2cConn_checked_sound (T : Table) (w0 : WireReq) (ws : List WireReq) (first : Resp)
    (rs : List StreamResp) (h : h2cConn true T w0 ws = some (first, rs)) :
    (∀ id, first = .forward id → CredsOK T id w0.auth) ∧ ∀ p ∈ ws.zip rs, StreamOK T p.1 p.2 := by
  refine ⟨fun id hf => h2cConn_first_sound true T w0 ws first rs h id hf, ?_⟩
  obtain ⟨q0, _, h⟩ := Option.map_eq_some_iff.mp h
  intro p hmem
  rcases (h2cConnReq_cases h).2 with he | ⟨_, he⟩
  · rw [he] at hmem; simp at hmem
  · rw [he] at hmem
    rw [mem_zip_map_self (h2cStream true T q0) ws p hmem]
    exact h2cStream_checked_sound T q0 p.1

/-- **before fix: 9c24c7c (the handler given to `h2c.NewHandler` checks nothing), what it does**: every later stream is answered along the route of the request that
    opened the connection, whatever its own :authority, :path and authorization are (or is reset when
    its :path does not parse) -/
theorem h2cConn_head_streams (T : Table) (w0 : WireReq) (ws : List WireReq) (first : Resp)
    (rs : List StreamResp) (h : h2cConn false T w0 ws = some (first, rs)) :
    ∀ p ∈ ws.zip rs, p.2 = .rst ∨ p.2 = .resp first := by
  obtain ⟨q0, _, h⟩ := Option.map_eq_some_iff.mp h
  intro p hmem
  obtain ⟨hf, he | ⟨⟨id, hid⟩, he⟩⟩ := h2cConnReq_cases h
  · rw [he] at hmem
    simp at hmem
  · rw [he] at hmem
    rw [mem_zip_map_self (h2cStream false T q0) ws p hmem]
    unfold h2cStream
    cases p.1.parse with
    | none => exact Or.inl rfl
    | some q =>
      right
      simp only [Bool.false_eq_true, ↓reduceIte]
      rw [serve_forward_eq (hf.symm.trans hid), hid]

/-- **before fix: 9c24c7c, what holds**: a later stream respects the property if it carries the same
    `Authorization` as the opening request (the missing case — a stream with other or no credentials on
    a connection opened with a protected route's credentials — is `h2cHead_witness`) -/
theorem h2cConn_head_partial (T : Table) (w0 : WireReq) (ws : List WireReq) (first : Resp)
    (rs : List StreamResp) (h : h2cConn false T w0 ws = some (first, rs)) :
    ∀ p ∈ ws.zip rs, p.1.auth = w0.auth → StreamOK T p.1 p.2 := by
  intro p hmem ha id hid
  rcases h2cConn_head_streams T w0 ws first rs h p hmem with hr | hr
  · rw [hr] at hid; cases hid
  · rw [hr] at hid
    simp only [StreamResp.resp.injEq] at hid
    rw [ha]
    exact h2cConn_first_sound false T w0 ws first rs h id hid

/-- the full statement for the handler before fix: 9c24c7c; it does NOT hold (`h2cHead_witness`) -/
def H2cHeadFull : Prop :=
  ∀ (T : Table) (w0 : WireReq) (ws : List WireReq) (first : Resp) (rs : List StreamResp),
    h2cConn false T w0 ws = some (first, rs) → ∀ p ∈ ws.zip rs, StreamOK T p.1 p.2

/-- a protected host (route 1, alice / secret) and an open host (route 2) on one frps -/
def hTable : Table :=
  { R := (add (add Router.empty (s "p.example.com") [] [] 1).1 (s "o.example.com") [] [] 2).1
    creds := [(1, ⟨s "alice", s "secret"⟩)] }

def hReq (host path : String) (a : Option (Str × Str)) : WireReq :=
  { host := s host, proxied := false, target := s path, auth := a, pauth := none }

def hGood : Option (Str × Str) := some (s "alice", s "secret")

/-- **witness, before fix: 9c24c7c**: a connection is opened with the protected host's credentials and
    upgraded; a further stream for the protected host WITHOUT credentials is forwarded to the protected
    backend -/
theorem h2cHead_witness :
    h2cConn false hTable (hReq "p.example.com" "/" hGood) [hReq "p.example.com" "/x" none] =
      some (.forward 1, [.resp (.forward 1)]) ∧
    ¬ StreamOK hTable (hReq "p.example.com" "/x" none) (.resp (.forward 1)) := by
  refine ⟨by decide +kernel, ?_⟩
  intro h
  have := h 1 rfl
  revert this
  decide +kernel

theorem h2cHeadFull_fails : ¬ H2cHeadFull := by
  intro h
  exact h2cHead_witness.2
    (h hTable (hReq "p.example.com" "/" hGood) [hReq "p.example.com" "/x" none] _ _ h2cHead_witness.1
      (hReq "p.example.com" "/x" none, .resp (.forward 1)) (by simp))

/-- **witness, before fix: 9c24c7c, routing**: on a connection opened for the open host a stream for the
    protected host (here with its credentials) is answered by the OPEN host's backend — which thereby
    receives the stream's Authorization header —, not by the route the stream names -/
theorem h2cHead_misroute_witness :
    h2cConn false hTable (hReq "o.example.com" "/" none) [hReq "p.example.com" "/x" hGood] =
      some (.forward 2, [.resp (.forward 2)]) ∧
    serveWire hTable (hReq "p.example.com" "/x" hGood) = some (.forward 1) := by
  decide +kernel

/-- the repaired handler on the same inputs: challenge without, the protected backend with, the
    credentials; a stream for the protected host on a connection opened through the open host is
    checked like any other request -/
example : h2cConn true hTable (hReq "p.example.com" "/" hGood) [hReq "p.example.com" "/x" none] =
    some (.forward 1, [.resp .unauthorized]) := by decide +kernel
example : h2cConn true hTable (hReq "o.example.com" "/" none)
    [hReq "p.example.com" "/x" none, hReq "p.example.com" "/x" hGood, hReq "o.example.com" "/%" none] =
    some (.forward 2, [.resp .unauthorized, .resp (.forward 1), .rst]) := by decide +kernel
example : h2cConn true hTable (hReq "p.example.com" "/" none) [hReq "o.example.com" "/" none] =
    some (.unauthorized, []) := by decide +kernel
/-- prior knowledge needs a catch-all route (the preface has no Host) -/
example : h2cConn false hTable priWire [hReq "o.example.com" "/" none] = some (.notFound, []) := by decide +kernel

/-! executable predicate for implementation traces of one connection -/

def streamHoldsOn (T : Table) (w : WireReq) (r : StreamResp) : Bool :=
  match r with
  | .resp (.forward id) => decide (CredsOK T id w.auth)
  | _ => true

theorem streamHoldsOn_sound (T : Table) (w : WireReq) (r : StreamResp) :
    streamHoldsOn T w r = true ↔ StreamOK T w r := by
  unfold StreamOK
  rcases r with _ | _ | _ | _ <;> simp [streamHoldsOn]

/-- `first` = the answer to the opening request (`none`: nothing is claimed about it — 400, or the
    prior-knowledge preface, which no backend sees), `rs` = the answers to the streams sent afterwards -/
def h2cHoldsOn (T : Table) (w0 : WireReq) (ws : List WireReq) (first : Option Resp) (rs : List StreamResp) : Bool :=
  holdsOnWire T w0 first && (ws.zip rs).all (fun p => streamHoldsOn T p.1 p.2)

theorem h2cHoldsOn_sound (T : Table) (w0 : WireReq) (ws : List WireReq) (first : Option Resp)
    (rs : List StreamResp) :
    h2cHoldsOn T w0 ws first rs = true ↔
      ((∀ id, first = some (.forward id) → CredsOK T id w0.auth) ∧ ∀ p ∈ ws.zip rs, StreamOK T p.1 p.2) := by
  simp only [h2cHoldsOn, Bool.and_eq_true, holdsOnWire_sound, List.all_eq_true, streamHoldsOn_sound]

theorem model_h2cHoldsOn_checked (T : Table) (w0 : WireReq) (ws : List WireReq) (first : Resp)
    (rs : List StreamResp) (h : h2cConn true T w0 ws = some (first, rs)) :
    h2cHoldsOn T w0 ws (some first) rs = true := by
  rw [h2cHoldsOn_sound]
  obtain ⟨h1, h2⟩ := h2cConn_checked_sound T w0 ws first rs h
  exact ⟨fun id hf => h1 id (Option.some.inj hf), h2⟩

/-! ### server-side tcpmux proxies: listener fields and the CONNECT check -/

/-- **field mapping**: every listener a tcpmux proxy registers — one per custom domain and the one
    for the subdomain — carries the configured user name, password and routing user, each in its own
    field -/
theorem tmListeners_fields (sh : Str) (c : TmCfg) :
    ∀ l ∈ tmListeners sh c,
      l.username = c.httpUser ∧ l.password = c.httpPwd ∧ l.routeByHTTPUser = c.routeUser := by
  intro l hl
  unfold tmListeners at hl
  rcases List.mem_append.mp hl with h | h
  · obtain ⟨d, _, rfl⟩ := List.mem_map.mp h
    exact ⟨rfl, rfl, rfl⟩
  · split at h
    · simp at h
    · simp only [List.mem_singleton] at h
      subst h
      exact ⟨rfl, rfl, rfl⟩

/-- the listeners a tcpmux proxy registers are named by the non-empty custom domains followed by
    `subdomain.subDomainHost` -/
theorem tmListeners_names (sh : Str) (c : TmCfg) :
    (tmListeners sh c).map (·.name) =
      c.domains.filter (fun d => !d.isEmpty) ++ (if c.sub = [] then [] else [c.sub ++ dot :: sh]) := by
  unfold tmListeners
  rw [List.map_append, List.map_map]
  congr 1
  · simp [Function.comp_def, httpConnectListen]
  · split <;> simp [httpConnectListen]

theorem lookup_cons_cases {κ α : Type} [BEq κ] [LawfulBEq κ] {k n : κ} {v a : α} {l : List (κ × α)}
    (h : List.lookup n ((k, v) :: l) = some a) : (n = k ∧ a = v) ∨ (n ≠ k ∧ l.lookup n = some a) := by
  rw [List.lookup_cons] at h
  cases e : n == k
  · rw [e] at h
    exact Or.inr ⟨ne_of_beq_false e, h⟩
  · rw [e] at h
    exact Or.inl ⟨eq_of_beq e, (Option.some.inj h).symm⟩

theorem credsOf_cons_self (R : Routers) (cs : List (Nat × Creds)) (k : Nat) (c : Creds) :
    Table.credsOf { R := R, creds := (k, c) :: cs } k = c := by
  simp [Table.credsOf]

theorem credsOf_cons_ne (R : Routers) (cs : List (Nat × Creds)) (k n : Nat) (c : Creds) (h : n ≠ k) :
    Table.credsOf { R := R, creds := (k, c) :: cs } n = Table.credsOf { R := R, creds := cs } n := by
  simp [Table.credsOf, List.lookup_cons, beq_false_of_ne h]

/-- what the muxer stores agrees with the configuration each listener object was created from -/
def TmAgree (S : TmState) : Prop :=
  ∀ n rec, S.recs.lookup n = some rec →
    S.T.credsOf n = ⟨rec.cfg.httpUser, rec.cfg.httpPwd⟩ ∧ rec.l.routeByHTTPUser = rec.cfg.routeUser ∧
    rec.l.username = rec.cfg.httpUser ∧ rec.l.password = rec.cfg.httpPwd

theorem tmAgree_empty : TmAgree TmState.empty := by
  intro n rec h
  simp [TmState.empty] at h

theorem tmClaim_agree (id : Nat) (c : TmCfg) :
    ∀ (ls : List TmListener) (S : TmState) (held : List TmListener),
      (∀ l ∈ ls, l.username = c.httpUser ∧ l.password = c.httpPwd ∧ l.routeByHTTPUser = c.routeUser) →
      TmAgree S → TmAgree (tmClaim S id c held ls).1
  | [], S, held, _, hS => by simpa [tmClaim] using hS
  | l :: rest, S, held, hl, hS => by
    unfold tmClaim
    split
    · rename_i R' hadd
      apply tmClaim_agree id c rest _ _ (fun x hx => hl x (List.mem_cons_of_mem _ hx))
      intro n rec hn
      obtain ⟨hu, hp, hr⟩ := hl l (List.mem_cons_self ..)
      rcases lookup_cons_cases hn with ⟨rfl, rfl⟩ | ⟨hne, hn⟩
      · exact ⟨by rw [credsOf_cons_self, hu, hp], hr, hu, hp⟩
      · obtain ⟨h1, h2⟩ := hS n rec hn
        exact ⟨(credsOf_cons_ne _ _ _ _ _ hne).trans h1, h2⟩
    · exact hS

/-- the agreement looks at the stored credentials and the records only, not at the route table -/
theorem TmAgree.of_eq {S S' : TmState} (hc : S'.T.creds = S.T.creds) (hr : S'.recs = S.recs)
    (h : TmAgree S) : TmAgree S' := by
  intro n rec hn
  rw [hr] at hn
  unfold Table.credsOf
  rw [hc]
  exact h n rec hn

theorem tmRelease_recs : ∀ (ls : List TmListener) (S : TmState), (tmRelease S ls).recs = S.recs
  | [], S => by simp [tmRelease]
  | l :: rest, S => by unfold tmRelease; rw [tmRelease_recs rest]

theorem tmRelease_creds : ∀ (ls : List TmListener) (S : TmState), (tmRelease S ls).T.creds = S.T.creds
  | [], S => by simp [tmRelease]
  | l :: rest, S => by unfold tmRelease; rw [tmRelease_creds rest]

theorem tmRelease_agree (ls : List TmListener) (S : TmState) (hS : TmAgree S) :
    TmAgree (tmRelease S ls) :=
  hS.of_eq (tmRelease_creds ls S) (tmRelease_recs ls S)

theorem tmRun_agree (sh : Str) (S : TmState) (id : Nat) (c : TmCfg) (hS : TmAgree S) :
    TmAgree (tmRun sh S id c).1 := by
  unfold tmRun
  split
  · exact hS
  · have hc := tmClaim_agree id c (tmListeners sh c) S [] (tmListeners_fields sh c) hS
    split
    · rename_i S' held hcl
      rw [hcl] at hc
      exact hc
    · rename_i S' held hcl
      rw [hcl] at hc
      exact tmRelease_agree held S' hc

theorem tmClose_agree (S : TmState) (id : Nat) (hS : TmAgree S) : TmAgree (tmClose S id) := by
  unfold tmClose
  split
  · exact hS
  · rename_i c held _
    exact tmRelease_agree held S hS

theorem tmStep_agree (S : TmState) (op : TmOp) (hS : TmAgree S) : TmAgree (tmStep S op) := by
  cases op with
  | run sh id c => exact tmRun_agree sh S id c hS
  | close id => exact tmClose_agree S id hS

theorem tmAgree_reach (ops : List TmOp) : TmAgree (ops.foldl tmStep TmState.empty) :=
  foldl_invariant tmAgree_empty fun S op _ => tmStep_agree S op

/-- **tcpmux proxy, end to end**: after any history of tcpmux proxies being started (`NewProxy` + `Run`,
    with roll-back on a refused domain) and closed on one muxer, a CONNECT request is handed to a
    listener of a proxy configured with `httpUser` only if it carries exactly that proxy's `httpUser`
    and `httpPassword` -/
theorem tmProxy_sound (ops : List TmOp) (q : ConnectReq) (n : Nat) (rec : TmRec)
    (h : tmHandle (ops.foldl tmStep TmState.empty) q = .accept n)
    (hr : (ops.foldl tmStep TmState.empty).recs.lookup n = some rec) (hp : rec.cfg.httpUser ≠ []) :
    q.pauth = some (rec.cfg.httpUser, rec.cfg.httpPwd) := by
  have hc := (tmAgree_reach ops n rec hr).1
  have := muxHandle_sound _ q n h (by rw [hc]; exact hp)
  rw [hc] at this
  exact this

/-- non-vacuity: custom domain + subdomain, both protected by the configured pair -/
def tmCfgW : TmCfg := { domains := [s "secret.example.com"], sub := s "vault", routeUser := [], httpUser := s "admin", httpPwd := s "s3cret" }
def tmW : TmState := (tmRun (s "frps.example.com") TmState.empty 7 tmCfgW).1

example : (tmRun (s "frps.example.com") TmState.empty 7 tmCfgW).2 = .ok := by decide +kernel
example : tmHandle tmW ⟨s "secret.example.com", some (s "admin", s "s3cret")⟩ = .accept 0 := by decide +kernel
example : tmHandle tmW ⟨s "vault.frps.example.com", some (s "admin", s "s3cret")⟩ = .accept 1 := by decide +kernel
example : tmHandle tmW ⟨s "vault.frps.example.com", some (s "admin", s "wrong")⟩ = .proxyAuthRequired := by decide +kernel
example : tmHandle tmW ⟨s "secret.example.com", some (s "admin", [])⟩ = .proxyAuthRequired := by decide +kernel
example : tmHandle tmW ⟨s "secret.example.com", none⟩ = .proxyAuthRequired := by decide +kernel
example : tmHandle (tmClose tmW 7) ⟨s "secret.example.com", some (s "admin", s "s3cret")⟩ = .notFound := by decide +kernel

/-- executable predicate: proxy `c` was asked for a work connection for a CONNECT carrying `pauth` -/
def tmHoldsOn (c : TmCfg) (pauth : Option (Str × Str)) : Bool :=
  decide (c.httpUser ≠ [] → pauth = some (c.httpUser, c.httpPwd))

theorem tmHoldsOn_sound (c : TmCfg) (pauth : Option (Str × Str)) :
    tmHoldsOn c pauth = true ↔ (c.httpUser ≠ [] → pauth = some (c.httpUser, c.httpPwd)) := by
  simp only [tmHoldsOn, decide_eq_true_eq]

theorem model_tmHoldsOn (ops : List TmOp) (q : ConnectReq) (n : Nat) (rec : TmRec)
    (h : tmHandle (ops.foldl tmStep TmState.empty) q = .accept n)
    (hr : (ops.foldl tmStep TmState.empty).recs.lookup n = some rec) :
    tmHoldsOn rec.cfg q.pauth = true :=
  (tmHoldsOn_sound _ _).mpr (tmProxy_sound ops q n rec h hr)

end C07
end Frp
