import Frp.Props.C18
import Frp.Model.TypeDispatch
/-
  C18, the `type` of a definition: an accepted proxy / visitor definition carries a type from the allowed
  list, byte for byte, its typed wrapper says the same, and the server reconstructs it.

  `Frp/Gen/TypedConf.lean` (regenerated on every run) lists the statements of
  New{Proxy,Visitor}ConfigurerByType and of Typed{Proxy,Visitor}Config.UnmarshalJSON and the json key of
  {Proxy,Visitor}BaseConfig.Type; `Frp/Model/TypeDispatch.lean` interprets them.
-/
namespace Frp
namespace C18
open Gen.TypedConf Gen.ProxyMsg ProxyMsg TypeDispatch

/-! ## the regenerated shape -/

def expNewByType : List NStep := [.lookupExact, .nilIfAbsent, .newOfStruct, .setTypeFromArg, .ret]

/-- both `New…ConfigurerByType` index their type map with the argument as it is and store that argument in
    the new configurer's `Type`; the decoder writes the very key the peek reads into `…BaseConfig.Type` -/
theorem new_by_type_shape :
    proxyNewByType = expNewByType ∧ visitorNewByType = expNewByType ∧
    proxyBaseTypeKey = peekKey ∧ visitorBaseTypeKey = peekKey := by decide

/-! ## the loader's type dispatch, for every document

  Both loaders are one program over their own type list (`all`, spelled by `bytes`); what is said about it
  once holds for proxies and visitors. -/

/-- `New…ConfigurerByType` in closed form: exact membership in the type map -/
theorem runN_closed {T : Type} (all : List T) (bytes : T → Str) (s : Str) :
    runN (all.map fun t => (bytes t, t)) s {} expNewByType =
      (all.find? fun t => bytes t = s).map fun t => ⟨t, s⟩ := by
  have hfind : ((all.map fun t => (bytes t, t)).find? fun e => e.1 = s).map (·.2) = all.find? fun t => bytes t = s := by
    rw [List.find?_map, Option.map_map]
    exact Option.map_id'
  simp only [expNewByType, runN, stepN, hfind]
  cases (all.find? fun t => bytes t = s) <;> rfl

/-- `UnmarshalJSON` with the expected statement sequence, in closed form, for ANY treatment `fold` of the
    peeked spelling: the struct is selected by `fold spelling`, the wrapper holds `fold spelling`, and the
    configurer's own `Type` holds the spelling as written -/
theorem runU_closed {T : Type} (fold : Str → Str) (newBy : Str → Option (Cfgr T)) (d : Doc) :
    loadedOf (runU fold newBy peekKey d {} expUnmarshal) =
      if d.null || d.typeNotString || !d.bodyOK then none else
      match newBy (fold ((d.get peekKey).getD [])) with
      | none => none
      | some c => some ⟨fold ((d.get peekKey).getD []),
          match d.get peekKey with | some v => { c with ty := v } | none => c⟩ := by
  simp only [expUnmarshal, runU, stepU]
  cases hn : d.null <;> cases ht : d.typeNotString <;> cases hb : d.bodyOK <;> simp [loadedOf]
  all_goals
    generalize newBy (fold ((d.get peekKey).getD [])) = r
    cases r <;> simp <;> (cases d.get peekKey <;> rfl)

/-- the expected statements over the type list `all` -/
def loadBy {T : Type} (all : List T) (bytes : T → Str) (d : Doc) : Option (Loaded T) :=
  loadedOf (runU id (fun s => runN (all.map fun t => (bytes t, t)) s {} expNewByType) peekKey d {} expUnmarshal)

theorem loadProxy_eq (d : Doc) : loadProxy d = loadBy PT.all PT.bytes d := by
  rw [loadProxy, typed_unmarshal_shape.1, new_by_type_shape.2.2.1]
  have : newProxy = fun s => runN (PT.all.map fun t => (t.bytes, t)) s {} expNewByType := by
    funext s; rw [newProxy, new_by_type_shape.1]; rfl
  rw [this]; rfl

theorem loadVisitor_eq (d : Doc) : loadVisitor d = loadBy VT.all VT.bytes d := by
  rw [loadVisitor, typed_unmarshal_shape.2.1, new_by_type_shape.2.2.2]
  have : newVisitor = fun s => runN (VT.all.map fun t => (t.bytes, t)) s {} expNewByType := by
    funext s; rw [newVisitor, new_by_type_shape.2.1]; rfl
  rw [this]; rfl

/-- selection by the spelling as written: wrapper and configurer both hold the document's spelling -/
theorem loadBy_closed {T : Type} (all : List T) (bytes : T → Str) (d : Doc) :
    loadBy all bytes d =
      if d.null || d.typeNotString || !d.bodyOK then none else
      (all.find? fun t => bytes t = (d.get peekKey).getD []).map fun t =>
        ⟨(d.get peekKey).getD [], ⟨t, (d.get peekKey).getD []⟩⟩ := by
  simp only [loadBy, runU_closed, runN_closed, id]
  split
  · rfl
  · cases all.find? (fun t => bytes t = (d.get peekKey).getD []) <;> cases d.get peekKey <;> rfl

theorem loadBy_isSome {T : Type} (all : List T) (bytes : T → Str) (d : Doc) :
    (loadBy all bytes d).isSome = (!d.null && !d.typeNotString && d.bodyOK &&
      (all.map bytes).contains ((d.get peekKey).getD [])) := by
  have hsel : (all.find? fun t => bytes t = (d.get peekKey).getD []).isSome =
      (all.map bytes).contains ((d.get peekKey).getD []) := by
    rw [Bool.eq_iff_iff]; simp
  rw [loadBy_closed]
  cases d.null <;> cases d.typeNotString <;> cases d.bodyOK <;> simp [hsel]

theorem loadBy_type_exact {T : Type} (all : List T) (bytes : T → Str) (hne : ∀ t, bytes t ≠ []) (d : Doc)
    (l : Loaded T) (h : loadBy all bytes d = some l) :
    l.cfg.ty = bytes l.cfg.go ∧ l.wrapper = l.cfg.ty ∧ d.get peekKey = some l.cfg.ty ∧ l.cfg.ty ∈ all.map bytes := by
  rw [loadBy_closed] at h
  split at h
  · cases h
  · obtain ⟨t, hfind, rfl⟩ := Option.map_eq_some_iff.mp h
    have hb : bytes t = (d.get peekKey).getD [] := by simpa using List.find?_some hfind
    refine ⟨hb.symm, rfl, ?_, hb ▸ List.mem_map_of_mem (List.mem_of_find?_eq_some hfind)⟩
    cases hk : d.get peekKey with
    | none => rw [hk] at hb; exact absurd hb (hne t)
    | some v => rfl

/-- **the loader's dispatch is exact membership**: an element of `proxies` is loaded iff it is an object whose
    `type` is, byte for byte, one of the regenerated type strings (and its body decodes) -/
theorem proxy_load_iff (d : Doc) :
    (loadProxy d).isSome = (!d.null && !d.typeNotString && d.bodyOK &&
      (PT.all.map PT.bytes).contains ((d.get peekKey).getD [])) := by
  rw [loadProxy_eq, loadBy_isSome]

theorem visitor_load_iff (d : Doc) :
    (loadVisitor d).isSome = (!d.null && !d.typeNotString && d.bodyOK &&
      (VT.all.map VT.bytes).contains ((d.get peekKey).getD [])) := by
  rw [loadVisitor_eq, loadBy_isSome]

/-- **accepted ⇒ the type is one of the list, everywhere**: whatever the document, a loaded proxy definition's
    own `Type`, its wrapper's `Type` and the type string of the struct that was selected are the same bytes,
    and they are the document's spelling -/
theorem proxy_load_type_exact (d : Doc) (l : Loaded PT) (h : loadProxy d = some l) :
    l.cfg.ty = l.cfg.go.bytes ∧ l.wrapper = l.cfg.ty ∧ d.get peekKey = some l.cfg.ty ∧
    l.cfg.ty ∈ PT.all.map PT.bytes :=
  loadBy_type_exact PT.all PT.bytes bytes_ne_nil d l (loadProxy_eq d ▸ h)

theorem visitor_load_type_exact (d : Doc) (l : Loaded VT) (h : loadVisitor d = some l) :
    l.cfg.ty = l.cfg.go.bytes ∧ l.wrapper = l.cfg.ty ∧ d.get peekKey = some l.cfg.ty ∧
    l.cfg.ty ∈ VT.all.map VT.bytes :=
  loadBy_type_exact VT.all VT.bytes (fun t => by cases t <;> decide) d l (loadVisitor_eq d ▸ h)

/-- **accepted ⇒ the server round trip is the identity**: for every document the loader accepts and every
    configuration record whose `Type` is what the loader left in the configurer, the message built by
    `MarshalToMsg` is reconstructed by the server as the same type with every server-relevant field equal
    (up to the two stated normalisations) -/
theorem accepted_proxy_roundtrip (d : Doc) (l : Loaded PT) (h : loadProxy d = some l) (c : Rec CF)
    (hT : c.get .cType = .str l.cfg.ty) :
    l.cfg.ty ∈ PT.all.map PT.bytes ∧ l.wrapper = l.cfg.ty ∧ RoundTrip l.cfg.go c := by
  obtain ⟨h1, h2, _, h4⟩ := proxy_load_type_exact d l h
  exact ⟨h4, h2, roundtrip l.cfg.go c (h1 ▸ hT)⟩

/-! ## the other direction: a type outside the list does not survive the hand-over -/

/-- a configuration whose `Type` is not (byte for byte) in the list is refused by the server: "unknown proxy type" -/
theorem unlisted_type_refused (t : PT) (c : Rec CF) (s : Str) (hT : c.get .cType = .str s) (hs : s ≠ [])
    (hn : typeOfStr s = none) : serverRecon (marshal (marshalTable t) c) = none := by
  simp only [serverRecon, type_sent t c s hT, asStr_str, hs, if_false, hn]

def tcpUpper : Str := [84, 67, 80]          -- "TCP"
def upperDoc : Doc := { keys := [(peekKey, tcpUpper)] }

/-- **why the selection must use the spelling as written** (witness): the same statements with a selection
    that lower-cases first accept `type = "TCP"`; the configurer then holds "TCP" (the decoder wrote it),
    which is not in the list, differs from its wrapper, and no configuration with that `Type` is
    reconstructed by the server -/
theorem folding_selection_witness :
    ∃ l, loadProxyFolding Str.toLower upperDoc = some l ∧ l.cfg.ty = tcpUpper ∧
      l.cfg.ty ∉ PT.all.map PT.bytes ∧ l.wrapper ≠ l.cfg.ty ∧
      ∀ c : Rec CF, c.get .cType = .str l.cfg.ty → serverRecon (marshal (marshalTable l.cfg.go) c) = none := by
  refine ⟨⟨PT.tcp.bytes, ⟨.tcp, tcpUpper⟩⟩, by decide, rfl, by decide, by decide, ?_⟩
  intro c hc
  exact unlisted_type_refused .tcp c tcpUpper hc (by decide) (by decide)

/-- the real statements refuse that document -/
theorem upper_case_refused : loadProxy upperDoc = none := by decide

/-! ## the executable predicates the driver evaluates on the implementation's own result -/

/-- an ACCEPTED proxy definition: `go` = type string of the struct the loader produced, `wrapper` = the typed
    wrapper's Type, `cli` = the loaded configuration, `srv` = what the real server-side
    NewProxyConfigurerFromMsg made of the real MarshalToMsg of it (none = it returned an error) -/
def tyProxyHoldsOn (go wrapper : Str) (cli : Rec CF) (srv : Option (Str × Rec CF)) : Bool :=
  match typeOfStr (asStr (cli.get .cType)) with
  | none => false
  | some t =>
    decide (wrapper = t.bytes) && decide (go = t.bytes) &&
    match srv with
    | some (st, sc) => decide (st = t.bytes) && rtHoldsOn t cli sc
    | none => false

theorem tyProxyHoldsOn_sound (go wrapper : Str) (cli : Rec CF) (srv : Option (Str × Rec CF)) :
    tyProxyHoldsOn go wrapper cli srv = true ↔
      ∃ t : PT, asStr (cli.get .cType) = t.bytes ∧ wrapper = t.bytes ∧ go = t.bytes ∧
        ∃ sc, srv = some (t.bytes, sc) ∧
          ∀ p ∈ serverFields t, (sc.get p).canon = (norm p (cli.get p)).canon := by
  unfold tyProxyHoldsOn
  constructor
  · intro h
    cases ht : typeOfStr (asStr (cli.get .cType)) with
    | none => simp [ht] at h
    | some t =>
      simp only [ht] at h
      cases srv with
      | none => simp at h
      | some p =>
        obtain ⟨st, sc⟩ := p
        simp only [Bool.and_eq_true, decide_eq_true_eq] at h
        obtain ⟨⟨hw, hg⟩, hs, hr⟩ := h
        exact ⟨t, (typeOfStr_some ht).symm, hw, hg, sc, by rw [hs], (rtHoldsOn_sound t cli sc).mp hr⟩
  · rintro ⟨t, h1, h2, h3, sc, h4, h5⟩
    rw [h1, typeOfStr_bytes, h4]
    simp only [h2, h3, decide_true, Bool.true_and, (rtHoldsOn_sound t cli sc).mpr h5]

/-- the model's own answer satisfies the predicate (so `prop=FAILS` can only come from the implementation) -/
theorem model_tyProxyHoldsOn (d : Doc) (l : Loaded PT) (h : loadProxy d = some l) (c : Rec CF)
    (hT : c.get .cType = .str l.cfg.ty) :
    ∃ c', serverRecon (marshal (marshalTable l.cfg.go) c) = some (l.cfg.go, c') ∧
      tyProxyHoldsOn l.cfg.go.bytes l.wrapper c (some (l.cfg.go.bytes, c')) = true := by
  obtain ⟨h1, h2, _, _⟩ := proxy_load_type_exact d l h
  obtain ⟨c', hr, hf⟩ := roundtrip l.cfg.go c (h1 ▸ hT)
  refine ⟨c', hr, (tyProxyHoldsOn_sound _ _ _ _).mpr ⟨l.cfg.go, ?_, ?_, rfl, c', rfl, ?_⟩⟩
  · rw [hT, asStr_str, h1]
  · rw [h2, h1]
  · intro p hp; rw [hf p hp]

/-- an ACCEPTED visitor definition -/
def tyVisitorHoldsOn (go wrapper ty : Str) : Bool :=
  (VT.all.map VT.bytes).contains ty && decide (wrapper = ty) && decide (go = ty)

theorem tyVisitorHoldsOn_sound (go wrapper ty : Str) :
    tyVisitorHoldsOn go wrapper ty = true ↔ ty ∈ VT.all.map VT.bytes ∧ wrapper = ty ∧ go = ty := by
  simp [tyVisitorHoldsOn, and_assoc]

theorem model_tyVisitorHoldsOn (d : Doc) (l : Loaded VT) (h : loadVisitor d = some l) :
    tyVisitorHoldsOn l.cfg.go.bytes l.wrapper l.cfg.ty = true := by
  obtain ⟨h1, h2, _, h4⟩ := visitor_load_type_exact d l h
  exact (tyVisitorHoldsOn_sound _ _ _).mpr ⟨h4, h2, h1.symm⟩

/-- non-vacuity: the canonical spelling is loaded -/
example : loadProxy { keys := [(peekKey, PT.http.bytes)] } = some ⟨PT.http.bytes, ⟨.http, PT.http.bytes⟩⟩ := by decide
example : loadVisitor { keys := [(peekKey, VT.xtcp.bytes)] } = some ⟨VT.xtcp.bytes, ⟨.xtcp, VT.xtcp.bytes⟩⟩ := by decide

end C18
end Frp
