import Frp.Model.SessDrop
import Frp.Props.C10
/-
  C10 — session end RACING the session's own registration (Frp/Model/SessDrop.lean).

  Clause: "released on every termination path … every point at which the control connection can drop".
  The connection may drop while `RegisterProxy` of the same session is parked between two of its
  sections; the teardown then waits until the registration has returned (it never overtakes it) and
  removes also what the registration has just stored.  Every statement is for every schedule of all
  sessions (induction over op lists).
-/
namespace Frp
namespace C10
namespace Drop
open Release RegSteps SessDrop Conc

structure DInv (s : DState) : Prop where
  conc       : Conc.Inv s.c
  endingBusy : ∀ sid ∈ s.ending, s.c.busy sid = true

theorem dinv_init (m : Nat) : DInv (DState.init m) :=
  ⟨Conc.inv_init m, by intro sid h; cases h⟩

/-! ### `busy` across the steps of the underlying model -/

theorem busy_eq_of_flights_iff {s t : CState} {x : Nat} (h : ∀ f, f.sid = x → (f ∈ t.flights ↔ f ∈ s.flights)) :
    t.busy x = s.busy x := by
  apply Bool.eq_iff_iff.mpr
  simp only [CState.busy, List.any_eq_true, decide_eq_true_eq]
  exact ⟨fun ⟨f, hf, e⟩ => ⟨f, (h f e).mp hf, e⟩, fun ⟨f, hf, e⟩ => ⟨f, (h f e).mpr hf, e⟩⟩

theorem busy_congr {s t : CState} (h : t.flights = s.flights) (x : Nat) : t.busy x = s.busy x := by
  unfold CState.busy; rw [h]

theorem step_busy_other (s : CState) (sid x : Nat) (h : x ≠ sid) : (s.step sid).1.busy x = s.busy x :=
  busy_eq_of_flights_iff fun f e => step_flights_other s sid f (e ▸ h)

theorem step_idle_or_ran (s : CState) (sid : Nat) (hb : s.busy sid = true) :
    (s.step sid).1.busy sid = false ∨
    ∃ f, s.flights.find? (fun f => f.sid = sid) = some f ∧ f.pc = .checked ∧
      (s.step sid).1.flights = { f with pc := .ran } :: s.flights.filter (fun g => g.sid ≠ sid) := by
  have idle : ∀ t : CState, t.flights = s.flights.filter (fun g => g.sid ≠ sid) → t.busy sid = false :=
    fun t ht => not_busy_iff.mpr fun g hg => (mem_filter_sid_ne.mp (ht ▸ hg)).2
  cases step_cases s sid with
  | noflight hn _ =>
    obtain ⟨g, hg, eg⟩ := List.any_eq_true.mp hb
    exact absurd eg (by simpa using List.find?_eq_none.mp hn g hg)
  | failed g r _ _ e => rw [e]; exact .inl (idle _ (by simp [CState.dropFlight]))
  | ran g hg hpc _ e => exact .inr ⟨g, hg, hpc, by rw [e]⟩
  | added g _ _ _ e => rw [e]; exact .inl (idle _ (by simp [CState.dropFlight]))

theorem begin_busy_mono (s : CState) (sid : Nat) (name : Str) (keys : List Key) (n : Nat) (x : Nat)
    (h : s.busy x = true) : (s.begin sid name keys n).1.busy x = true := by
  cases begin_cases s sid name keys n with
  | busy _ e => rw [e]; exact h
  | quota _ _ e => rw [e]; exact h
  | taken _ _ _ e => rw [e, busy_congr (s := s) (by simp)]; exact h
  | parked _ _ _ e =>
    rw [e]; unfold CState.busy at h ⊢
    simp only [charge_frame, List.any_cons, h, Bool.or_true]

/-! ### the invariant, op by op -/

theorem dinv_begin {s : DState} (h : DInv s) (sid : Nat) (name : Str) (keys : List Key) (n : Nat) :
    DInv (s.begin sid name keys n).1 :=
  ⟨Conc.inv_begin h.conc sid name keys n, fun x hx => begin_busy_mono s.c sid name keys n x (h.endingBusy x hx)⟩

theorem dinv_close {s : DState} (h : DInv s) (sid : Nat) (name : Str) : DInv (s.close sid name).1 :=
  ⟨Conc.inv_close h.conc sid name, fun x hx => by
    show (s.c.close sid name).1.busy x = true
    rw [busy_congr (close_flights s.c sid name) x]; exact h.endingBusy x hx⟩

theorem dinv_drop {s : DState} (h : DInv s) (sid : Nat) : DInv (s.drop sid).1 := by
  unfold DState.drop
  by_cases hb : s.c.busy sid = true
  · rw [if_pos hb]
    refine ⟨h.conc, ?_⟩
    intro x hx
    dsimp only at hx
    split at hx
    · exact h.endingBusy x hx
    · rcases List.mem_cons.mp hx with rfl | hx
      · exact hb
      · exact h.endingBusy x hx
  · rw [if_neg hb]
    refine ⟨Conc.inv_sessionEnd h.conc sid, ?_⟩
    intro x hx
    show (s.c.sessionEnd sid).1.busy x = true
    rw [busy_congr (sessionEnd_flights h.conc sid) x]; exact h.endingBusy x hx

theorem dstep_cases (s : DState) (sid : Nat) :
    (sid ∈ s.ending ∧ (s.c.step sid).1.busy sid = false ∧
      s.step sid = ({ c := ((s.c.step sid).1.sessionEnd sid).1, ending := s.ending.filter (· ≠ sid) }, .gone)) ∨
    ((sid ∈ s.ending → (s.c.step sid).1.busy sid = true) ∧
      s.step sid = ({ s with c := (s.c.step sid).1 }, .r (s.c.step sid).2)) := by
  unfold DState.step
  by_cases hc : (s.ending.contains sid && !(s.c.step sid).1.busy sid) = true
  · have := (Bool.and_eq_true _ _).mp hc
    exact .inl ⟨by simpa using this.1, by simpa using this.2, if_pos hc⟩
  · refine .inr ⟨fun hm => ?_, if_neg hc⟩
    have hm' : s.ending.contains sid = true := by simpa using hm
    rw [hm', Bool.true_and] at hc
    simpa using hc

theorem dinv_step {s : DState} (h : DInv s) (sid : Nat) : DInv (s.step sid).1 := by
  have hi : Conc.Inv (s.c.step sid).1 := Conc.inv_step h.conc sid
  rcases dstep_cases s sid with ⟨_, _, e⟩ | ⟨hb, e⟩
  · rw [e]
    refine ⟨Conc.inv_sessionEnd hi sid, fun x hx => ?_⟩
    obtain ⟨hx1, hx2⟩ := List.mem_filter.mp hx
    show ((s.c.step sid).1.sessionEnd sid).1.busy x = true
    rw [busy_congr (sessionEnd_flights hi sid) x, step_busy_other s.c sid x (by simpa using hx2)]
    exact h.endingBusy x hx1
  · rw [e]
    refine ⟨hi, fun x hx => ?_⟩
    show (s.c.step sid).1.busy x = true
    by_cases ex : x = sid
    · exact ex ▸ hb (ex ▸ hx)
    · rw [step_busy_other s.c sid x ex]; exact h.endingBusy x hx

/-- **every schedule** of begin / step / close / connection drop of all sessions -/
theorem dinv_reachable (m : Nat) (ops : List SessDrop.Op) : DInv (ops.foldl SessDrop.apply (DState.init m)) := by
  refine foldl_invariant (P := DInv) (dinv_init m) fun s op _ h => ?_
  cases op with
  | begin sid name keys n => exact dinv_begin h sid name keys n
  | step sid => exact dinv_step h sid
  | close sid name => exact dinv_close h sid name
  | drop sid => exact dinv_drop h sid

/-- the connection drops while the session is idle: exactly `Control.worker`'s teardown -/
theorem drop_idle_spec (s : DState) (sid : Nat) (hb : s.c.busy sid = false) :
    s.drop sid = ({ s with c := (s.c.sessionEnd sid).1 }, .r .done) := by
  unfold DState.drop; rw [if_neg (by simp [hb])]

/-- the connection drops during the session's own registration: no table, counter or flight changes —
    `worker` is blocked until the dispatcher's handler returns -/
theorem drop_pending_unchanged (s : DState) (sid : Nat) (hb : s.c.busy sid = true) :
    (s.drop sid).2 = .pending ∧ (s.drop sid).1.c = s.c ∧ sid ∈ (s.drop sid).1.ending := by
  unfold DState.drop; rw [if_pos hb]
  refine ⟨rfl, rfl, ?_⟩
  dsimp only
  split
  · rename_i hm; simpa using hm
  · exact List.mem_cons_self

/-- **nothing of a session survives its end**, also when the end raced the session's own registration:
    when the step answers `gone`, the session owns no proxy, no name, holds no key, has no flight and its
    counter is 0 — whatever the registration's outcome was — and every other session keeps exactly what
    the registration step left it -/
theorem gone_clean {s : DState} (h : DInv s) (sid : Nat) (hg : (s.step sid).2 = .gone) :
    let c1 := (s.c.step sid).1
    let t := (s.step sid).1
    t.c.own = c1.own.filter (fun o => o.sid ≠ sid) ∧
    t.c.names = c1.names.filter (fun e => e.2 ≠ sid) ∧
    t.c.held = c1.held.filter (fun e => e.2.sid ≠ sid) ∧
    t.c.flights = c1.flights ∧ t.c.busy sid = false ∧
    (∀ x, t.c.quotaOf x = if x = sid then 0 else c1.quotaOf x) ∧
    sid ∉ t.ending := by
  have hi : Conc.Inv (s.c.step sid).1 := Conc.inv_step h.conc sid
  rcases dstep_cases s sid with ⟨_, hb, e⟩ | ⟨_, e⟩
  · rw [e]
    obtain ⟨a1, a2, a3, a4, a5, _⟩ := Conc.sessionEnd_spec hi sid hb
    refine ⟨a1, a2, a3, a4, ?_, a5, fun hm => ?_⟩
    · rw [busy_congr a4 sid]; exact hb
    · simpa using (List.mem_filter.mp hm).2
  · rw [e] at hg; cases hg

theorem step_gone_of (t : DState) (sid : Nat) (hm : sid ∈ t.ending) (hb : (t.c.step sid).1.busy sid = false) :
    (t.step sid).2 = .gone := by
  rcases dstep_cases t sid with ⟨_, _, e⟩ | ⟨hb', _⟩
  · rw [e]
  · rw [hb' hm] at hb; cases hb

/-- a pending teardown completes after at most two more sections of the registration -/
theorem gone_within_two {s : DState} (h : DInv s) (sid : Nat) (hm : sid ∈ s.ending) :
    (s.step sid).2 = .gone ∨ ((s.step sid).1.step sid).2 = .gone := by
  rcases step_idle_or_ran s.c sid (h.endingBusy sid hm) with hi | ⟨f, hf, _, hfl⟩
  · exact .inl (step_gone_of s sid hm hi)
  · right
    -- `Run` succeeded: the session is still busy, the teardown still pending
    have hs : f.sid = sid := (find_flight hf).2
    have hb1 : (s.c.step sid).1.busy sid = true := by unfold CState.busy; rw [hfl]; simp [hs]
    rcases dstep_cases s sid with ⟨_, hb0, _⟩ | ⟨_, e1⟩
    · rw [hb1] at hb0; cases hb0
    rw [e1]
    refine step_gone_of _ sid hm ?_
    -- the flight is now parked at `ran`, so the next section is not `Run`
    rcases step_idle_or_ran (s.c.step sid).1 sid hb1 with hi | ⟨g, hg, hgpc, _⟩
    · exact hi
    · rw [hfl, List.find?_cons_of_pos (by simpa using hs)] at hg
      cases hg; cases hgpc

/-- with no registration in flight no teardown is pending; if moreover no proxy is owned, the census is
    empty: no key, no name, every counter 0 -/
theorem quiescent_empty {s : DState} (h : DInv s) (hf : s.c.flights = []) :
    s.ending = [] ∧ (s.c.own = [] → s.c.held = [] ∧ s.c.names = [] ∧ ∀ x, s.c.quotaOf x = 0) := by
  refine ⟨?_, fun ho => Conc.quiescent_clean h.conc hf ho⟩
  apply List.eq_nil_iff_forall_not_mem.mpr
  intro x hx
  have := h.endingBusy x hx
  unfold CState.busy at this
  rw [hf] at this
  cases this

/-! non-vacuity: session 1's connection drops while its registration is parked after `Run`; the
    registration then succeeds — and the teardown removes the proxy it has just stored -/
def raceOps : List SessDrop.Op :=
  [.begin 1 (C10.s "p") [Conc.pA] 1, .step 1, .drop 1]

example : ((raceOps.foldl SessDrop.apply (DState.init 1)).ending) = [1] := by decide +kernel
example : ((raceOps.foldl SessDrop.apply (DState.init 1)).step 1).2 = .gone := by decide +kernel
example : (((raceOps.foldl SessDrop.apply (DState.init 1)).step 1).1.c.names) = [] := by decide +kernel
example : (((raceOps.foldl SessDrop.apply (DState.init 1)).step 1).1.c.held.map (·.1)) = [] := by decide +kernel
example : (((raceOps.foldl SessDrop.apply (DState.init 1)).step 1).1.c.quotaOf 1) = 0 := by decide +kernel
/-- the same port is free for another session afterwards -/
example : let t := ((raceOps.foldl SessDrop.apply (DState.init 1)).step 1).1
          ((t.begin 2 (C10.s "p") [Conc.pA] 1).1.step 2).2 = .r (.parked .ran) := by decide +kernel

end Drop
end C10
end Frp
