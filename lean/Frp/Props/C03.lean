import Frp.Lemmas.Base64
import Frp.Lemmas.Udp
import Frp.Lemmas.Sudp
import Frp.Lemmas.UdpSrv
import Frp.Lemmas.SudpPx
import Frp.Lemmas.UdpBuf
import Frp.Model.UdpLayers
import Frp.Lemmas.Layers
/-
  C03 — UDP tunnels preserve datagram payloads, boundaries and reply addressing.

  Models: Frp/Model/Base64.lean (encoding/base64 StdEncoding as used by NewUDPPacket/GetContent),
          Frp/Model/Udp.lean    (UDPPacket JSON body + golib frame limit; ForwardUserConn /
                                 Forwarder / the four work-connection goroutines as a labelled
                                 transition system).
          Frp/Model/Sudp.lean   (client/visitor/sudp.go: dispatcher / worker / ForwardUserConn of the
                                 sudp visitor as a labelled transition system; one visitor connection =
                                 one work connection = one Forwarder generation).
          Frp/Model/UdpSrv.lean (server/proxy/udp.go Run: the work-connection loop, one reader and one
                                 sender goroutine per work connection, sendCh / readCh / checkCloseCh
                                 shared by all work connections, per-connection cancel).
          Frp/Model/SudpPx.lean (client/proxy/sudp.go InWorkConn: SEVERAL work connections alive at once — one
                                 per visitor connection —, each with its own reader / sender / heartbeat
                                 goroutines, readCh / sendCh, closeFn and Forwarder; the proxy shares only closeCh).
          Frp/Model/UdpBuf.lean (the read loops of pkg/proto/udp/udp.go with the reused READ BUFFER as explicit state and
                                 the queue behind them: does a queued message own its bytes?)
          Frp/Model/UdpLayers.lean (the encryption / compression / limiter wrappers of the connections that carry
                                 UDPPacket frames, as each of the five sites builds them)
  Lemmas: Frp/Lemmas/UdpBuf.lean, Frp/Lemmas/Base64.lean, Frp/Lemmas/Udp.lean, Frp/Lemmas/Sudp.lean, Frp/Lemmas/UdpSrv.lean,
          Frp/Lemmas/SudpPx.lean.

  Every statement about the forwarding machine is about `run (init …) ls` for an arbitrary label
  list `ls`, i.e. for every interleaving of user datagrams (any number of source addresses),
  backend replies, queue transfers, socket expiries, connection loss and reconnects.
-/
namespace Frp
namespace C03
open Udp Base64

/-! ## 1. Codec: one message ⇒ exactly one datagram with exactly that payload -/

/-- `GetContent (NewUDPPacket b l r) = b` for every byte string: nothing is corrupted, truncated,
    merged or split by the encoding (a message carries one payload, the decoder returns it). -/
theorem contentOf_packetOf (b : Str) (l r : Option Addr) (hb : bytes b) :
    contentOf (packetOf b l r) = some b :=
  decode_encode b hb

/-- the observer's view of a freshly built packet -/
theorem view_packetOf (b : Str) (l r : Option Addr) (hb : bytes b) :
    view (packetOf b l r) = (r, some b) :=
  view_packetOf_bytes b l r hb

/-- different payloads never share an encoding (no two datagrams can be confused) -/
theorem packetOf_injective {b b' : Str} {l r l' r' : Option Addr} (hb : bytes b) (hb' : bytes b')
    (h : packetOf b l r = packetOf b' l' r') : b = b' ∧ l = l' ∧ r = r' := by
  simp only [packetOf, Packet.mk.injEq] at h
  exact ⟨encode_injective hb hb' h.1, h.2.1, h.2.2⟩

/-- length of the `Content` field -/
theorem content_length (b : Str) (l r : Option Addr) :
    (packetOf b l r).content.length = 4 * ((b.length + 2) / 3) :=
  encode_length b

/-- the content is made of alphabet characters and '=' only: 7-bit, none of them needs JSON
    escaping, none is '.', CR or LF -/
theorem content_chars (b : Str) (l r : Option Addr) (hb : bytes b) :
    ∀ c ∈ (packetOf b l r).content, okChar c = true :=
  encode_chars b hb

theorem base64_roundtrip (b : Str) (hb : bytes b) : decode (encode b) = some b := decode_encode b hb
theorem base64_length (b : Str) : (encode b).length = 4 * ((b.length + 2) / 3) := encode_length b
theorem base64_no_dot (b : Str) (hb : bytes b) : (46 : Nat) ∉ encode b := encode_no_dot b hb
theorem base64_alphabet : ∀ n, n < 64 → val (ch n) = some n := val_ch

example : contentOf (packetOf [0, 255, 16, 131] none none) = some [0, 255, 16, 131] := by decide
example : (packetOf [104, 105] none none).content = [97, 71, 107, 61] := by decide   -- "hi" ↦ "aGk="
example : decode [97, 71, 10, 107, 61] = some [104, 105] := by decide               -- newline skipped
example : decode [97, 71, 107] = none := by decide                                  -- padding is mandatory

/-! ## 2. Frame length against the 10240-byte limit of the reader -/

example : AddrOK { ip := Str.ofString "fe80::1", port := 53, zone := Str.ofString "eth0" } := by
  decide +kernel

/-- exact body length of a tunnel-path message (non-empty payload, LocalAddr nil, RemoteAddr set) -/
theorem body_length_path (b : Str) (a : Addr) (hne : b ≠ []) :
    (body (packetOf b none (some a))).length
      = frameBodyLen b.length a.ip.length (digits a.port).length a.zone.length :=
  Udp.body_length_path b a hne

/-- exact admission criterion: the reader accepts the frame iff the payload length is at most
    `3 * ((10200 - addressText) / 4)` -/
theorem fits_iff (b : Str) (a : Addr) (hne : b ≠ []) :
    fits (packetOf b none (some a)) = true ↔
      b.length ≤ 3 * ((10200 - (a.ip.length + (digits a.port).length + a.zone.length)) / 4) := by
  have hpos : 0 < b.length := List.length_pos_iff.2 hne
  simp only [fits, decide_eq_true_eq, body_length_path b a hne, frameBodyLen, maxMsgLength]
  omega

/-- N₀ = 7605: every payload of at most 7605 bytes fits whatever the user address is -/
theorem fits_of_le_7605 (b : Str) (a : Addr) (ha : AddrOK a) (hn : b.length ≤ 7605) :
    fits (packetOf b none (some a)) = true :=
  Udp.fits_of_le b a ha.1 ha.2.1 ha.2.2 hn

/-- the default `udpPacketSize = 1500` always fits -/
theorem default_packet_size_fits (b : Str) (a : Addr) (ha : AddrOK a) (hn : b.length ≤ 1500) :
    fits (packetOf b none (some a)) = true :=
  fits_of_le_7605 b a ha (by omega)

/-- N₁ = 7674: no payload longer than 7674 bytes fits, whatever the addresses (even both nil) -/
theorem not_fits_of_gt_7674 (b : Str) (l r : Option Addr) (hn : 7674 < b.length) :
    fits (packetOf b l r) = false :=
  Udp.not_fits_of_gt b l r hn

/-- 7605 is sharp: with a full-length IPv6 address, zone and 5-digit port a 7606-byte payload is
    rejected.  **Finding** (DESIGN §7 item 15): `udpPacketSize` is not validated; any configured
    value above 7605 admits datagrams whose frame the peer's reader rejects. -/
theorem fits_7606_witness :
    ∃ (b : Str) (a : Addr), AddrOK a ∧ bytes b ∧ b.length = 7606 ∧ fits (packetOf b none (some a)) = false := by
  let a : Addr := { ip := List.replicate 39 102, port := 65535, zone := List.replicate 15 101 }
  have hne : List.replicate 7606 0 ≠ ([] : Str) :=
    List.ne_nil_of_length_pos (by rw [List.length_replicate]; decide)
  have hd : (digits 65535).length = 5 := by simp [digits]
  refine ⟨List.replicate 7606 0, a, ⟨?_, by decide, ?_⟩, ?_, List.length_replicate, ?_⟩
  · simp only [a, List.length_replicate]; omega
  · simp only [a, List.length_replicate]; omega
  · intro x hx; rw [List.eq_of_mem_replicate hx]; omega
  · have := fits_iff (List.replicate 7606 0) a hne
    simp only [a, List.length_replicate, hd] at this
    cases hf : fits (packetOf (List.replicate 7606 0) none (some a)) with
    | false => rfl
    | true => exact absurd (this.1 hf) (by omega)

/-- on loopback IPv4 with a 5-digit port the threshold is 7638 -/
example (b : Str) (hne : b ≠ []) :
    fits (packetOf b none (some { ip := Str.ofString "127.0.0.1", port := 40000, zone := [] })) = true
      ↔ b.length ≤ 7638 := by
  have h := fits_iff b { ip := Str.ofString "127.0.0.1", port := 40000, zone := [] } hne
  have h1 : (Str.ofString "127.0.0.1").length = 9 := by decide +kernel
  have h2 : (digits 40000).length = 5 := by simp [digits]
  simp only [h1, h2, List.length_nil] at h
  rw [h]

/-! ## 3. Forwarding machine: conservation, no forgery / duplication, reply routing -/

/-- states reachable from an initial state by any sequence of labels -/
def Reachable (s : St) : Prop := ∃ sbs cbs cap ls, s = run (init sbs cbs cap) ls

theorem reachable_inv {s : St} (h : Reachable s) : Udp.Inv s := by
  obtain ⟨sbs, cbs, cap, ls, rfl⟩ := h
  exact Udp.inv_run _ (Udp.inv_init sbs cbs cap) ls

/-- **conservation, upstream**: every datagram that arrived at the public socket is, at any time,
    exactly one of: queued at the server, queued at the client, handed to the backend, or dropped
    at one of the listed drop sites — as multisets (for every view `x` the multiplicities add up).
    Hence nothing is duplicated and nothing appears from nowhere. -/
theorem conservation_up {s : St} (h : Reachable s) (x : View) :
    s.sentV.count x =
      (s.sSend.map view).count x + (s.cRead.map view).count x
        + (s.backendLog.map Prod.snd).count x + (s.dropUp.map Prod.snd).count x :=
  (reachable_inv h).up x

/-- **conservation, downstream**: the same for replies read from the per-user sockets. -/
theorem conservation_down {s : St} (h : Reachable s) (x : View) :
    (s.replyLog.map Prod.snd).count x =
      (s.cSend.map view).count x + (s.sRead.map view).count x
        + (s.userLog.map uview).count x + (s.dropDown.map Prod.snd).count x :=
  (reachable_inv h).down x

/-- what was recorded as sent is the (cut-to-packet-size) payload of the user's datagram, tagged
    with the user's address -/
theorem sentV_eq {s : St} (h : Reachable s) :
    s.sentV = s.sent.map (fun e => (some e.1, some (rd s.sbs e.2))) :=
  (reachable_inv h).sentEq

/-- **no duplication towards the backend**: a payload reaches the backend at most as many times
    as it was sent by that address. -/
theorem backend_no_dup {s : St} (h : Reachable s) (x : View) :
    (s.backendLog.map Prod.snd).count x ≤ s.sentV.count x := by
  have := conservation_up h x; omega

/-- **no corruption / merge / split / forgery towards the backend**: every datagram handed to the
    backend has exactly the payload (cut to the configured packet size) of one datagram some user
    sent, and went out through a socket that belongs to that user's address. -/
theorem backend_payload_sent {s : St} (h : Reachable s) {k : Nat} {a : Option Addr} {b : Option Str}
    (hm : (k, (a, b)) ∈ s.backendLog) :
    ∃ ua p, (ua, p) ∈ s.sent ∧ a = some ua ∧ b = some (rd s.sbs p) ∧ (k, some ua) ∈ s.socks := by
  obtain ⟨ua, p, hin, rfl, rfl⟩ := sent_of_logged (sentV_eq h) (backend_no_dup h) hm
  exact ⟨ua, p, hin, rfl, rfl, (reachable_inv h).backendSock _ hm⟩

/-- a socket towards the backend serves one user address only: two datagrams seen by the backend on
    the same socket come from the same user address -/
theorem socket_exclusive {s : St} (h : Reachable s) {k : Nat} {v v' : View}
    (h1 : (k, v) ∈ s.backendLog) (h2 : (k, v') ∈ s.backendLog) : v.1 = v'.1 := by
  have hinv := reachable_inv h
  exact hinv.socksFun k v.1 v'.1 (hinv.backendSock _ h1) (hinv.backendSock _ h2)

/-- **no duplicated / invented replies**: address `a` receives payload `q` at most as many times as
    the backend sent it to a socket of `a`. -/
theorem reply_no_dup {s : St} (h : Reachable s) (x : View) :
    (s.userLog.map uview).count x ≤ (s.replyLog.map Prod.snd).count x := by
  have := conservation_down h x; omega

/-- **reply routing**: every datagram written back on the public socket to address `a` with
    payload `q` is (the cut-to-packet-size payload of) a reply that the backend sent to a socket `k`
    that was dialled for a datagram of user address `a` — so it answers `a` — and to no other:
    the socket's address is unique. -/
theorem reply_routing {s : St} (h : Reachable s) {a : Addr} {q : Str} (hm : (a, q) ∈ s.userLog) :
    ∃ k, (k, (some a, some q)) ∈ s.replyLog ∧ (k, some a) ∈ s.socks ∧
      ∀ a', (k, a') ∈ s.socks → a' = some a := by
  have hinv := reachable_inv h
  obtain ⟨⟨k, v⟩, hin, rfl⟩ := List.mem_map.1
    (mem_of_count_le (reply_no_dup h _) (List.mem_map.2 ⟨(a, q), hm, rfl⟩))
  have hk := hinv.replySock _ hin
  exact ⟨k, hin, hk, fun a' ha' => hinv.socksFun k a' (some a) ha' hk⟩

/-- replies are tagged with the address captured when the socket was dialled -/
theorem reply_tag {s : St} (h : Reachable s) {k : Nat} {v : View} (hm : (k, v) ∈ s.replyLog) :
    (k, v.1) ∈ s.socks :=
  (reachable_inv h).replySock _ hm

/-- **drops only at the listed sites**: in a run in which no drop site was hit, everything sent is
    queued or delivered (multiset equality), in both directions. -/
theorem lossless_if_no_drop {s : St} (h : Reachable s) (hu : s.dropUp = []) (hd : s.dropDown = [])
    (x : View) :
    s.sentV.count x = (s.sSend.map view).count x + (s.cRead.map view).count x
        + (s.backendLog.map Prod.snd).count x ∧
    (s.replyLog.map Prod.snd).count x = (s.cSend.map view).count x + (s.sRead.map view).count x
        + (s.userLog.map uview).count x := by
  have h1 := conservation_up h x
  have h2 := conservation_down h x
  rw [hu] at h1; rw [hd] at h2
  simp only [List.map_nil, List.count_nil, Nat.add_zero] at h1 h2
  exact ⟨h1, h2⟩

/-- the drop sites, with their causes (each proved for one step from any reachable state):
    a step adds a `sendFull`/`replyFull` drop only when that queue holds `cap` messages -/
theorem drop_full_only_when_full (s : St) (l : Label) (x : View) :
    ((step s l).dropUp.count (Drop.sendFull, x) > s.dropUp.count (Drop.sendFull, x) → s.cap ≤ s.sSend.length) ∧
    ((step s l).dropDown.count (Drop.replyFull, x) > s.dropDown.count (Drop.replyFull, x) → s.cap ≤ s.cSend.length) :=
  Udp.drop_full_only_when_full s l x

/-- the codec never causes a drop: `decodeErr` and `nilAddr` drops do not occur -/
theorem no_codec_drop {s : St} (h : Reachable s) :
    (∀ e ∈ s.dropUp, e.1 ≠ Drop.decodeErr ∧ e.1 ≠ Drop.nilAddr) ∧
    (∀ e ∈ s.dropDown, e.1 ≠ Drop.decodeErr ∧ e.1 ≠ Drop.nilAddr) :=
  ⟨(reachable_inv h).noCodecUp, (reachable_inv h).noCodecDown⟩

/-- with packet sizes ≤ 7605 on both sides and well-formed user addresses no frame is ever
    rejected, so the reader never stops and the connection is never killed by a datagram -/
theorem no_frame_drop {s : St} (h : Reachable s) (hs : s.sbs ≤ 7605) (hc : s.cbs ≤ 7605)
    (haddr : ∀ e ∈ s.sent, AddrOK e.1) :
    s.cReader = true ∧
    (∀ e ∈ s.dropUp, e.1 ≠ Drop.frameTooLong ∧ e.1 ≠ Drop.readerDead) ∧
    (∀ e ∈ s.dropDown, e.1 ≠ Drop.frameTooLong ∧ e.1 ≠ Drop.readerDead) := by
  obtain ⟨sbs, cbs, cap, ls, rfl⟩ := h
  obtain ⟨c1, c2, c3⟩ := Udp.clean_run _ (Udp.inv_init sbs cbs cap) (Udp.clean_init sbs cbs cap) ls
    ⟨hs, hc, haddr⟩
  exact ⟨c1, fun e he => okReason_ne (c2 e he), fun e he => okReason_ne (c3 e he)⟩

/-- the full clause "drops only under overload or reconnect", as a statement about the model -/
def DropsOnlyOverloadOrReconnectFull : Prop :=
  ∀ s, Reachable s → ∀ e, (e ∈ s.dropUp ∨ e ∈ s.dropDown) →
    e.1 = Drop.sendFull ∨ e.1 = Drop.replyFull ∨ e.1 = Drop.connDown ∨ e.1 = Drop.reconnect

/-- a run on which `DropsOnlyOverloadOrReconnectFull` fails (`drops_only_overload_witness`): with
    `udpPacketSize = 9000` one 8000-byte datagram is dropped as `frameTooLong`, the client's reader stops, and
    every later datagram is lost (`readerDead`) although the connection is up and the queues are empty. -/
def wedgeTrace : List Label :=
  let a : Addr := { ip := [49], port := 7, zone := [] }
  [.userSend a (List.replicate 8000 0), .s2c, .userSend a [1, 2, 3], .s2c]

theorem drops_only_overload_witness :
    ((run (init 9000 9000 1024) wedgeTrace).dropUp.map Prod.fst) = [Drop.frameTooLong, Drop.readerDead]
    ∧ (run (init 9000 9000 1024) wedgeTrace).up = true := by
  have hb : isBytes (List.replicate 8000 0) = true :=
    (isBytes_iff _).2 fun x hx => by rw [List.eq_of_mem_replicate hx]; decide
  -- 8000 > N₁: the frame is refused without looking at its encoding
  have hf (r : Option Addr) : fits (packetOf (rd 9000 (List.replicate 8000 0)) none r) = false :=
    not_fits_of_gt_7674 _ none r (by rw [rd, List.length_take, List.length_replicate]; decide)
  have hf' : fits (packetOf (rd 9000 [1, 2, 3]) none (some { ip := [49], port := 7, zone := [] })) = true := by
    decide +kernel
  have hb' : isBytes [1, 2, 3] = true := by decide
  have h0 : (0 : Nat) < 1024 := by decide
  simp only [wedgeTrace, run, List.foldl_cons, List.foldl_nil, step, stepUserSend, stepS2C, init, hb, hb', hf, hf',
    List.length_nil, List.nil_append, List.map_cons, List.map_nil, List.cons_append, h0,
    Bool.not_true, Bool.not_false, Bool.false_eq_true, if_true, if_false, and_self]

theorem dropsOnlyOverloadOrReconnect_partial {s : St} (h : Reachable s) (hs : s.sbs ≤ 7605)
    (hc : s.cbs ≤ 7605) (haddr : ∀ e ∈ s.sent, AddrOK e.1)
    (hw : ∀ e, (e ∈ s.dropUp ∨ e ∈ s.dropDown) → e.1 ≠ Drop.writeErr) :
    ∀ e, (e ∈ s.dropUp ∨ e ∈ s.dropDown) →
      e.1 = Drop.sendFull ∨ e.1 = Drop.replyFull ∨ e.1 = Drop.connDown ∨ e.1 = Drop.reconnect := by
  obtain ⟨sbs, cbs, cap, ls, rfl⟩ := h
  obtain ⟨_, c2, c3⟩ := Udp.clean_run _ (Udp.inv_init sbs cbs cap) (Udp.clean_init sbs cbs cap) ls
    ⟨hs, hc, haddr⟩
  intro e he
  exact okReason_cases (he.elim (c2 e) (c3 e)) (hw e he)

/-! ### non-vacuity: a concrete interleaving with two users -/

def ua : Addr := { ip := [49], port := 7, zone := [] }
def ub : Addr := { ip := [50], port := 8, zone := [] }

/-- two users send, both datagrams cross, the backend answers the *second* socket first -/
def demoTrace : List Label :=
  [.userSend ua [1, 2, 3], .userSend ub [9], .s2c, .s2c, .cfwd true, .cfwd true,
   .backendReply 1 [90], .backendReply 0 [10, 20], .c2s, .c2s, .sback, .sback]

example : Reachable (run (init 1500 1500 1024) demoTrace) := ⟨1500, 1500, 1024, demoTrace, rfl⟩
example : (run (init 1500 1500 1024) demoTrace).backendLog
    = [(0, (some ua, some [1, 2, 3])), (1, (some ub, some [9]))] := by decide +kernel
example : (run (init 1500 1500 1024) demoTrace).userLog = [(ub, [90]), (ua, [10, 20])] := by
  decide +kernel
/-- a datagram longer than the packet size is cut, not split -/
example : (run (init 2 1500 1024) [.userSend ua [1, 2, 3], .s2c, .cfwd true]).backendLog
    = [(0, (some ua, some [1, 2]))] := by decide +kernel
/-- queue of capacity 1: the second datagram is dropped as `sendFull` -/
example : ((run (init 1500 1500 1) [.userSend ua [1], .userSend ub [2]]).dropUp.map Prod.fst)
    = [Drop.sendFull] := by decide +kernel
/-- after the socket of `ua` expired a new one is dialled; replies to the old one are not read -/
example : (run (init 1500 1500 1024)
    [.userSend ua [1], .s2c, .cfwd true, .sockExit 0, .backendReply 0 [5], .userSend ua [2], .s2c,
     .cfwd true, .backendReply 1 [6], .c2s, .sback]).userLog = [(ua, [6])] := by decide +kernel

/-! ## 4. Executable predicates evaluated on the implementation's results -/

/-- multiset equality of two lists -/
def MsEq {α} [DecidableEq α] (a b : List α) : Prop := ∀ x, a.count x = b.count x

def msEq {α} [DecidableEq α] (a b : List α) : Bool :=
  a.all (fun x => a.count x == b.count x) && b.all (fun x => a.count x == b.count x)

theorem msEq_sound {α} [DecidableEq α] (a b : List α) : msEq a b = true ↔ MsEq a b := by
  simp only [msEq, Bool.and_eq_true, List.all_eq_true, beq_iff_eq, MsEq]
  constructor
  · rintro ⟨h1, h2⟩ x
    by_cases ha : x ∈ a
    · exact h1 x ha
    · by_cases hb : x ∈ b
      · exact h2 x hb
      · rw [List.count_eq_zero.2 ha, List.count_eq_zero.2 hb]
  · intro h; exact ⟨fun x _ => h x, fun x _ => h x⟩

/-- sub-multiset -/
def MsSub {α} [DecidableEq α] (a b : List α) : Prop := ∀ x, a.count x ≤ b.count x

def msSub {α} [DecidableEq α] (a b : List α) : Bool := a.all (fun x => decide (a.count x ≤ b.count x))

theorem msSub_sound {α} [DecidableEq α] (a b : List α) : msSub a b = true ↔ MsSub a b := by
  simp only [msSub, List.all_eq_true, decide_eq_true_eq, MsSub]
  constructor
  · intro h x
    by_cases ha : x ∈ a
    · exact h x ha
    · rw [List.count_eq_zero.2 ha]; exact Nat.zero_le _
  · intro h x _; exact h x

/-- tunnel run at light load: `E` = what the users sent (as the backend must see it), `B` = what the
    backend got, `Rs i` = the replies user `i` must get, `Us i` = what it got; `mixed` = a backend
    socket carried datagrams of two users. -/
def HoldsOnTunnel {α} [DecidableEq α] (E B : List α) (Rs Us : List (List α)) (mixed : Bool) : Prop :=
  MsEq B E ∧ Us.length = Rs.length ∧ (∀ p ∈ Us.zip Rs, MsEq p.1 p.2) ∧ mixed = false

def holdsOnTunnel {α} [DecidableEq α] (E B : List α) (Rs Us : List (List α)) (mixed : Bool) : Bool :=
  msEq B E && Us.length == Rs.length && (Us.zip Rs).all (fun p => msEq p.1 p.2) && !mixed

theorem holdsOn_sound {α} [DecidableEq α] (E B : List α) (Rs Us : List (List α)) (mixed : Bool) :
    holdsOnTunnel E B Rs Us mixed = true ↔ HoldsOnTunnel E B Rs Us mixed := by
  simp only [holdsOnTunnel, HoldsOnTunnel, Bool.and_eq_true, msEq_sound, beq_iff_eq, List.all_eq_true,
    Bool.not_eq_true', and_assoc]

/-- codec op: the implementation's `Content` decodes (in the model) to the bytes given, and its own
    `GetContent` agreed -/
def holdsOnB64 (b content : Str) (rt : Bool) : Bool := decide (decode content = some b) && rt

/-- frame op: a payload that is allowed under the configured packet size must be readable -/
def holdsOnFrame (ps n : Nat) (readOk rt : Bool) : Bool := !(decide (n ≤ ps)) || (readOk && rt)

/-- the model's own logs satisfy the tunnel predicate's safety half in every reachable state:
    what reached the backend is a sub-multiset of what was sent, what reached the users is a
    sub-multiset of the replies read from their sockets -/
theorem model_safe {s : St} (h : Reachable s) (x : View) :
    (s.backendLog.map Prod.snd).count x ≤ s.sentV.count x ∧
    (s.userLog.map uview).count x ≤ (s.replyLog.map Prod.snd).count x :=
  ⟨backend_no_dup h x, reply_no_dup h x⟩

/-! ## 5. sudp visitor: nothing duplicated or invented across replacement of the visitor connection

  `Sudp.run (Sudp.init …) ls` for an arbitrary label list `ls`: every interleaving of user datagrams,
  dispatcher receives, connection attempts that succeed or fail, writes that succeed or fail, inbound
  packets and pings, reader failures (peer closed / 60 s silence / bad frame) and worker ends — i.e.
  any number of replacements of the visitor connection at any point. -/

def SReachable (s : Sudp.St) : Prop := ∃ bs cap ls, s = Sudp.run (Sudp.init bs cap) ls

theorem sudp_reachable_inv {s : Sudp.St} (h : SReachable s) : Sudp.Inv s := by
  obtain ⟨bs, cap, ls, rfl⟩ := h
  exact Sudp.inv_run _ (Sudp.inv_init bs cap) ls

/-- **conservation, user → tunnel**: every datagram that arrived at the visitor's socket is, at any
    time, exactly one of: queued in `sendCh`, held in the `firstPacket` variable of the dispatcher /
    worker (taken, not yet written), written on exactly one visitor connection, or dropped at a
    listed site — as multisets over all connections together. -/
theorem sudp_conservation_up {s : Sudp.St} (h : SReachable s) (x : View) :
    s.sentV.count x =
      (s.sendCh.map view).count x + ((Sudp.held s).map view).count x
        + (s.wire.map Prod.snd).count x + (s.dropUp.map Prod.snd).count x :=
  (sudp_reachable_inv h).up x

/-- **conservation, tunnel → user** -/
theorem sudp_conservation_down {s : Sudp.St} (h : SReachable s) (x : View) :
    (s.inLog.map Prod.snd).count x =
      (s.readCh.map view).count x + (s.userLog.map uview).count x + (s.dropDown.map Prod.snd).count x :=
  (sudp_reachable_inv h).down x

theorem sudp_sentV_eq {s : Sudp.St} (h : SReachable s) :
    s.sentV = s.sent.map (fun e => (some e.1, some (rd s.bs e.2))) :=
  (sudp_reachable_inv h).sentEq

/-- **no duplication across connection replacement**: over all visitor connections together a
    payload is written at most as many times as that user address sent it — in particular the
    datagram that opened a connection is not written again on a later one. -/
theorem sudp_no_dup_across_connections {s : Sudp.St} (h : SReachable s) (x : View) :
    (s.wire.map Prod.snd).count x ≤ s.sentV.count x := by
  have := sudp_conservation_up h x; omega

/-- **no corruption / forgery**: whatever is written on visitor connection `g` has exactly the
    payload (cut to the packet size) of one datagram some user sent, tagged with that user's address,
    and `g` is a connection that was established (1 ≤ g ≤ number of connections so far). -/
theorem sudp_wire_payload_sent {s : Sudp.St} (h : SReachable s) {g : Nat} {a : Option Addr}
    {b : Option Str} (hm : (g, (a, b)) ∈ s.wire) :
    ∃ ua p, (ua, p) ∈ s.sent ∧ a = some ua ∧ b = some (rd s.bs p) ∧ 1 ≤ g ∧ g ≤ s.gen := by
  obtain ⟨ua, p, hin, rfl, rfl⟩ := sent_of_logged (sudp_sentV_eq h) (sudp_no_dup_across_connections h) hm
  exact ⟨ua, p, hin, rfl, rfl, (sudp_reachable_inv h).wireGen _ hm⟩

/-- no duplicated / invented replies at the visitor -/
theorem sudp_reply_no_dup {s : Sudp.St} (h : SReachable s) (x : View) :
    (s.userLog.map uview).count x ≤ (s.inLog.map Prod.snd).count x := by
  have := sudp_conservation_down h x; omega

/-- **reply routing at the visitor**: a datagram written to user address `a` with payload `q` is
    one inbound packet of some connection that carried exactly that address and payload -/
theorem sudp_reply_routing {s : Sudp.St} (h : SReachable s) {a : Addr} {q : Str}
    (hm : (a, q) ∈ s.userLog) : ∃ g, (g, (some a, some q)) ∈ s.inLog ∧ 1 ≤ g ∧ g ≤ s.gen := by
  obtain ⟨⟨g, v⟩, hin, rfl⟩ := List.mem_map.1
    (mem_of_count_le (sudp_reply_no_dup h _) (List.mem_map.2 ⟨(a, q), hm, rfl⟩))
  exact ⟨g, hin, (sudp_reachable_inv h).inGen _ hin⟩

/-- the only upstream drop reasons: full queue, failed connection attempt, failed write -/
theorem sudp_drop_reasons {s : Sudp.St} (h : SReachable s) :
    ∀ e ∈ s.dropUp, e.1 = Sudp.VDrop.sendFull ∨ e.1 = Sudp.VDrop.connFail ∨ e.1 = Sudp.VDrop.connDown := by
  intro e he
  exact Sudp.okUp_cases ((sudp_reachable_inv h).dropReason e he)

/-- … and each with its cause, per step from any state: `sendFull` only with `cap` messages queued
    (overload); `connFail` only by a failed connection attempt; `connDown` only by a failed write on
    the visitor connection (the connection is being re-established). -/
theorem sudp_drop_causes (s : Sudp.St) (l : Sudp.Label) (d : Sudp.VDrop) (x : View)
    (hgt : s.dropUp.count (d, x) < (Sudp.step s l).dropUp.count (d, x)) :
    (d = .sendFull ∧ s.cap ≤ s.sendCh.length ∧ ∃ a p, l = .userSend a p) ∨
    (d = .connFail ∧ s.phase = .connect ∧ l = .connect false) ∨
    (d = .connDown ∧ s.phase = .work ∧ (l = .sendFirst false ∨ l = .sendNext false)) :=
  Sudp.drop_causes s l d x hgt

/-- in a run without a drop everything sent is queued, held or written (multiset equality) -/
theorem sudp_lossless_if_no_drop {s : Sudp.St} (h : SReachable s) (hu : s.dropUp = []) (x : View) :
    s.sentV.count x = (s.sendCh.map view).count x + ((Sudp.held s).map view).count x
        + (s.wire.map Prod.snd).count x := by
  have h1 := sudp_conservation_up h x
  rw [hu] at h1
  simpa only [List.map_nil, List.count_nil, Nat.add_zero] using h1

/-- one worker at a time: outside `worker()` neither of its goroutines runs -/
theorem sudp_one_worker {s : Sudp.St} (h : SReachable s) (hp : s.phase ≠ .work) :
    s.sender = false ∧ s.reader = false :=
  (sudp_reachable_inv h).idle hp

/-- **at light load they arrive** (no connection yet): dispatcher takes the datagram, connects,
    and it is the first message on the new connection `gen+1`; nothing is dropped -/
theorem sudp_first_datagram_delivered (s : Sudp.St) (a : Addr) (p : Str) (hb : isBytes p = true)
    (hph : s.phase = .wait) (hq : s.sendCh = []) (hcap : 0 < s.cap) :
    let s' := Sudp.run s [.userSend a p, .dispTake, .connect true, .sendFirst true]
    s'.wire = s.wire ++ [(s.gen + 1, (some a, some (rd s.bs p)))] ∧ s'.dropUp = s.dropUp ∧
      s'.sendCh = [] ∧ s'.phase = .work ∧ s'.sender = true ∧ s'.firstDone = true :=
  Sudp.first_datagram_delivered s a p hb hph hq hcap

/-- **at light load they arrive** (connection up): written on the current connection -/
theorem sudp_next_datagram_delivered (s : Sudp.St) (a : Addr) (p : Str) (hb : isBytes p = true)
    (hph : s.phase = .work) (hs : s.sender = true) (hf : s.firstDone = true) (hq : s.sendCh = [])
    (hcap : 0 < s.cap) :
    let s' := Sudp.run s [.userSend a p, .sendNext true]
    s'.wire = s.wire ++ [(s.gen, (some a, some (rd s.bs p)))] ∧ s'.dropUp = s.dropUp ∧ s'.sendCh = [] :=
  Sudp.next_datagram_delivered s a p hb hph hs hf hq hcap

/-! ### non-vacuity: two datagrams, the connection is lost, a third datagram -/

/-- "one", "two" on connection 1; the reader fails; "three" opens connection 2 and is the only
    thing written on it -/
def sudpDemo : List Sudp.Label :=
  [.userSend ua [1], .dispTake, .connect true, .sendFirst true, .userSend ua [2], .sendNext true,
   .readerDie, .senderExit, .workerEnd, .userSend ua [3], .dispTake, .connect true, .sendFirst true]

example : SReachable (Sudp.run (Sudp.init 1500 1024) sudpDemo) := ⟨1500, 1024, sudpDemo, rfl⟩
example : (Sudp.run (Sudp.init 1500 1024) sudpDemo).wire
    = [(1, (some ua, some [1])), (1, (some ua, some [2])), (2, (some ua, some [3]))] := by decide +kernel
/-- a failed attempt loses the datagram that triggered it (and only that one) -/
example : ((Sudp.run (Sudp.init 1500 1024)
    [.userSend ua [1], .dispTake, .connect false, .userSend ua [2], .dispTake, .connect true,
     .sendFirst true]).wire,
   (Sudp.run (Sudp.init 1500 1024)
    [.userSend ua [1], .dispTake, .connect false, .userSend ua [2], .dispTake, .connect true,
     .sendFirst true]).dropUp.map Prod.fst)
    = ([(1, (some ua, some [2]))], [Sudp.VDrop.connFail]) := by decide +kernel
/-- a reply for `ub` read from connection 1 goes to `ub` -/
example : (Sudp.run (Sudp.init 1500 1024)
    [.userSend ub [1], .dispTake, .connect true, .sendFirst true,
     .connRecv (packetOf [7, 7] none (some ub)), .sback]).userLog = [(ub, [7, 7])] := by decide +kernel

/-- sudp run at light load with scripted connection loss.  `must` = datagrams sent while a connection
    is up or can be made (they have to arrive), `may` = datagrams that travel while the connection is
    being (re-)established: those that triggered a connection attempt that was made to fail (dropped
    by the code as it is; delivering them later would be allowed) and those that re-opened the tunnel
    after a loss (delivered by the code as it is),
    `W` = what the far side received over all visitor connections together, `Rs i` / `Us i` = replies
    sent for / received by user `i`, `bad` = a packet carried a wrong address tag. -/
def HoldsOnSudp {α} [DecidableEq α] (must may W : List α) (Rs Us : List (List α)) (bad : Bool) : Prop :=
  MsSub W (must ++ may) ∧ MsSub must W ∧ Us.length = Rs.length ∧ (∀ p ∈ Us.zip Rs, MsEq p.1 p.2) ∧ bad = false

def holdsOnSudp {α} [DecidableEq α] (must may W : List α) (Rs Us : List (List α)) (bad : Bool) : Bool :=
  msSub W (must ++ may) && msSub must W && Us.length == Rs.length && (Us.zip Rs).all (fun p => msEq p.1 p.2) && !bad

theorem holdsOnSudp_sound {α} [DecidableEq α] (must may W : List α) (Rs Us : List (List α)) (bad : Bool) :
    holdsOnSudp must may W Rs Us bad = true ↔ HoldsOnSudp must may W Rs Us bad := by
  simp only [holdsOnSudp, HoldsOnSudp, Bool.and_eq_true, msSub_sound, msEq_sound, beq_iff_eq, List.all_eq_true,
    Bool.not_eq_true', and_assoc]

/-- the model's own logs satisfy the safety half of that predicate in every reachable state -/
theorem sudp_model_safe {s : Sudp.St} (h : SReachable s) (x : View) :
    (s.wire.map Prod.snd).count x ≤ s.sentV.count x ∧
    (s.userLog.map uview).count x ≤ (s.inLog.map Prod.snd).count x :=
  ⟨sudp_no_dup_across_connections h x, sudp_reply_no_dup h x⟩

/-! ## 6. server side of a udp proxy: replacement of the work connection

  `UdpSrv.run (UdpSrv.init …) ls` for an arbitrary label list `ls`: every interleaving of user datagrams,
  the work-connection loop of `UDPProxy.Run` (obtaining a connection succeeds or fails, wake-up, cancel),
  reader failures at any point (peer closed / 60 s silence / bad frame), sender writes that succeed or fail,
  sender exits, inbound packets (with or without address, decodable or not) and pings — i.e. any number of
  replacements of the work connection at any point, idle or under traffic. -/

def VReachable (s : UdpSrv.St) : Prop := ∃ bs cap ls, s = UdpSrv.run (UdpSrv.init bs cap) ls

theorem srv_reachable_inv {s : UdpSrv.St} (h : VReachable s) : UdpSrv.Inv s := by
  obtain ⟨bs, cap, ls, rfl⟩ := h
  exact UdpSrv.inv_run _ (UdpSrv.inv_init bs cap) ls

/-- **conservation, user → tunnel**: every datagram that arrived at the public socket is, at any time,
    exactly one of: queued in `sendCh`, written on exactly one work connection, or dropped at a listed
    site — as multisets over all work connections together. -/
theorem srv_conservation_up {s : UdpSrv.St} (h : VReachable s) (x : View) :
    s.sentV.count x =
      (s.sendCh.map view).count x + (s.wire.map Prod.snd).count x + (s.dropUp.map Prod.snd).count x :=
  (srv_reachable_inv h).up x

/-- **conservation, tunnel → user** -/
theorem srv_conservation_down {s : UdpSrv.St} (h : VReachable s) (x : View) :
    (s.inLog.map Prod.snd).count x =
      (s.readCh.map view).count x + (s.userLog.map uview).count x + (s.dropDown.map Prod.snd).count x :=
  (srv_reachable_inv h).down x

theorem srv_sentV_eq {s : UdpSrv.St} (h : VReachable s) :
    s.sentV = s.sent.map (fun e => (some e.1, some (rd s.bs e.2))) :=
  (srv_reachable_inv h).sentEq

/-- **no duplication across replacement**: over all work connections together a payload is written at
    most as many times as that user address sent it. -/
theorem srv_no_dup_across_connections {s : UdpSrv.St} (h : VReachable s) (x : View) :
    (s.wire.map Prod.snd).count x ≤ s.sentV.count x := by
  have := srv_conservation_up h x; omega

/-- **no corruption / forgery**: whatever is written on work connection `g` has exactly the payload (cut
    to the packet size) of one datagram some user sent, tagged with that user's address, and `g` is a
    connection the proxy has obtained (1 ≤ g ≤ number of connections so far). -/
theorem srv_wire_payload_sent {s : UdpSrv.St} (h : VReachable s) {g : Nat} {a : Option Addr}
    {b : Option Str} (hm : (g, (a, b)) ∈ s.wire) :
    ∃ ua p, (ua, p) ∈ s.sent ∧ a = some ua ∧ b = some (rd s.bs p) ∧ 1 ≤ g ∧ g ≤ s.gen := by
  obtain ⟨ua, p, hin, rfl, rfl⟩ := sent_of_logged (srv_sentV_eq h) (srv_no_dup_across_connections h) hm
  exact ⟨ua, p, hin, rfl, rfl, (srv_reachable_inv h).wireGen _ hm⟩

theorem srv_reply_no_dup {s : UdpSrv.St} (h : VReachable s) (x : View) :
    (s.userLog.map uview).count x ≤ (s.inLog.map Prod.snd).count x := by
  have := srv_conservation_down h x; omega

/-- **reply routing on the public socket**: a datagram written to user address `a` with payload `q` is one
    packet read from some work connection that carried exactly that address and payload; in particular
    a packet without address, or with an undecodable content, reaches nobody. -/
theorem srv_reply_routing {s : UdpSrv.St} (h : VReachable s) {a : Addr} {q : Str}
    (hm : (a, q) ∈ s.userLog) : ∃ g, (g, (some a, some q)) ∈ s.inLog ∧ 1 ≤ g ∧ g ≤ s.gen := by
  obtain ⟨⟨g, v⟩, hin, rfl⟩ := List.mem_map.1
    (mem_of_count_le (srv_reply_no_dup h _) (List.mem_map.2 ⟨(a, q), hm, rfl⟩))
  exact ⟨g, hin, (srv_reachable_inv h).inGen _ hin⟩

/-- the only upstream drop reasons: full queue, failed write on a work connection -/
theorem srv_drop_reasons {s : UdpSrv.St} (h : VReachable s) :
    ∀ e ∈ s.dropUp, e.1 = UdpSrv.SDrop.sendFull ∨ e.1 = UdpSrv.SDrop.connDown := by
  intro e he
  exact UdpSrv.okUp_cases ((srv_reachable_inv h).dropReason e he)

/-- … and each with its cause, per step from any state: `sendFull` only with `cap` messages queued
    (overload); `connDown` only by a sender whose write failed: the transport refused it (`ok = false`, the
    connection is broken) or the connection had already been closed on the server side. -/
theorem srv_drop_causes (s : UdpSrv.St) (l : UdpSrv.Label) (d : UdpSrv.SDrop) (x : View)
    (hgt : s.dropUp.count (d, x) < (UdpSrv.step s l).dropUp.count (d, x)) :
    (d = .sendFull ∧ s.cap ≤ s.sendCh.length ∧ ∃ a p, l = .userSend a p) ∨
    (d = .connDown ∧ ∃ g ok, l = .senderTake g ok ∧ g ∈ s.senders ∧ (ok = false ∨ g ∈ s.dead)) :=
  UdpSrv.drop_causes s l d x hgt

/-- … and a connection that is closed on the server side while its sender still runs **is being
    re-established**: it is not the current one, or the loop is between two connections, or the reader of
    the current connection has already failed and asks for the replacement. -/
theorem srv_dead_conn_is_being_replaced {s : UdpSrv.St} (h : VReachable s) {g : Nat}
    (hs : g ∈ s.senders) (hd : g ∈ s.dead) : g ≠ s.gen ∨ s.loop ≠ .watch ∨ s.readers = [] :=
  UdpSrv.dead_conn_is_being_replaced (srv_reachable_inv h) hs hd

theorem srv_lossless_if_no_drop {s : UdpSrv.St} (h : VReachable s) (hu : s.dropUp = []) (x : View) :
    s.sentV.count x = (s.sendCh.map view).count x + (s.wire.map Prod.snd).count x := by
  have h1 := srv_conservation_up h x
  rw [hu] at h1
  simpa only [List.map_nil, List.count_nil, Nat.add_zero] using h1

/-- **one reader**: a reader inside its read loop belongs to the current connection, it is the only one,
    and nobody waits on `checkCloseCh`; between two connections there is none -/
theorem srv_one_reader {s : UdpSrv.St} (h : VReachable s) {g : Nat} (hg : g ∈ s.readers) :
    s.loop = .watch ∧ g = s.gen ∧ s.readers = [s.gen] ∧ s.signal = [] := by
  obtain ⟨hl, hgen, _, hr, hsig⟩ := UdpSrv.reader_cur (srv_reachable_inv h) hg
  exact ⟨hl, hgen, hr, hsig⟩

/-- **no sender stays parked on `sendCh` behind a replaced connection** (all interleavings): a sender that
    is alive and is not the sender of the current connection under a watching loop has had its context
    cancelled — `case <-ctx.Done()` is ready, it leaves without needing a datagram. -/
theorem srv_stale_sender_cancelled {s : UdpSrv.St} (h : VReachable s) {g : Nat} (hg : g ∈ s.senders)
    (hstale : g ≠ s.gen ∨ s.loop = .get) : g ∈ s.cancelled := by
  obtain ⟨_, _, h3 | h3⟩ := (srv_reachable_inv h).sendersOK g hg
  · exact h3
  · rcases hstale with hs | hs
    · exact absurd h3.1 hs
    · exact absurd hs h3.2

/-- quiescing = the cancelled senders take their `ctx.Done()` branch; it needs no other event and touches
    nothing but the set of senders -/
theorem srv_quiesce_eq (s : UdpSrv.St) :
    UdpSrv.quiesce s = { s with senders := s.senders.filter (fun g => decide (g ∉ s.cancelled)) } :=
  UdpSrv.quiesce_eq s

/-- **at most one live sender consumes `sendCh` once the previous ones have been woken**, and it is the
    sender of the current work connection -/
theorem srv_quiescent_one_sender {s : UdpSrv.St} (h : VReachable s) :
    (UdpSrv.quiesce s).senders.length ≤ 1 ∧
    ∀ g ∈ (UdpSrv.quiesce s).senders, g = s.gen ∧ s.loop ≠ .get :=
  ⟨UdpSrv.quiescent_one_sender (srv_reachable_inv h),
   fun _ hg => let r := UdpSrv.quiescent_senders (srv_reachable_inv h) hg; ⟨r.1, r.2.1⟩⟩

/-- **a datagram taken from `sendCh` goes to the CURRENT work connection**: from a quiescent state,
    whichever sender `g` performs the next take, with whatever outcome, the wire log grows (if at all)
    by an entry on connection `gen` -/
theorem srv_taken_on_current {s : UdpSrv.St} (h : VReachable s) (g : Nat) (ok : Bool) :
    (UdpSrv.step (UdpSrv.quiesce s) (.senderTake g ok)).wire = s.wire ∨
    ∃ v, (UdpSrv.step (UdpSrv.quiesce s) (.senderTake g ok)).wire = s.wire ++ [(s.gen, v)] :=
  UdpSrv.taken_on_current (srv_reachable_inv h) g ok

/-- **at light load they arrive** (connection up): written on the current connection, nothing dropped -/
theorem srv_next_datagram_delivered (s : UdpSrv.St) (a : Addr) (p : Str) (hb : isBytes p = true)
    (hs : s.gen ∈ s.senders) (hd : s.gen ∉ s.dead) (hq : s.sendCh = []) (hcap : 0 < s.cap) :
    let s' := UdpSrv.run s [.userSend a p, .senderTake s.gen true]
    s'.wire = s.wire ++ [(s.gen, (some a, some (rd s.bs p)))] ∧ s'.dropUp = s.dropUp ∧ s'.sendCh = [] ∧
      s'.senders = s.senders ∧ s'.dead = s.dead ∧ s'.gen = s.gen :=
  UdpSrv.next_datagram_delivered s a p hb hs hd hq hcap

/-- one replacement of an idle work connection leads from a healthy state to a healthy state on the next
    connection, with nothing written and nothing dropped -/
theorem srv_replace_idle_healthy {s : UdpSrv.St} (h : UdpSrv.Healthy s) :
    UdpSrv.Healthy (UdpSrv.run s (UdpSrv.replaceIdle s.gen)) ∧
      (UdpSrv.run s (UdpSrv.replaceIdle s.gen)).gen = s.gen + 1 ∧
      (UdpSrv.run s (UdpSrv.replaceIdle s.gen)).wire = s.wire ∧
      (UdpSrv.run s (UdpSrv.replaceIdle s.gen)).dropUp = s.dropUp := by
  obtain ⟨hh, hg, hl⟩ := UdpSrv.replaceIdle_healthy h
  exact ⟨hh, hg, hl.wire, hl.dropUp⟩

/-- **after ANY number `k` of replacements of the work connection while idle, the next datagram arrives**:
    it is written on connection `gen + k` and nothing is dropped (the first datagram after `k` replacements is
    not lost, for every `k`). -/
theorem srv_delivered_after_replacements (k : Nat) {s : UdpSrv.St} (h : UdpSrv.Healthy s) (a : Addr)
    (p : Str) (hb : isBytes p = true) (hcap : 0 < s.cap) :
    let s' := UdpSrv.run (UdpSrv.replaceIdleN k s) [.userSend a p, .senderTake (s.gen + k) true]
    s'.wire = s.wire ++ [(s.gen + k, (some a, some (rd s.bs p)))] ∧ s'.dropUp = s.dropUp :=
  UdpSrv.delivered_after_replacements k h a p hb hcap

/-! ### non-vacuity -/

/-- the proxy obtains connection 1: a healthy state that is reachable -/
def srvUp : UdpSrv.St := UdpSrv.run (UdpSrv.init 1500 1024) [.loopGet true]

example : VReachable srvUp := ⟨1500, 1024, [.loopGet true], rfl⟩
example : UdpSrv.Healthy srvUp := by
  refine ⟨rfl, rfl, rfl, rfl, ?_, ?_, rfl⟩ <;> decide +kernel

/-- "one" on connection 1; the connection is replaced twice while idle; "two" goes to connection 3 -/
def srvDemo : List UdpSrv.Label :=
  [.loopGet true, .userSend ua [1], .senderTake 1 true] ++ UdpSrv.replaceIdle 1 ++ UdpSrv.replaceIdle 2 ++
  [.userSend ua [2], .senderTake 3 true]

example : (UdpSrv.run (UdpSrv.init 1500 1024) srvDemo).wire
    = [(1, (some ua, some [1])), (3, (some ua, some [2]))] := by decide +kernel
example : (UdpSrv.run (UdpSrv.init 1500 1024) srvDemo).senders = [3] := by decide +kernel
/-- the new connection is up before the old sender has woken: two senders are alive, the old one is
    cancelled, and after quiescing only the current one is left -/
example : ((UdpSrv.run (UdpSrv.init 1500 1024)
      [.loopGet true, .readerDie 1, .loopWake, .loopCancel, .loopGet true]).senders,
    (UdpSrv.quiesce (UdpSrv.run (UdpSrv.init 1500 1024)
      [.loopGet true, .readerDie 1, .loopWake, .loopCancel, .loopGet true])).senders)
    = ([1, 2], [2]) := by decide +kernel
/-- replacement under traffic: the reader has failed, the old sender still takes a datagram and loses it
    (the only way to lose one at light load) -/
example : ((UdpSrv.run (UdpSrv.init 1500 1024)
      [.loopGet true, .readerDie 1, .userSend ua [9], .senderTake 1 true]).dropUp.map Prod.fst)
    = [UdpSrv.SDrop.connDown] := by decide +kernel
/-- a packet without address and a packet with undecodable content reach nobody; the next reply does -/
example : ((UdpSrv.run (UdpSrv.init 1500 1024)
      [.loopGet true, .connRecv 1 (packetOf [7] none none), .sback,
       .connRecv 1 { content := [33], laddr := none, raddr := some ua }, .sback,
       .connRecv 1 (packetOf [8] none (some ub)), .sback]).userLog,
    (UdpSrv.run (UdpSrv.init 1500 1024)
      [.loopGet true, .connRecv 1 (packetOf [7] none none), .sback,
       .connRecv 1 { content := [33], laddr := none, raddr := some ua }, .sback,
       .connRecv 1 (packetOf [8] none (some ub)), .sback]).dropDown.map Prod.fst)
    = ([(ub, [8])], [UdpSrv.SDrop.nilAddr, UdpSrv.SDrop.decodeErr]) := by decide +kernel

/-- server-proxy run at light load with scripted loss of the work connection.  `must` = datagrams sent while
    a healthy work connection is up and nothing else is in flight (they have to arrive), `may` = datagrams
    that were in flight when the work connection was taken away (each may arrive once, on the old or on the
    new connection, or be lost), `W` = what the far side received over all work connections together,
    `Rs i` / `Us i` = replies sent for / received by user `i` (packets without address or with undecodable
    content are in no `Rs i`), `bad` = a packet carried a wrong address tag. -/
def HoldsOnSrv {α} [DecidableEq α] (must may W : List α) (Rs Us : List (List α)) (bad : Bool) : Prop :=
  MsSub W (must ++ may) ∧ MsSub must W ∧ Us.length = Rs.length ∧ (∀ p ∈ Us.zip Rs, MsEq p.1 p.2) ∧ bad = false

def holdsOnSrv {α} [DecidableEq α] (must may W : List α) (Rs Us : List (List α)) (bad : Bool) : Bool :=
  msSub W (must ++ may) && msSub must W && Us.length == Rs.length && (Us.zip Rs).all (fun p => msEq p.1 p.2) && !bad

theorem holdsOnSrv_sound {α} [DecidableEq α] (must may W : List α) (Rs Us : List (List α)) (bad : Bool) :
    holdsOnSrv must may W Rs Us bad = true ↔ HoldsOnSrv must may W Rs Us bad := by
  simp only [holdsOnSrv, HoldsOnSrv, Bool.and_eq_true, msSub_sound, msEq_sound, beq_iff_eq, List.all_eq_true,
    Bool.not_eq_true', and_assoc]

/-- the model's own logs satisfy the safety half of that predicate in every reachable state -/
theorem srv_model_safe {s : UdpSrv.St} (h : VReachable s) (x : View) :
    (s.wire.map Prod.snd).count x ≤ s.sentV.count x ∧
    (s.userLog.map uview).count x ≤ (s.inLog.map Prod.snd).count x :=
  ⟨srv_no_dup_across_connections h x, srv_reply_no_dup h x⟩

/-! ## 7. client side of a sudp proxy: several work connections alive at once (one per visitor connection)

  `SudpPx.run (SudpPx.init …) ls` for an arbitrary label list `ls`: every interleaving of further InWorkConn
  calls, of the actions of the reader / sender / heartbeat / Forwarder goroutines of EVERY connection (inbound
  packets, forwarding, backend replies, writes that succeed or fail, reader failures, socket expiry, pings) and of
  `Close()` of the proxy. -/

def PReachable (s : SudpPx.St) : Prop := ∃ bs cap ls, s = SudpPx.run (SudpPx.init bs cap) ls

theorem px_reachable_inv {s : SudpPx.St} (h : PReachable s) : SudpPx.Inv s := by
  obtain ⟨bs, cap, ls, rfl⟩ := h
  exact SudpPx.inv_run _ (SudpPx.inv_init bs cap) ls

theorem px_conn_mem {s : SudpPx.St} {i : Nat} {c : SudpPx.Conn} (hc : s.conn i = some c) : c ∈ s.conns :=
  List.mem_iff_getElem?.2 ⟨i, hc⟩

/-- **conservation per work connection, visitor → backend**: every UDPPacket read from work connection `i` is,
    at any time, exactly one of: queued in the readCh of connection `i`, handed to the backend through a socket
    of connection `i`, or dropped at a listed site of connection `i` (multisets).  Nothing of connection `i`
    shows up anywhere else, nothing is duplicated. -/
theorem px_conservation_up {s : SudpPx.St} (h : PReachable s) {i : Nat} {c : SudpPx.Conn}
    (hc : s.conn i = some c) (x : View) :
    c.inLog.count x = (c.readCh.map view).count x + (c.backendLog.map Prod.snd).count x
      + (c.dropUp.map Prod.snd).count x :=
  ((px_reachable_inv h) c (px_conn_mem hc)).1.up x

/-- **conservation per work connection, backend → visitor**: every reply read from a socket of connection `i`
    is exactly one of: queued in the sendCh of connection `i`, written on work connection `i`, or dropped at a
    listed site of connection `i`. -/
theorem px_conservation_down {s : SudpPx.St} (h : PReachable s) {i : Nat} {c : SudpPx.Conn}
    (hc : s.conn i = some c) (x : View) :
    (c.replyLog.map Prod.snd).count x = ((SudpPx.pkts c.sendCh).map view).count x + c.wire.count x
      + (c.dropDown.map Prod.snd).count x :=
  ((px_reachable_inv h) c (px_conn_mem hc)).1.down x

/-- no duplicated / invented replies on a work connection -/
theorem px_reply_no_dup {s : SudpPx.St} (h : PReachable s) {i : Nat} {c : SudpPx.Conn}
    (hc : s.conn i = some c) (x : View) : c.wire.count x ≤ (c.replyLog.map Prod.snd).count x := by
  have := px_conservation_down h hc x; omega

/-- **a reply travels on the work connection of the visitor it answers, and only there**: whatever is written
    on work connection `i` was read from a socket `k` of connection `i` that was dialled for exactly the user
    address the packet is tagged with — and that socket was dialled for a datagram that came in on connection `i`. -/
theorem px_reply_routing {s : SudpPx.St} (h : PReachable s) {i : Nat} {c : SudpPx.Conn}
    (hc : s.conn i = some c) {x : View} (hm : x ∈ c.wire) :
    ∃ k, (k, x) ∈ c.replyLog ∧ (k, x.1) ∈ c.socks ∧ ∀ a', (k, a') ∈ c.socks → a' = x.1 := by
  have hinv := ((px_reachable_inv h) c (px_conn_mem hc)).1
  obtain ⟨⟨k, v⟩, hin, rfl⟩ := List.mem_map.1 (mem_of_count_le (px_reply_no_dup h hc _) hm)
  have hk := hinv.replySock _ hin
  exact ⟨k, hin, hk, fun a' ha' => hinv.socksFun k a' v.1 ha' hk⟩

/-- what the backend is handed through a socket of connection `i` is a packet that came in on connection `i`
    (same payload, same user address), at most as often as it came in, and the socket belongs to that address -/
theorem px_backend_payload {s : SudpPx.St} (h : PReachable s) {i : Nat} {c : SudpPx.Conn}
    (hc : s.conn i = some c) {k : Nat} {x : View} (hm : (k, x) ∈ c.backendLog) :
    x ∈ c.inLog ∧ (c.backendLog.map Prod.snd).count x ≤ c.inLog.count x ∧ (k, x.1) ∈ c.socks := by
  have hinv := ((px_reachable_inv h) c (px_conn_mem hc)).1
  have hle : (c.backendLog.map Prod.snd).count x ≤ c.inLog.count x := by have := hinv.up x; omega
  exact ⟨mem_of_count_le hle (List.mem_map.2 ⟨_, hm, rfl⟩), hle, hinv.backendSock _ hm⟩

/-- a socket towards the backend serves one user address of one connection only -/
theorem px_socket_exclusive {s : SudpPx.St} (h : PReachable s) {i : Nat} {c : SudpPx.Conn}
    (hc : s.conn i = some c) {k : Nat} {v v' : View} (h1 : (k, v) ∈ c.backendLog) (h2 : (k, v') ∈ c.backendLog) :
    v.1 = v'.1 := by
  have hinv := ((px_reachable_inv h) c (px_conn_mem hc)).1
  exact hinv.socksFun k v.1 v'.1 (hinv.backendSock _ h1) (hinv.backendSock _ h2)

/-- **an action of connection `j` leaves every other connection exactly as it was** -/
theorem px_step_other (s : SudpPx.St) {i j : Nat} (hij : i ≠ j) (l : SudpPx.CLabel) :
    (SudpPx.step s (.at j l)).conn i = s.conn i :=
  SudpPx.step_other s hij l

/-- **a further work connection leaves every existing one exactly as it was**; it starts fresh with its own
    channels, flags and socket map -/
theorem px_open_keeps (s : SudpPx.St) :
    (∀ i, i < s.conns.length → (SudpPx.step s .open_).conn i = s.conn i) ∧
    (SudpPx.step s .open_).conn s.conns.length = some (SudpPx.Conn.init s.bs s.cap) :=
  ⟨(SudpPx.step_open s).1, (SudpPx.step_open s).2.1⟩

/-- **closing or replacing connection j never disturbs i ≠ j, for all interleavings**: a run in which no action
    is addressed to connection `i` — any number of further connections opened, any traffic on them, any of them
    closed in any way, even `Close()` of the proxy — leaves connection `i` exactly as it was -/
theorem px_frame (s : SudpPx.St) (ls : List SudpPx.Label) (i : Nat) (hi : i < s.conns.length)
    (hl : ∀ l ∈ ls, SudpPx.addressed i l = false) : (SudpPx.run s ls).conn i = s.conn i :=
  SudpPx.run_frame s ls i hi hl

/-- **the behaviour of a connection is a function of its own actions**: after ANY run connection `i` is what
    its own actions (each with the value `pxy.closeCh` had at its time) make of it, however they interleave with
    the opening, the traffic and the closing of every other connection -/
theorem px_projection (s : SudpPx.St) (ls : List SudpPx.Label) (i : Nat) (c : SudpPx.Conn)
    (hc : s.conn i = some c) :
    (SudpPx.run s ls).conn i = some (SudpPx.crun c (SudpPx.proj i s.pclosed ls)) :=
  SudpPx.run_proj s ls i c hc

/-- **why a work connection gets closed**: only by an action of that connection itself — its reader failing,
    its sender failing to write, or its heartbeat seeing the proxy closed.  Never by a new work connection,
    never by anything that happens on another connection. -/
theorem px_close_causes (s : SudpPx.St) (l : SudpPx.Label) (i : Nat) (c c' : SudpPx.Conn)
    (h0 : s.conn i = some c) (h1 : (SudpPx.step s l).conn i = some c') (ho : c.isClose = false)
    (hc : c'.isClose = true) :
    (l = .at i .readerDie ∧ c'.cause = some .readErr) ∨
    ((∃ ok, l = .at i (.send ok)) ∧ c'.cause = some .writeErr) ∨
    (l = .at i .hbClose ∧ s.pclosed = true ∧ c'.cause = some .proxyClosed) :=
  SudpPx.close_causes s l i c c' h0 h1 ho hc

/-- **an open connection has all its goroutines and has dropped nothing except by overload, an undecodable
    content or a failed write to the backend** (drops because of a closed channel / connection occur on closed
    connections only: "while the work connection is being re-established") -/
theorem px_open_conn_healthy {s : SudpPx.St} (h : PReachable s) {i : Nat} {c : SudpPx.Conn}
    (hc : s.conn i = some c) (ho : c.isClose = false) :
    c.reader = true ∧ c.sender = true ∧ c.hb = true ∧ c.cause = none ∧
    (∀ e ∈ c.dropUp, e.1 = SudpPx.PDrop.decodeErr ∨ e.1 = SudpPx.PDrop.writeErr) ∧
    (∀ e ∈ c.dropDown, e.1 = SudpPx.PDrop.replyFull) := by
  have hf := ((px_reachable_inv h) c (px_conn_mem hc)).2.1
  obtain ⟨a, b, c1, d⟩ := hf.openOK ho
  exact ⟨a, b, c1, d, hf.openUp ho, hf.openDown ho⟩

/-- a closed connection carries the reason of its closing -/
theorem px_closed_has_cause {s : SudpPx.St} (h : PReachable s) {i : Nat} {c : SudpPx.Conn}
    (hc : s.conn i = some c) (hcl : c.isClose = true) : c.cause ≠ none :=
  ((px_reachable_inv h) c (px_conn_mem hc)).2.1.closedCause hcl

/-- **at light load they arrive, whatever the other connections do**: connection `i` open and idle; after ANY
    run `ls` of actions that are not its own (other visitors connecting, sending, being closed, …) a datagram
    read from work connection `i` is handed to the backend on the socket of its user address on connection `i`,
    and nothing is dropped -/
theorem px_delivers_despite_others (s : SudpPx.St) (ls : List SudpPx.Label) (i : Nat) (c : SudpPx.Conn)
    (hc : s.conn i = some c) (hl : ∀ l ∈ ls, SudpPx.addressed i l = false)
    (a : Addr) (p : Str) (hb : isBytes p = true) (ho : c.isClose = false) (hr : c.reader = true)
    (hq : c.readCh = []) (hcap : 0 < c.cap)
    (hs : ∀ k, lookup c.cmap (some a) = some k → c.closedSocks.contains k = false) :
    ∃ c', (SudpPx.run (SudpPx.run s ls) [.at i (.recv (packetOf p none (some a))), .at i (.fwd true)]).conn i = some c' ∧
      c'.backendLog = c.backendLog ++ [((lookup c.cmap (some a)).getD c.nextSock, (some a, some p))] ∧
      c'.dropUp = c.dropUp ∧ c'.isClose = false := by
  have h1 := (SudpPx.run_frame s ls i (SudpPx.conn_lt hc) hl).trans hc
  have h2 := SudpPx.run_proj (SudpPx.run s ls) [.at i (.recv (packetOf p none (some a))), .at i (.fwd true)] i c h1
  have h3 := SudpPx.conn_delivers (SudpPx.run s ls).pclosed c a p hb ho hr hq hcap hs
  simp only [SudpPx.proj, if_true] at h2
  exact ⟨_, h2, h3.1, h3.2.1, h3.2.2.2⟩

/-- … and the reply the backend sends to that socket is written on work connection `i`, tagged with the user
    address the socket was dialled for, whatever the other connections do meanwhile -/
theorem px_reply_delivers_despite_others (s : SudpPx.St) (ls : List SudpPx.Label) (i : Nat) (c : SudpPx.Conn)
    (hc : s.conn i = some c) (hl : ∀ l ∈ ls, SudpPx.addressed i l = false)
    (k : Nat) (a : Option Addr) (q : Str) (hb : isBytes q = true) (ho : c.isClose = false)
    (hsd : c.sender = true) (hq : c.sendCh = []) (hcap : 0 < c.cap) (hown : ownerOf c.socks k = some a)
    (hlive : lookup c.cmap a = some k) (hopen : c.closedSocks.contains k = false) :
    ∃ c', (SudpPx.run (SudpPx.run s ls) [.at i (.backendReply k q), .at i (.send true)]).conn i = some c' ∧
      c'.wire = c.wire ++ [(a, some (rd c.bs q))] ∧ c'.dropDown = c.dropDown ∧ c'.isClose = false := by
  have h1 := (SudpPx.run_frame s ls i (SudpPx.conn_lt hc) hl).trans hc
  have h2 := SudpPx.run_proj (SudpPx.run s ls) [.at i (.backendReply k q), .at i (.send true)] i c h1
  have h3 := SudpPx.conn_reply_delivers (SudpPx.run s ls).pclosed c k a q hb ho hsd hq hcap hown hlive hopen
  simp only [SudpPx.proj, if_true] at h2
  exact ⟨_, h2, h3.1, h3.2.1, h3.2.2.2⟩

/-! ### non-vacuity: two visitors on one sudp proxy with overlapping request / reply windows -/

/-- visitor 0 sends a request (connection 0); while its answer is outstanding visitor 1 connects (connection 1),
    sends and is answered; connection 1 is then lost; only now the backend answers visitor 0 -/
def pxDemo : List SudpPx.Label :=
  [.open_, .at 0 (.recv (packetOf [1] none (some ua))), .at 0 (.fwd true),
   .open_, .at 1 (.recv (packetOf [2] none (some ub))), .at 1 (.fwd true),
   .at 1 (.backendReply 0 [20]), .at 1 (.send true), .at 1 .readerDie,
   .at 0 (.backendReply 0 [10]), .at 0 (.send true)]

example : PReachable (SudpPx.run (SudpPx.init 1500 1024) pxDemo) := ⟨1500, 1024, pxDemo, rfl⟩
/-- the late answer for visitor 0 is written on connection 0, the answer for visitor 1 on connection 1 -/
example : (SudpPx.run (SudpPx.init 1500 1024) pxDemo).conns.map (·.wire)
    = [[(some ua, some [10])], [(some ub, some [20])]] := by decide +kernel
example : (SudpPx.run (SudpPx.init 1500 1024) pxDemo).conns.map (·.isClose) = [false, true] := by decide +kernel
example : (SudpPx.run (SudpPx.init 1500 1024) pxDemo).conns.map (·.cause) = [none, some .readErr] := by
  decide +kernel
/-- the same user address on two connections: two sockets, each answer on its own connection -/
example : (SudpPx.run (SudpPx.init 1500 1024)
    [.open_, .open_, .at 0 (.recv (packetOf [1] none (some ua))), .at 1 (.recv (packetOf [2] none (some ua))),
     .at 1 (.fwd true), .at 0 (.fwd true), .at 0 (.backendReply 0 [10]), .at 1 (.backendReply 0 [20]),
     .at 0 (.send true), .at 1 (.send true)]).conns.map (·.wire)
    = [[(some ua, some [10])], [(some ua, some [20])]] := by decide +kernel
/-- a reply that arrives after ITS OWN connection was closed is dropped (closed channel), the socket goes away -/
example : ((SudpPx.run (SudpPx.init 1500 1024)
    [.open_, .at 0 (.recv (packetOf [1] none (some ua))), .at 0 (.fwd true), .at 0 .readerDie,
     .at 0 (.backendReply 0 [10])]).conns.map (fun c => c.dropDown.map Prod.fst))
    = [[SudpPx.PDrop.closedCh]] := by decide +kernel
/-- `Close()` of the proxy: every heartbeat closes its own connection -/
example : ((SudpPx.run (SudpPx.init 1500 1024)
    [.open_, .open_, .at 0 .hbClose, .proxyClose, .at 0 .hbClose, .at 1 .hbClose]).conns.map (·.cause))
    = [some .proxyClosed, some .proxyClosed] := by decide +kernel

/-- client-side sudp proxy run at light load with several scripted work connections.  `E` = the datagrams sent
    on connections that were open (the backend must get exactly these), `B` = what the backend got; per
    connection `c`: `Rs c` = the answers to the requests sent on `c` that the backend sent while `c` was open
    (they must be read back on `c`, and nothing else may), `Us c` = what was read back on `c`;
    `aliveExp` / `alive` = which connections the script has left alone / which ones the proxy has not closed;
    `mixed` = a backend-side socket carried datagrams of two (connection, user) pairs; `bad` = a packet
    carried a wrong address tag. -/
def HoldsOnPx {α} [DecidableEq α] (E B : List α) (Rs Us : List (List α)) (aliveExp alive : List Bool)
    (mixed bad : Bool) : Prop :=
  MsEq B E ∧ Us.length = Rs.length ∧ (∀ p ∈ Us.zip Rs, MsEq p.1 p.2) ∧ alive = aliveExp ∧ mixed = false ∧ bad = false

def holdsOnPx {α} [DecidableEq α] (E B : List α) (Rs Us : List (List α)) (aliveExp alive : List Bool)
    (mixed bad : Bool) : Bool :=
  msEq B E && Us.length == Rs.length && (Us.zip Rs).all (fun p => msEq p.1 p.2) && alive == aliveExp && !mixed && !bad

theorem holdsOnPx_sound {α} [DecidableEq α] (E B : List α) (Rs Us : List (List α)) (aliveExp alive : List Bool)
    (mixed bad : Bool) :
    holdsOnPx E B Rs Us aliveExp alive mixed bad = true ↔ HoldsOnPx E B Rs Us aliveExp alive mixed bad := by
  simp only [holdsOnPx, HoldsOnPx, Bool.and_eq_true, msEq_sound, beq_iff_eq, List.all_eq_true,
    Bool.not_eq_true', and_assoc]

/-- the model's own logs satisfy the safety half of that predicate on every connection of every reachable state -/
theorem px_model_safe {s : SudpPx.St} (h : PReachable s) {i : Nat} {c : SudpPx.Conn} (hc : s.conn i = some c)
    (x : View) :
    (c.backendLog.map Prod.snd).count x ≤ c.inLog.count x ∧ c.wire.count x ≤ (c.replyLog.map Prod.snd).count x := by
  have h1 := px_conservation_up h hc x
  have h2 := px_conservation_down h hc x
  exact ⟨by omega, by omega⟩

/-! ## 8. Codec: decoded payloads are values

  The model is pure: `contentOf` is a function, so decoding a packet can neither be influenced by nor influence
  the result of decoding any other packet.  The statements below say what that means for a BATCH of packets
  whose results are all kept; the `batch` op evaluates `holdsOnBatch` on the results the real `GetContent`
  returned and that the harness RETAINED while all the other packets (of the same goroutine and of the
  goroutines running next to it) were decoded. -/

/-- decoding a batch gives back every payload, in place -/
theorem batch_roundtrip (bs : List Str) (l r : Option Addr) (hb : ∀ b ∈ bs, bytes b) :
    (bs.map (fun b => packetOf b l r)).map contentOf = bs.map some := by
  rw [List.map_map]
  apply List.map_congr_left
  intro b hbm
  exact contentOf_packetOf b l r (hb b hbm)

/-- **independence**: the `i`-th result of a batch is the decoding of the `i`-th packet alone — whatever stands
    before or after it in the batch -/
theorem batch_independent (ps : List Packet) (i : Nat) :
    (ps.map contentOf)[i]? = (ps[i]?).map contentOf := List.getElem?_map

/-- … so results are not disturbed by decoding more: the results of a longer batch start with the results of
    the shorter one -/
theorem batch_prefix_stable (ps qs : List Packet) :
    ((ps ++ qs).map contentOf).take ps.length = ps.map contentOf := by
  rw [List.map_append, List.take_left' (by simp)]

/-- batch op: the retained results are, in order, the expected ones -/
def holdsOnBatch {α} [DecidableEq α] (expected got : List (List α)) : Bool := decide (got = expected)

theorem holdsOnBatch_sound {α} [DecidableEq α] (expected got : List (List α)) :
    holdsOnBatch expected got = true ↔ got = expected := by
  simp [holdsOnBatch]

example : (([[1, 2, 3], [4], []].map (fun b => packetOf b none none)).map contentOf)
    = [some [1, 2, 3], some [4], some []] := by decide +kernel

/-! ## 9. A queued packet owns its bytes

  `Udp.stepUserSend` / `stepBackendReply` (and their counterparts in `Sudp`, `UdpSrv`, `SudpPx`) enqueue a VALUE.  In
  memory there is one read buffer per loop, reused for every `ReadFromUDP`, and the message waits in `sendCh` until
  the sender goroutine of the work connection serialises it — any number of reads later.  `UdpBuf` makes the buffer
  explicit; `step false` is the code as it is (`NewUDPPacket` encodes `buf[:n]` into a string of its own at once),
  `step true` keeps `buf[:n]` in the message and encodes when it is serialised. -/

open UdpBuf in
/-- states of the explicit-buffer machine reached by the code as it is -/
def BReachable (s : UdpBuf.St) : Prop := ∃ bs cap ls, s = UdpBuf.run false (UdpBuf.init bs cap) ls

/-- the packet a read stands for is the datagram, cut to the buffer, with its sender's address — whatever the buffer
    held before (either way of enqueueing) -/
theorem buf_read_packet (byRef : Bool) (s : UdpBuf.St) (a : Addr) (p : Str) (h : s.q.length < s.cap) :
    (UdpBuf.step byRef s (.read a p)).accepted = s.accepted ++ [packetOf (rd s.bufSize p) none (some a)] := by
  rw [UdpBuf.step_read_room byRef s a p h]; rfl

/-- **a queued packet owns its bytes**: in every reachable state, what a queued message will be serialised as does
    not depend on the contents of the read buffer — so no later `ReadFromUDP`, however many, can change it -/
theorem buf_queued_owns_bytes {s : UdpBuf.St} (h : BReachable s) (ls : List UdpBuf.Label) (m : UdpBuf.QMsg)
    (hm : m ∈ s.q) :
    UdpBuf.materialise (UdpBuf.run false s ls).buf m = UdpBuf.materialise s.buf m := by
  obtain ⟨bs, cap, l0, rfl⟩ := h
  exact UdpBuf.materialise_owned ((UdpBuf.inv_run (UdpBuf.inv_init bs cap) l0).owned m hm) _ _

/-- **conservation with contents, in order**, for every interleaving of reads and sends: what was serialised so far
    followed by what waits in the queue is exactly the sequence of datagrams that found room, each as it was when it
    was read -/
theorem buf_wire_then_queue {s : UdpBuf.St} (h : BReachable s) :
    s.wire ++ s.q.map (UdpBuf.materialise s.buf) = s.accepted := by
  obtain ⟨bs, cap, l0, rfl⟩ := h
  exact (UdpBuf.inv_run (UdpBuf.inv_init bs cap) l0).cons

/-- … in particular every serialised message is one datagram as it was read, in the order of reading -/
theorem buf_wire_prefix {s : UdpBuf.St} (h : BReachable s) : s.wire <+: s.accepted :=
  ⟨_, buf_wire_then_queue h⟩

/-- a BURST: up to `cap` datagrams are read before the first one is serialised — each goes out with its own payload -/
theorem buf_burst_delivers (bs cap : Nat) (ds : List (Addr × Str)) (hc : ds.length ≤ cap) :
    (UdpBuf.run false (UdpBuf.init bs cap) (UdpBuf.burst ds)).wire
      = ds.map (fun d => packetOf (rd bs d.2) none (some d.1)) := by
  have hinv := UdpBuf.inv_run (UdpBuf.inv_init bs cap) (UdpBuf.burst ds)
  have hb : UdpBuf.burst ds = ds.map (fun d => UdpBuf.Label.read d.1 d.2) ++ List.replicate ds.length .send := by
    simp only [UdpBuf.burst, List.map_const']
  obtain ⟨r1, r2, _⟩ := UdpBuf.reads_room false ds (UdpBuf.init bs cap) (by simpa [UdpBuf.init] using hc)
  obtain ⟨d1, d2⟩ := UdpBuf.sends_drain false ds.length
    (UdpBuf.run false (UdpBuf.init bs cap) (ds.map (fun d => UdpBuf.Label.read d.1 d.2)))
  have hq : (UdpBuf.run false (UdpBuf.init bs cap) (UdpBuf.burst ds)).q = [] := by
    apply List.eq_nil_of_length_eq_zero
    rw [hb, UdpBuf.run_append, d1, r1]
    simp [UdpBuf.init]
  have hacc : (UdpBuf.run false (UdpBuf.init bs cap) (UdpBuf.burst ds)).accepted
      = ds.map (fun d => packetOf (rd bs d.2) none (some d.1)) := by
    rw [hb, UdpBuf.run_append, d2, r2]
    simp [UdpBuf.init, UdpBuf.nowOf]
  have hcons := hinv.cons
  rw [hq, List.map_nil, List.append_nil] at hcons
  rw [hcons, hacc]

/-- the explicit-buffer machine (code as it is) holds the same queue as the forwarding machine of §3: for every
    sequence of datagrams arriving at the public socket, `sendCh` of `Udp.St` is the materialised queue — the value
    semantics the theorems of §3, §5, §6, §7 rest on is what the memory holds -/
theorem buf_refines_forwarder (sbs cbs cap : Nat) (ds : List (Addr × Str)) (hb : ∀ d ∈ ds, isBytes d.2 = true) :
    let s := UdpBuf.run false (UdpBuf.init sbs cap) (ds.map (fun d => .read d.1 d.2))
    s.q.map (UdpBuf.materialise s.buf) = (run (init sbs cbs cap) (ds.map (fun d => .userSend d.1 d.2))).sSend := by
  have h0 : UdpBuf.Sim (UdpBuf.init sbs cap) (init sbs cbs cap) :=
    ⟨fun _ h => by simp [UdpBuf.init] at h, rfl, rfl, rfl⟩
  exact (UdpBuf.sim_reads ds hb _ _ h0).q

/-- **witness for enqueue-by-reference**: two datagrams back to back (AAA from one user, BB from another), then the
    sender runs — the first message goes out as "BBA" under the first user's address: a payload nobody sent -/
theorem buf_byref_witness :
    let ds := [(ua, [65, 65, 65]), (ub, [66, 66])]
    (UdpBuf.run true (UdpBuf.init 1500 1024) (UdpBuf.burst ds)).wire
      = [packetOf [66, 66, 65] none (some ua), packetOf [66, 66] none (some ub)] ∧
    (UdpBuf.run true (UdpBuf.init 1500 1024) (UdpBuf.burst ds)).wire
      ≠ (UdpBuf.run true (UdpBuf.init 1500 1024) (UdpBuf.burst ds)).accepted ∧
    (UdpBuf.run false (UdpBuf.init 1500 1024) (UdpBuf.burst ds)).wire
      = [packetOf [65, 65, 65] none (some ua), packetOf [66, 66] none (some ub)] := by
  decide +kernel

/-- … and why request / reply traffic never shows it: when every datagram is serialised before the next one is read,
    enqueue-by-reference produces the same wire as the code as it is -/
theorem buf_byref_pingpong_unobservable (bs cap : Nat) (hc : 0 < cap) (ds : List (Addr × Str)) :
    (UdpBuf.run true (UdpBuf.init bs cap) (UdpBuf.pingPong ds)).wire
      = ds.map (fun d => packetOf (rd bs d.2) none (some d.1)) := by
  have := (UdpBuf.byref_pingpong ds (UdpBuf.init bs cap) rfl hc).2.1
  simpa [UdpBuf.init, UdpBuf.nowOf] using this

/-- burst op: `E` = the datagrams of a burst as the model serialises them (`buf_burst_delivers`), `B` what arrived -/
def holdsOnBurst {α} [DecidableEq α] (E B : List α) : Bool := msEq B E

theorem holdsOnBurst_sound {α} [DecidableEq α] (E B : List α) : holdsOnBurst E B = true ↔ MsEq B E :=
  msEq_sound B E

example : BReachable (UdpBuf.run false (UdpBuf.init 4 8) [.read ua [1, 2, 3, 4, 5], .read ub [9], .send]) :=
  ⟨4, 8, _, rfl⟩
example : (UdpBuf.run false (UdpBuf.init 4 8) [.read ua [1, 2, 3, 4, 5], .read ub [9], .send, .send]).wire
    = [packetOf [1, 2, 3, 4] none (some ua), packetOf [9] none (some ub)] := by decide +kernel
example : (UdpBuf.run true (UdpBuf.init 4 8) [.read ua [1, 2, 3, 4, 5], .read ub [9], .send, .send]).wire
    = [packetOf [9, 2, 3, 4] none (some ua), packetOf [9] none (some ub)] := by decide +kernel

/-! ## 10. Both ends of a connection that carries UDPPackets build the same wrapper stack

  (as C01 `mirror_proxy` / `mirror_order` do for the tcp path; here for the five sites of the udp / sudp path) -/

open Layers UdpLayers

/-- udp proxy: frps (server/proxy/udp.go Run) and frpc (client/proxy/udp.go InWorkConn) agree on the
    byte-transforming layers of the work connection, for every option combination … -/
theorem udp_layers_mirror (o : Opts) : transforming (srvUdpWrap o) = transforming (cliUdpWrap o) := by
  cases o with | mk e c ls lc => cases e <;> cases c <;> cases ls <;> cases lc <;> rfl

/-- … namely encryption next to the wire and compression above it, at both ends -/
theorem udp_layers_order (o : Opts) :
    transforming (srvUdpWrap o) = opt o.enc .enc ++ opt o.comp .comp ∧
    transforming (cliUdpWrap o) = opt o.enc .enc ++ opt o.comp .comp := by
  cases o with | mk e c ls lc => cases e <;> cases c <;> cases ls <;> cases lc <;> exact ⟨rfl, rfl⟩

/-- sudp: the work connection (frps: handleUserTCPConnection, frpc: client/proxy/sudp.go InWorkConn) and the visitor
    connection (client/visitor/sudp.go, server/visitor/visitor.go NewConn) -/
theorem sudp_layers_mirror (o : Opts) (e c : Bool) :
    transforming (serverStack o) = transforming (cliSudpWrap o) ∧ visSudpWrap e c = visitorServerStack e c := by
  cases o with | mk e' c' ls lc => cases e' <;> cases c' <;> cases ls <;> cases lc <;> exact ⟨rfl, rfl⟩

/-- these are the stacks C01 reasons about (`Layers.serverUdpStack` / `clientUdpStack`), so its transparency and
    close-propagation theorems speak about the udp work connection as modelled here -/
theorem udp_layers_are_C01s (o : Opts) :
    srvUdpWrap o = serverUdpStack o ∧ cliUdpWrap o = clientUdpStack o ∧ cliSudpWrap o = clientUdpStack o :=
  ⟨rfl, rfl, rfl⟩

/-- the other order (compression next to the wire) is understood by the peer exactly when at most one of the two
    options is set: a site that swapped the two wrappers would break precisely the proxies with BOTH -/
theorem udp_layers_swapped_iff (o : Opts) :
    compatible (swappedWrap o) (cliUdpWrap o) = !(o.enc && o.comp) := by
  cases o with | mk e c ls lc => cases e <;> cases c <;> cases ls <;> cases lc <;> rfl

/-- transparency of the udp work connection: with any lawful cipher / compression layers, what frpc's stack decodes
    from everything frps' stack put on the wire is what was written (frames of UDPPackets arrive intact), for every
    option combination -/
theorem udp_workconn_transparent {encL compL : Layer} (he : Lawful encL) (hc : Lawful compL) (burst : Nat)
    (o : Opts) (ps cs : List C01Bytes)
    (hw : cs.flatten = ((stackLayer (instantiate encL compL burst (transforming (srvUdpWrap o)))).Eout ps).flatten) :
    (stackLayer (instantiate encL compL burst (transforming (cliUdpWrap o)))).Dout cs = ps.flatten := by
  rw [← udp_layers_mirror]
  refine transparent_complete (stack_lawful _ ?_) ps cs hw
  intro l hl
  cases o with | mk e c ls lc =>
    cases e <;> cases c <;> cases ls <;> cases lc <;>
      simp [srvUdpWrap, transforming, opt, instantiate] at hl <;>
      (try rcases hl with hl | hl) <;> (try subst hl) <;> first | exact he | exact hc

/- Non-vacuity and counter-example: two lawful toy layers, `toyEnc` (a 2-byte header + shift as "cipher") and
   `toyComp` (a 1-byte header + neighbour swap as "compression"), and the option set with both on. -/
def toySwap (x : Nat) : Nat := if x % 2 = 0 then x + 1 else x - 1
def toyEnc : Layer := headerMap [7, 7] (fun x => x + 1) (fun x => x - 1)
def toyComp : Layer := headerMap [9] toySwap toySwap
def bothOn : Opts := { enc := true, comp := true, limSrv := false, limCli := false }

theorem toy_layers_lawful : Lawful toyEnc ∧ Lawful toyComp := by
  refine ⟨headerMap_lawful _ _ _ (fun x => by omega), headerMap_lawful _ _ _ (fun x => ?_)⟩
  simp only [toySwap]
  split <;> split <;> omega

/-- with the stacks as they are the frame arrives; with the two wrappers swapped at the server it does not -/
theorem udp_layers_swapped_witness :
    (stackLayer (instantiate toyEnc toyComp 1 (transforming (cliUdpWrap bothOn)))).Dout
        ((stackLayer (instantiate toyEnc toyComp 1 (transforming (srvUdpWrap bothOn)))).Eout [[0, 1, 2]]) = [0, 1, 2] ∧
    (stackLayer (instantiate toyEnc toyComp 1 (transforming (cliUdpWrap bothOn)))).Dout
        ((stackLayer (instantiate toyEnc toyComp 1 (swappedWrap bothOn))).Eout [[0, 1, 2]]) ≠ [0, 1, 2] := by
  decide

/-! ## 11. client side of a udp proxy fed a TYPED stream (the theorems are in Props/C03Wire.lean) -/

/-- client-side proxy op (`upx`): `allowed` = datagrams the backend may see that no user sent = the messages of the
    script that the real server end never writes (they are outside the property's domain); `extra` = what it saw -/
def holdsOnUpx {α} [DecidableEq α] (E B Rs R : List α) (extra allowed : Nat) : Bool :=
  msEq B E && msEq R Rs && decide (extra ≤ allowed)

theorem holdsOnUpx_sound {α} [DecidableEq α] (E B Rs R : List α) (extra allowed : Nat) :
    holdsOnUpx E B Rs R extra allowed = true ↔ MsEq B E ∧ MsEq R Rs ∧ extra ≤ allowed := by
  simp only [holdsOnUpx, Bool.and_eq_true, msEq_sound, decide_eq_true_eq, and_assoc]

end C03
end Frp
