import Frp.Props.C17
import Frp.Model.Dispatcher
/-
  C17, session level — "malformed bodies are errors; the read loop ends the session on any decode
  error" (pkg/msg/handler.go `Dispatcher.readLoop`), hence: nothing decoded from a malformed frame
  ever reaches a handler.

  For ALL handler tables, ALL byte streams and BOTH trusted oracles (JSON text level, IP text form):
  handlers receive exactly the messages of the well-formed prefix of the stream, in order, each
  from the handler registered for its type (else the default handler, else nobody); the first frame
  that `msg.ReadMsg` rejects — unknown type byte, negative or oversized length, body that is not a
  JSON text, `null`, a top-level value that is not an object, or ONE member (at any nesting level)
  whose JSON type / integer range does not fit its field — closes `Done` with nothing dispatched from
  it or from anything after it.
-/
namespace Frp
namespace C17
open Frame MsgObj Dispatcher

/-! ## 1. one `ReadMsg` -/

theorem known_of_structOf {e : Env} {t : Nat} {s : String} (h : e.structOf t = some s) : e.known t = true := by
  simp [Env.known, h]

/-- `readStep` read off the result of `decodeFull`: a frame is a message when its type is registered,
    `json.Unmarshal` accepts the body for the struct and the body is not the literal `null` -/
theorem readStep_eq (e : Env) (o : Oracle) (inp : Str) :
    readStep e o inp = match decodeFull e.max e.known inp with
      | ⟨.ok t body rest, c, _⟩ =>
        (match e.structOf t with
          | some s => if bodyOk e o s body = true ∧ isNullLit body = false then .msg s body rest c else .reject c
          | none => .reject c)
      | ⟨.err er, c, _⟩ => if needMore er = true then .wait c else .reject c := by
  unfold readStep Frame.readMsg readMsgGolib
  cases decodeFull e.max e.known inp with | mk r c a =>
  cases r with
  | err er => rfl
  | ok t body rest =>
    simp only
    cases e.structOf t with
    | none => rfl
    | some s =>
      simp only
      cases bodyOk e o s body <;> cases isNullLit body <;> simp

/-- a well-formed frame with an accepted body is read as that message, consuming exactly the frame -/
theorem readStep_good (e : Env) (o : Oracle) (t : Nat) (s : String) (body rest : Str)
    (hs : e.structOf t = some s) (hl : body.length ≤ e.max) (hmax : e.max < 9223372036854775808)
    (hok : bodyOk e o s body = true) (hnn : isNullLit body = false) :
    readStep e o (encode t body ++ rest) = .msg s body rest (9 + body.length) := by
  rw [readStep_eq, decode_encode e.max e.known t body rest (known_of_structOf hs) hl hmax]
  simp only [hs, hok, hnn, and_self, if_true]

/-- … with a body that `json.Unmarshal` does not store into the struct without error, or the literal
    `null`: an error, after consuming exactly the frame -/
theorem readStep_bad_body (e : Env) (o : Oracle) (t : Nat) (s : String) (body rest : Str)
    (hs : e.structOf t = some s) (hl : body.length ≤ e.max) (hmax : e.max < 9223372036854775808)
    (hbad : bodyOk e o s body = false ∨ isNullLit body = true) :
    readStep e o (encode t body ++ rest) = .reject (9 + body.length) := by
  rw [readStep_eq, decode_encode e.max e.known t body rest (known_of_structOf hs) hl hmax]
  simp only [hs]
  rw [if_neg]
  rintro ⟨h1, h2⟩
  rcases hbad with hb | hb
  · rw [h1] at hb; cases hb
  · rw [h2] at hb; cases hb

/-- a framing error that more input cannot mend is an error of `ReadMsg` -/
theorem readStep_err {e : Env} (o : Oracle) {inp : Str} {er : Err} {c a : Nat}
    (hd : decodeFull e.max e.known inp = ⟨.err er, c, a⟩) (hn : needMore er = false) :
    readStep e o inp = .reject c := by
  rw [readStep_eq, hd]
  exact if_neg (by rw [hn]; exact Bool.false_ne_true)

/-- unknown type byte: an error after one byte, whatever follows -/
theorem readStep_unknown_type (e : Env) (o : Oracle) (t : Nat) (r : Str) (hk : e.known t = false) :
    readStep e o (t :: r) = .reject 1 :=
  readStep_err o (decode_unknown_type e.max e.known t r hk) rfl

/-- negative length: an error after the header, whatever follows -/
theorem readStep_negative (e : Env) (o : Oracle) (t b0 : Nat) (tl r : Str)
    (hk : e.known t = true) (hl : tl.length = 7) (hb : IsBytes (b0 :: tl)) (htop : 128 ≤ b0) :
    readStep e o (t :: ((b0 :: tl) ++ r)) = .reject 9 :=
  readStep_err o (decode_negative e.max e.known t b0 tl r hk hl hb htop) rfl

/-- oversized length: an error after the header, whatever follows (the body is never waited for) -/
theorem readStep_oversize (e : Env) (o : Oracle) (t n : Nat) (r : Str)
    (hk : e.known t = true) (hn : e.max < n) (hn2 : n < 9223372036854775808) :
    readStep e o (t :: (be64 n ++ r)) = .reject 9 :=
  readStep_err o (decode_oversize e.max e.known t n r hk hn hn2) rfl

/-- `readStep` never reports a message for an input on which `Frame.readMsg` does not: the tie to the
    decoder model of §6 of Props/C17 (same function, json verdict := `bodyOk`) -/
theorem readStep_msg_sound (e : Env) (o : Oracle) (inp : Str) (s : String) (body rest : Str) (c : Nat)
    (h : readStep e o inp = .msg s body rest c) :
    ∃ t, (decodeFull e.max e.known inp) = ⟨.ok t body rest, c, (decodeFull e.max e.known inp).bodyAlloc⟩
      ∧ e.structOf t = some s ∧ bodyOk e o s body = true ∧ isNullLit body = false := by
  rw [readStep_eq] at h
  cases hd : decodeFull e.max e.known inp with | mk r c' a =>
  rw [hd] at h
  cases r with
  | err er => simp only at h; split at h <;> cases h
  | ok t body' rest' =>
    simp only at h
    cases hs : e.structOf t with
    | none => rw [hs] at h; cases h
    | some s' =>
      rw [hs] at h
      simp only at h
      split at h
      · rename_i hok
        injection h with h1 h2 h3 h4
        subst h1 h2 h3 h4
        exact ⟨t, rfl, hs, hok⟩
      · cases h

/-- on bytes, a message read is a whole accepted frame at the head of the input -/
theorem readStep_msg_inv {e : Env} {o : Oracle} (hmax : e.max < 9223372036854775808) {inp : Str} (hb : IsBytes inp)
    {s : String} {body rest : Str} {c : Nat} (h : readStep e o inp = .msg s body rest c) :
    IsBytes rest ∧ rest.length + 9 ≤ inp.length ∧ ∃ t, inp = encode t body ++ rest ∧ e.structOf t = some s
      ∧ body.length ≤ e.max ∧ bodyOk e o s body = true ∧ isNullLit body = false ∧ c = 9 + body.length := by
  obtain ⟨t, hd, hs, hok, hnn⟩ := readStep_msg_sound e o inp s body rest c h
  obtain ⟨-, hlen, hinp, hc, -⟩ := decode_ok_sound e.max e.known inp t body rest hb hmax (by rw [hd])
  rw [hd] at hc
  refine ⟨fun b hm => hb b (by rw [hinp]; exact List.mem_append_right _ hm), ?_, t, hinp, hs, hlen, hok, hnn, hc⟩
  rw [hinp, List.length_append, encode_length]
  omega

/-! ## 2. reasons for which a body is rejected (each makes `bodyOk` false) -/

/-- not a JSON text (syntax error, trailing garbage inside the declared length, empty body, …) -/
theorem bodyOk_syntax (e : Env) (o : Oracle) (s : String) (body : Str) (h : o.parse body = none) :
    bodyOk e o s body = false := by
  simp [bodyOk, h]

/-- a JSON text whose top-level value is not an object (`null`, number, string, bool, array) -/
theorem bodyOk_toplevel (e : Env) (o : Oracle) (s : String) (body : Str) (j : J)
    (h : o.parse body = some j) (hno : ∀ ms, j ≠ .obj ms) : bodyOk e o s body = false := by
  unfold bodyOk
  rw [h]
  cases j with
  | obj ms => exact absurd rfl (hno ms)
  | _ => rfl

/-- FIELD level: one member that matches a field of the struct and does not fit it makes the whole body
    an error — whatever the other members are, wherever it stands -/
theorem membersFit_bad_member (ipOk : Str → Bool) (subFits : String → List (Str × J) → Bool)
    (fs : List FieldS) (ms : List (Str × J)) (k : Str) (v : J) (f : FieldS)
    (hm : (k, v) ∈ ms) (hf : findField fs k = some f) (hbad : fitsF ipOk subFits f v = false) :
    membersFit ipOk subFits fs ms = false := by
  unfold membersFit
  rw [List.all_eq_false]
  exact ⟨(k, v), hm, by simp [hf, hbad]⟩

theorem bodyOk_bad_field (e : Env) (o : Oracle) (s : String) (body : Str) (ms : List (Str × J))
    (k : Str) (v : J) (f : FieldS)
    (h : o.parse body = some (.obj ms)) (hm : (k, v) ∈ ms) (hf : findField (e.sch.fieldsOf s) k = some f)
    (hbad : fitsF o.ipOk (fits1 o.ipOk e.sch) f v = false) : bodyOk e o s body = false := by
  unfold bodyOk fits2
  rw [h]
  exact membersFit_bad_member _ _ _ ms k v f hm hf hbad

/-- the JSON type a field kind accepts (besides `null`) -/
inductive JT
  | str | bool | num | arr | obj | null
  deriving DecidableEq, Repr

def jtype : J → JT
  | .null => .null
  | .bool _ => .bool
  | .num _ => .num
  | .real _ => .num
  | .str _ => .str
  | .arr _ => .arr
  | .obj _ => .obj

def kindJT : Kind → JT
  | .str => .str
  | .bool => .bool
  | .int => .num
  | .strs => .arr
  | .smap => .obj
  | .udp => .obj
  | .sub _ => .obj
  | .subs _ => .arr
  | .unknown => .null

/-- a value that fits is `null` or has the JSON type of its field's kind: one case per row of `fitsF` -/
theorem fitsF_jtype (ipOk : Str → Bool) (subFits : String → List (Str × J) → Bool) (f : FieldS) (j : J)
    (h : fitsF ipOk subFits f j = true) : jtype j = .null ∨ jtype j = kindJT f.kind := by
  unfold fitsF at h
  split at h
  · exact Or.inl rfl
  · split at h
    case h_10 => cases h
    all_goals
      rename_i hk _
      rw [hk]
      exact Or.inr rfl

/-- a value of the WRONG JSON TYPE for its field (string ↔ number ↔ bool ↔ object ↔ array; e.g.
    `"remote_port":"6000"`, `"timestamp":"1700000000"`, `"always_auth_pass":"yes"`) never fits -/
theorem fitsF_wrong_type (ipOk : Str → Bool) (subFits : String → List (Str × J) → Bool) (f : FieldS) (j : J)
    (hn : jtype j ≠ .null) (hw : jtype j ≠ kindJT f.kind) : fitsF ipOk subFits f j = false := by
  cases h : fitsF ipOk subFits f j with
  | false => rfl
  | true => exact absurd (fitsF_jtype ipOk subFits f j h) (fun h' => h'.elim hn hw)

/-- a number that is not an integer literal (fraction, exponent) fits no field -/
theorem fitsF_real (ipOk : Str → Bool) (subFits : String → List (Str × J) → Bool) (f : FieldS) (t : Str)
    (ht : t ≠ negZero) : fitsF ipOk subFits f (.real t) = false := by
  cases hk : f.kind <;> simp [fitsF, hk, ht]

/-- `-0`: an integer literal for a signed field (`strconv.ParseInt`, value 0), refused for an unsigned one
    (`strconv.ParseUint` takes no sign) and for every other kind -/
theorem fitsF_neg_zero (ipOk : Str → Bool) (subFits : String → List (Str × J) → Bool) (f : FieldS) :
    fitsF ipOk subFits f (.real negZero) = (decide (f.kind = .int) && decide (f.lo < 0)) := by
  cases hk : f.kind <;> simp [fitsF, hk]

/-- member names fold as encoding/json folds them: ASCII case, and the two non-ASCII runes whose folding orbit
    holds an ASCII letter -/
theorem lower_examples :
    lower (Str.ofString "Proxy_Name") = Str.ofString "proxy_name"
    ∧ lower [226, 132, 170] = [107] ∧ lower [197, 191] = [115]          -- KELVIN SIGN ↦ k, LONG S ↦ s
    ∧ lower [195, 137] = [195, 137] := by decide +kernel                -- É stays (never an ASCII name)

/-- an integer outside the range of the Go type (int64 / uint16) does not fit -/
theorem fitsF_out_of_range (ipOk : Str → Bool) (subFits : String → List (Str × J) → Bool) (f : FieldS) (i : Int)
    (h : i < f.lo ∨ f.hi < i) : fitsF ipOk subFits f (.num i) = false := by
  cases hk : f.kind <;> simp [fitsF, hk]
  omega

/-- a wrong-typed element inside a `[]string` / a wrong-typed value inside a `map[string]string` -/
theorem fitsF_bad_element (ipOk : Str → Bool) (subFits : String → List (Str × J) → Bool) (f : FieldS)
    (l : List J) (x : J) (hk : f.kind = .strs) (hx : x ∈ l) (hbad : isStrOrNull x = false) :
    fitsF ipOk subFits f (.arr l) = false := by
  simp only [fitsF, hk]
  rw [List.all_eq_false]
  exact ⟨x, hx, by simp [hbad]⟩

theorem fitsF_bad_map_value (ipOk : Str → Bool) (subFits : String → List (Str × J) → Bool) (f : FieldS)
    (ms : List (Str × J)) (kv : Str × J) (hk : f.kind = .smap) (hx : kv ∈ ms) (hbad : isStrOrNull kv.2 = false) :
    fitsF ipOk subFits f (.obj ms) = false := by
  simp only [fitsF, hk]
  rw [List.all_eq_false]
  exact ⟨kv, hx, by simp [hbad]⟩

/-- NESTED: a member of a nested struct (`client_spec`, `detect_behavior`) that does not fit makes the
    outer field not fit (and so, by `bodyOk_bad_field`, the whole body an error) -/
theorem fitsF_bad_nested (ipOk : Str → Bool) (sch : Schema) (f : FieldS) (n : String)
    (ms : List (Str × J)) (k : Str) (v : J) (g : FieldS)
    (hk : f.kind = .sub n) (hm : (k, v) ∈ ms) (hg : findField (sch.fieldsOf n) k = some g)
    (hbad : fitsF ipOk (fits0 ipOk sch) g v = false) :
    fitsF ipOk (fits1 ipOk sch) f (.obj ms) = false := by
  simp only [fitsF, hk, fits1]
  exact membersFit_bad_member _ _ _ ms k v g hm hg hbad

/-! ## 3. the read loop -/

/-- a (type byte, body) pair that `ReadMsg` accepts -/
def Good (e : Env) (o : Oracle) (g : Nat × Str) : Prop :=
  ∃ s, e.structOf g.1 = some s ∧ g.2.length ≤ e.max ∧ bodyOk e o s g.2 = true ∧ isNullLit g.2 = false

def targetOf (hs : List (String × Nat)) (df : Option Nat) (s : String) : Option Nat :=
  match hs.lookup s with
  | some h => some h
  | none => df

/-- the handler calls a list of accepted frames gives rise to, under a handler table: one per frame whose
    struct has a handler or for which a default handler exists, in stream order -/
def deliveries (e : Env) (hs : List (String × Nat)) (df : Option Nat) (gs : List (Nat × Str)) : List Delivery :=
  gs.filterMap (fun g => match e.structOf g.1 with
    | some s => (targetOf hs df s).map (fun h => ⟨h, s, g.2⟩)
    | none => none)

theorem target_eq (d : Disp) (s : String) : target d s = targetOf d.handlers d.dflt s := rfl

theorem frames_length_ge (gs : List (Nat × Str)) : gs.length ≤ (frames gs).length := by
  induction gs with
  | nil => simp [frames]
  | cons g gs ih =>
    simp only [frames, List.length_cons, List.length_append, encode_length]
    omega

theorem dispatch_buf (d : Disp) (s : String) (body b : Str) :
    dispatch { d with buf := b } s body = { dispatch d s body with buf := b } := by
  simp only [dispatch, target]
  split <;> rfl

/-- `dispatch` only appends to the log -/
theorem dispatch_fields (d : Disp) (s : String) (body : Str) :
    (dispatch d s body).buf = d.buf ∧ (dispatch d s body).done = d.done
      ∧ (dispatch d s body).peerClosed = d.peerClosed ∧ (dispatch d s body).wire = d.wire
      ∧ (dispatch d s body).sendq = d.sendq ∧ (dispatch d s body).accepted = d.accepted := by
  simp only [dispatch]
  split <;> exact ⟨rfl, rfl, rfl, rfl, rfl, rfl⟩

/-- the read loop touches neither the peer's state nor the send side -/
theorem readLoop_fields (e : Env) (o : Oracle) : ∀ (n : Nat) (d : Disp),
    (readLoop e o n d).peerClosed = d.peerClosed ∧ (readLoop e o n d).wire = d.wire
      ∧ (readLoop e o n d).sendq = d.sendq ∧ (readLoop e o n d).accepted = d.accepted := by
  intro n
  induction n with
  | zero => intro d; exact ⟨rfl, rfl, rfl, rfl⟩
  | succ n ih =>
    intro d
    simp only [readLoop]
    split
    · exact ⟨rfl, rfl, rfl, rfl⟩
    · split
      · rename_i s body rest c _
        have h := ih (dispatch { d with buf := rest, consumed := d.consumed + c } s body)
        have hf := dispatch_fields { d with buf := rest, consumed := d.consumed + c } s body
        exact ⟨h.1.trans hf.2.2.1, h.2.1.trans hf.2.2.2.1, h.2.2.1.trans hf.2.2.2.2.1,
          h.2.2.2.trans hf.2.2.2.2.2⟩
      · split <;> exact ⟨rfl, rfl, rfl, rfl⟩
      · exact ⟨rfl, rfl, rfl, rfl⟩

/-- once `Done` is closed, the read loop does nothing any more -/
theorem readLoop_done (e : Env) (o : Oracle) (n : Nat) (d : Disp) (h : d.done = true) :
    readLoop e o n d = d := by
  cases n with
  | zero => rfl
  | succ n => simp [readLoop, h]

/-- blocked in the middle of a frame with the peer still there: the read loop stays where it is -/
theorem readLoop_wait (e : Env) (o : Oracle) (n : Nat) (d : Disp) (c : Nat) (hd : d.done = false)
    (hp : d.peerClosed = false) (hw : readStep e o d.buf = .wait c) : readLoop e o n d = d := by
  cases n with
  | zero => rfl
  | succ n => simp [readLoop, hd, hp, hw]

theorem readLoop_msg (e : Env) (o : Oracle) (n : Nat) (d : Disp) {s : String} {body rest : Str} {c : Nat}
    (hd : d.done = false) (hr : readStep e o d.buf = .msg s body rest c) :
    readLoop e o (n + 1) d
      = readLoop e o n (dispatch { d with buf := rest, consumed := d.consumed + c } s body) := by
  simp only [readLoop, hd, hr, Bool.false_eq_true, if_false]

theorem readLoop_reject (e : Env) (o : Oracle) (n : Nat) (d : Disp) {c : Nat}
    (hd : d.done = false) (hr : readStep e o d.buf = .reject c) :
    readLoop e o (n + 1) d = { d with done := true, consumed := d.consumed + c, buf := d.buf.drop c } := by
  simp only [readLoop, hd, hr, Bool.false_eq_true, if_false]

/-- the well-formed prefix: every accepted frame is consumed exactly and handed to its target, in order -/
theorem readLoop_goods (e : Env) (o : Oracle) (hmax : e.max < 9223372036854775808) (rest : Str) :
    ∀ (gs : List (Nat × Str)) (d : Disp) (fuel : Nat), (∀ g ∈ gs, Good e o g) → d.done = false →
      d.buf = frames gs ++ rest →
      readLoop e o (gs.length + fuel) d
        = readLoop e o fuel { d with buf := rest, consumed := d.consumed + (frames gs).length,
                                     log := d.log ++ deliveries e d.handlers d.dflt gs } := by
  intro gs
  induction gs with
  | nil =>
    intro d fuel _ _ hb
    simp only [frames, List.nil_append] at hb
    simp only [List.length_nil, Nat.zero_add, frames, Nat.add_zero, deliveries, List.filterMap_nil,
      List.append_nil]
    rw [← hb]
  | cons g gs ih =>
    intro d fuel hg hd hb
    obtain ⟨s, hs, hl, hok, hnn⟩ := hg g List.mem_cons_self
    have hstep : readStep e o d.buf = .msg s g.2 (frames gs ++ rest) (9 + g.2.length) := by
      rw [hb, frames, List.append_assoc]
      exact readStep_good e o g.1 s g.2 _ hs hl hmax hok hnn
    have hf := dispatch_fields { d with buf := frames gs ++ rest, consumed := d.consumed + (9 + g.2.length) } s g.2
    have hlen : (g :: gs).length + fuel = (gs.length + fuel) + 1 := by rw [List.length_cons]; omega
    rw [hlen, readLoop_msg e o _ d hd hstep,
      ih _ fuel (fun x hx => hg x (List.mem_cons_of_mem _ hx)) (hf.2.1.trans hd) hf.1]
    congr 1
    -- `dispatch` has appended the delivery of `g`, if it has a target
    simp only [dispatch, target_eq, deliveries, List.filterMap_cons, hs, frames, List.length_append,
      encode_length]
    cases targetOf d.handlers d.dflt s with
    | none => simp only [Disp.mk.injEq, true_and, and_true, Option.map_none]; omega
    | some h =>
      simp only [Disp.mk.injEq, true_and, and_true, Option.map_some, List.append_assoc, List.singleton_append]
      omega

theorem step_recv (e : Env) (o : Oracle) (d : Disp) (y : Str) (hp : d.peerClosed = false) :
    step e o d (.recv y) = readLoop e o (d.buf.length + y.length + 1) { d with buf := d.buf ++ y } := by
  rw [step, if_neg (by rw [hp]; exact Bool.false_ne_true)]

/-- a fresh dispatcher that receives accepted frames `gs` followed by `rest` dispatches `gs` and is left, with
    fuel to spare, in front of `rest` -/
theorem recv_frames (e : Env) (o : Oracle) (hmax : e.max < 9223372036854775808)
    (d : Disp) (gs : List (Nat × Str)) (rest : Str)
    (hg : ∀ g ∈ gs, Good e o g) (hd : d.done = false) (hp : d.peerClosed = false) (hb : d.buf = []) :
    ∃ n, step e o d (.recv (frames gs ++ rest))
      = readLoop e o (n + 1) { d with buf := rest, consumed := d.consumed + (frames gs).length,
                                      log := d.log ++ deliveries e d.handlers d.dflt gs } := by
  have hfuel : d.buf.length + (frames gs ++ rest).length + 1
      = gs.length + ((frames gs).length - gs.length + rest.length + 1) := by
    have := frames_length_ge gs
    rw [hb, List.length_nil, List.length_append]; omega
  refine ⟨(frames gs).length - gs.length + rest.length, ?_⟩
  rw [step_recv e o d _ hp, hfuel,
    readLoop_goods e o hmax rest gs { d with buf := d.buf ++ (frames gs ++ rest) } _ hg hd (by rw [hb]; rfl)]

/-- MAIN (a rejected frame ends the session): the peer has sent accepted frames `gs`, then bytes `rest`
    on which `ReadMsg` fails (for ANY reason, `readStep … = .reject c`), then — inside `rest` — anything.
    Then `Done` is closed; the handler calls are exactly those of `gs`, in order — nothing from the rejected
    frame, nothing from what follows it; exactly `|frames gs| + c` bytes were taken from the connection. -/
theorem reject_ends_session (e : Env) (o : Oracle) (hmax : e.max < 9223372036854775808)
    (d : Disp) (gs : List (Nat × Str)) (rest : Str) (c : Nat)
    (hg : ∀ g ∈ gs, Good e o g) (hd : d.done = false) (hp : d.peerClosed = false) (hb : d.buf = [])
    (hr : readStep e o rest = .reject c) :
    let d' := step e o d (.recv (frames gs ++ rest))
    d'.done = true ∧ d'.log = d.log ++ deliveries e d.handlers d.dflt gs
      ∧ d'.consumed = d.consumed + (frames gs).length + c
      ∧ d'.handlers = d.handlers ∧ d'.dflt = d.dflt
      ∧ taken e o d' = d.consumed + (frames gs).length + c := by
  obtain ⟨n, hn⟩ := recv_frames e o hmax d gs rest hg hd hp hb
  simp only [hn, readLoop, hd, Bool.false_eq_true, if_false, hr, taken, if_true]
  exact ⟨trivial, trivial, trivial, trivial, trivial, trivial⟩

/-- after that, whatever else the peer sends or does is never looked at: no further handler call -/
theorem nothing_after_done (e : Env) (o : Oracle) (d : Disp) (hd : d.done = true) (bytes : Str) :
    (step e o d (.recv bytes)).log = d.log ∧ (step e o d (.recv bytes)).done = true
      ∧ (step e o d .peerClose).log = d.log := by
  -- with `Done` closed every run of the read loop returns at once
  cases hp : d.peerClosed <;> simp [step, readLoop_done, hd, hp]

/-- MAIN (a well-formed stream keeps the session): accepted frames followed by an incomplete frame (or
    nothing) and a peer that is still there — every frame dispatched, `Done` not closed, the loop waits
    with the incomplete bytes unread … -/
theorem wellformed_keeps_session (e : Env) (o : Oracle) (hmax : e.max < 9223372036854775808)
    (d : Disp) (gs : List (Nat × Str)) (rest : Str) (c : Nat)
    (hg : ∀ g ∈ gs, Good e o g) (hd : d.done = false) (hp : d.peerClosed = false) (hb : d.buf = [])
    (hr : readStep e o rest = .wait c) :
    let d' := step e o d (.recv (frames gs ++ rest))
    d'.done = false ∧ d'.log = d.log ++ deliveries e d.handlers d.dflt gs
      ∧ d'.consumed = d.consumed + (frames gs).length ∧ d'.buf = rest
      ∧ taken e o d' = d.consumed + (frames gs).length + c := by
  obtain ⟨n, hn⟩ := recv_frames e o hmax d gs rest hg hd hp hb
  simp only [hn, readLoop, hd, hp, Bool.false_eq_true, if_false, hr, taken]
  exact ⟨trivial, trivial, trivial, trivial, trivial⟩

/-- … and when the peer then closes, the blocked read fails and `Done` closes, with no further call -/
theorem peer_close_ends_session (e : Env) (o : Oracle) (d : Disp) (c : Nat) (hd : d.done = false)
    (hr : readStep e o d.buf = .wait c) :
    (step e o d .peerClose).done = true ∧ (step e o d .peerClose).log = d.log
      ∧ (step e o d .peerClose).consumed = d.consumed + c := by
  simp only [step, readLoop, hd, Bool.false_eq_true, if_false, hr, if_true]
  exact ⟨trivial, trivial, trivial⟩

/-- an empty buffer waits (so the two theorems above cover "only whole frames so far") -/
theorem readStep_nil (e : Env) (o : Oracle) : readStep e o [] = .wait 0 := by
  simp [readStep, decodeFull, needMore]

/-- every handler call is for a struct the handler was registered for, or a call of the default
    handler for a struct without one: a message is never handed to the handler of another type -/
theorem deliveries_target (e : Env) (hs : List (String × Nat)) (df : Option Nat) (gs : List (Nat × Str))
    (x : Delivery) (hx : x ∈ deliveries e hs df gs) :
    (hs.lookup x.sname = some x.handler) ∨ (hs.lookup x.sname = none ∧ df = some x.handler) := by
  simp only [deliveries, List.mem_filterMap] at hx
  obtain ⟨g, _, hg⟩ := hx
  cases hs' : e.structOf g.1 with
  | none => simp [hs'] at hg
  | some s =>
    simp only [hs', Option.map_eq_some_iff] at hg
    obtain ⟨h, ht, rfl⟩ := hg
    simp only [targetOf] at ht
    cases hl : hs.lookup s with
    | none => rw [hl] at ht; right; exact ⟨rfl, ht⟩
    | some h' => rw [hl] at ht; left; exact ht

/-- EVERY byte stream splits into accepted frames followed by a remainder on which `ReadMsg` either fails
    or waits: together with `reject_ends_session` / `wellformed_keeps_session` this decides the
    dispatcher's behaviour on all inputs -/
theorem stream_decomposition (e : Env) (o : Oracle) (hmax : e.max < 9223372036854775808) :
    ∀ (n : Nat) (inp : Str), inp.length ≤ n → IsBytes inp →
      ∃ gs rest c, inp = frames gs ++ rest ∧ (∀ g ∈ gs, Good e o g)
        ∧ (readStep e o rest = .reject c ∨ readStep e o rest = .wait c) := by
  intro n
  induction n with
  | zero =>
    intro inp hl _
    have : inp = [] := List.eq_nil_of_length_eq_zero (by omega)
    subst this
    exact ⟨[], [], 0, rfl, by simp, Or.inr (readStep_nil e o)⟩
  | succ n ih =>
    intro inp hl hb
    cases hr : readStep e o inp with
    | reject c => exact ⟨[], inp, c, rfl, by simp, Or.inl hr⟩
    | wait c => exact ⟨[], inp, c, rfl, by simp, Or.inr hr⟩
    | msg s body rest c =>
      obtain ⟨hrb, hrl, t, hinp, hs, hlen, hok, hnn, -⟩ := readStep_msg_inv hmax hb hr
      obtain ⟨gs, rest', c', h1, h2, h3⟩ := ih rest (by omega) hrb
      refine ⟨(t, body) :: gs, rest', c', ?_, ?_, h3⟩
      · rw [hinp, h1]; simp only [frames, List.append_assoc]
      · intro g hg
        rcases List.mem_cons.mp hg with rfl | hg
        · exact ⟨s, hs, hlen, hok, hnn⟩
        · exact h2 g hg

/-! ### the result does not depend on how the peer's bytes are cut into writes -/

/-- a definite framing error (unknown type, negative / oversized length) is decided by the bytes that
    are there: whatever arrives later changes nothing -/
theorem decodeFull_err_stable (max : Nat) (known : Nat → Bool) (inp x : Str) (er : Err)
    (h : (decodeFull max known inp).res = .err er) (hn : needMore er = false) :
    decodeFull max known (inp ++ x) = decodeFull max known inp := by
  -- an end of input inside the length field or the body asks for more, so it is not the error at hand
  have hmore : ∀ r : Str, (Res.err (if r.isEmpty then Err.eof else Err.unexpectedEOF) = Res.err er) → False := by
    intro r he
    cases he
    revert hn
    split <;> exact nofun
  match inp with
  | [] => exact (hmore [] h).elim
  | t :: r1 =>
    rw [List.cons_append]
    cases hk : known t with
    | false => rw [decode_unknown_type max known t _ hk, decode_unknown_type max known t _ hk]
    | true =>
      by_cases h8 : r1.length < 8
      · rw [decodeFull_short max hk h8] at h
        exact (hmore r1 h).elim
      · obtain ⟨hdr, r2, rfl, hl⟩ := exists_header h8
        rw [List.append_assoc, decodeFull_header max (r2 ++ x) hk hl]
        rw [decodeFull_header max r2 hk hl] at h ⊢
        simp only at h ⊢
        by_cases h1 : toInt64 (unbe64 hdr) > (max : Int)
        · rw [if_pos h1, if_pos h1]
        by_cases h2 : toInt64 (unbe64 hdr) < 0
        · rw [if_neg h1, if_pos h2, if_neg h1, if_pos h2]
        -- the length is in range: a whole body would be no error
        rw [if_neg h1, if_neg h2] at h
        by_cases h3 : r2.length < (toInt64 (unbe64 hdr)).toNat
        · rw [if_pos h3] at h
          exact (hmore r2 h).elim
        · rw [if_neg h3] at h
          cases h

theorem readStep_msg_stable (e : Env) (o : Oracle) (hmax : e.max < 9223372036854775808) (inp x : Str)
    (hb : IsBytes inp) (s : String) (body rest : Str) (c : Nat) (h : readStep e o inp = .msg s body rest c) :
    readStep e o (inp ++ x) = .msg s body (rest ++ x) c
      ∧ inp = (encode (inp.headD 0) body) ++ rest ∧ c = 9 + body.length := by
  obtain ⟨-, -, t, hinp, hs, hlen, hok, hnn, hc⟩ := readStep_msg_inv hmax hb h
  refine ⟨?_, ?_, hc⟩
  · rw [hinp, List.append_assoc, hc]
    exact readStep_good e o t s body (rest ++ x) hs hlen hmax hok hnn
  · have : inp.headD 0 = t := by rw [hinp]; simp [encode]
    rw [this]; exact hinp

theorem readStep_reject_stable (e : Env) (o : Oracle) (hmax : e.max < 9223372036854775808) (inp x : Str)
    (hb : IsBytes inp) (c : Nat) (h : readStep e o inp = .reject c) :
    readStep e o (inp ++ x) = .reject c ∧ c ≤ inp.length := by
  have hle := (decode_bounded e.max e.known inp).2
  rw [readStep_eq] at h
  cases hd : decodeFull e.max e.known inp with | mk res c' a =>
  rw [hd] at h hle
  cases res with
  | err er =>
    -- a definite framing error
    simp only at h hle
    split at h
    · cases h
    · rename_i hn
      injection h with h
      subst h
      have hn := eq_false_of_ne_true hn
      exact ⟨readStep_err o ((decodeFull_err_stable e.max e.known inp x er (by rw [hd]) hn).trans hd) hn, hle⟩
  | ok t body rest =>
    -- a whole frame with a body that is refused
    obtain ⟨hk, hlen, hinp, hc, -⟩ := decode_ok_sound e.max e.known inp t body rest hb hmax (by rw [hd])
    obtain ⟨s, hs⟩ := Option.isSome_iff_exists.mp hk
    rw [hd] at hc
    simp only [hs] at h hle hc
    split at h
    · cases h
    · rename_i hbad
      injection h with h
      subst h hc
      have hbad' : bodyOk e o s body = false ∨ isNullLit body = true := by
        cases h1 : bodyOk e o s body <;> cases h2 : isNullLit body <;> simp_all
      refine ⟨?_, hle⟩
      rw [hinp, List.append_assoc]
      exact readStep_bad_body e o t s body (rest ++ x) hs hlen hmax hbad'

/-- with more fuel than bytes the result of the read loop does not depend on the fuel -/
theorem readLoop_fuel (e : Env) (o : Oracle) (hmax : e.max < 9223372036854775808) :
    ∀ (n m : Nat) (d : Disp), d.buf.length < n → d.buf.length < m → IsBytes d.buf →
      readLoop e o n d = readLoop e o m d := by
  intro n
  induction n with
  | zero => intro m d h; omega
  | succ n ih =>
    intro m d hn hm hb
    cases m with
    | zero => omega
    | succ m =>
      simp only [readLoop]
      split
      · rfl
      · cases hr : readStep e o d.buf with
        | wait c => rfl
        | reject c => rfl
        | msg s body rest c =>
          simp only
          obtain ⟨hrb, hl, -⟩ := readStep_msg_inv hmax hb hr
          have hf := dispatch_fields { d with buf := rest, consumed := d.consumed + c } s body
          apply ih
          · rw [hf.1]; simp only; omega
          · rw [hf.1]; simp only; omega
          · rw [hf.1]; exact hrb

theorem readLoop_append (e : Env) (o : Oracle) (hmax : e.max < 9223372036854775808) (x : Str) :
    ∀ (n : Nat) (d : Disp), d.buf.length < n → IsBytes d.buf → IsBytes x → d.peerClosed = false →
      readLoop e o ((readLoop e o n d).buf.length + x.length + 1)
          { readLoop e o n d with buf := (readLoop e o n d).buf ++ x }
        = readLoop e o (n + x.length) { d with buf := d.buf ++ x } := by
  intro n
  induction n with
  | zero => intro d h; omega
  | succ n ih =>
    intro d hn hb hx hp
    have hbx : IsBytes (d.buf ++ x) := isBytes_append hb hx
    have hfuel : n + 1 + x.length = (n + x.length) + 1 := by omega
    by_cases hd : d.done = true
    · simp only [readLoop_done, hd]
    · have hd := eq_false_of_ne_true hd
      cases hr : readStep e o d.buf with
      | wait c =>
        -- nothing was consumed: only the fuel differs
        rw [readLoop_wait e o (n + 1) d c hd hp hr]
        apply readLoop_fuel e o hmax
        · simp only [List.length_append]; omega
        · simp only [List.length_append]; omega
        · exact hbx
      | reject c =>
        obtain ⟨hst, hcl⟩ := readStep_reject_stable e o hmax d.buf x hb c hr
        rw [readLoop_reject e o n d hd hr, hfuel, readLoop_reject e o _ { d with buf := d.buf ++ x } hd hst]
        simp only [readLoop_done, List.drop_append_of_le_length hcl]
      | msg s body rest c =>
        obtain ⟨hst, -, -⟩ := readStep_msg_stable e o hmax d.buf x hb s body rest c hr
        obtain ⟨hrb, hl, -⟩ := readStep_msg_inv hmax hb hr
        have hf := dispatch_fields { d with buf := rest, consumed := d.consumed + c } s body
        rw [readLoop_msg e o n d hd hr, hfuel, readLoop_msg e o _ { d with buf := d.buf ++ x } hd hst,
          ih _ (by rw [hf.1]; simp only; omega) (by rw [hf.1]; exact hrb) hx (hf.2.2.1.trans hp)]
        congr 1
        simp only [dispatch, target]
        split <;> rfl

/-- CHUNKING: the peer's bytes arriving in two writes `a`, `b` (cut anywhere — in the middle of a header, of
    a body, between frames) leave the dispatcher in the same state as their arrival in one write; by
    induction the same for any number of writes -/
theorem recv_append (e : Env) (o : Oracle) (hmax : e.max < 9223372036854775808) (d : Disp) (a b : Str)
    (hp : d.peerClosed = false) (hbuf : IsBytes d.buf) (ha : IsBytes a) (hb : IsBytes b) :
    step e o (step e o d (.recv a)) (.recv b) = step e o d (.recv (a ++ b)) := by
  have hba : IsBytes (d.buf ++ a) := isBytes_append hbuf ha
  have hp1 : (readLoop e o (d.buf.length + a.length + 1) { d with buf := d.buf ++ a }).peerClosed = false :=
    (readLoop_fields e o _ _).1.trans hp
  rw [step_recv e o d a hp, step_recv e o d (a ++ b) hp, step_recv e o _ b hp1,
    readLoop_append e o hmax b _ { d with buf := d.buf ++ a } (by simp only [List.length_append]; omega) hba hb hp]
  simp only [List.append_assoc]
  apply readLoop_fuel e o hmax
  · simp only [List.length_append]; omega
  · simp only [List.length_append]; omega
  · simp only; rw [← List.append_assoc]; exact isBytes_append hba hb

/-! ### the executable predicate, evaluated by the driver on what the REAL dispatcher did -/

/-- what the harness observes of one real `msg.Dispatcher` fed a byte stream: the handler calls in call
    order (which registered func, struct of the message), whether `Done()` is closed once the stream has
    been taken in, and how many bytes the dispatcher took from the connection -/
structure DObs where
  calls : List (Nat × String)
  done : Bool
  consumed : Nat
  deriving DecidableEq, Repr

def erase (l : List Delivery) : List (Nat × String) := l.map (fun x => (x.handler, x.sname))

/-- The property on one observed run: the handler calls are exactly those of the accepted prefix, in
    order; `Done` is closed iff the prefix is followed by something `ReadMsg` rejects (then exactly the
    prefix and the rejected bytes were consumed and NOTHING of the rejected frame or after it was
    dispatched); otherwise the session is kept and exactly the prefix was consumed -/
def DispSpec (e : Env) (o : Oracle) (hs : List (String × Nat)) (df : Option Nat) (stream : Str) (ob : DObs) : Prop :=
  ∃ gs rest c, stream = frames gs ++ rest ∧ (∀ g ∈ gs, Good e o g)
    ∧ ob.calls = erase (deliveries e hs df gs)
    ∧ ((readStep e o rest = .reject c ∧ ob.done = true ∧ ob.consumed = (frames gs).length + c)
       ∨ (readStep e o rest = .wait c ∧ ob.done = false ∧ ob.consumed = (frames gs).length + c))

def dispHoldsOn (e : Env) (o : Oracle) (hs : List (String × Nat)) (df : Option Nat) (stream : Str) (ob : DObs) : Bool :=
  let d' := step e o { handlers := hs, dflt := df } (.recv stream)
  ob.calls == erase d'.log && ob.done == d'.done && ob.consumed == taken e o d'

theorem dispHoldsOn_sound (e : Env) (o : Oracle) (hmax : e.max < 9223372036854775808)
    (hs : List (String × Nat)) (df : Option Nat) (stream : Str) (ob : DObs) (hb : IsBytes stream)
    (h : dispHoldsOn e o hs df stream ob = true) : DispSpec e o hs df stream ob := by
  obtain ⟨gs, rest, c, h1, h2, h3⟩ := stream_decomposition e o hmax stream.length stream (Nat.le_refl _) hb
  simp only [dispHoldsOn, Bool.and_eq_true, beq_iff_eq] at h
  obtain ⟨⟨hc, hd⟩, hn⟩ := h
  refine ⟨gs, rest, c, h1, h2, ?_⟩
  rw [hc, hd, hn, h1]
  rcases h3 with h3 | h3
  · obtain ⟨k1, k2, -, -, -, k6⟩ :=
      reject_ends_session e o hmax { handlers := hs, dflt := df } gs rest c h2 rfl rfl rfl h3
    exact ⟨by rw [k2]; rfl, Or.inl ⟨h3, k1, by rw [k6]; simp⟩⟩
  · obtain ⟨k1, k2, -, -, k5⟩ :=
      wellformed_keeps_session e o hmax { handlers := hs, dflt := df } gs rest c h2 rfl rfl rfl h3
    exact ⟨by rw [k2]; rfl, Or.inr ⟨h3, k1, by rw [k5]; simp⟩⟩

/-- Handlers wrapped in `msg.AsyncHandler` (`func(m) { go f(m) }`; frps: the three nat-hole messages, frpc:
    ReqWorkConn): every call runs on a goroutine of its own, so the calls are observed as a MULTISET.  The
    property is the same with "in order" weakened to "up to a permutation": still exactly one call per accepted
    frame, to the handler of its type, none for the rejected frame or anything after it. -/
def DispSpecAsync (e : Env) (o : Oracle) (hs : List (String × Nat)) (df : Option Nat) (stream : Str) (ob : DObs) : Prop :=
  ∃ gs rest c, stream = frames gs ++ rest ∧ (∀ g ∈ gs, Good e o g)
    ∧ ob.calls.Perm (erase (deliveries e hs df gs))
    ∧ ((readStep e o rest = .reject c ∧ ob.done = true ∧ ob.consumed = (frames gs).length + c)
       ∨ (readStep e o rest = .wait c ∧ ob.done = false ∧ ob.consumed = (frames gs).length + c))

def dispHoldsOnAsync (e : Env) (o : Oracle) (hs : List (String × Nat)) (df : Option Nat) (stream : Str) (ob : DObs) : Bool :=
  let d' := step e o { handlers := hs, dflt := df } (.recv stream)
  ob.calls.isPerm (erase d'.log) && ob.done == d'.done && ob.consumed == taken e o d'

theorem dispHoldsOnAsync_sound (e : Env) (o : Oracle) (hmax : e.max < 9223372036854775808)
    (hs : List (String × Nat)) (df : Option Nat) (stream : Str) (ob : DObs) (hb : IsBytes stream)
    (h : dispHoldsOnAsync e o hs df stream ob = true) : DispSpecAsync e o hs df stream ob := by
  simp only [dispHoldsOnAsync, Bool.and_eq_true, beq_iff_eq] at h
  obtain ⟨⟨hc, hd⟩, hn⟩ := h
  have hsync : dispHoldsOn e o hs df stream
      ⟨erase (step e o { handlers := hs, dflt := df } (.recv stream)).log, ob.done, ob.consumed⟩ = true := by
    simp [dispHoldsOn, hd, hn]
  obtain ⟨gs, rest, c, h1, h2, h3, h4⟩ := dispHoldsOn_sound e o hmax hs df stream _ hb hsync
  refine ⟨gs, rest, c, h1, h2, ?_, h4⟩
  rw [← h3]
  exact List.isPerm_iff.mp hc

/-- the model's own run always meets the property (for every handler table, stream and oracle) -/
theorem model_dispHolds (e : Env) (o : Oracle) (hmax : e.max < 9223372036854775808)
    (hs : List (String × Nat)) (df : Option Nat) (stream : Str) (hb : IsBytes stream) :
    let d' := step e o { handlers := hs, dflt := df } (.recv stream)
    DispSpec e o hs df stream ⟨erase d'.log, d'.done, taken e o d'⟩ :=
  dispHoldsOn_sound e o hmax hs df stream _ hb (by simp [dispHoldsOn])

/-! ## 4. the send side: FIFO, nothing invented, nothing reordered -/

def SendInv (d : Disp) : Prop := d.wire ++ d.sendq = d.accepted

/-- for every op sequence: what has been written to the connection followed by what still waits in
    `sendCh` is exactly the sequence of messages `Send` accepted, in the order of the `Send` calls -/
theorem send_fifo (e : Env) (o : Oracle) (ops : List Op) (d : Disp) (h : SendInv d) :
    SendInv (run e o d ops) := by
  refine foldl_invariant h fun d op _ h => ?_
  unfold SendInv at h ⊢
  cases op with
  | register s hh => exact h
  | registerDefault hh => exact h
  | recv bytes =>
    simp only [step]
    split
    · exact h
    · have := readLoop_fields e o (d.buf.length + bytes.length + 1) { d with buf := d.buf ++ bytes }
      rw [this.2.1, this.2.2.1, this.2.2.2]; exact h
  | peerClose =>
    simp only [step]
    have := readLoop_fields e o 1 { d with peerClosed := true }
    rw [this.2.1, this.2.2.1, this.2.2.2]; exact h
  | send frame ok =>
    simp only [step]
    split
    · simp only [← h, List.append_assoc]
    · exact h
  | pump =>
    simp only [step]
    split
    · exact h
    · split
      · exact h
      · rename_i m q hq
        rw [hq] at h
        simp only [← h, List.append_assoc, List.singleton_append]
  | senderExit =>
    simp only [step]
    split <;> exact h

/-- before `Done`, with room in `sendCh`, `Send` cannot fail; after the loop ended AND `sendCh` is full it
    cannot succeed -/
theorem send_outcomes (d : Disp) :
    (d.done = false → sendAllowed d false = false)
    ∧ (sendCap ≤ d.sendq.length → sendAllowed d true = false) := by
  refine ⟨fun h => by simp [sendAllowed, h], fun h => ?_⟩
  simp only [sendAllowed, if_true, decide_eq_false_iff_not]
  omega

/-! ## 4b. the nat-hole message codec: encode ∘ encrypt, decrypt ∘ ReadMsgInto -/

/-- for EVERY cipher that decrypts what it encrypted: a message of a registered type with a body within the
    bound that fits the receiver's struct comes back, consuming exactly the frame, nothing left over -/
theorem nh_roundtrip (e : Env) (o : Oracle) (c : Cipher) (key iv : Str) (t : Nat) (s : String) (body : Str)
    (hc : ∀ p, c.dec key (c.enc key iv p) = some p)
    (hk : e.known t = true) (hl : body.length ≤ e.max) (hmax : e.max < 9223372036854775808)
    (hok : intoOk e o s body = true) :
    nhDecodeInto e o c key s (nhEncode c key iv t body) = .ok body [] (9 + body.length) := by
  have hd := decode_encode e.max e.known t body [] hk hl hmax
  rw [List.append_nil] at hd
  simp only [nhDecodeInto, nhEncode, hc, intoStep, hd, hok, if_true]

/-- whatever the decrypted bytes are (wrong key, tampered or truncated data): a message only when they start
    with a well-formed frame of a registered type whose body fits the receiver's struct — otherwise an error -/
theorem nh_decode_sound (e : Env) (o : Oracle) (c : Cipher) (key : Str) (s : String) (data body rest : Str) (n : Nat)
    (hmax : e.max < 9223372036854775808)
    (h : nhDecodeInto e o c key s data = .ok body rest n) :
    ∃ p t, c.dec key data = some p ∧ (IsBytes p → p = encode t body ++ rest ∧ e.known t = true ∧ body.length ≤ e.max)
      ∧ intoOk e o s body = true := by
  unfold nhDecodeInto at h
  cases hp : c.dec key data with
  | none => rw [hp] at h; cases h
  | some p =>
    rw [hp] at h
    simp only [intoStep] at h
    cases hres : (decodeFull e.max e.known p).res with
    | err er => rw [hres] at h; cases h
    | ok t body' rest' =>
      rw [hres] at h
      simp only at h
      split at h
      · rename_i hok
        injection h with h1 h2 h3
        subst h1; subst h2
        refine ⟨p, t, rfl, ?_, hok⟩
        intro hb
        obtain ⟨hk, hl, hinp, _, _⟩ := decode_ok_sound e.max e.known p t body' rest' hb hmax hres
        exact ⟨hinp, hk, hl⟩
      · cases h

/-! ## 5. the released protocol (registry and field table regenerated from pkg/msg/msg.go) -/

def env : Env := ⟨Gen.MsgSchema.registry, schema, maxLen⟩

theorem env_structOf (t : Nat) : env.structOf t = structOf t := rfl
theorem env_max : env.max < 9223372036854775808 := by decide

/-! ### non-vacuity: well-typed and ill-typed frames, on the real table -/

def exPing : Str := Str.ofString "{\"timestamp\":1}"
def exPingBad : Str := Str.ofString "{\"privilege_key\":\"k\",\"timestamp\":\"1700000000\"}"
def exProxyBad : Str := Str.ofString "{\"proxy_name\":\"p\",\"remote_port\":\"6000\"}"
def exLoginBad : Str := Str.ofString "{\"client_spec\":{\"always_auth_pass\":\"yes\"}}"
def exPortRange : Str := Str.ofString "{\"src_port\":65536}"

def exTable : List (Str × J) :=
  [ (exPing, .obj [(Str.ofString "timestamp", .num 1)]),
    (exPingBad, .obj [(Str.ofString "privilege_key", .str [107]), (Str.ofString "timestamp", .str (Str.ofString "1700000000"))]),
    (exProxyBad, .obj [(Str.ofString "proxy_name", .str [112]), (Str.ofString "remote_port", .str (Str.ofString "6000"))]),
    (exLoginBad, .obj [(Str.ofString "client_spec", .obj [(Str.ofString "always_auth_pass", .str (Str.ofString "yes"))])]),
    (exPortRange, .obj [(Str.ofString "src_port", .num 65536)]) ]

def exOracle : Oracle := ⟨fun b => exTable.lookup b, fun _ => true⟩

def exDisp : Disp := { handlers := [("Ping", 1), ("NewProxy", 2)], dflt := some 0 }

-- (the example bodies, the oracle's keys and the field names are string literals: `Str.ofString_eq` is what the
-- kernel evaluates them through)
-- a good Ping is accepted and handed to the Ping handler; the session stays
example : Good env exOracle (104, exPing) := ⟨"Ping", by decide +kernel, by decide +kernel, by decide +kernel, by decide +kernel⟩
example : (step env exOracle exDisp (.recv (encode 104 exPing))).log = [⟨1, "Ping", exPing⟩]
    ∧ (step env exOracle exDisp (.recv (encode 104 exPing))).done = false := by
  simp only [env, schema, exOracle, exTable, exPing, Str.ofString_eq]
  decide +kernel
-- a string where the protocol has an int64 / an int / a nested bool, an out-of-range uint16: rejected
example : bodyOk env exOracle "Ping" exPingBad = false ∧ bodyOk env exOracle "NewProxy" exProxyBad = false
    ∧ bodyOk env exOracle "Login" exLoginBad = false ∧ bodyOk env exOracle "StartWorkConn" exPortRange = false := by
  simp only [env, schema, exOracle, exTable, exPing, exPingBad, exProxyBad, exLoginBad, exPortRange, Str.ofString_eq]
  decide +kernel
-- Ping, then NewProxy with `"remote_port":"6000"`, then another good Ping: one call, Done closed, the
-- third frame is never read (consumed = first two frames)
example :
    let d := step env exOracle exDisp (.recv (encode 104 exPing ++ encode 112 exProxyBad ++ encode 104 exPing))
    d.log = [⟨1, "Ping", exPing⟩] ∧ d.done = true
      ∧ d.consumed = (encode 104 exPing).length + (encode 112 exProxyBad).length := by
  simp only [env, schema, exOracle, exTable, exPing, exPingBad, exProxyBad, Str.ofString_eq]
  decide +kernel
-- the type check accepts what the encoder writes for a (three-level) message value
example : (match toObj2 schema "NatHoleResp" sampleResp with
    | .obj ms => fits2 (fun _ => true) schema "NatHoleResp" ms
    | _ => false) = true := by
  simp only [schema, Str.ofString_eq]
  decide +kernel
-- a message without a registered handler goes to the default handler; without one, to nobody
example : (step env exOracle exDisp (.recv (encode 52 exPing))).log = [⟨0, "Pong", exPing⟩] := by
  simp only [env, schema, exOracle, exTable, exPing, Str.ofString_eq]
  decide +kernel
example : (step env exOracle { exDisp with dflt := none } (.recv (encode 52 exPing))).log = [] := by
  simp only [env, schema, exOracle, exTable, exPing, Str.ofString_eq]
  decide +kernel
-- delivery in two chunks, split in the middle of the header, gives the same result
example : run env exOracle exDisp [.recv ((encode 104 exPing).take 4), .recv ((encode 104 exPing).drop 4)]
    = step env exOracle exDisp (.recv (encode 104 exPing)) := by
  simp only [env, schema, exOracle, exTable, exPing, Str.ofString_eq]
  decide +kernel
-- the predicate is not trivially true: it rejects a run that dispatched the half-decoded NewProxy
example : dispHoldsOn env exOracle exDisp.handlers exDisp.dflt (encode 104 exPing ++ encode 112 exProxyBad)
    ⟨[(1, "Ping")], true, (encode 104 exPing).length + (encode 112 exProxyBad).length⟩ = true := by
  simp only [env, schema, exOracle, exTable, exPing, exPingBad, exProxyBad, Str.ofString_eq]
  decide +kernel
example : dispHoldsOn env exOracle exDisp.handlers exDisp.dflt (encode 104 exPing ++ encode 112 exProxyBad)
    ⟨[(1, "Ping"), (2, "NewProxy")], false, (encode 104 exPing).length + (encode 112 exProxyBad).length⟩ = false := by
  simp only [env, schema, exOracle, exTable, exPing, exPingBad, exProxyBad, Str.ofString_eq]
  decide +kernel

end C17
end Frp
