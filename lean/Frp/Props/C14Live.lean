import Frp.Model.SessLive
import Frp.Model.HbConf
import Frp.Props.C14Heal
import Frp.Gen.SessFacts
/-
  C14, parts I and J (imported by Frp/Props/C14.lean).

  Part I: a dead session is torn down WITH LIVE TRAFFIC -- the teardown of `worker()` neither waits for nor depends on
          the user connections that are being served through the session's proxies when the peer falls silent or
          the connection is cut (Frp/Model/SessLive.lean over Frp/Model/SessEnd.lean); were `pxy.Close()` to wait for
          the connection handlers, one idle user connection bridged to a silent peer keeps the name, the port and the
          session for ever.
  Part J: the timeout a watchdog applies is the timeout WRITTEN in the configuration: `Complete` only fills in what is
          not written (Frp/Model/HbConf.lean; the statements of the two Complete methods are read from the source).
-/
namespace Frp
namespace C14

section PartI
open SessLive

/-! ## Part I — teardown with live user connections (server/proxy/proxy.go, server/control.go) -/

theorem step_closeWaits (s : St) (l : Lbl) : (step s l).closeWaits = s.closeWaits := by
  cases l with
  | base b => cases b <;> simp only [step] <;> (try split) <;> rfl
  | userConn p => simp only [step]; split <;> rfl
  | userEnd i => rfl

/-- **Nothing the session does ends a user connection**: every step of the peer, the read loop, the handler, the
    watchdog and `worker()` -- the teardown included -- leaves the connections being served as they are. -/
theorem base_step_live (s : St) (l : SessEnd.Lbl) : (step s (.base l)).live = s.live := by
  cases l <;> simp only [step] <;> (try split) <;> rfl

theorem step_base_refines (s : St) (h : s.closeWaits = false) (l : SessEnd.Lbl) :
    (step s (.base l)).base = SessEnd.step s.base l := by
  cases l <;> simp only [step, walkBlocked, h, Bool.false_and, Bool.and_false, Bool.false_eq_true, if_false]

theorem step_user_base (s : St) (l : Lbl) (h : ∀ b, l ≠ .base b) : (step s l).base = s.base := by
  cases l with
  | base b => exact absurd rfl (h b)
  | userConn p => simp only [step]; split <;> rfl
  | userEnd i => rfl

/-- **Without a wait in `Close`, live traffic is invisible to the teardown**: for every schedule of the session and
    of its users (connecting, staying, leaving, in any order) the session part of the state is the one the
    session-end model reaches on the session's own steps. -/
theorem live_refines : ∀ (ls : List Lbl) (s : St), s.closeWaits = false →
    (run s ls).base = SessEnd.run s.base (lower ls) := by
  intro ls
  induction ls with
  | nil => intro s _; rfl
  | cons l ls ih =>
    intro s h
    have h' : (step s l).closeWaits = false := by rw [step_closeWaits]; exact h
    cases l with
    | base b =>
      simp only [run, lower, SessEnd.run]
      rw [ih _ h', step_base_refines s h b]
    | _ =>
      simp only [run, lower]
      rw [ih _ h', step_user_base s _ (by intro b hb; cases hb)]

/-- **A torn-down session holds nothing, whatever traffic it carried.**  For every interleaving of the peer, the read
    loop, the NewProxy handler, the watchdog, `worker()` AND users connecting to / staying on / leaving the session's
    remote ports: once `worker()` has walked `ctl.proxies`, no remote port and no proxy name of the session is left. -/
theorem live_teardown_releases (ls : List Lbl) :
    (run (SessLive.init false false) ls).base.torn = true →
      SessEnd.Released (run (SessLive.init false false) ls).base := by
  rw [live_refines ls _ rfl]
  exact teardown_releases (lower ls)

theorem map_base (bs : List SessEnd.Lbl) : lower (bs.map Lbl.base) = bs ∧ noUserEnd (bs.map Lbl.base) = true := by
  induction bs with
  | nil => exact ⟨rfl, rfl⟩
  | cons b bs ih => simp only [List.map, lower, noUserEnd, ih, and_self]

theorem run_base_live : ∀ (bs : List SessEnd.Lbl) (s : St), (run s (bs.map Lbl.base)).live = s.live := by
  intro bs
  induction bs with
  | nil => intro s; rfl
  | cons b bs ih => intro s; simp only [List.map, run]; rw [ih, base_step_live]

/-- **The teardown does not depend on user connections ending.**  From every reachable state of a session whose
    connection has ended (silence + watchdog, or a cut), with ANY number of user connections still bridged to work
    connections the silent peer keeps open, the session's own goroutines reach the end of `worker()` in at most
    4 + 2 steps; the schedule contains no end of a user connection, every user connection is still there afterwards,
    and nothing of the session is held. -/
theorem teardown_reached_live (s : St) (hw : s.closeWaits = false) (h : SInv s.base)
    (hc : s.base.connOpen = false) :
    let fin := (finish s.base.reader).map Lbl.base
    (run s fin).base.torn = true ∧ SessEnd.Released (run s fin).base ∧ (run s fin).live = s.live ∧
      noUserEnd fin = true ∧ fin.length ≤ 6 := by
  intro fin
  have hb : (run s fin).base = SessEnd.run s.base (finish s.base.reader) := by
    show (run s ((finish s.base.reader).map Lbl.base)).base = _
    rw [live_refines _ s hw, (map_base _).1]
  have ht := teardown_reached s.base h hc
  refine ⟨hb ▸ ht.1, hb ▸ ht.2.1, run_base_live _ s, (map_base _).2, ?_⟩
  show ((finish s.base.reader).map Lbl.base).length ≤ 6
  rw [List.length_map]; exact ht.2.2

/-! ### a `Close` that waits for the connection handlers -/

/-- the walk of `worker()` is about to start (the read loop has exited), `p` is a registered proxy of the session
    with a user connection inside `libio.Join`, and `pxy.Close()` waits for the handlers -/
structure Stuck (s : St) (p : Nat) : Prop where
  waits : s.closeWaits = true
  done : s.base.dispDone = true
  exited : s.base.reader = .exited
  notTorn : s.base.torn = false
  liveOn : p ∈ s.live
  inCtl : p ∈ s.base.res.ctlPx
  inMgr : p ∈ s.base.res.mgr

theorem adv_keeps (t : SessEnd.Res) (r : SessEnd.Reg) (f : Bool) (p : Nat) :
    (p ∈ t.ctlPx → p ∈ (SessEnd.adv t r f).1.ctlPx) ∧ (p ∈ t.mgr → p ∈ (SessEnd.adv t r f).1.mgr) := by
  obtain ⟨n, ph⟩ := r
  cases ph with
  | plug => simp only [SessEnd.adv]; split <;> exact ⟨id, id⟩
  | checked => simp only [SessEnd.adv]; split <;> exact ⟨id, id⟩
  | ran =>
    simp only [SessEnd.adv]
    split
    · exact ⟨id, id⟩
    · exact ⟨id, List.mem_cons_of_mem _⟩
  | added => exact ⟨List.mem_cons_of_mem _, id⟩

theorem stuck_step (s : St) (p : Nat) (h : Stuck s p) (l : Lbl) (hl : ∀ i, l ≠ .userEnd i) : Stuck (step s l) p := by
  cases l with
  | userEnd i => exact absurd rfl (hl i)
  | userConn q =>
    simp only [step]
    split
    · exact { h with liveOn := List.mem_append_left _ h.liveOn }
    · exact h
  | base b =>
    cases b with
    | teardown =>
      have hb : walkBlocked s = true := by
        simp only [walkBlocked, h.waits, Bool.true_and, List.any_eq_true]
        exact ⟨p, h.liveOn, by simp [h.inCtl]⟩
      have : step s (.base .teardown) = s := by
        simp only [step, h.done, h.notTorn, hb, Bool.not_false, Bool.and_self, if_true]
      rw [this]; exact h
    | send m =>
      -- `{ h with }`: `Stuck` reads none of the fields the step writes
      simp only [step, SessEnd.step]
      split <;> exact { h with }
    | cut => exact { h with }
    | read e =>
      have : SessEnd.step s.base (.read e) = s.base := by simp only [SessEnd.step, h.exited]
      simp only [step, this]
      exact { h with }
    | adv f =>
      have : SessEnd.step s.base (.adv f) = s.base := by simp only [SessEnd.step, h.exited]
      simp only [step, this]
      exact { h with }
    | advFly i f =>
      simp only [step, SessEnd.step]
      split
      · rename_i r _
        have hk := adv_keeps s.base.res r f p
        split <;> exact { h with inCtl := hk.1 h.inCtl, inMgr := hk.2 h.inMgr }
      · exact { h with }

/-- **A `Close` that waits for its connection handlers never lets go of a silent peer's session.**  Once the walk is
    stuck at a proxy with a live user connection, EVERY schedule in which that user stays (and a silent peer never
    ends the connection from its side) leaves the session not torn down, the proxy's name taken and the session's
    bookkeeping in place -- for ever: every extension of such a schedule is such a schedule. -/
theorem close_waits_stuck : ∀ (ls : List Lbl) (s : St) (p : Nat), Stuck s p → noUserEnd ls = true →
    Stuck (run s ls) p ∧ (run s ls).base.torn = false ∧ ¬ SessEnd.Released (run s ls).base := by
  intro ls
  induction ls with
  | nil =>
    intro s p h _
    refine ⟨h, h.notTorn, ?_⟩
    intro hr
    have hm : s.base.res.mgr = [] := hr.2
    have := h.inMgr
    rw [hm] at this
    cases this
  | cons l ls ih =>
    intro s p h hn
    cases l with
    | userEnd i => simp [noUserEnd] at hn
    | _ => exact ih _ p (stuck_step s p h _ (by intro i hi; cases hi)) (by simpa [noUserEnd] using hn)

/-- the scenario: a proxy is registered, a user connects and stays, the peer falls silent (the
    watchdog cuts the connection), the read fails, `worker()` tries to walk -- as often as one likes -/
def silentPeerWithUser : List Lbl :=
  [.base (.send (.newProxy 1)), .base (.read false), .base (.adv false), .base (.adv false), .base (.adv false),
   .base (.adv false), .userConn 1, .base .cut, .base (.read true), .base .teardown, .base .teardown, .base .teardown]

/-- **Witness (the stuck state is reachable).**  With a waiting `Close` the schedule above ends with the session not
    torn down, name and port still taken; with frp's `Close` the same schedule ends torn down with nothing held. -/
theorem close_waits_witness :
    let w := run (SessLive.init true false) silentPeerWithUser
    let ok := run (SessLive.init false false) silentPeerWithUser
    (w.base.torn = false ∧ w.base.res.mgr = [1] ∧ w.base.res.bound = [1] ∧ w.live = [1]) ∧
    (ok.base.torn = true ∧ ok.base.res.mgr = [] ∧ ok.base.res.bound = []) := by decide

/-- **Observation: the user connections of a dead session outlive it.**  Nothing in `worker()` /
    `Close()` ends a connection that is bridged to a work connection of a silent peer: after the teardown the user
    connection of the schedule above is still being served.  (The property's "all resources released" is stated and
    observed for the session's names, ports and table entries.) -/
theorem live_conns_survive_witness :
    let ok := run (SessLive.init false false) silentPeerWithUser
    ok.base.torn = true ∧ ok.live = [1] := by decide

/-! ### tie to the source (translate/gen_sessfacts_live.go, regenerated on every run) -/

/-- some `Close` method of server/proxy/*.go, or `worker()` after `Done()`, contains a wait (channel receive, select,
    Wait / WaitClosed / Join / Sleep call, range over a channel other than the drained pool) -/
def codeCloseWaits : Bool :=
  Gen.SessFacts.proxyCloseWaits.any (fun x => !x.2.isEmpty) || !Gen.SessFacts.workerWaitsAfterDone.isEmpty ||
    !Gen.SessFacts.workerDrainsClosedPool

/-- in the source at hand: no `Close` of a server proxy and nothing in `worker()`'s walk waits; connection handlers
    are goroutines of their own -/
theorem code_close_no_wait :
    codeCloseWaits = false ∧ Gen.SessFacts.handlerSpawned = true ∧
      (Gen.SessFacts.proxyCloseWaits.lookup "BaseProxy") = some [] := by
  decide +kernel

/-- `live_teardown_releases` for the `Close` and the handler registration found in the source -/
theorem live_teardown_releases_code (ls : List Lbl) :
    (run (SessLive.init codeCloseWaits codeAsync) ls).base.torn = true →
      SessEnd.Released (run (SessLive.init codeCloseWaits codeAsync) ls).base := by
  rw [code_close_no_wait.1, code_handlers_plain.1]
  exact live_teardown_releases ls

/-! ### non-vacuity -/

-- a session with two proxies, three users on them, a cut: torn down in the model with every user still connected
example :
    let s := run (SessLive.init false false)
      [.base (.send (.newProxy 1)), .base (.read false), .base (.adv false), .base (.adv false), .base (.adv false),
       .base (.adv false), .userConn 1, .userConn 1, .base (.send (.newProxy 2)), .base (.read false),
       .base (.adv false), .base (.adv false), .userConn 2, .base .cut]
    SInv s.base ∧ s.base.connOpen = false ∧ s.live = [1, 1, 2] ∧ s.base.res.bound = [2, 1] := by
  refine ⟨?_, by decide, by decide, by decide⟩
  rw [live_refines _ _ rfl]
  exact sinv_run _ _ sinv_init

-- `Stuck` is met by the state the witness schedule reaches before the walk
example : Stuck (run (SessLive.init true false) (silentPeerWithUser.take 9)) 1 := by
  refine ⟨by decide, by decide, by decide, by decide, by decide, by decide, by decide⟩

end PartI

section PartJ
open Watchdog HbConf

/-! ## Part J — the configured timeout is the written timeout (pkg/config/v1/client.go, server.go: Complete) -/

/-! the two `Complete` methods in terms of `util.EmptyOr`, as the source writes them -/

theorem clientComplete_eq (mux : Bool) (i t : Int) :
    clientComplete mux i t = (emptyOr i (if mux then -1 else 30), emptyOr t (if mux then -1 else 90)) := by
  cases mux <;> rfl

theorem serverComplete_eq (mux : Bool) (t : Int) : serverComplete mux t = emptyOr t (if mux then -1 else 90) := by
  cases mux <;> rfl

/-- **`Complete` never changes a written value**: a non-zero interval / timeout comes out as it went in, tcpMux or
    not; only what is not written is filled in. -/
theorem complete_keeps_written (mux : Bool) (i t : Int) :
    (i ≠ 0 → (clientComplete mux i t).1 = i) ∧ (t ≠ 0 → (clientComplete mux i t).2 = t) ∧
      (t ≠ 0 → serverComplete mux t = t) := by
  rw [clientComplete_eq, serverComplete_eq]
  exact ⟨fun h => if_neg h, fun h => if_neg h, fun h => if_neg h⟩

/-- **The client's watchdog is the one of the written values**: with a positive written interval and timeout the
    checker runs with exactly the written timeout, whatever tcpMux says. -/
theorem client_cfg_written (mux : Bool) (i t : Int) (u : Nat) (hi : 0 < i) (ht : 0 < t) :
    clientCfg (clientComplete mux i t).1 (clientComplete mux i t).2 u =
      { enabled := true, T := t.toNat * u, closeOnBad := true } := by
  have h := complete_keeps_written mux i t
  rw [h.1 (by omega), h.2.1 (by omega)]
  simp [clientCfg, hi, ht]

theorem server_cfg_written (mux : Bool) (t : Int) (u : Nat) (ht : 0 < t) :
    serverCfg (serverComplete mux t) u = { enabled := true, T := t.toNat * u, closeOnBad := false } := by
  rw [(complete_keeps_written mux 0 t).2.2 (by omega)]
  simp [serverCfg, ht]

/-- what the configuration promises (`clientPromise`: written value, else the documented default) is what the
    completed configuration makes the watchdog do -/
theorem promise_is_completed (mux : Bool) (i t : Int) (u : Nat) :
    let c := clientCfg (clientComplete mux i t).1 (clientComplete mux i t).2 u
    (clientPromise mux i t u = none ↔ c.enabled = false) ∧
      (∀ T, clientPromise mux i t u = some T → c.enabled = true ∧ c.T = T) := by
  intro c
  have hp : clientPromise mux i t u = if c.enabled = true then some c.T else none := by
    simp only [c, clientComplete_eq, clientPromise, clientCfg, emptyOr, Bool.and_eq_true, decide_eq_true_eq]
  rw [hp]
  cases c.enabled <;> simp

theorem server_promise_is_completed (mux : Bool) (t : Int) (u : Nat) :
    let c := serverCfg (serverComplete mux t) u
    (serverPromise mux t u = none ↔ c.enabled = false) ∧
      (∀ T, serverPromise mux t u = some T → c.enabled = true ∧ c.T = T) := by
  intro c
  have hp : serverPromise mux t u = if c.enabled = true then some c.T else none := by
    simp only [c, serverComplete_eq, serverPromise, serverCfg, emptyOr, decide_eq_true_eq]
  rw [hp]
  cases c.enabled <;> simp

/-- a written non-positive interval or timeout switches the client's check off (never a liveness close) -/
theorem written_nonpositive_disables (mux : Bool) (i t : Int) (u : Nat) (h : i < 0 ∨ t < 0) :
    (clientCfg (clientComplete mux i t).1 (clientComplete mux i t).2 u).enabled = false := by
  rw [clientComplete_eq]
  rcases h with h | h
  · have : ¬ 0 < emptyOr i (if mux then -1 else 30) := by rw [emptyOr, if_neg (by omega)]; omega
    simp [clientCfg, this]
  · have : ¬ 0 < emptyOr t (if mux then -1 else 90) := by rw [emptyOr, if_neg (by omega)]; omega
    simp [clientCfg, this]

/-! ### tie to the source: the statements of the two Complete methods, interpreted -/

/-- **The hand-written `clientComplete` is what the extracted statements compute**, for every tcpMux, interval and
    timeout: each statement of (*ClientTransportConfig).Complete that touches a heartbeat field is an
    `x = util.EmptyOr(x, default)` under `if lo.FromPtr(c.TCPMux)` / its else -- nothing raises, lowers or couples the
    two values. -/
theorem code_client_complete (mux : Bool) (i t : Int) :
    interp Gen.SessFacts.clientHbAssigns mux (i, t) = some (clientComplete mux i t) := by
  rw [clientComplete_eq]
  cases mux <;> simp [Gen.SessFacts.clientHbAssigns, interp, applyAsg, guardOn]

theorem code_server_complete (mux : Bool) (t : Int) :
    interp Gen.SessFacts.serverHbAssigns mux (0, t) = some (0, serverComplete mux t) := by
  rw [serverComplete_eq]
  cases mux <;> simp [Gen.SessFacts.serverHbAssigns, interp, applyAsg, guardOn]

/-- nothing else in pkg/config, client, server, cmd writes the two fields, except the field-to-field copies of the
    legacy (ini) conversion -/
theorem code_hb_writers : Gen.SessFacts.hbWriters.all (fun w => w.2.2 == "copy") = true := by decide +kernel

/-- `complete_keeps_written` for the statements found in the source -/
theorem complete_keeps_written_code (mux : Bool) (i t : Int) (hi : 0 < i) (ht : 0 < t) :
    interp Gen.SessFacts.clientHbAssigns mux (i, t) = some (i, t) ∧
      interp Gen.SessFacts.serverHbAssigns mux (0, t) = some (0, t) := by
  have hi' : i ≠ 0 := by omega
  have ht' : t ≠ 0 := by omega
  rw [code_client_complete, code_server_complete, clientComplete_eq, serverComplete_eq]
  simp only [emptyOr, if_neg hi', if_neg ht', and_self]

/-- **A `Complete` that raises the timeout to two intervals is not the model**: the translator reports such a
    statement as `other`, which has no interpretation (what it would do to the promise: `raised_timeout_late_witness`) -/
theorem raised_timeout_uninterpreted :
    interp (Gen.SessFacts.clientHbAssigns ++
      [("HeartbeatTimeout", "if:c.HeartbeatTimeout < 2*c.HeartbeatInterval", "other:2 * c.HeartbeatInterval", 0)])
      false (2, 3) = none := by decide +kernel

/-! ### non-vacuity -/

example : clientPromise false 2 3 1000 = some 3000 ∧ clientPromise true 2 2 1000 = some 2000 ∧
    clientPromise true 0 0 1000 = none ∧ clientPromise false 0 0 1000 = some 90000 ∧
    clientPromise false 5 0 1000 = some 90000 ∧ clientPromise false (-1) 5 1000 = none ∧
    clientValid 3 2 = false ∧ clientValid 2 2 = true ∧ clientValid (-1) 2 = true := by decide

end PartJ

end C14
end Frp
