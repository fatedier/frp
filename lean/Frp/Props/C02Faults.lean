import Frp.Model.HttpAbort
import Frp.Model.ConnLimit
import Frp.Gen.HttpFacts
/-
  C02 (namespace `Frp.C02`): FAULTS IN THE MIDDLE OF AN EXCHANGE and LONG-LIVED CONCURRENT EXCHANGES.

  * section Abort (Frp/Model/HttpAbort.lean): a sender dies after `k` bytes of a body.  Through ANY chain of
    relaying hops whose abort reaches the http.Server (`serverCtx ∧ ¬recovers` — what pkg/util/vhost/http.go
    and the client plugins do: Gen/HttpFacts.recoverSites = []), for every framing, every `k`, every number of
    bytes a hop had still buffered, the final reader never takes a shortened message for a complete one
    (`abort_chain_faithful`, `upload_chain_faithful`); a hop that recovers the abort, or one that is not behind a
    real http.Server, delivers a shortened chunked body as a complete 200 (`abort_recovered_witness`,
    `abort_unfaithful_env_breaks`); Content-Length answers are cut even then (`abort_cl_always_cut`); a
    close-delimited body cut short is indistinguishable from a complete one (`abort_eof_indistinguishable`).
  * section Limit (Frp/Model/ConnLimit.lean): the Transports of the relaying ReverseProxies set no
    MaxConnsPerHost (regenerated literals), so for EVERY history of opened / finished / dropped exchanges every
    request is forwarded at once — in particular the k-th concurrent one for every k
    (`limit_unlimited_forwards_all`, `limit_kth_concurrent_forwarded`, `limit_source_paths_forward`); any cap c > 0
    parks the (c+1)-th concurrent request (`limit_cap_blocks`).
-/
namespace Frp
namespace C02

section Abort
open HttpAbort

/-- the abort of a hop reaches its http.Server -/
def Propagates (e : Env) : Prop := e.serverCtx = true ∧ e.recovers = false

instance (e : Env) : Decidable (Propagates e) := by unfold Propagates; exact inferInstance

theorem readOf_self_faithful (s : Sent) (hs : WF s) : Faithful s (readOf s) := by
  obtain ⟨fr, total, k, died⟩ := s
  cases fr with
  | cl => exact ⟨Nat.le_refl k, fun h => by simpa [readOf] using h, fun h => ⟨h, rfl⟩⟩
  | ch =>
    -- a chunked sender that finished has written all it set out to (`WF`)
    exact ⟨Nat.le_refl k, fun h => hs.2 (by simpa [readOf] using h), fun h => ⟨h, rfl⟩⟩
  | eof => exact ⟨Nat.le_refl k, fun _ => rfl, fun h => ⟨h, rfl⟩⟩

/-- what a relaying hop hands on of the read `r` it made itself: a complete message as it is, an incomplete one
    without the `lost` bytes and, above all, still incomplete -/
def relayed (r : Read) (lost : Nat) : Read := if r.ended then r else { n := r.n - lost, ended := false }

/-- relaying keeps faithfulness: a read that did not end claims nothing, and may only get shorter -/
theorem faithful_relayed {s : Sent} {u : Read} (hf : Faithful s u) (lost : Nat) : Faithful s (relayed u lost) := by
  unfold relayed
  cases hu : u.ended with
  | true => exact hf
  | false =>
    show Faithful s { n := u.n - lost, ended := false }
    refine ⟨Nat.le_trans (Nat.sub_le _ _) hf.1, fun h => Bool.noConfusion h, fun h => ?_⟩
    exact absurd (hf.2.2 h).1 (by simp [hu])

/-- an answer hop whose abort propagates is such a relay (an incomplete Content-Length body stays short of the
    announced length because `k ≤ total`) -/
theorem readOf_hop (e : Env) (he : Propagates e) (s : Sent) (hk : s.k ≤ s.total) (lost : Nat) :
    readOf (hop e s lost) = relayed (readOf s) lost ∧ (hop e s lost).k ≤ (hop e s lost).total := by
  obtain ⟨fr, total, k, died⟩ := s
  obtain ⟨sc, rc⟩ := e
  obtain ⟨rfl, rfl⟩ := he
  simp only at hk
  cases fr
  · by_cases hkt : k = total
    · simp [hop, readOf, relayed, outFr, hkt]
    · have : ¬ k - lost = total := by omega
      simp [hop, readOf, relayed, outFr, hkt, this]
      omega
  · cases died with
    | false => simpa [hop, readOf, relayed, outFr] using hk
    | true => simp [hop, readOf, relayed, outFr]; omega
  · simp [hop, readOf, relayed, outFr]

/-- **faults mid-answer, any chain of hops**: the backend dies after `k` bytes of its answer body (any framing,
    any `k`), the answer passes any number of relaying hops whose abort propagates (each may have had any
    number of bytes still buffered): the user never receives more than was written, never takes a shortened
    message for a complete one (close-delimited: gets every byte written before the close), and gets a
    completed message completely -/
theorem abort_chain_faithful (s : Sent) (hs : WF s) (hops : List (Env × Nat))
    (hp : ∀ h ∈ hops, Propagates h.1) : Faithful s (readOf (chain hops s)) := by
  suffices h : ∀ (hops : List (Env × Nat)) (s' : Sent), (∀ h ∈ hops, Propagates h.1) →
      Faithful s (readOf s') → s'.k ≤ s'.total → Faithful s (readOf (chain hops s')) from
    h hops s hp (readOf_self_faithful s hs) hs.1
  intro hops
  induction hops with
  | nil => intro s' _ hf _; exact hf
  | cons h rest ih =>
    intro s' hp hf hk
    obtain ⟨hr, hk'⟩ := readOf_hop h.1 (hp h (by simp)) s' hk h.2
    exact ih (hop h.1 s' h.2) (fun x hx => hp x (by simp [hx])) (hr ▸ faithful_relayed hf h.2) hk'

/-- a request hop is a relay as well: for the two framings a request can have, `hopUp` is `hop` with a propagating
    abort -/
theorem readOf_hopUp (s : Sent) (hk : s.k ≤ s.total) (lost : Nat) :
    readOf (hopUp s lost) = relayed (readOf s) lost ∧ (hopUp s lost).k ≤ (hopUp s lost).total := by
  obtain ⟨fr, total, k, died⟩ := s
  cases fr
  · exact readOf_hop ⟨true, false⟩ ⟨rfl, rfl⟩ _ hk lost
  · exact readOf_hop ⟨true, false⟩ ⟨rfl, rfl⟩ _ hk lost
  · simpa [hopUp, readOf, relayed] using hk

/-- **faults mid-request**: the user dies after `k` bytes of its request body; through any number of
    Transports the backend never takes the shortened request for a complete one -/
theorem upload_chain_faithful (s : Sent) (hs : WF s) (ls : List Nat) : Faithful s (readOf (chainUp ls s)) := by
  suffices h : ∀ (ls : List Nat) (s' : Sent), Faithful s (readOf s') → s'.k ≤ s'.total →
      Faithful s (readOf (chainUp ls s')) from h ls s (readOf_self_faithful s hs) hs.1
  intro ls
  induction ls with
  | nil => intro s' hf _; exact hf
  | cons l rest ih =>
    intro s' hf hk
    obtain ⟨hr, hk'⟩ := readOf_hopUp s' hk l
    exact ih (hopUp s' l) (hr ▸ faithful_relayed hf l) hk'

/-- what the code is: a real http.Server runs the handlers, and no `defer … recover()` sits between
    ReverseProxy.ServeHTTP and it — read from the source on every run -/
theorem abort_source_no_recover : Gen.HttpFacts.recoverSites = [] := by decide

/-- the environment of frps' vhost proxy and of the plugins' proxies, from the regenerated fact -/
def frpEnv : Env := { serverCtx := true, recovers := !Gen.HttpFacts.recoverSites.isEmpty }

theorem frpEnv_propagates : Propagates frpEnv := by decide

/-- the statement for frp: one hop (plain http proxy) or two (client plugin, then frps) -/
theorem abort_frp_faithful (s : Sent) (hs : WF s) (viaPlugin : Bool) (l₁ l₂ : Nat) :
    Faithful s (readOf (chain ((if viaPlugin then [(frpEnv, l₁)] else []) ++ [(frpEnv, l₂)]) s)) := by
  apply abort_chain_faithful s hs
  intro h hh
  cases viaPlugin with
  | false =>
    obtain rfl : h = (frpEnv, l₂) := by simpa using hh
    exact frpEnv_propagates
  | true =>
    obtain rfl | rfl : h = (frpEnv, l₁) ∨ h = (frpEnv, l₂) := by simpa using hh
    · exact frpEnv_propagates
    · exact frpEnv_propagates

/-- NOT faithful: a hop that recovers the panic finishes the chunked answer of a backend that died after 1000 of
    3000 bytes — the user reads a well-formed, complete message of 1000 bytes -/
theorem abort_recovered_witness :
    readOf (hop { serverCtx := true, recovers := true } { fr := .ch, total := 3000, k := 1000, died := true } 0)
      = { n := 1000, ended := true } ∧
    ¬ Faithful { fr := .ch, total := 3000, k := 1000, died := true }
        (readOf (hop { serverCtx := true, recovers := true } { fr := .ch, total := 3000, k := 1000, died := true } 0)) := by
  decide

/-- both conditions are needed: every environment whose abort does not propagate shortens some message silently
    (why the engines need a real http.Server in front: without `ServerContextKey` nothing panics) -/
theorem abort_unfaithful_env_breaks (e : Env) (he : ¬ Propagates e) :
    ∃ s, WF s ∧ ¬ Faithful s (readOf (hop e s 0)) := by
  refine ⟨{ fr := .ch, total := 2, k := 1, died := true }, by decide, ?_⟩
  -- the one propagating environment is excluded by `he`; the other three are evaluated
  match e, he with
  | ⟨true, false⟩, he => exact absurd ⟨rfl, rfl⟩ he
  | ⟨true, true⟩, _ => decide
  | ⟨false, false⟩, _ => decide
  | ⟨false, true⟩, _ => decide

/-- a Content-Length answer is protected by the server itself: cut short it is never complete at the user,
    whatever the environment -/
theorem abort_cl_always_cut (e : Env) (total k lost : Nat) (hk : k < total) :
    (readOf (hop e { fr := .cl, total := total, k := k, died := true } lost)).ended = false := by
  have : ¬ k = total := by omega
  have h2 : ¬ k - lost = total := by omega
  simp [hop, readOf, this, outFr, h2]

/-- close-delimited: the death of the sender IS the end of the body — the reader gets a complete message with
    the bytes written so far, exactly as if the sender had meant to send only those -/
theorem abort_eof_indistinguishable (e : Env) (total k lost : Nat) :
    readOf (hop e { fr := .eof, total := total, k := k, died := true } lost) =
    readOf (hop e { fr := .eof, total := k, k := k, died := false } lost) := by
  simp [hop, readOf, outFr]

/-- what an engine observed of one faulted message: what the sender did, what the final reader got -/
structure AbortObs where
  fr       : Framing
  total    : Nat
  k        : Nat
  died     : Bool
  n        : Nat       -- bytes the final reader got
  ended    : Bool      -- its framing ended properly
  prefixOk : Bool      -- the bytes it got are the first `n` bytes of the body (compared by the harness)
deriving DecidableEq, Repr

/-- executable predicate for the driver, evaluated on the implementation's own result -/
def abortHolds (o : AbortObs) : Bool :=
  o.prefixOk && decide (Faithful { fr := o.fr, total := o.total, k := o.k, died := o.died } { n := o.n, ended := o.ended })

theorem abortHolds_sound (o : AbortObs) :
    abortHolds o = true ↔ o.prefixOk = true ∧
      Faithful { fr := o.fr, total := o.total, k := o.k, died := o.died } { n := o.n, ended := o.ended } := by
  simp [abortHolds]

/-- the predicate asks for no more than the model gives -/
theorem model_abortHolds (s : Sent) (hs : WF s) (viaPlugin : Bool) (l₁ l₂ : Nat) :
    let u := readOf (chain ((if viaPlugin then [(frpEnv, l₁)] else []) ++ [(frpEnv, l₂)]) s)
    abortHolds { fr := s.fr, total := s.total, k := s.k, died := s.died, n := u.n, ended := u.ended, prefixOk := true } = true := by
  intro u
  rw [abortHolds_sound]
  exact ⟨rfl, abort_frp_faithful s hs viaPlugin l₁ l₂⟩

/-- non-vacuity: a chunked answer cut after 1000 of 3000 bytes through plugin + frps (40 bytes lost in the second
    hop) reaches the user as 960 bytes WITHOUT a proper end; the same answer sent completely arrives completely -/
example :
    readOf (chain [(frpEnv, 0), (frpEnv, 40)] { fr := .ch, total := 3000, k := 1000, died := true }) = { n := 960, ended := false } ∧
    readOf (chain [(frpEnv, 0), (frpEnv, 40)] { fr := .ch, total := 3000, k := 3000, died := false }) = { n := 3000, ended := true } ∧
    readOf (chain [(frpEnv, 0)] { fr := .eof, total := 3000, k := 1000, died := true }) = { n := 1000, ended := true } := by
  decide

end Abort

section Limit
open ConnLimit

/-- invariant of the unlimited Transport: nobody waits -/
theorem step_unlimited (s : St) (hw : s.waiting = 0) (e : Ev) :
    (step { maxConnsPerHost := 0 } s e).2 = true ∧ (step { maxConnsPerHost := 0 } s e).1.waiting = 0 := by
  cases e with
  | request =>
    -- an idle connection, or else the branch `maxConnsPerHost = 0`: forwarded either way
    rw [step]
    split
    · exact ⟨rfl, hw⟩
    · rw [if_pos (Or.inl rfl)]; exact ⟨rfl, hw⟩
  | finish => rw [step, if_neg (by omega)]; exact ⟨rfl, hw⟩
  | drop => rw [step, if_neg (by omega)]; exact ⟨rfl, hw⟩

/-- **no cap ⇒ nobody ever waits**: for every history of opened, finished and dropped exchanges, every request is
    forwarded at once -/
theorem limit_unlimited_forwards_all (evs : List Ev) (s : St) (hw : s.waiting = 0) :
    (run { maxConnsPerHost := 0 } s evs).2.all id = true := by
  induction evs generalizing s with
  | nil => rfl
  | cons e es ih =>
    have h := step_unlimited s hw e
    simp only [run, List.all_cons, id, h.1, Bool.true_and]
    exact ih _ h.2

theorem run_snoc (c : Cfg) (s : St) (es : List Ev) (e : Ev) :
    (run c s (es ++ [e])).1 = (step c (run c s es).1 e).1 := by
  induction es generalizing s with
  | nil => rfl
  | cons e' es ih => exact ih _

theorem opened_succ (c : Cfg) (k : Nat) : opened c (k + 1) = (step c (opened c k) .request).1 := by
  rw [opened, List.replicate_succ', run_snoc, opened]

theorem opened_unlimited (k : Nat) : (opened { maxConnsPerHost := 0 } k).waiting = 0 := by
  induction k with
  | zero => rfl
  | succ k ih => rw [opened_succ]; exact (step_unlimited _ ih .request).2

/-- the k-th concurrent request is forwarded, for every k: with any number of exchanges open (streams, long
    polls, upgraded connections) the next one still gets its connection at once -/
theorem limit_kth_concurrent_forwarded (k : Nat) :
    (step { maxConnsPerHost := 0 } (opened { maxConnsPerHost := 0 } k) .request).2 = true :=
  (step_unlimited _ (opened_unlimited k) .request).1

/-- what the code is: none of the Transports of the relaying ReverseProxies sets a connection cap — read from
    the literals in pkg/util/vhost/http.go and pkg/plugin/client/*.go on every run -/
theorem limit_source_no_cap : ∀ t ∈ Gen.HttpFacts.transports, capOf t = 0 := by decide +kernel

/-- whatever the kind, a path is made of Transports of the list -/
theorem mem_pathOf {ts : List Gen.HttpFacts.TransportLit} {kind : String} {c : Cfg} (hc : c ∈ pathOf ts kind) :
    c ∈ ts.map cfgOf := by
  have pick : ∀ f, (ts.filter (fun t => t.file == f)).map cfgOf ⊆ ts.map cfgOf :=
    fun f => List.map_subset _ (List.filter_sublist ..).subset
  unfold pathOf at hc
  rcases List.mem_append.1 hc with h | h
  · split at h
    · exact pick _ h
    · cases h
  · split at h
    · exact pick _ h
    · cases h

/-- every proxy kind's path (frps' vhost proxy and / or the client plugin) consists of uncapped Transports -/
theorem limit_source_paths_uncapped :
    ∀ kind ∈ ["plain", "h2h", "h2s", "s2h", "s2s"], ∀ c ∈ pathOf Gen.HttpFacts.transports kind, c.maxConnsPerHost = 0 := by
  intro kind _ c hc
  obtain ⟨t, ht, rfl⟩ := List.mem_map.1 (mem_pathOf hc)
  exact limit_source_no_cap t ht

/-- hence on every path, with k exchanges open — for EVERY k — one more request is forwarded at once -/
theorem limit_source_paths_forward (kind : String) (hk : kind ∈ ["plain", "h2h", "h2s", "s2h", "s2s"]) (k : Nat) :
    pathForwards (pathOf Gen.HttpFacts.transports kind) k = true := by
  unfold pathForwards
  rw [List.all_eq_true]
  intro c hc
  have h0 := limit_source_paths_uncapped kind hk c hc
  obtain ⟨m⟩ := c
  simp only at h0
  subst h0
  exact limit_kth_concurrent_forwarded k

theorem opened_capped (c k : Nat) (hk : k ≤ c) :
    opened { maxConnsPerHost := c } k = { inUse := k, idle := 0, waiting := 0 } := by
  induction k with
  | zero => rfl
  | succ k ih =>
    have hne : ¬ c = 0 := by omega
    have hlt : k < c := by omega
    simp [opened_succ, ih (by omega), step, hne, hlt]

/-- why the absence of the field matters: ANY cap c > 0 parks the (c+1)-th concurrent request (and nothing in
    the Transport ever times that wait out) -/
theorem limit_cap_blocks (c : Nat) (hc : 0 < c) :
    (step { maxConnsPerHost := c } (opened { maxConnsPerHost := c } c) .request).2 = false := by
  rw [opened_capped c c (Nat.le_refl c)]
  have hne : ¬ c = 0 := by omega
  simp [step, hne]

/-- executable predicate for rounds of long-lived exchanges, evaluated on the implementation's own result:
    all `n` exchanges were opened (reached their backend and, for streams, delivered their first piece to the
    user) while all were open, the further short request was served meanwhile, and after the release every
    exchange ended completely -/
def longHolds (n opened : Nat) (probeOk : Bool) (finished : Nat) : Bool :=
  decide (opened = n) && probeOk && decide (finished = n)

theorem longHolds_sound (n opened : Nat) (probeOk : Bool) (finished : Nat) :
    longHolds n opened probeOk finished = true ↔ opened = n ∧ probeOk = true ∧ finished = n := by
  simp [longHolds, and_assoc]

/-- non-vacuity: 24 open streams on an uncapped Transport leave room for the 25th; with a cap of 16 the 17th
    request waits until a stream ends -/
example :
    (step { maxConnsPerHost := 0 } (opened { maxConnsPerHost := 0 } 24) .request).2 = true ∧
    (opened { maxConnsPerHost := 16 } 24) = { inUse := 16, idle := 0, waiting := 8 } ∧
    (run { maxConnsPerHost := 16 } (opened { maxConnsPerHost := 16 } 16) [.request, .drop]).2 = [false, true] := by
  decide +kernel

end Limit

end C02
end Frp
