import Frp.Lemmas.GroupRelease
import Frp.Props.C06
/-
  Property C10 for http proxies with and without a load-balancing group
  (Frp/Model/GroupRelease.lean over Frp/Model/VhostReg.lean; invariant `InvL` and its step lemmas:
  Frp/Lemmas/VhostReg.lean, `C06.reg_table_eq_live`).

  All statements are about every history of register / close / session end of any number of sessions
  with arbitrary configurations (custom domains, subdomain, locations, route user, group, group key).
-/
namespace Frp
namespace C10
namespace Group
open Str Router VhostReg GroupRel

/-! ## SPEC side: what may be said looking at the live proxies only -/

/-- two (domain, location) pairs name the same route (domains are stored lower-cased) -/
def KeyEq (a b : Str × Str) : Prop := toLower a.1 = toLower b.1 ∧ a.2 = b.2

instance (a b : Str × Str) : Decidable (KeyEq a b) := by unfold KeyEq; infer_instance

/-- the live proxy `r` stands for the route `(k, u)` -/
def HoldsRoute (sh : Str) (r : Rec) (k : Str × Str) (u : Str) : Prop :=
  r.cfg.user = u ∧ ∃ k' ∈ triples sh r.cfg, KeyEq k' k

instance (sh : Str) (r : Rec) (k : Str × Str) (u : Str) : Decidable (HoldsRoute sh r k u) := by
  unfold HoldsRoute; infer_instance

/-- the live proxy `r` is a member of the group `c` names -/
def Fellow (sh : Str) (r : Rec) (c : Cfg) : Prop := r.cfg.group = c.group ∧ triples sh r.cfg ≠ []

instance (sh : Str) (r : Rec) (c : Cfg) : Decidable (Fellow sh r c) := by unfold Fellow; infer_instance

def KeysNodup (ks : List (Str × Str)) : Prop := ks.Pairwise (fun a b => ¬ KeyEq a b)

instance (ks : List (Str × Str)) : Decidable (KeysNodup ks) := by unfold KeysNodup; infer_instance

/-- **Nothing but a live proxy stands in the way of a registration**: the name is not a live proxy's;
    without a group, the configuration's routes are distinct and no live proxy stands for one of them;
    with a group, the configuration has (at most) one route and either the group has no live member and no
    live proxy stands for the route, or every live member has that route, that route user and that key. -/
def CanRegister (sh : Str) (live : List Rec) (c : Cfg) : Prop :=
  (∀ r ∈ live, r.name ≠ c.name) ∧
  (c.group = [] →
    KeysNodup (triples sh c) ∧ ∀ k ∈ triples sh c, ∀ r ∈ live, ¬ HoldsRoute sh r k c.user) ∧
  (c.group ≠ [] → ∀ k ∈ triples sh c,
    triples sh c = [k] ∧
    ((∀ r ∈ live, ¬ Fellow sh r c) → ∀ r ∈ live, ¬ HoldsRoute sh r k c.user) ∧
    (∀ r ∈ live, Fellow sh r c →
      triples sh r.cfg = [k] ∧ r.cfg.user = c.user ∧ r.cfg.groupKey = c.groupKey))

instance (sh : Str) (live : List Rec) (c : Cfg) : Decidable (CanRegister sh live c) := by
  unfold CanRegister; infer_instance

/-- the routes the live proxies stand for: (lower-cased domain, location, route user) -/
def liveKeys (sh : Str) (live : List Rec) : List (Str × Str × Str) :=
  live.flatMap (fun r => (triples sh r.cfg).map (fun k => (toLower k.1, k.2, r.cfg.user)))

/-! ## who stands behind a stored route, and which route stands behind a held pair -/

theorem add_conflict_reg {R R' : Routers} {d l u : Str} {p : Nat} (hR : Router.Inv R)
    (h : add R d l u p = (R', .conflict)) :
    ∃ r, Reg R r ∧ r.domain = toLower d ∧ r.location = l ∧ r.user = u := by
  obtain ⟨r, hr, hl⟩ := (add_refused_iff R d l u p).mp (by rw [h])
  obtain ⟨e1, e2⟩ := hR.keyed _ _ r hr
  exact ⟨r, by unfold Reg; rw [e1, e2]; exact hr, e1, hl, e2⟩

/-- every stored route is held by a running instance: one of its pairs, its route user -/
theorem reg_holder {T : Tab} {hs : List Holder} (hI : InvL T hs) {r : Route} (hr : Reg T.R r) :
    ∃ h ∈ hs, h.user = r.user ∧ ∃ k ∈ h.keys, toLower k.1 = r.domain ∧ k.2 = r.location := by
  obtain ⟨id, hid⟩ := C06.reg_served hI hr
  obtain ⟨h, hh, _, rest⟩ := C06.holder_of_served hI hr hid
  exact ⟨h, hh, rest⟩

/-- `route_of_holder` for the instance of a live proxy, in terms of its configuration -/
theorem route_of_rec {sh : Str} {s : GState} (h : GInv sh s) {r : Rec} (hr : r ∈ s.owner) {k : Str × Str}
    (hk : k ∈ triples sh r.cfg) :
    ∃ ro, Reg s.st.tab.R ro ∧ ro.domain = toLower k.1 ∧ ro.location = k.2 ∧ ro.user = r.cfg.user ∧
      ((r.cfg.group = [] ∧ ro.payload = 2 * r.id) ∨
       (r.cfg.group ≠ [] ∧ ∃ g, s.st.tab.G.get r.cfg.group = some g ∧ ro.payload = 2 * g.gid + 1 ∧
          (r.cfg.name, r.id) ∈ g.members ∧ triples sh r.cfg = [(g.domain, g.location)] ∧
          r.cfg.user = g.user)) :=
  route_of_holder h.inv (h.rech r hr).1 hk

/-! ## a registration nothing live stands against goes through -/

theorem claim_ok_plain {gkey : Str} {hs : List Holder} (keys : List (Str × Str)) :
    ∀ (T : Tab) (p : Holder), InvL T (p :: hs) → p.group = [] →
      KeysNodup (p.keys ++ keys) →
      (∀ k ∈ keys, ∀ h ∈ hs, h.user = p.user → ∀ k' ∈ h.keys, ¬ KeyEq k' k) →
      (claim T p gkey keys).2.2 = none := by
  induction keys with
  | nil => intro T p _ _ _ _; rfl
  | cons k rest ih =>
    intro T p hI hg hnd hfree
    obtain ⟨d, l⟩ := k
    unfold claim
    cases hr : regOne T p gkey d l with
    | mk T' r =>
      cases r with
      | some e =>
        exfalso
        unfold regOne at hr
        rw [if_neg (fun hne => hne hg)] at hr
        split at hr
        · simp at hr
        · rename_i hadd
          obtain ⟨r, hreg, e1, e2, e3⟩ := add_conflict_reg hI.rinv hadd
          obtain ⟨h, hh, hu, k, hk, ek1, ek2⟩ := reg_holder hI hreg
          rcases List.mem_cons.mp hh with rfl | hh'
          · exact (List.pairwise_append.mp hnd).2.2 k hk (d, l) List.mem_cons_self
              ⟨ek1.trans e1, ek2.trans e2⟩
          · exact hfree (d, l) List.mem_cons_self h hh' (hu.trans e3) k hk ⟨ek1.trans e1, ek2.trans e2⟩
      | none =>
        dsimp only
        have hI' := inv_regOne hI hr
        apply ih T' _ hI' hg
        · show KeysNodup ((p.keys ++ [(d, l)]) ++ rest)
          rw [List.append_assoc]; exact hnd
        · intro k hk; exact hfree k (List.mem_cons_of_mem _ hk)

theorem regOne_ok_group {T : Tab} {p : Holder} {hs : List Holder} {gkey d l : Str}
    (hI : InvL T (p :: hs)) (hg : p.group ≠ []) (hk : p.keys = [])
    (hname : ∀ h ∈ hs, h.name ≠ p.name)
    (hfree : (∀ h ∈ hs, ¬ (h.group = p.group ∧ h.keys ≠ [])) →
      ∀ h ∈ hs, h.user = p.user → ∀ k' ∈ h.keys, ¬ KeyEq k' (d, l))
    (hfel : ∀ h ∈ hs, h.group = p.group → h.keys ≠ [] → h.keys = [(d, l)] ∧ h.user = p.user)
    (hkey : ∀ g, T.G.get p.group = some g → g.members ≠ [] → g.key = gkey) :
    (regOne T p gkey d l).2 = none := by
  unfold regOne
  rw [if_pos hg]
  unfold groupRegister
  dsimp only
  have hI0 := inv_ensure hI p.group
  obtain ⟨g, hget⟩ := ensure_get T p.group
  rw [hget]
  dsimp only
  have notp : ∀ h ∈ p :: hs, h.keys ≠ [] → h ∈ hs := by
    intro h hh hne
    rcases List.mem_cons.mp hh with rfl | hh'
    · exact absurd hk hne
    · exact hh'
  unfold groupJoin
  by_cases hm : g.members = []
  · rw [if_pos hm]
    cases hadd : add (ensureGroup T p.group).R d l p.user (2 * g.gid + 1) with
    | mk R' res =>
      cases res with
      | ok => rfl
      | conflict =>
        exfalso
        obtain ⟨r, hreg, e1, e2, e3⟩ := add_conflict_reg hI0.rinv hadd
        obtain ⟨h, hh, hu, k, hk', ek1, ek2⟩ := reg_holder hI0 hreg
        have hh' := notp h hh (by intro e; rw [e] at hk'; cases hk')
        refine hfree ?_ h hh' (hu.trans e3) k hk' ⟨ek1.trans e1, ek2.trans e2⟩
        intro x hx ⟨hxg, hxk⟩
        obtain ⟨g', hget', hm'⟩ := hI0.gmem x (List.mem_cons_of_mem _ hx) (by rw [hxg]; exact hg) hxk
        rw [hxg, hget] at hget'
        cases hget'
        rw [hm] at hm'; cases hm'
  · rw [if_neg hm]
    obtain ⟨m, hmm⟩ := List.exists_mem_of_ne_nil _ hm
    obtain ⟨h, hh, _, _, e3, e4, e5⟩ := hI0.gholder p.group g hget m hmm
    have hh' := notp h hh (by rw [e4]; simp)
    obtain ⟨f1, f2⟩ := hfel h hh' e3 (by rw [e4]; simp)
    rw [e4] at f1
    obtain ⟨hd, hl⟩ := Prod.mk.inj (List.head_eq_of_cons_eq f1)
    have hgrp := (hI0.groute p.group g hget hm).2.1
    have hpar : ¬ (g.group ≠ p.group ∨ g.domain ≠ d ∨ g.location ≠ l ∨ g.user ≠ p.user) := by
      rintro (a | a | a | a)
      · exact a hgrp
      · exact a hd
      · exact a hl
      · exact a (e5.symm.trans f2)
    rw [if_neg hpar]
    have hk2 : ¬ g.key ≠ gkey := fun a => a (hkey g (ensure_get_members hget hm) hm)
    rw [if_neg hk2]
    have hany : ¬ (g.members.any (fun m => m.1 = p.name)) = true := by
      intro ha
      simp only [List.any_eq_true, decide_eq_true_eq] at ha
      obtain ⟨m', hm', en⟩ := ha
      obtain ⟨h2, hh2, _, n2, _, k2, _⟩ := hI0.gholder p.group g hget m' hm'
      have hh2' := notp h2 hh2 (by rw [k2]; simp)
      exact hname h2 hh2' (n2.trans en)
    rw [if_neg hany]

theorem holderOfRec_fields (sh : Str) (r : Rec) :
    (holderOfRec sh r).id = r.id ∧ (holderOfRec sh r).name = r.cfg.name ∧
    (holderOfRec sh r).user = r.cfg.user ∧ (holderOfRec sh r).group = r.cfg.group ∧
    (holderOfRec sh r).keys = triples sh r.cfg := ⟨rfl, rfl, rfl, rfl, rfl⟩

/-- **Nothing but a live proxy stands in the way**: in every reachable state a registration whose name no
    live proxy has, whose routes no live proxy stands for (outside its group) and whose group's live
    members — if any — have its route and its key, goes through.  Whatever happened before (refused joins of
    any kind, closed proxies, ended sessions, group objects left in the table) has no say. -/
theorem register_ok_of_can {sh : Str} {s : GState} (h : GInv sh s) (sid : Nat) (c : Cfg)
    (hcan : CanRegister sh s.owner c) : (s.register sh sid c).2 = .ok := by
  obtain ⟨hnm, hplain, hgrp⟩ := hcan
  have hlive : ¬ s.isLive c.name = true := by
    intro hl
    simp only [GState.isLive, List.any_eq_true, decide_eq_true_eq] at hl
    obtain ⟨r, hr, e⟩ := hl
    exact hnm r hr e
  have h0 := inv_intro_new h.inv c (next_fresh h)
  have hclaim : (claim s.st.tab (holderOf s.next c []) c.groupKey (triples sh c)).2.2 = none := by
    by_cases hg : c.group = []
    · obtain ⟨hnd, hfree⟩ := hplain hg
      exact claim_ok_plain (triples sh c) s.st.tab _ h0 hg hnd fun k hk =>
        forall_hs h fun r hr hu k' hk' hke => hfree k hk r hr ⟨hu, k', hk', hke⟩
    · cases htr : triples sh c with
      | nil => rfl
      | cons k rest =>
        obtain ⟨hone, hfree, hfel⟩ := hgrp hg k (by rw [htr]; exact List.mem_cons_self)
        rw [htr] at hone
        cases List.tail_eq_of_cons_eq hone
        obtain ⟨d, l⟩ := k
        rw [claim_one]
        apply regOne_ok_group h0 hg rfl
        · exact forall_hs h fun r hr e => hnm r hr ((h.rech r hr).2.1.trans e)
        · exact fun hno => forall_hs h fun r hr hu k' hk' hke =>
            hfree (fun r' hr' hf => hno _ (h.rech r' hr').1 hf) r hr ⟨hu, k', hk', hke⟩
        · exact forall_hs h fun r hr hxg hxk => ⟨(hfel r hr ⟨hxg, hxk⟩).1, (hfel r hr ⟨hxg, hxk⟩).2.1⟩
        · intro g hget hm
          obtain ⟨m, hmm⟩ := List.exists_mem_of_ne_nil _ hm
          obtain ⟨r, hr, e1, e2⟩ := h.keyed _ g hget m hmm
          obtain ⟨x, hx, i1, _, i3, i4, _⟩ := h.inv.gholder _ g hget m hmm
          -- the member's instance is that of the live proxy which presented the group's key
          cases id_unique h.inv.ids hx (h.rech r hr).1 (i1.trans e1.symm)
          have hk : (holderOfRec sh r).keys ≠ [] := by rw [i4]; exact List.cons_ne_nil _ _
          exact e2.symm.trans (hfel r hr ⟨i3, hk⟩).2.2
  have hrun : (run sh s.st s.next c).2 = .ok := by
    unfold run
    rw [if_neg (next_fresh h)]
    split
    · rfl
    · rename_i T' p e hc
      rw [hc] at hclaim; cases hclaim
  unfold GState.register
  rw [if_neg hlive]
  split
  · rfl
  · rename_i S' e hr; rw [hr] at hrun; cases hrun
  · rename_i S' hr; rw [hr] at hrun; cases hrun

/-! ## what a live proxy holds is held by nobody else: its registration can be repeated verbatim as soon
       as it is gone -/

/-- In every reachable state, for a live proxy `r` and ANY set of other live proxies (the proxies left
    after `r` was closed, after its session ended, after any further proxies went away): nothing stands
    against registering `r`'s configuration again. -/
theorem can_register_of_sublive {sh : Str} {s : GState} (h : GInv sh s) {r : Rec} (hr : r ∈ s.owner)
    (live : List Rec) (hsub : ∀ x ∈ live, x ∈ s.owner ∧ x.name ≠ r.name) :
    CanRegister sh live r.cfg := by
  obtain ⟨h0, hn0, _⟩ := h.rech r hr
  have hI := h.inv
  -- a live proxy other than `r` standing for a route of `r` shares `r`'s group
  have hclash : ∀ x ∈ live, ∀ k ∈ triples sh r.cfg, HoldsRoute sh x k r.cfg.user →
      r.cfg.group ≠ [] ∧ x.cfg.group = r.cfg.group := by
    intro x hx k hk ⟨hu, k', hk', hke⟩
    obtain ⟨hxo, hxn⟩ := hsub x hx
    obtain ⟨ro, hro, a1, a2, a3, a4⟩ := route_of_rec h hr hk
    obtain ⟨rx, hrx, b1, b2, b3, b4⟩ := route_of_rec h hxo hk'
    have heq : rx = ro := reg_unique hI.rinv hrx hro (by rw [a1, b1]; exact hke.1)
      (by rw [a3, b3]; exact hu) (by rw [a2, b2]; exact hke.2)
    subst heq
    rcases a4 with ⟨_, pa⟩ | ⟨ga, g, hgget, pa, _, _, _⟩ <;>
      rcases b4 with ⟨_, pb⟩ | ⟨gb, g', hgget', pb, _, _, _⟩
    · exact absurd (congrArg Rec.name (rec_id_unique h hxo hr (by omega))) hxn
    · omega
    · omega
    · exact ⟨ga, hI.ginj _ _ g' g hgget' hgget (by omega)⟩
  refine ⟨fun x hx => ?_, fun hg => ⟨?_, ?_⟩, fun hg k hk => ?_⟩
  · rw [← hn0]; exact (hsub x hx).2
  · exact hI.nodup _ h0 hg
  · intro k hk x hx hhold
    exact (hclash x hx k hk hhold).1 hg
  · obtain ⟨ro, hro, a1, a2, a3, a4⟩ := route_of_rec h hr hk
    rcases a4 with ⟨ga, _⟩ | ⟨_, g, hgget, _, hgm, hkeys, hgu⟩
    · exact absurd ga hg
    · have hk1 : triples sh r.cfg = [k] := by
        rw [hkeys] at hk ⊢
        rw [List.mem_singleton.mp hk]
      refine ⟨hk1, ?_, ?_⟩
      · intro hno x hx hhold
        refine hno x hx ⟨(hclash x hx k hk hhold).2, ?_⟩
        obtain ⟨_, k', hk', _⟩ := hhold
        exact List.ne_nil_of_mem hk'
      · intro x hx ⟨hxg, hxk⟩
        obtain ⟨hxo, _⟩ := hsub x hx
        obtain ⟨k', hk'⟩ := List.exists_mem_of_ne_nil _ hxk
        obtain ⟨rx, _, _, _, _, b4⟩ := route_of_rec h hxo hk'
        rcases b4 with ⟨gb, _⟩ | ⟨_, g', hgget', _, hgm', hkeys', hgu'⟩
        · exact absurd (hxg ▸ gb) hg
        · -- the same group object: both presented its key, both hold its one pair
          rw [hxg, hgget] at hgget'
          cases hgget'
          obtain ⟨r1, hr1, i1, j1⟩ := h.keyed _ g hgget _ hgm
          obtain ⟨r2, hr2, i2, j2⟩ := h.keyed _ g hgget _ hgm'
          cases rec_id_unique h hr1 hr i1
          cases rec_id_unique h hr2 hxo i2
          exact ⟨hkeys'.trans (hkeys.symm.trans hk1), hgu'.trans hgu.symm, j2.trans j1.symm⟩

/-- `Control.CloseProxy`, exact effect on the live proxies: the caller's proxy of that name is gone,
    nothing else (in particular nothing of another session, whatever it is called) -/
theorem close_owner {sh : Str} {s : GState} (h : GInv sh s) (sid : Nat) (name : Str) :
    (s.close sid name).owner = s.owner.filter (fun e => ¬ (e.name = name ∧ e.sid = sid)) := by
  rcases close_cases s sid name with ⟨e, hno⟩ | ⟨r, hr, hn, hs, e⟩
  · rw [e]
    exact (List.filter_eq_self.mpr fun x hx => decide_eq_true (hno x hx)).symm
  · rw [e]
    dsimp only
    apply List.filter_congr
    intro x hx
    by_cases en : x.name = name
    · have : x = r := rec_name_unique h hx hr (en.trans hn.symm)
      subst this
      simp [en, hs]
    · simp [en]

theorem close_foreign_noop (s : GState) (sid : Nat) (name : Str)
    (hno : ∀ r ∈ s.owner, ¬ (r.name = name ∧ r.sid = sid)) : s.close sid name = s := by
  rcases close_cases s sid name with ⟨e, _⟩ | ⟨r, hr, hn, hs, _⟩
  · exact e
  · exact absurd ⟨hn, hs⟩ (hno r hr)

theorem closeAll_owner {sh : Str} (sid : Nat) (ns : List Str) :
    ∀ s : GState, GInv sh s →
      (ns.foldl (fun st n => st.close sid n) s).owner =
        s.owner.filter (fun e => ¬ (e.sid = sid ∧ e.name ∈ ns)) := by
  induction ns with
  | nil => exact fun s _ => (List.filter_eq_self.mpr fun x _ => by simp).symm
  | cons n rest ih =>
    intro s h
    rw [List.foldl_cons, ih _ (ginv_close h sid n), close_owner h, List.filter_filter]
    apply List.filter_congr
    intro x _
    by_cases a : x.sid = sid <;> by_cases b : x.name = n <;> simp [a, b]

/-- **end of a session**: exactly the proxies of that session are gone -/
theorem sessionEnd_owner {sh : Str} {s : GState} (h : GInv sh s) (sid : Nat) :
    (s.sessionEnd sid).owner = s.owner.filter (fun e => e.sid ≠ sid) := by
  unfold GState.sessionEnd
  rw [closeAll_owner sid _ s h]
  apply List.filter_congr
  intro x hx
  by_cases a : x.sid = sid
  · have : x.name ∈ s.namesOf sid := by
      unfold GState.namesOf
      exact List.mem_map.mpr ⟨x, List.mem_filter.mpr ⟨hx, by simpa using a⟩, rfl⟩
    simp [a, this]
  · simp [a]

/-- a refused registration — name taken, route conflict at any of its routes, any kind of refused join —
    leaves the live proxies and the running instances exactly as they were -/
theorem register_refused_unchanged (sh : Str) (s : GState) (sid : Nat) (c : Cfg)
    (hne : (s.register sh sid c).2 ≠ .ok) :
    (s.register sh sid c).1.owner = s.owner ∧ (s.register sh sid c).1.st.hs = s.st.hs := by
  unfold GState.register at hne ⊢
  split
  · exact ⟨rfl, rfl⟩
  · split
    · rename_i S' hr
      rw [if_neg (by assumption)] at hne
      rw [hr] at hne
      exact absurd rfl hne
    · rename_i S' e hr
      refine ⟨rfl, ?_⟩
      have := run_refused_hs sh s.st s.next c (by rw [hr]; intro hc; cases hc)
      rw [hr] at this; exact this
    · exact ⟨rfl, rfl⟩

/-! ## exact state: the route table and the group table are what the live proxies stand for -/

/-- **The route table is exactly what the live proxies stand for**: a route (domain, location, user) is
    stored iff some live proxy's configuration has it — whatever happened before. -/
theorem routes_eq_live {sh : Str} {s : GState} (h : GInv sh s) (d l u : Str) :
    (∃ ro, Reg s.st.tab.R ro ∧ ro.domain = d ∧ ro.location = l ∧ ro.user = u) ↔
      (d, l, u) ∈ liveKeys sh s.owner := by
  unfold liveKeys
  constructor
  · rintro ⟨ro, hro, rfl, rfl, rfl⟩
    obtain ⟨x, hx, hu, k, hk, e1, e2⟩ := reg_holder h.inv hro
    obtain ⟨r, hr, e⟩ := h.hrec x hx
    subst e
    refine List.mem_flatMap.mpr ⟨r, hr, List.mem_map.mpr ⟨k, hk, ?_⟩⟩
    rw [e1, e2]
    have : r.cfg.user = ro.user := hu
    rw [this]
  · intro hm
    obtain ⟨r, hr, hm'⟩ := List.mem_flatMap.mp hm
    obtain ⟨k, hk, e⟩ := List.mem_map.mp hm'
    obtain ⟨ro, hro, a1, a2, a3, _⟩ := route_of_rec h hr hk
    simp only [Prod.mk.injEq] at e
    obtain ⟨e1, e2, e3⟩ := e
    exact ⟨ro, hro, a1.trans e1, a2.trans e2, a3.trans e3⟩

/-- **group membership is released with the proxy**: the members of every group in the table are live
    proxies configured for that group, and every live grouped proxy (that has a route) is a member -/
theorem members_eq_live {sh : Str} {s : GState} (h : GInv sh s) (n nm : Str) :
    (∃ g id, s.st.tab.G.get n = some g ∧ (nm, id) ∈ g.members) ↔
      (n ≠ [] ∧ ∃ r ∈ s.owner, r.name = nm ∧ r.cfg.group = n ∧ triples sh r.cfg ≠ []) := by
  constructor
  · rintro ⟨g, id, hget, hm⟩
    obtain ⟨x, hx, _, e2, e3, e4, _⟩ := h.inv.gholder n g hget _ hm
    obtain ⟨r, hr, e⟩ := h.hrec x hx
    subst e
    refine ⟨(h.inv.groute n g hget (List.ne_nil_of_mem hm)).2.2, r, hr, ?_, e3, ?_⟩
    · exact (h.rech r hr).2.1.trans e2
    · show (holderOfRec sh r).keys ≠ []
      rw [e4]; simp
  · rintro ⟨hn, r, hr, rfl, rfl, hk⟩
    obtain ⟨h0, hn0, _⟩ := h.rech r hr
    obtain ⟨g, hget, hm⟩ := h.inv.gmem _ h0 hn hk
    refine ⟨g, r.id, hget, ?_⟩
    have : (holderOfRec sh r).name = r.name := hn0.symm
    rw [← this]; exact hm

/-- with no live proxy left nothing is left: no route, no group member, no running instance -/
theorem quiescent_clean {sh : Str} {s : GState} (h : GInv sh s) (he : s.owner = []) :
    (∀ ro, ¬ Reg s.st.tab.R ro) ∧ (∀ n g, s.st.tab.G.get n = some g → g.members = []) ∧ s.st.hs = [] := by
  refine ⟨?_, ?_, ?_⟩
  · intro ro hro
    have := (routes_eq_live h ro.domain ro.location ro.user).mp ⟨ro, hro, rfl, rfl, rfl⟩
    rw [he] at this; simp [liveKeys] at this
  · intro n g hget
    apply Decidable.byContradiction
    intro hne
    obtain ⟨m, hm⟩ := List.exists_mem_of_ne_nil _ hne
    obtain ⟨r, hr, _⟩ := h.keyed n g hget m hm
    rw [he] at hr; cases hr
  · apply Decidable.byContradiction
    intro hne
    obtain ⟨x, hx⟩ := List.exists_mem_of_ne_nil _ hne
    obtain ⟨r, hr, _⟩ := h.hrec x hx
    rw [he] at hr; cases hr

/-! ## all histories -/

inductive GOp
  | register (sid : Nat) (c : Cfg)
  | close (sid : Nat) (name : Str)
  | sessionEnd (sid : Nat)

def gapply (sh : Str) (s : GState) : GOp → GState
  | .register sid c => (s.register sh sid c).1
  | .close sid name => s.close sid name
  | .sessionEnd sid => s.sessionEnd sid

/-- the state after any history (`sh` = the server's subDomainHost) -/
def grun (sh : Str) (ops : List GOp) : GState := ops.foldl (gapply sh) GState.init

/-- every reachable state satisfies the invariant -/
theorem ginv_reachable (sh : Str) (ops : List GOp) : GInv sh (grun sh ops) := by
  refine foldl_invariant (P := GInv sh) (ginv_init sh) fun s op _ h => ?_
  cases op with
  | register sid c => exact ginv_register h sid c
  | close sid name => exact ginv_close h sid name
  | sessionEnd sid => exact ginv_sessionEnd h sid

/-- **After every history the route table equals the routes of the live proxies.** -/
theorem table_eq_live_reachable (sh : Str) (ops : List GOp) (d l u : Str) :
    (∃ ro, Reg (grun sh ops).st.tab.R ro ∧ ro.domain = d ∧ ro.location = l ∧ ro.user = u) ↔
      (d, l, u) ∈ liveKeys sh (grun sh ops).owner :=
  routes_eq_live (ginv_reachable sh ops) d l u

/-- nothing stands against registering a live proxy's configuration again among the live proxies left by a
    filter that drops it -/
theorem can_register_of_filter {sh : Str} {s : GState} (h : GInv sh s) {r : Rec} (hr : r ∈ s.owner)
    (f : Rec → Bool) (hf : f r = false) : CanRegister sh (s.owner.filter f) r.cfg :=
  can_register_of_sublive h hr _ fun x hx => by
    obtain ⟨hx', hp⟩ := List.mem_filter.mp hx
    refine ⟨hx', fun en => ?_⟩
    rw [rec_name_unique h hx' hr en, hf] at hp
    cases hp

/-- **Close, then the identical registration succeeds** — on the same or on any other session, after
    every history: whatever was refused or closed before, whoever else is in the group. -/
theorem reregister_after_close (sh : Str) (ops : List GOp) (r : Rec) (hr : r ∈ (grun sh ops).owner)
    (sid' : Nat) :
    (((grun sh ops).close r.sid r.name).register sh sid' r.cfg).2 = .ok := by
  have h := ginv_reachable sh ops
  apply register_ok_of_can (ginv_close h r.sid r.name)
  rw [close_owner h]
  exact can_register_of_filter h hr _ (by simp)

/-- **Session end, then the identical registration of any of its proxies succeeds** on a new session. -/
theorem reregister_after_session_end (sh : Str) (ops : List GOp) (r : Rec)
    (hr : r ∈ (grun sh ops).owner) (sid' : Nat) :
    (((grun sh ops).sessionEnd r.sid).register sh sid' r.cfg).2 = .ok := by
  have h := ginv_reachable sh ops
  apply register_ok_of_can (ginv_sessionEnd h r.sid)
  rw [sessionEnd_owner h]
  exact can_register_of_filter h hr _ (by simp)

/-- **A refused registration destroys nothing of the others**: after every history, a registration that is
    refused (for whatever reason) leaves the live proxies as they were, hence (`routes_eq_live`,
    `members_eq_live` in the state after it) every route and every group membership. -/
theorem refused_keeps_routes (sh : Str) (ops : List GOp) (sid : Nat) (c : Cfg)
    (hne : ((grun sh ops).register sh sid c).2 ≠ .ok) (d l u : Str) :
    (∃ ro, Reg ((grun sh ops).register sh sid c).1.st.tab.R ro ∧ ro.domain = d ∧ ro.location = l ∧
        ro.user = u) ↔
    (∃ ro, Reg (grun sh ops).st.tab.R ro ∧ ro.domain = d ∧ ro.location = l ∧ ro.user = u) := by
  have h := ginv_reachable sh ops
  rw [routes_eq_live (ginv_register h sid c), routes_eq_live h,
    (register_refused_unchanged sh _ sid c hne).1]

/-! ### non-vacuity: a group with a refused join of each kind, the last member leaving, re-registration -/

def shDemo : Str := C06.shDemo

def demoOps : List GOp :=
  [ .register 1 (C06.cfgDemo "a" ["lb.example.com"] "" [] "" "grp" "k")
  , .register 2 (C06.cfgDemo "b" ["LB.example.com"] "" [] "" "grp" "k")            -- refused: params (raw domain differs)
  , .register 2 (C06.cfgDemo "b" ["lb.example.com"] "" [] "" "grp" "wrong")        -- refused: key
  , .register 2 (C06.cfgDemo "b" ["lb.example.com", "x.example.com"] "" [] "" "grp" "k")  -- refused at the 2nd route
  , .register 3 (C06.cfgDemo "c" ["lb.example.com"] "" [] "" "" "")                -- refused: conflict with the group's route
  , .register 2 (C06.cfgDemo "b" ["lb.example.com"] "" [] "" "grp" "k")
  , .register 3 (C06.cfgDemo "p" ["p.example.com"] "t" ["/", "/api"] "" "" "") ]

example : ((grun shDemo demoOps).owner.map (fun r => (Str.toString r.name, r.sid))) =
    [("p", 3), ("b", 2), ("a", 1)] := by decide +kernel
example : (liveKeys shDemo (grun shDemo demoOps).owner).length = 6 := by decide +kernel
example : (((grun shDemo demoOps).close 1 (Str.ofString "a")).close 2 (Str.ofString "b")).st.hs.map (·.id) = [6] := by
  decide +kernel
example : CanRegister shDemo (((grun shDemo demoOps).close 1 (Str.ofString "a")).close 2 (Str.ofString "b")).owner
    (C06.cfgDemo "a" ["lb.example.com"] "" [] "" "grp" "k") := by decide +kernel
example : ¬ CanRegister shDemo (grun shDemo demoOps).owner
    (C06.cfgDemo "z" ["lb.example.com"] "" [] "" "grp" "other") := by decide +kernel

end Group
end C10
end Frp
