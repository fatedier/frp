import Frp.Lemmas.WorkConns
import Frp.Model.UdpCloseRace
/-
  C10 — "wrapped transports" are released: the work connections of `http` and `udp` proxies
  (Frp/Model/WorkConns.lean; close graphs and their lemmas are C01's, Frp/Model/CloseGraph.lean): what `Close()` on the
  top of their stacks reaches, and the lifecycle invariant that every connection a proxy let go of had its top closed.
  Second part: `UDPProxy.Close` racing its own reader goroutine (Frp/Model/UdpCloseRace.lean).
-/
namespace Frp
namespace C10
namespace Xport
open Layers CloseGraph WorkConns

/-- GetRealConn's stack, every option combination, any number k ≥ 1 of `Close()` calls on what the http.Transport /
    io.Join / upgrade copier holds: the work connection is closed exactly once -/
theorem http_workconn_closed_once (o : Opts) (k : Nat) (hk : 1 ≤ k) :
    closeCount (httpRealConnGraph o true) k = some 1 := C01.http_close_fixed o k hk

/-- UDPProxy.Run's stack: exactly once as soon as one close-once wrapper is in the stack, k times for the bare stack
    (every call reaches the connection) -/
theorem udp_workconn_closed (o : Opts) (k : Nat) (hk : 1 ≤ k) :
    closeCount (udpWorkConnGraph o true) k = some (if (serverUdpStack o).isEmpty then k else 1) :=
  udp_close_fixed o k hk

/-- both stacks in one formula -/
theorem reached_spec (kind : PKind) (o : Opts) (tops : Nat) (h : 1 ≤ tops) :
    reached kind o tops true = if guarded kind o then 1 else tops := reached_switch true kind o tops h

theorem reached_pos (kind : PKind) (o : Opts) (tops : Nat) (h : 1 ≤ tops) : 1 ≤ reached kind o tops true := by
  rw [reached_spec kind o tops h]; split <;> omega

/-- the stack whose limiter closeFn reads the reassigned variable never closes the work connection when a server-side
    limit is configured -/
theorem var_capture_never_closes (kind : PKind) (o : Opts) (tops : Nat) (h : 1 ≤ tops) (hl : o.limSrv = true) :
    reached kind o tops false = 0 := by
  simpa [hl] using reached_switch false kind o tops h

theorem var_capture_harmless_without_limit (o : Opts) (k : Nat) (hl : o.limSrv = false) :
    closeCount (udpWorkConnGraph o false) k = closeCount (udpWorkConnGraph o true) k :=
  udp_close_var_nolimit o k hl

/-- the model the driver runs follows C01's switch `CloseGraph.limiterCloseIsFixed` -/
theorem reached_current (kind : PKind) (o : Opts) (tops : Nat) (h : 1 ≤ tops) :
    reached kind o tops = if !limiterCloseIsFixed && o.limSrv then 0 else if guarded kind o then 1 else tops :=
  reached_switch limiterCloseIsFixed kind o tops h

/-- **every history**: the lifecycle invariant holds in every reachable state -/
theorem winv_reachable (ops : List Op) : WInv (WState.run {} ops) :=
  foldl_invariant winv_init fun _ op _ h => winv_apply h op

/-- every connection the proxy let go of — exchange over, replaced by a new one, proxy closed, session
    ended — is closed: at least once, and exactly once whenever a close-once wrapper is in its stack -/
theorem released_closed (ops : List Op) (c : WConn) (hc : c ∈ (WState.run {} ops).conns) (hcur : c.cur = false) :
    1 ≤ reached c.kind c.o c.tops true ∧ (guarded c.kind c.o = true → reached c.kind c.o c.tops true = 1) := by
  have ht := (winv_reachable ops).released c hc hcur
  refine ⟨reached_pos _ _ _ ht, fun hg => ?_⟩
  rw [reached_spec _ _ _ ht, if_pos hg]

/-- when no proxy is left, every work connection ever handed to a proxy is closed -/
theorem idle_all_closed (ops : List Op) (hp : (WState.run {} ops).pxys = []) (c : WConn)
    (hc : c ∈ (WState.run {} ops).conns) :
    1 ≤ reached c.kind c.o c.tops true ∧ (guarded c.kind c.o = true → reached c.kind c.o c.tops true = 1) := by
  apply released_closed ops c hc
  cases hcur : c.cur
  · rfl
  · obtain ⟨p, hpm, _⟩ := (winv_reachable ops).curOwned c hc hcur
    rw [hp] at hpm; cases hpm

/-- after `Control.worker` ran for a session none of its work connections is still a proxy's current one -/
theorem session_end_closes (s : WState) (sid k : Nat) (c : WConn) (hc : c ∈ (s.apply (.endsess sid k)).conns)
    (hs : c.sid = sid) : c.cur = false := by
  simp only [WState.apply, List.mem_map] at hc
  obtain ⟨d, _, rfl⟩ := hc
  split
  · rfl
  · rename_i hsel
    rw [if_neg hsel] at hs
    cases hd : d.cur
    · rfl
    · exfalso; apply hsel; simp [hd, hs]

/-! non-vacuity: a udp proxy with a server-side limit whose work connection is replaced once and which is
    then closed; an http exchange closed twice by io.Join -/
def o1 : Opts := ⟨true, false, true, false⟩
def hist : List Op :=
  [.reg 1 [117] .udp o1, .udpTake [117], .udpIOErr [117] 0, .udpTake [117], .reg 1 [104] .http o1,
   .exchange [104] 1, .close 1 [117] 1]

example : ((WState.run {} hist).conns.map (fun c => (c.cur, c.tops, reached c.kind c.o c.tops true))) =
    [(false, 2, 1), (false, 2, 1), (false, 2, 1)] := by decide +kernel
example : ((WState.run {} hist).conns.map (fun c => reached c.kind c.o c.tops false)) = [0, 0, 0] := by decide +kernel
example : reached .udp ⟨false, false, false, false⟩ 3 true = 3 := by decide +kernel

end Xport
end C10
end Frp

/-! ## `UDPProxy.Close` racing its own reader goroutine (Frp/Model/UdpCloseRace.lean)

  DEFECT of the pinned tree (repaired by bfc0ede; reproduced by the engine, op `closerace`; KNOWN_FINDINGS
  `C10-udp-close-late-workconn`): an explicit
  close of a udp proxy can make frps take one more work connection for the proxy it is closing and leave it
  open.  `late_workconn_witness` is the schedule; `late_workconn_bound` says it is at most one per close;
  `repaired_no_late_workconn` is the full clause for the repaired loop (every schedule). -/
namespace Frp
namespace C10
namespace Xport
open UdpCloseRace

/-- the clause for `UDPProxy.Close`: no work connection is left open by a closed proxy — for every schedule -/
def NoLateWorkConn (fixed : Bool) : Prop := ∀ evs : List Ev, (run fixed evs).late = 0

theorem late_workconn_witness : (run false [.closeConn, .readerSignal, .closeCh]).late = 1 := by decide +kernel

theorem late_workconn_full_fails : ¬ NoLateWorkConn false := by
  intro h
  have := h [.closeConn, .readerSignal, .closeCh]
  rw [late_workconn_witness] at this
  cases this

/-- a late work connection is installed at the reader's one signal, and only by the loop as the code is -/
def LateInv (fixed : Bool) (s : RS) : Prop := s.late = 0 ∨ (s.late = 1 ∧ s.readerDone = true ∧ fixed = false)

theorem lateInv_step (fixed : Bool) (s : RS) (e : Ev) (h : LateInv fixed s) : LateInv fixed (step fixed s e) := by
  cases e with
  | closeConn => simp only [step]; split <;> exact h
  | closeCh => simp only [step]; split <;> exact h
  | readerSignal =>
    simp only [step]
    split
    · rename_i hc
      -- the reader has not signalled yet, so nothing is late so far
      have hrd : s.readerDone = false := by simpa using (Bool.and_eq_true_iff.mp hc).2
      have h0 : s.late = 0 := h.resolve_right fun h' => by rw [hrd] at h'; cases h'.2.1
      split
      · exact Or.inl h0
      · split
        · exact Or.inl h0
        · rename_i hf
          exact Or.inr ⟨by rw [h0], rfl, by simpa using hf⟩
    · exact h

theorem lateInv_run (fixed : Bool) (evs : List Ev) : LateInv fixed (run fixed evs) :=
  foldl_invariant (Or.inl rfl) fun s e _ => lateInv_step fixed s e

/-- as the code is: at most one late work connection per close -/
theorem late_workconn_bound (evs : List Ev) : (run false evs).late ≤ 1 :=
  (lateInv_run false evs).elim (fun h => h ▸ Nat.zero_le 1) fun h => Nat.le_of_eq h.1

/-- the repaired loop: none, for every schedule -/
theorem repaired_no_late_workconn : NoLateWorkConn true := fun evs =>
  (lateInv_run true evs).resolve_right fun h => Bool.noConfusion h.2.2

end Xport
end C10
end Frp
